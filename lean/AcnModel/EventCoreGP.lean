/-
  `bodyG` / `runG` (`AcnModel/EventCoreG.lean`, `EventCoreGRun.lean`) with the per-period hook
  `self.network.post_charging_update()` (simulator.py:140) as a parameter
  `post : Nat → σ → σ × Option Err` (period ↦ network-state transformer that may raise).
  `noPost` is `ChargingNetwork.post_charging_update` (`pass`): with it `bodyGP` is `bodyG`.
  (Adopted from stoch-c19's `AcnModel/StochasticLoop.lean`, same definitions, so that the loop
  proof lives in one place.)
-/
import AcnModel.EventCoreG

namespace Acn.EventCore
open Acn

section
variable {σ : Type}

/-- `ChargingNetwork.post_charging_update`: nothing -/
def noPost : Nat → σ → σ × Option Err := fun _ s => (s, none)

/-- one trip round the loop including `self.network.post_charging_update()` -/
def bodyGP (ops : QOps) (net : NetOps σ) (post : Nat → σ → σ × Option Err) (cfg : Cfg)
    (sched apply : CoreG σ → Option Err) (g : CoreG σ) : CoreG σ × Option Err :=
  match bodyG ops net cfg sched apply g with
  | (g', some e) => (g', some e)
  | (g', none) =>
    match post g.core.iter g'.net with
    | (n', none) => ({ g' with net := n' }, none)
    | (n', some e) => ({ g' with net := n' }, some e)

def runGP (ops : QOps) (net : NetOps σ) (post : Nat → σ → σ × Option Err) (cfg : Cfg)
    (sched apply : CoreG σ → Option Err) : Nat → CoreG σ → CoreG σ × Option Err
  | 0, g => (g, none)
  | n + 1, g =>
    if guard g.core then
      match bodyGP ops net post cfg sched apply g with
      | (g', none) => runGP ops net post cfg sched apply n g'
      | (g', some e) => (g', some e)
    else (g, none)

end
end Acn.EventCore
