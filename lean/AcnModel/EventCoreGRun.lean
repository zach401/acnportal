/-
  `Simulator.run` (simulator.py:94-141) over an arbitrary event queue and an arbitrary charging network:
  the `while not self.event_queue.empty() or self._resolve` loop, with fuel, around one period `bodyG` of
  `EventCoreG.lean`.  Returns the final state and the error that aborted the run, if any.

  A module of its own because `AcnModel/Ignored.lean` declares a loop of the same name (the loop of
  `EventCore.lean` with an arbitrary continuation test): what imports that file can import `EventCoreG.lean`,
  not this one.
-/
import AcnModel.EventCoreG

namespace Acn.EventCore
open Acn

section
variable {σ : Type}

def runG (ops : QOps) (net : NetOps σ) (cfg : Cfg) (sched apply : CoreG σ → Option Err) :
    Nat → CoreG σ → CoreG σ × Option Err
  | 0, g => (g, none)
  | n + 1, g =>
    if guard g.core then
      match bodyG ops net cfg sched apply g with
      | (g', none) => runG ops net cfg sched apply n g'
      | (g', some e) => (g', some e)
    else (g, none)

end
end Acn.EventCore
