/-
  The whole run loop with the StochasticNetwork: `Acn.EventCore.runG` (sim-core's loop over an
  arbitrary queue and network, AcnModel/EventCoreGRun.lean) instantiated with the C19 network model,
  with the per-period `post_charging_update` call of `Simulator.run` (simulator.py:139) through the
  `post` hook of `bodyGP` / `runGP` (AcnModel/EventCoreGP.lean; `post` only touches the network,
  `advance` only the iteration counter, so running it after `bodyG`'s `advance` is the same as
  running it before; it is given the period index of the iteration it belongs to).

  The choice stream `cs` and the per-period `fully_charged` inputs `full` are parameters; the
  number of draws made so far is part of the network state (`Net.draws`).
-/
import AcnModel.EventCoreGP
import AcnModel.Stochastic

namespace Acn.Stoch
open Acn Acn.EventCore

def convErr : Stoch.Err → EventCore.Err
  | .keyError => .keyError
  | .stationOccupied => .stationOccupied

def liftOp (s : Net) (r : Except Stoch.Err Net) : Net × Option EventCore.Err :=
  match r with
  | .ok s' => (s', none)
  | .error e => (s, some (convErr e))

/-- `network.plugin(ev)` / `network.unplug(ev.station_id, ev.session_id)` as the loop calls them
    (`Net.processEvent` is `_process_event` on the network side; the station argument of unplug
    is the EV's CURRENT station id, the pre-assigned `Session.station` is only the initial id) -/
def stochasticNet (cs : Nat → Nat) : NetOps Net where
  plugin := fun s x => liftOp s (s.processEvent cs (EventCore.plugEv x))
  unplug := fun s x => liftOp s (s.processEvent cs (EventCore.unplugEv x))

/-- `post_charging_update` of period `t` -/
def stochasticPost (full : Nat → Sess → Bool) (t : Nat) (s : Net) : Net × Option EventCore.Err :=
  liftOp s (s.post (full t))

/-- the network the loop starts with: the initial `station_id` of each EV is the session's
    pre-assigned station -/
def net0 (cfg : Cfg) (early : Bool) : Net :=
  Net.init cfg.stations early (fun id => (findSession cfg id).map (·.station))

/-! ### `fully_charged` computed inside the run (energy ledger) instead of supplied

  `Simulator.run` charges the plugged-in EVs (`update_pilots` → `EVSE.set_pilot` → `EV.charge`,
  simulator.py:136-138) immediately before `post_charging_update`, and nothing in between touches
  the network; so the charging stage of period `t` is modelled inside the `post` hook, on a ledger
  state `L` carried next to the network state.  `charge` may be ANY function of the period, the
  network state (who is plugged where) and the ledger — any scheduler, pilot matrix and battery
  law; `full` reads `EV.fully_charged` off the ledger. -/

structure Ledger (L : Type) where
  charge : Nat → Net → L → L
  full : L → Sess → Bool

def stochasticNetL {L : Type} (cs : Nat → Nat) : NetOps (Net × L) where
  plugin := fun s x => ((((stochasticNet cs).plugin s.1 x).1, s.2), ((stochasticNet cs).plugin s.1 x).2)
  unplug := fun s x => ((((stochasticNet cs).unplug s.1 x).1, s.2), ((stochasticNet cs).unplug s.1 x).2)

def stochasticPostL {L : Type} (led : Ledger L) (t : Nat) (s : Net × L) : (Net × L) × Option EventCore.Err :=
  let l' := led.charge t s.1 s.2
  (((liftOp s.1 (s.1.post (led.full l'))).1, l'), (liftOp s.1 (s.1.post (led.full l'))).2)

/-- the ledger of `EV` (ev.py:100-112): energy delivered so far per session; an EV that sits on a
    station receives `rate t net delivered x` in period `t` (whatever the scheduler and the battery
    make of it, possibly looking at the ledger), and is fully charged when `requested - delivered ≤ eps` (`not (remaining_demand > 1e-3)`) -/
def energyLedger {K : Type} [Add K] [Sub K] [LT K] [DecidableLT K] (requested : Sess → K)
    (rate : Nat → Net → (Sess → K) → Sess → K) (eps : K) : Ledger (Sess → K) where
  charge := fun t s d x =>
    if s.stations.any (fun st => s.occ st == some x) then d x + rate t s d x else d x
  full := fun d x => !decide (eps < requested x - d x)

end Acn.Stoch
