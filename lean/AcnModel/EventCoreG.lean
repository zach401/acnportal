/-
  EventCore over an arbitrary event queue AND an arbitrary charging network.

  `NetOps σ` is what the run loop asks of `self.network` while it processes events:
  `network.plugin(ev)` and `network.unplug(station_id, session_id)`, each of which may raise.
  `chargingNet stations` is `ChargingNetwork` (charging_network.py:326-386, evse.py:155-185) on the
  occupancy map — with it (and `canonQ`) the loop below IS the loop of `EventCore.lean`
  (`AcnProofs/Lemmas/EventCoreNet.lean`).  Other instances: `StochasticNetwork` (C19), which assigns
  the spaces itself and keeps a waiting queue.

  The state is the `Core` of `EventCore.lean` (its `occ` field is not used here) plus the
  network state `net : σ`.  The `while` loop over `bodyG`, `runG`, stands in `EventCoreGRun.lean`.
-/
import AcnModel.EventCoreQ

namespace Acn.EventCore
open Acn

structure NetOps (σ : Type) where
  plugin : σ → Session → σ × Option Err
  unplug : σ → Session → σ × Option Err

/-- `ChargingNetwork.plugin` / `.unplug` on the occupancy map -/
def chargingNet (stations : List String) : NetOps (String → Option Session) where
  plugin := fun occ x =>
    if stations.contains x.station then
      match occ x.station with
      | some _ => (occ, some .stationOccupied)
      | none => (setOcc occ x.station (some x), none)
    else (occ, some .keyError)
  unplug := fun occ x =>
    if stations.contains x.station then
      ((match occ x.station with
        | some y => if y.id == x.id then setOcc occ x.station none else occ
        | none => occ), none)
    else (occ, some .keyError)

structure CoreG (σ : Type) where
  core : Core
  net : σ

def initG {σ : Type} (ops : QOps) (cfg : Cfg) (net0 : σ) : CoreG σ := ⟨initQ ops cfg, net0⟩

section
variable {σ : Type}

/-- `_process_event` (simulator.py:203-226) -/
def processG (ops : QOps) (net : NetOps σ) (cfg : Cfg) (e : Event) (g : CoreG σ) : CoreG σ × Option Err :=
  match e.kind with
  | .plugin =>
    match findSession cfg e.sess with
    | none => (g, some .noSuchSession)
    | some x =>
      match net.plugin g.net x with
      | (_, some err) => (g, some err)
      | (n', none) =>
        ({ core := { g.core with evHist := g.core.evHist ++ [x.id],
                                 pending := ops.push g.core.pending (unplugEv x), resolve := true,
                                 lastUpd := some e.ts },
           net := n' }, none)
  | .unplug =>
    match findSession cfg e.sess with
    | none => (g, some .noSuchSession)
    | some x =>
      match net.unplug g.net x with
      | (_, some err) => (g, some err)
      | (n', none) => ({ core := { g.core with resolve := true, lastUpd := some e.ts }, net := n' }, none)
  | .recompute => ({ g with core := { g.core with resolve := true } }, none)

def stepG (ops : QOps) (net : NetOps σ) (cfg : Cfg) (e : Event) (g : CoreG σ) : CoreG σ × Option Err :=
  processG ops net cfg e { g with core := { g.core with eventHist := g.core.eventHist ++ [e] } }

def processAllG (ops : QOps) (net : NetOps σ) (cfg : Cfg) : List Event → CoreG σ → CoreG σ × Option Err
  | [], g => (g, none)
  | e :: es, g =>
    match stepG ops net cfg e g with
    | (g2, none) => processAllG ops net cfg es g2
    | (g2, some err) => (g2, some err)

def eventsStageG (ops : QOps) (net : NetOps σ) (cfg : Cfg) (g : CoreG σ) : CoreG σ × Option Err :=
  processAllG ops net cfg (ops.pop g.core.iter g.core.pending).1
    { g with core := { g.core with pending := (ops.pop g.core.iter g.core.pending).2 } }

def bodyG (ops : QOps) (net : NetOps σ) (cfg : Cfg) (sched apply : CoreG σ → Option Err) (g : CoreG σ) :
    CoreG σ × Option Err :=
  match eventsStageG ops net cfg g with
  | (g1, some e) => (g1, some e)
  | (g1, none) =>
    if needsSched cfg.maxRecompute g1.core then
      match sched { g1 with core := markInvoked g1.core } with
      | some e => ({ g1 with core := markInvoked g1.core }, some e)
      | none =>
        match apply { g1 with core := markScheduled (markInvoked g1.core) } with
        | some e => ({ g1 with core := markScheduled (markInvoked g1.core) }, some e)
        | none => ({ g1 with core := advance (markScheduled (markInvoked g1.core)) }, none)
    else
      match apply g1 with
      | some e => (g1, some e)
      | none => ({ g1 with core := advance g1.core }, none)

end
end Acn.EventCore
