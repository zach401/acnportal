/-
  C10 — results are independent of the listing order of the sessions / recompute events: RAISING runs
  (`run_perm_sessions` in `AcnProofs/C10.lean` is about runs that complete).

  On a `Valid` scenario (C01) the events of a period never raise, so a run can only be aborted by the
  scheduler stage (`SessionInfo` guards, the algorithm, `_update_schedules`) or by the pilot application
  (`update_pilots`, `_store_actual_charging_rates`).  None of them reads the listing order — the station
  loop of `update_pilots` runs in REGISTRATION order, which is the same in both runs, so even the partial
  application before an offending station is the same.  `run_perm_sessions_raise`: the run over the permuted
  listing raises THE SAME ERROR IN THE SAME PERIOD, and the states at the abort are related exactly as two
  such runs are related in the middle of any period: `CoreEquiv` cores (iteration, occupancy, flags,
  `_last_schedule_update`, invocation periods equal; queue and histories equal as multisets) and `Mid`
  (pilot matrix, rate matrix, peak, draw counter, occupancy log EQUAL; EV records equal per session id).
  `EVSE.current_pilot` is related only at loop heads (`run_perm_sessions`): in the middle of a period it is
  whatever the unplugs of that period and the stations served so far have left.
-/
import AcnProofs.C10

set_option linter.unusedSectionVars false

namespace Acn.C10
open Acn.EventCore Acn.Sim Acn.SimPerm

section sessions_raise
variable {K : Type} [Field K] [LinearOrder K] [IsStrictOrderedRing K] [HasExp K]

/-- CAPSTONE (sessions, RAISING runs).  List the sessions and the recompute events in any other order.  For
    every Valid scenario, every fuel, every scheduler that does not read `EVSE.current_pilot`: a run of the
    FULL simulator that is aborted with error `e` on the original listing is aborted with the SAME error on
    the permuted one, in states with `CoreEquiv` cores (in particular: in the same period, after the same
    scheduler invocations) and `Mid` non-core parts (pilots, rates, peak, draws, occupancy log equal; EV
    records equal per session id). -/
theorem run_perm_sessions_raise (cfg : Cfg K) (evs' : List (Evse.Ev K)) (recs' : List (Int × String))
    (hv : Valid cfg.core) (he : evs'.Perm cfg.evs) (hrc : recs'.Perm cfg.recomputes)
    {sched : View K → Except EventCore.Err (Schedule K)} (hsch : SchedIgnoresEvsePilot sched)
    (n : Nat) (r : State K) (e : EventCore.Err) (hrun : Sim.run cfg sched n (Sim.init cfg) = (r, some e)) :
    ∃ r', Sim.run { cfg with evs := evs', recomputes := recs' } sched n
        (Sim.init { cfg with evs := evs', recomputes := recs' }) = (r', some e) ∧
      CoreEquiv r.core r'.core ∧ Mid r r' := by
  obtain ⟨r', e', hr', rfl, hce, hm⟩ := (run_listing cfg evs' recs' hv he hrc hsch n).err_of hrun
  exact ⟨r', hr', hce, hm⟩

/-- … with the sorting-based algorithms or uncontrolled charging as the scheduler (built from the permuted
    configuration): a `ValueError` of the algorithm (lower bounds infeasible, …), an `InvalidRateError` of
    `update_pilots`, … come out the same whatever the listing order -/
theorem run_perm_sessions_sorted_raise [Acn.Sorted.HasCeilNat K] (cfg : Cfg K) (evs' : List (Evse.Ev K))
    (recs' : List (Int × String)) (hv : Valid cfg.core) (he : evs'.Perm cfg.evs) (hrc : recs'.Perm cfg.recomputes)
    (mk : Cfg K → View K → Except EventCore.Err (Schedule K))
    (hmk : (∃ net inf scfg, mk = fun c => Acn.SimSorted.sortedSched net inf c scfg) ∨
      (∃ inf, mk = fun c => Acn.SimSorted.uncontrolledSched inf c))
    (n : Nat) (r : State K) (e : EventCore.Err) (hrun : Sim.run cfg (mk cfg) n (Sim.init cfg) = (r, some e)) :
    ∃ r', Sim.run { cfg with evs := evs', recomputes := recs' } (mk { cfg with evs := evs', recomputes := recs' }) n
        (Sim.init { cfg with evs := evs', recomputes := recs' }) = (r', some e) ∧
      CoreEquiv r.core r'.core ∧ Mid r r' := by
  rcases hmk with ⟨net, inf, scfg, rfl⟩ | ⟨inf, rfl⟩
  · exact run_perm_sessions_raise cfg evs' recs' hv he hrc (Acn.SimSorted.sortedSched_ignoresEvsePilot net inf cfg scfg)
      n r e hrun
  · exact run_perm_sessions_raise cfg evs' recs' hv he hrc (Acn.SimSorted.uncontrolledSched_ignoresEvsePilot inf cfg)
      n r e hrun

end sessions_raise

section sessions_raise_example

local instance : HasExp ℚ := ⟨fun x => x⟩

/-- station B is sent 5 A, which it does not allow, in period 2: `update_pilots` raises `InvalidRateError`
    after station A has been served -/
def exScriptBadS : List (Nat × Option (Schedule ℚ)) :=
  [(1, some [("A", [16])]), (2, some [("A", [10]), ("B", [5])])]

/-- the hypotheses of `run_perm_sessions_raise` are satisfiable: the two sessions listed the other way round,
    the run is aborted by `update_pilots` in period 2 on both listings, station A (registered first) has
    been sent its 10 A in both -/
example :
    (Sim.run exSimLate (scripted exScriptBadS []) 9 (Sim.init exSimLate)).2 = some .invalidRate ∧
    (∃ r', Sim.run { exSimLate with evs := exSimLate.evs.reverse, recomputes := [] } (scripted exScriptBadS []) 9
        (Sim.init { exSimLate with evs := exSimLate.evs.reverse, recomputes := [] }) = (r', some .invalidRate) ∧
      CoreEquiv (Sim.run exSimLate (scripted exScriptBadS []) 9 (Sim.init exSimLate)).1.core r'.core ∧
      Mid (Sim.run exSimLate (scripted exScriptBadS []) 9 (Sim.init exSimLate)).1 r') ∧
    (Sim.run exSimLate (scripted exScriptBadS []) 9 (Sim.init exSimLate)).1.core.iter = 2 ∧
    (Sim.run exSimLate (scripted exScriptBadS []) 9 (Sim.init exSimLate)).1.evsePilot = [10, 0] := by
  have hrun : (Sim.run exSimLate (scripted exScriptBadS []) 9 (Sim.init exSimLate)).2 = some .invalidRate ∧
      (Sim.run exSimLate (scripted exScriptBadS []) 9 (Sim.init exSimLate)).1.core.iter = 2 ∧
      (Sim.run exSimLate (scripted exScriptBadS []) 9 (Sim.init exSimLate)).1.evsePilot = [10, 0] := by
    decide +kernel
  refine ⟨hrun.1, ?_, hrun.2⟩
  exact run_perm_sessions_raise exSimLate exSimLate.evs.reverse [] exSimLate_valid (List.reverse_perm _) (List.Perm.refl _)
    (scripted_ignoresEvsePilot exScriptBadS []).1 9 _ _ (eq_pair_of_snd hrun.1)

local instance : Acn.Sorted.HasCeilNat ℚ := ⟨fun x => (Rat.ceil x).toNat⟩

/-- station A is a DeadbandEVSE (no pilot strictly between 0 and 6 A) behind a 4 A limit: the greedy algorithm
    hands x its 4 A in period 1 and `update_pilots` raises `InvalidRateError` -/
def exSimDb : Sim.Cfg ℚ :=
  { exSimLate with stations := [⟨"A", .deadband 6 (some 32), 208⟩, ⟨"B", .finite [0, 8, 16], 240⟩] }

def exNetDb : Acn.SimSorted.NetInfo ℚ := ⟨[[1, 0]], [4], [1, 1], [0, 0], 1 / 10000, 1 / 10000000⟩

/-- the hypotheses of `run_perm_sessions_sorted_raise` are satisfiable: a REAL algorithm (EDF greedy) whose run is
    aborted by `update_pilots`, the sessions listed the other way round -/
example :
    (Sim.run exSimDb (Acn.SimSorted.sortedSched exNetDb 1000000 exSimDb exGreedy) 9 (Sim.init exSimDb)).2 = some .invalidRate ∧
    ∃ r', Sim.run { exSimDb with evs := exSimDb.evs.reverse, recomputes := [] }
        (Acn.SimSorted.sortedSched exNetDb 1000000 { exSimDb with evs := exSimDb.evs.reverse, recomputes := [] } exGreedy) 9
        (Sim.init { exSimDb with evs := exSimDb.evs.reverse, recomputes := [] }) = (r', some .invalidRate) ∧
      CoreEquiv (Sim.run exSimDb (Acn.SimSorted.sortedSched exNetDb 1000000 exSimDb exGreedy) 9 (Sim.init exSimDb)).1.core r'.core ∧
      Mid (Sim.run exSimDb (Acn.SimSorted.sortedSched exNetDb 1000000 exSimDb exGreedy) 9 (Sim.init exSimDb)).1 r' := by
  have hrun : (Sim.run exSimDb (Acn.SimSorted.sortedSched exNetDb 1000000 exSimDb exGreedy) 9 (Sim.init exSimDb)).2 =
      some .invalidRate := by decide +kernel
  refine ⟨hrun, ?_⟩
  exact run_perm_sessions_sorted_raise exSimDb exSimDb.evs.reverse [] exSimLate_valid (List.reverse_perm _) (List.Perm.refl _)
    (fun c => Acn.SimSorted.sortedSched exNetDb 1000000 c exGreedy) (Or.inl ⟨exNetDb, 1000000, exGreedy, rfl⟩) 9 _ _
    (eq_pair_of_snd hrun)

end sessions_raise_example
end Acn.C10
