/-
  C10 — station registration order × the sorting-based algorithms WITH the rampdown estimator
  (`estimate_max_rate = True`).

  The estimator (`SimpleRampdown`) is an object that lives across the whole `Simulator.run()`: the scheduler
  is a state machine, and the statement is about `SimSortedRd.runSt` (the simulator loop with the scheduler
  state threaded — `Sim.run` is its instance for a stateless scheduler) with
  `SimSortedRd.sortedSchedSt` (the estimator as the state).  The estimator keeps a dict
  `session id ↦ upper bound`; what depends on the registration order is only the LISTING order of that dict
  (sessions are visited in station order), which nothing reads.  `RdEquiv`: same thresholds, same entries.

  `runSt_equivariant_stations_rampdown`: from the same initial estimator, if every (estimator, view) pair
  of the original run is tie-free (`TieOKRd`: in the sort key resp. — with `uninterrupted_charging` — in
  `remaining_time`, on the sessions as `apply_upper_bound_estimate` leaves them), the two runs end alike:
  same error (or none), `StEquiv σ` simulator states and, when no error occurred, `RdEquiv` estimators — or
  both are aborted by `update_pilots` in `AbortEquiv σ` states (see `AcnProofs/C10Stations.lean`).  Greedy and
  round robin, all five sorts, both preprocessing modes, errors included, every fuel.
-/
import AcnProofs.C10Stations
import AcnProofs.Lemmas.EquivSimSortedRampdown

set_option linter.unusedSectionVars false

namespace Acn.C10
open Acn.EventCore Acn.Sim Acn.SimEquiv Acn.SimSorted Acn.Sorted Acn.SimSortedRd

section rampdown
variable {K : Type} [Field K] [LinearOrder K] [IsStrictOrderedRing K] [HasExp K]

/-- CAPSTONE (stations × sorted algorithms × rampdown estimator, errors included). -/
theorem runSt_equivariant_stations_rampdown [HasCeilNat K] (σ : List Nat) (d : Station K) (cfg : Cfg K)
    (h : PermOK σ cfg) {net : NetInfo K} (hnet : NetOK cfg.stations.length net) (inf : K) (scfg : Config K)
    (he : scfg.estimate = true) (rd0 : Rampdown K) (n : Nat)
    (hties : ∀ p ∈ runViewsSt cfg (sortedSchedSt net inf cfg scfg) n rd0 (Sim.init cfg), TieOKRd inf cfg scfg p.1 p.2) :
    ((runSt (permCfg σ d cfg) (sortedSchedSt (reNet σ net) inf (permCfg σ d cfg) scfg) n rd0
        (Sim.init (permCfg σ d cfg))).1.2 = (runSt cfg (sortedSchedSt net inf cfg scfg) n rd0 (Sim.init cfg)).1.2 ∧
      StEquiv σ (runSt cfg (sortedSchedSt net inf cfg scfg) n rd0 (Sim.init cfg)).1.1
        (runSt (permCfg σ d cfg) (sortedSchedSt (reNet σ net) inf (permCfg σ d cfg) scfg) n rd0
          (Sim.init (permCfg σ d cfg))).1.1 ∧
      ((runSt cfg (sortedSchedSt net inf cfg scfg) n rd0 (Sim.init cfg)).1.2 = none →
        RdEquiv (runSt cfg (sortedSchedSt net inf cfg scfg) n rd0 (Sim.init cfg)).2
          (runSt (permCfg σ d cfg) (sortedSchedSt (reNet σ net) inf (permCfg σ d cfg) scfg) n rd0
            (Sim.init (permCfg σ d cfg))).2)) ∨
    (∃ e e', (runSt cfg (sortedSchedSt net inf cfg scfg) n rd0 (Sim.init cfg)).1.2 = some e ∧
      (runSt (permCfg σ d cfg) (sortedSchedSt (reNet σ net) inf (permCfg σ d cfg) scfg) n rd0
        (Sim.init (permCfg σ d cfg))).1.2 = some e' ∧
      IsPilotErr e ∧ IsPilotErr e' ∧
      AbortEquiv σ (runSt cfg (sortedSchedSt net inf cfg scfg) n rd0 (Sim.init cfg)).1.1
        (runSt (permCfg σ d cfg) (sortedSchedSt (reNet σ net) inf (permCfg σ d cfg) scfg) n rd0
          (Sim.init (permCfg σ d cfg))).1.1) := by
  obtain ⟨hi, hsh, ho⟩ := init_equiv (d := d) h
  exact runSt_equiv_E (d := d) h (sortedSchedSt_equivariantSt h hnet inf scfg he) n (RdEquiv.refl rd0) hi hsh ho hties

/-- the decidable form of `TieOKRd`: pairwise different keys / remaining times -/
theorem tieOKRd_of_pairwise (inf : K) (cfg : Cfg K) (scfg : Config K) (rd : Rampdown K) (v : View K)
    (h : if scfg.uninterrupted then
        (preOfE (infraOf inf cfg) cfg.period (prevOf v) rd (v.active.map (sessionOfEv inf v.iter))).Pairwise
          (fun a b => a.remainingTime ≠ b.remainingTime)
      else
        (preOfE (infraOf inf cfg) cfg.period (prevOf v) rd (v.active.map (sessionOfEv inf v.iter))).Pairwise
          (fun a b => Acn.C08.sameKey scfg.sort (infraOf inf cfg) cfg.period (v.iter : Int) a b = false)) :
    TieOKRd inf cfg scfg rd v := by
  unfold TieOKRd TieOKE
  by_cases hu : scfg.uninterrupted = true
  · rw [if_pos hu] at h ⊢
    exact distinctRT_of_pairwise h
  · rw [if_neg hu] at h ⊢
    exact distinctKeys_of_pairwise (infraOf inf cfg) scfg.sort cfg.period (v.iter : Int) h

end rampdown

section rampdown_example

local instance : HasExp ℚ := ⟨fun x => x⟩
local instance : HasCeilNat ℚ := ⟨fun x => (Rat.ceil x).toNat⟩

/-- `exSimLate` with a car x that cannot take more than 3 kW (14.4 A at 208 V): it is offered 30 A in period
    1, draws 375/26 A, and the estimator caps it at 375/26 + 1 A from then on — which frees 8 A for y -/
def exSimRd : Sim.Cfg ℚ :=
  { exSimLate with
    evs := [{ session := "x", station := "A", arrival := 1, departure := 4, estDeparture := 4, requested := 10,
              delivered := 0, rate := 0,
              batt := { capacity := 40, charge := 5, init := 5, maxPower := 3, power := 0, twoStage := false,
                        noiseLevel := 0, ts := 0, cmode := .continuous } },
            { session := "y", station := "B", arrival := 2, departure := 6, estDeparture := 5, requested := 10,
              delivered := 0, rate := 0,
              batt := { capacity := 40, charge := 5, init := 5, maxPower := 7, power := 0, twoStage := false,
                        noiseLevel := 0, ts := 0, cmode := .continuous } }],
    maxRecompute := some 1 }

def exGreedyE : Config ℚ := { exGreedy with estimate := true }
def exRd0 : Rampdown ℚ := { upTh := 1, downTh := 1, upInc := 1, bounds := [] }

theorem exSimRd_permOK : PermOK [1, 0] exSimRd :=
  ⟨by decide, by show (exSimRd.stations.map (·.id)).Nodup; decide, constNoise_of_short (by simp [exSimRd, exSimLate])⟩

/-- the hypotheses of `runSt_equivariant_stations_rampdown` are satisfiable (stations B, A instead of A, B;
    EDF greedy with the estimator), the run completes, the estimator bites (without it x is offered 30 A
    throughout and y nothing in periods 2-3), and the permuted run has the rows swapped and the same
    estimator entries -/
example :
    (runSt exSimRd (sortedSchedSt exNet 1000000 exSimRd exGreedyE) 9 exRd0 (Sim.init exSimRd)).1.2 = none ∧
    StEquiv [1, 0] (runSt exSimRd (sortedSchedSt exNet 1000000 exSimRd exGreedyE) 9 exRd0 (Sim.init exSimRd)).1.1
      (runSt (permCfg [1, 0] ⟨"", .cont 0 none, 0⟩ exSimRd)
        (sortedSchedSt (reNet [1, 0] exNet) 1000000 (permCfg [1, 0] ⟨"", .cont 0 none, 0⟩ exSimRd) exGreedyE) 9 exRd0
        (Sim.init (permCfg [1, 0] ⟨"", .cont 0 none, 0⟩ exSimRd))).1.1 ∧
    RdEquiv (runSt exSimRd (sortedSchedSt exNet 1000000 exSimRd exGreedyE) 9 exRd0 (Sim.init exSimRd)).2
      (runSt (permCfg [1, 0] ⟨"", .cont 0 none, 0⟩ exSimRd)
        (sortedSchedSt (reNet [1, 0] exNet) 1000000 (permCfg [1, 0] ⟨"", .cont 0 none, 0⟩ exSimRd) exGreedyE) 9 exRd0
        (Sim.init (permCfg [1, 0] ⟨"", .cont 0 none, 0⟩ exSimRd))).2 ∧
    (runSt exSimRd (sortedSchedSt exNet 1000000 exSimRd exGreedyE) 9 exRd0 (Sim.init exSimRd)).1.1.pilots.rows
      = [[0, 30, 401 / 26, 401 / 26, 0, 0, 0], [0, 0, 8, 8, 16, 16, 0]] ∧
    (runSt exSimRd (sortedSchedSt exNet 1000000 exSimRd exGreedyE) 9 exRd0 (Sim.init exSimRd)).2.bounds
      = [("x", 401 / 26), ("y", 16)] ∧
    (Sim.run exSimRd (sortedSched exNet 1000000 exSimRd exGreedy) 9 (Sim.init exSimRd)).1.pilots.rows
      = [[0, 30, 30, 30, 0, 0, 0], [0, 0, 0, 0, 16, 16, 0]] := by
  -- one evaluation of the run with the estimator
  have hrd : ((runSt exSimRd (sortedSchedSt exNet 1000000 exSimRd exGreedyE) 9 exRd0 (Sim.init exSimRd)).1.2 = none ∧
      (runSt exSimRd (sortedSchedSt exNet 1000000 exSimRd exGreedyE) 9 exRd0 (Sim.init exSimRd)).1.1.pilots.rows
        = [[0, 30, 401 / 26, 401 / 26, 0, 0, 0], [0, 0, 8, 8, 16, 16, 0]] ∧
      (runSt exSimRd (sortedSchedSt exNet 1000000 exSimRd exGreedyE) 9 exRd0 (Sim.init exSimRd)).2.bounds
        = [("x", 401 / 26), ("y", 16)]) ∧
      ∀ p ∈ runViewsSt exSimRd (sortedSchedSt exNet 1000000 exSimRd exGreedyE) 9 exRd0 (Sim.init exSimRd),
        (preOfE (infraOf 1000000 exSimRd) exSimRd.period (prevOf p.2) p.1 (p.2.active.map (sessionOfEv 1000000 p.2.iter))).Pairwise
          (fun a b => Acn.C08.sameKey exGreedyE.sort (infraOf 1000000 exSimRd) exSimRd.period (p.2.iter : Int) a b = false) := by
    decide +kernel
  obtain ⟨⟨hrun, hrows, hbounds⟩, hties⟩ := hrd
  rcases runSt_equivariant_stations_rampdown [1, 0] ⟨"", .cont 0 none, 0⟩ exSimRd exSimRd_permOK exNet_ok 1000000
      exGreedyE rfl exRd0 9 (fun p hp => tieOKRd_of_pairwise _ _ _ p.1 p.2 (by
        rw [if_neg (by decide)]
        exact hties p hp)) with ⟨_, a2, a3⟩ | ⟨e, e', b1, _⟩
  · exact ⟨hrun, a2, a3 hrun, hrows, hbounds, by decide +kernel⟩
  · rw [hrun] at b1; cases b1

end rampdown_example
end Acn.C10
