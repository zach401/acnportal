/-
  C01 — every session is plugged in and unplugged exactly once; `run()` terminates.

  Property theorems only (helper lemmas: `AcnProofs/Lemmas/EventCore*.lean`).
  Model: `AcnModel/EventCore.lean` (the run loop of `Simulator.run` without numerics) and its
  embedding into the full simulator model `AcnModel/Sim.lean`.

  Everything is proved for EVERY static configuration satisfying `Valid`, every `max_recompute`,
  every scheduler / pilot-application parameter that does not raise (`hs`, `ha`), by induction
  over periods.  Which of several equal-key events the heap hands out first is irrelevant: the
  period's events are processed as *a* key-sorted list (the stable sort of the model is one such).
-/
import AcnProofs.Lemmas.EventCoreHeap
import AcnProofs.Lemmas.EventCoreFinal
import AcnProofs.Lemmas.EventCoreSim
import AcnProofs.Lemmas.EventCoreQueue
import AcnProofs.Lemmas.EventCoreNetRun
import AcnProofs.Lemmas.EventCoreSimQ

namespace Acn.C01
open Acn Acn.EventCore

/-- `Unplug < Plugin < Recompute` for the precedences regenerated from events/event.py (`AcnModel/Gen`) -/
theorem prec_order :
    EvKind.unplug.prec < EvKind.plugin.prec ∧ EvKind.plugin.prec < EvKind.recompute.prec :=
  ⟨prec_unplug_lt_plugin, prec_plugin_lt_recompute⟩

/-- the tuple comparison `(timestamp, event)` of the heap is a strict weak order (irreflexive,
    transitive, incomparability transitive) and is the lexicographic order on
    `(timestamp, precedence)` -/
theorem keyLt_strictWeakOrder :
    (∀ a : Event, a.keyLt a = false) ∧
    (∀ a b c : Event, a.keyLt b = true → b.keyLt c = true → a.keyLt c = true) ∧
    (∀ a b c : Event, a.keyEq b = true → b.keyEq c = true → a.keyEq c = true) ∧
    (∀ a b : Event, a.keyLt b = true ↔ a.ts < b.ts ∨ (a.ts = b.ts ∧ a.kind.prec < b.kind.prec)) := by
  refine ⟨keyLt_irrefl, keyLt_trans, fun a b c h1 h2 => ?_, keyLt_iff⟩
  simp only [Event.keyEq, Bool.and_eq_true, Bool.not_eq_true'] at *
  exact keyLt_incomp_trans a b c h1.1 h1.2 h2.1 h2.2

example : (⟨3, .unplug, "a"⟩ : Event).keyLt ⟨3, .plugin, "b"⟩ = true ∧
    (⟨3, .plugin, "b"⟩ : Event).keyLt ⟨3, .recompute, "r"⟩ = true ∧
    (⟨2, .recompute, "r"⟩ : Event).keyLt ⟨3, .unplug, "a"⟩ = true := by
  decide

/-! ### a concrete non-trivial valid scenario (used by the `example`s below)

  two stations; `a`,`b`,`c` reuse station `S0` back to back (3 = 3, 5 = 5); `d` arrives on `S1` in
  the period in which `a` leaves and `b` arrives; two recomputes, one in that same period, one
  after the last departure. -/
def cfg0 : Cfg :=
  { stations := ["S0", "S1"],
    sessions := [⟨"b", "S0", 3, 5⟩, ⟨"a", "S0", 0, 3⟩, ⟨"d", "S1", 3, 4⟩, ⟨"c", "S0", 5, 6⟩],
    recomputes := [(3, "r0"), (8, "r1")],
    maxRecompute := some 2 }

theorem cfg0_valid : Valid cfg0 := by decide +kernel

theorem init_Inv {cfg : Cfg} (hv : Valid cfg) : Inv cfg 0 (init cfg) := init_inv hv

example : Inv cfg0 0 (init cfg0) := init_Inv cfg0_valid

/-- One trip round the `while` loop, started in a state satisfying the invariant of period `t`,
    raises nothing (in particular never `StationOccupied` / `KeyError`: the previous occupant of a
    reused space has `departure ≤ t` and its unplug event precedes every plug-in of the period)
    and establishes the invariant of period `t + 1`:
    pending = exactly the future plug-ins and recomputes plus the unplugs of the connected
    sessions; `occ st = some x ↔ x.station = st ∧ arrival < t+1 ≤ departure`; `iter = t+1`;
    `event_history` = the key-sorted, duplicate-free list of all events with timestamp `≤ t`. -/
theorem body_preserves_Inv {cfg : Cfg} (hv : Valid cfg) {sched apply : Core → Option Err}
    (hs : ∀ c, sched c = none) (ha : ∀ c, apply c = none) {t : Nat} {c : Core} (hI : Inv cfg t c) :
    ∃ c', body cfg sched apply c = (c', none) ∧ Inv cfg (t + 1) c' :=
  body_ok hv hs ha hI

example : ∃ c', body cfg0 noFail noFail (init cfg0) = (c', none) ∧ Inv cfg0 1 c' :=
  body_preserves_Inv cfg0_valid (fun _ => rfl) (fun _ => rfl) (init_Inv cfg0_valid)

/-- events are handled in the period of their timestamp: what one period adds to the history is
    exactly the set of events whose timestamp is that period -/
theorem processed_in_own_period {cfg : Cfg} (hv : Valid cfg) {sched apply : Core → Option Err}
    (hs : ∀ c, sched c = none) (ha : ∀ c, apply c = none) {t : Nat} {c : Core} (hI : Inv cfg t c) :
    ∃ c', body cfg sched apply c = (c', none) ∧
      ∀ e, (e ∈ c'.eventHist ∧ e ∉ c.eventHist) ↔ Cur cfg t e := by
  obtain ⟨c', hb, hI'⟩ := body_ok hv hs ha hI
  refine ⟨c', hb, fun e => ?_⟩
  have hc : ((t + 1 : Nat) : Int) = (t : Int) + 1 := by push_cast; rfl
  rw [hI'.hist_mem, hI.hist_mem, hc, done_succ hv.toQ]
  constructor
  · rintro ⟨h | h, hn⟩
    · exact absurd h hn
    · exact h
  · intro h
    refine ⟨Or.inr h, fun hd => ?_⟩
    have := hd.ts_lt; have := h.ts_eq; omega

/-- `horizon cfg` is one more than the largest departure / recompute timestamp, and 0 if there is no
    event at all or every timestamp is below −1 -/
theorem horizon_spec (cfg : Cfg) :
    (∀ x ∈ cfg.sessions, x.departure < horizon cfg) ∧ (∀ r ∈ cfg.recomputes, r.1 < horizon cfg) ∧
    ((cfg.sessions = [] ∧ cfg.recomputes = [] ∧ horizon cfg = 0) ∨
     (∃ x ∈ cfg.sessions, (horizon cfg : Int) = x.departure + 1 ∨ (horizon cfg : Int) ≤ 0) ∨
     (∃ r ∈ cfg.recomputes, (horizon cfg : Int) = r.1 + 1 ∨ (horizon cfg : Int) ≤ 0)) := by
  have hm := neg_one_le_maxTs cfg
  have hh : (horizon cfg : Int) = maxTs cfg + 1 := by unfold horizon; omega
  refine ⟨fun x hx => ?_, fun r hr => ?_, ?_⟩
  · have := dep_le_maxTs hx; omega
  · have := rec_le_maxTs hr; omega
  · rcases foldr_max_mem (tsList cfg) (-1) with h | h
    · rcases hS : cfg.sessions with _ | ⟨x, xs⟩
      · rcases hR : cfg.recomputes with _ | ⟨r, rs⟩
        · exact Or.inl ⟨rfl, rfl, by unfold horizon maxTs; rw [h]; rfl⟩
        · exact Or.inr (Or.inr ⟨r, by simp, Or.inr (by unfold maxTs at hh; rw [h] at hh; omega)⟩)
      · exact Or.inr (Or.inl ⟨x, by simp, Or.inr (by unfold maxTs at hh; rw [h] at hh; omega)⟩)
    · rcases List.mem_append.1 h with h | h
      · obtain ⟨x, hx, hxe⟩ := List.mem_map.1 h
        exact Or.inr (Or.inl ⟨x, hx, Or.inl (by rw [hh]; unfold maxTs; rw [← hxe])⟩)
      · obtain ⟨r, hr, hre⟩ := List.mem_map.1 h
        exact Or.inr (Or.inr ⟨r, hr, Or.inl (by rw [hh]; unfold maxTs; rw [← hre])⟩)

/-- `run()` returns (no error) after exactly `horizon cfg` periods — one period after the last
    event — with the queue empty, no recompute pending, for every fuel `n ≥ horizon cfg`; in the
    final state the invariant of period `horizon cfg` holds. -/
theorem run_terminates {cfg : Cfg} (hv : Valid cfg) {sched apply : Core → Option Err}
    (hs : ∀ c, sched c = none) (ha : ∀ c, apply c = none) (n : Nat) (hn : horizon cfg ≤ n) :
    ∃ c, run cfg sched apply n (init cfg) = (c, none) ∧ c.pending = [] ∧ c.resolve = false ∧
      guard c = false ∧ c.iter = horizon cfg ∧ Inv cfg (horizon cfg) c := by
  obtain ⟨c, hr, hp, hres, hi, hI⟩ := runQ_terminates hv canonQ_ok hs ha (init_inv hv) trivial n hn
  exact ⟨c, runQ_canon cfg sched apply n (init cfg) ▸ hr, hp, hres, by simp [EventCore.guard, hp, hres], hi, hI⟩

/-- the fuel used by the compiled drivers (`fuelFor`) suffices: the model run that is compared
    with the implementation has really terminated -/
theorem run_terminates_driver_fuel {cfg : Cfg} (hv : Valid cfg) {sched apply : Core → Option Err}
    (hs : ∀ c, sched c = none) (ha : ∀ c, apply c = none) :
    ∃ c, run cfg sched apply (fuelFor cfg) (init cfg) = (c, none) ∧ guard c = false ∧ c.iter = horizon cfg := by
  obtain ⟨c, h1, _, _, h2, h3, _⟩ := run_terminates hv hs ha (fuelFor cfg) (horizon_le_fuelFor cfg)
  exact ⟨c, h1, h2, h3⟩

/-- the state at the head of period `t` (`run` with fuel `t`) satisfies the invariant -/
theorem inv_at_period {cfg : Cfg} (hv : Valid cfg) {sched apply : Core → Option Err}
    (hs : ∀ c, sched c = none) (ha : ∀ c, apply c = none) (t : Nat) (ht : t ≤ horizon cfg) :
    ∃ c, run cfg sched apply t (init cfg) = (c, none) ∧ Inv cfg t c := by
  obtain ⟨c, hr, hI⟩ := run_spec hv hs ha t 0 (init cfg) (init_inv hv) (Nat.zero_le _)
  rw [Nat.zero_add, Nat.min_eq_left ht] at hI
  exact ⟨c, hr, hI⟩

example : horizon cfg0 = 9 := by decide
example : ∃ c, run cfg0 noFail noFail 50 (init cfg0) = (c, none) ∧ c.pending = [] ∧ c.iter = 9 := by
  obtain ⟨c, h1, h2, _, _, h3, _⟩ := run_terminates cfg0_valid (sched := noFail) (apply := noFail)
    (fun _ => rfl) (fun _ => rfl) 50 (by decide)
  exact ⟨c, h1, h2, by rw [h3]; decide⟩

section final
variable {cfg : Cfg} (hv : Valid cfg) {c : Core} (hI : Inv cfg (horizon cfg) c)
include hv hI

/-- exactly one plug-in entry per session in `event_history`, and it carries the arrival time -/
theorem plugged_once (x : Session) (hx : x ∈ cfg.sessions) :
    c.eventHist.filter (fun e => e.kind == .plugin && e.sess == x.id) = [plugEv x] :=
  (completed_of_inv hv hI).plugged_once x hx

/-- exactly one unplug entry per session, and it carries the departure time -/
theorem unplugged_once (x : Session) (hx : x ∈ cfg.sessions) :
    c.eventHist.filter (fun e => e.kind == .unplug && e.sess == x.id) = [unplugEv x] :=
  (completed_of_inv hv hI).unplugged_once x hx

omit hv in
/-- `event_history` is ordered by `(timestamp, precedence)`: non-decreasing time, and within one
    period departures before arrivals before recomputes -/
theorem history_sorted : c.eventHist.Pairwise (fun a b => a.keyLe b = true) := hI.hist_sorted

/-- `event_history` holds every event of the scenario exactly once and nothing else -/
theorem history_complete :
    c.eventHist.Perm (cfg.sessions.map plugEv ++ cfg.sessions.map unplugEv ++ cfg.recomputes.map recEv) :=
  (completed_of_inv hv hI).complete

/-- the keys of `ev_history` are the session ids, in plug-in order -/
theorem ev_history_keys :
    c.evHist = (c.eventHist.filter (fun e => e.kind == .plugin)).map (·.sess) ∧
    c.evHist.Perm (cfg.sessions.map (·.id)) :=
  ⟨hI.evh, (completed_of_inv hv hI).evh_perm⟩

omit hv in
/-- every station is vacant when `run()` returns -/
theorem all_vacant_at_end (st : String) : c.occ st = none :=
  vacant_at_horizon hI st

end final

example : ∃ c, run cfg0 noFail noFail 50 (init cfg0) = (c, none) ∧
    c.eventHist.filter (fun e => e.kind == .plugin && e.sess == "b") = [⟨3, .plugin, "b"⟩] ∧
    c.eventHist.filter (fun e => e.kind == .unplug && e.sess == "b") = [⟨5, .unplug, "b"⟩] ∧
    c.occ "S0" = none := by
  obtain ⟨c, h1, _, _, _, _, hI⟩ := run_terminates cfg0_valid (sched := noFail) (apply := noFail)
    (fun _ => rfl) (fun _ => rfl) 50 (by decide)
  exact ⟨c, h1, plugged_once cfg0_valid hI ⟨"b", "S0", 3, 5⟩ (by decide),
    unplugged_once cfg0_valid hI ⟨"b", "S0", 3, 5⟩ (by decide), all_vacant_at_end hI "S0"⟩

/-- In every period `t` of the run, after the period's events have been processed — the state the
    scheduler sees and in which `update_pilots` applies the pilots (`markInvoked`/`markScheduled`
    do not touch `occ`) — station `st` holds session `x` iff `arrival ≤ t < departure`. -/
theorem connected_iff {cfg : Cfg} (hv : Valid cfg) {sched apply : Core → Option Err}
    (hs : ∀ c, sched c = none) (ha : ∀ c, apply c = none) (t : Nat) (ht : t ≤ horizon cfg) :
    ∃ c c1, run cfg sched apply t (init cfg) = (c, none) ∧ c.iter = t ∧
      eventsStage cfg c = (c1, none) ∧
      ∀ st x, c1.occ st = some x ↔
        x ∈ cfg.sessions ∧ x.station = st ∧ x.arrival ≤ t ∧ (t : Int) < x.departure := by
  obtain ⟨c, hr, hI⟩ := inv_at_period hv hs ha t ht
  obtain ⟨c1, h1, _, _, _, _, hO, _⟩ := eventsStage_ok hv hI
  exact ⟨c, c1, hr, hI.iter, h1, hO⟩

example : ∃ c c1, run cfg0 noFail noFail 3 (init cfg0) = (c, none) ∧ eventsStage cfg0 c = (c1, none) ∧
    c1.occ "S0" = some ⟨"b", "S0", 3, 5⟩ ∧ c1.occ "S1" = some ⟨"d", "S1", 3, 4⟩ := by
  obtain ⟨c, c1, h1, _, h2, h3⟩ := connected_iff cfg0_valid (sched := noFail) (apply := noFail)
    (fun _ => rfl) (fun _ => rfl) 3 (by decide)
  exact ⟨c, c1, h1, h2, (h3 _ _).2 (by decide), (h3 _ _).2 (by decide)⟩

/-! ### independence of the queue implementation (ties C01 to C11)

  `bodyQ` / `runQ` (`AcnModel/EventCoreQ.lean`) are the same loop over an arbitrary queue
  implementation `ops`.  `QOps.Ok ops good` says that `ops` meets C11's queue specification
  (`QSpec.Cur` for `get_current_events`, `add_event` adds exactly the event) up to the order in
  which it stores the pending events.  All theorems above are about the final / loop-head state
  through `Inv`, so they hold verbatim for every such queue — in particular for the
  transcription of CPython's array heap (`heapQ`), whose choice among equal keys is the real one. -/

/-- the queue of the model is an instance of C11's specification: `popCurrent` is a
    `get_current_events` step and the push of the unplug event an `add_event` step -/
theorem canonical_queue_meets_spec (s : QSpec.State) (t : Nat) (x : Session) :
    QSpec.Step s (.getCurrent t) (.events (popCurrent t s.pending).1)
      { pending := (popCurrent t s.pending).2, timestep := t } ∧
    QSpec.Step s (.add (unplugEv x)) .unit { s with pending := s.pending ++ [unplugEv x] } :=
  ⟨popCurrent_step s t, push_step s x⟩

/-- `body_preserves_Inv` for every queue implementation that meets the specification -/
theorem body_preserves_Inv_any_queue {cfg : Cfg} (hv : Valid cfg) {ops : QOps} {good : List Event → Prop}
    (hq : ops.Ok good) {sched apply : Core → Option Err} (hs : ∀ c, sched c = none)
    (ha : ∀ c, apply c = none) {t : Nat} {c : Core} (hI : Inv cfg t c) (hG : good c.pending) :
    ∃ c', bodyQ ops cfg sched apply c = (c', none) ∧ Inv cfg (t + 1) c' ∧ good c'.pending :=
  bodyQ_ok hv hq hs ha hI hG

/-- `run_terminates` for every queue implementation that meets the specification: the final state
    satisfies `Inv cfg (horizon cfg)`, hence `plugged_once`, `unplugged_once`, `history_sorted`,
    `history_complete`, `ev_history_keys`, `all_vacant_at_end` apply to it as they stand -/
theorem run_terminates_any_queue {cfg : Cfg} (hv : Valid cfg) {ops : QOps} {good : List Event → Prop}
    (hq : ops.Ok good) {sched apply : Core → Option Err} (hs : ∀ c, sched c = none)
    (ha : ∀ c, apply c = none) (n : Nat) (hn : horizon cfg ≤ n) :
    ∃ c, runQ ops cfg sched apply n (initQ ops cfg) = (c, none) ∧ c.pending = [] ∧ c.resolve = false ∧
      c.iter = horizon cfg ∧ Inv cfg (horizon cfg) c := by
  obtain ⟨h0, g0⟩ := initQ_inv hv hq
  exact runQ_terminates hv hq hs ha h0 g0 n hn

/-- C01 with CPython's `heapq` (array heap of `AcnModel/Queue.lean`, proved to refine the queue
    specification in C11) as the event queue: the real tie order, not a canonical one -/
theorem run_terminates_real_heap {cfg : Cfg} (hv : Valid cfg) {sched apply : Core → Option Err}
    (hs : ∀ c, sched c = none) (ha : ∀ c, apply c = none) (n : Nat) (hn : horizon cfg ≤ n) :
    ∃ c, runQ heapQ cfg sched apply n (initQ heapQ cfg) = (c, none) ∧ c.pending = [] ∧
      c.iter = horizon cfg ∧ (∀ st, c.occ st = none) ∧
      (∀ x ∈ cfg.sessions,
        c.eventHist.filter (fun e => e.kind == .plugin && e.sess == x.id) = [plugEv x] ∧
        c.eventHist.filter (fun e => e.kind == .unplug && e.sess == x.id) = [unplugEv x]) ∧
      c.eventHist.Pairwise (fun a b => a.keyLe b = true) := by
  obtain ⟨c, hr, hp, _, hi, hI⟩ := run_terminates_any_queue hv heapQ_ok hs ha n hn
  exact ⟨c, hr, hp, hi, all_vacant_at_end hI,
    fun x hx => ⟨plugged_once hv hI x hx, unplugged_once hv hI x hx⟩, history_sorted hI⟩

/-- the generalised loop instantiated with the canonical queue is the loop of `EventCore.lean` -/
theorem runQ_canonical_eq_run (cfg : Cfg) (sched apply : Core → Option Err) (n : Nat) (c : Core) :
    runQ canonQ cfg sched apply n c = run cfg sched apply n c := runQ_canon cfg sched apply n c

example : ∃ c, runQ heapQ cfg0 noFail noFail 50 (initQ heapQ cfg0) = (c, none) ∧ c.iter = 9 ∧
    c.eventHist.filter (fun e => e.kind == .plugin && e.sess == "b") = [⟨3, .plugin, "b"⟩] := by
  obtain ⟨c, h1, _, h3, _, h5, _⟩ := run_terminates_real_heap cfg0_valid (sched := noFail) (apply := noFail)
    (fun _ => rfl) (fun _ => rfl) 50 (by decide)
  exact ⟨c, h1, by rw [h3]; decide, (h5 ⟨"b", "S0", 3, 5⟩ (by decide)).1⟩

/-! ### independence of the charging network (ties C01 to C19)

  `bodyG` / `runG` (`AcnModel/EventCoreG.lean`, `EventCoreGRun.lean`) are the same loop with the network operations
  `network.plugin` / `network.unplug` as a parameter (`chargingNet` = `ChargingNetwork`, for which
  `bodyG` is `body`: `bodyG_charging`).  If the network never raises on the scenario's sessions —
  e.g. a stochastic network that assigns the spaces itself — termination, the final iteration and
  everything C01 says about `event_history` hold under `ValidQ`: distinct ids, `0 ≤ arrival <
  departure`; NO per-station non-overlap clause. -/

theorem run_terminates_any_network {σ : Type} {cfg : Cfg} (hq : ValidQ cfg) {ops : QOps}
    {good : List Event → Prop} (hops : ops.Ok good) {net : NetOps σ} {P : σ → Prop}
    (hnet : net.NoFail cfg P) {sched apply : CoreG σ → Option Err} (hs : ∀ g, sched g = none)
    (ha : ∀ g, apply g = none) (net0 : σ) (hN : P net0) (n : Nat) (hn : horizon cfg ≤ n) :
    ∃ g, runG ops net cfg sched apply n (initG ops cfg net0) = (g, none) ∧ g.core.pending = [] ∧
      g.core.resolve = false ∧ g.core.iter = horizon cfg ∧
      -- history_sorted
      g.core.eventHist.Pairwise (fun a b => a.keyLe b = true) ∧
      -- history_complete
      g.core.eventHist.Perm
        (cfg.sessions.map plugEv ++ cfg.sessions.map unplugEv ++ cfg.recomputes.map recEv) ∧
      -- plugged_once / unplugged_once
      (∀ x ∈ cfg.sessions,
        g.core.eventHist.filter (fun e => e.kind == .plugin && e.sess == x.id) = [plugEv x] ∧
        g.core.eventHist.filter (fun e => e.kind == .unplug && e.sess == x.id) = [unplugEv x]) ∧
      g.core.evHist.Perm (cfg.sessions.map (·.id)) := by
  obtain ⟨h0, g0⟩ := initG_inv (σ := σ) hq hops net0
  obtain ⟨g, hr, hI, _⟩ := runG_spec hq hops hnet.toH.toNetInv hs ha n 0 (initG ops cfg net0) h0 g0 hN (Nat.zero_le _)
  rw [Nat.min_eq_right (by omega)] at hI
  have hC := completed_of_head hq (hI.with_occ fun _ => none) fun _ => rfl
  exact ⟨g, hr, hC.queue_empty, hI.resolve, hI.iter, hI.hist_sorted, hC.complete,
    fun x hx => ⟨hC.plugged_once x hx, hC.unplugged_once x hx⟩, hC.evh_perm⟩

/-- the two facts C19's `eventCore_history_wellFormed` asks for, for any network that does not
    raise and any conforming queue -/
theorem history_sorted_complete_any_network {σ : Type} {cfg : Cfg} (hq : ValidQ cfg) {ops : QOps}
    {good : List Event → Prop} (hops : ops.Ok good) {net : NetOps σ} {P : σ → Prop}
    (hnet : net.NoFail cfg P) {sched apply : CoreG σ → Option Err} (hs : ∀ g, sched g = none)
    (ha : ∀ g, apply g = none) (net0 : σ) (hN : P net0) (n : Nat) (hn : horizon cfg ≤ n) :
    (runG ops net cfg sched apply n (initG ops cfg net0)).2 = none ∧
    (runG ops net cfg sched apply n (initG ops cfg net0)).1.core.eventHist.Pairwise
      (fun a b => a.keyLe b = true) ∧
    (runG ops net cfg sched apply n (initG ops cfg net0)).1.core.eventHist.Perm
      (cfg.sessions.map plugEv ++ cfg.sessions.map unplugEv ++ cfg.recomputes.map recEv) := by
  obtain ⟨g, hr, _, _, _, h1, h2, _⟩ := run_terminates_any_network hq hops hnet hs ha net0 hN n hn
  rw [hr]; exact ⟨rfl, h1, h2⟩

/-- the same for the loop WITH the per-period hook `post_charging_update` (`runGP`) and a network
    whose invariant is indexed by `event_history` (`NoFailH`: at a plug-in the plug-in event is new,
    at an unplug the plug-in event is in the history) — the form C19 instantiates -/
theorem history_sorted_complete_any_network_H {σ : Type} {cfg : Cfg} (hq : ValidQ cfg) {ops : QOps}
    {good : List Event → Prop} (hops : ops.Ok good) {net : NetOps σ}
    {post : Nat → σ → σ × Option Err} {P : List Event → σ → Prop} (hnet : NoFailH net post cfg P)
    {sched apply : CoreG σ → Option Err} (hs : ∀ g, sched g = none) (ha : ∀ g, apply g = none)
    (net0 : σ) (hN : P [] net0) (n : Nat) (hn : horizon cfg ≤ n) :
    ∃ g, runGP ops net post cfg sched apply n (initG ops cfg net0) = (g, none) ∧ g.core.pending = [] ∧
      g.core.iter = horizon cfg ∧ P g.core.eventHist g.net ∧
      g.core.eventHist.Pairwise (fun a b => a.keyLe b = true) ∧
      g.core.eventHist.Perm
        (cfg.sessions.map plugEv ++ cfg.sessions.map unplugEv ++ cfg.recomputes.map recEv) := by
  obtain ⟨h0, g0⟩ := initG_inv (σ := σ) hq hops net0
  obtain ⟨g, hr, hI, hP⟩ := runGP_spec hq hops hnet hs ha n 0 (initG ops cfg net0) h0 g0 hN (Nat.zero_le _)
  rw [Nat.min_eq_right (by omega)] at hI
  have hC := completed_of_head hq (hI.with_occ fun _ => none) fun _ => rfl
  exact ⟨g, hr, hC.queue_empty, hI.iter, hP, hI.hist_sorted, hC.complete⟩

/-- `ChargingNetwork` + canonical queue: the generalised loop is the loop of `EventCore.lean` -/
theorem bodyG_chargingNet_eq_body (cfg : Cfg) (sched apply : Core → Option Err)
    (g : CoreG (String → Option Session)) :
    (ofG (bodyG canonQ (chargingNet cfg.stations) cfg (fun g => sched (ofG g)) (fun g => apply (ofG g)) g).1,
     (bodyG canonQ (chargingNet cfg.stations) cfg (fun g => sched (ofG g)) (fun g => apply (ofG g)) g).2)
      = body cfg sched apply (ofG g) :=
  bodyQ_canon cfg sched apply (ofG g) ▸ bodyG_charging canonQ cfg sched apply g

/-- a scenario with OVERLAPPING sessions on one station (not `Valid`) satisfies `ValidQ` -/
def cfg1 : Cfg :=
  { stations := ["S0"], sessions := [⟨"a", "S0", 0, 4⟩, ⟨"b", "S0", 1, 3⟩, ⟨"c", "S0", 1, 4⟩],
    recomputes := [(1, "r0")], maxRecompute := none }

theorem cfg1_validQ : ValidQ cfg1 := by decide +kernel

/-- a network that admits everybody (state: number of connected EVs) -/
def countingNet : NetOps Nat := { plugin := fun n _ => (n + 1, none), unplug := fun n _ => (n - 1, none) }

example : ∃ g, runG heapQ countingNet cfg1 (fun _ => none) (fun _ => none) 20 (initG heapQ cfg1 0) = (g, none) ∧
    g.core.iter = 5 ∧ g.core.eventHist.Pairwise (fun a b => a.keyLe b = true) := by
  obtain ⟨g, h1, _, _, h3, h4, _⟩ := run_terminates_any_network cfg1_validQ heapQ_ok
    (net := countingNet) (P := fun _ => True)
    ⟨fun _ _ _ _ => ⟨rfl, trivial⟩, fun _ _ _ _ => ⟨rfl, trivial⟩⟩
    (sched := fun _ => none) (apply := fun _ => none) (fun _ => rfl) (fun _ => rfl) 0 trivial 20 (by decide)
  exact ⟨g, h1, by rw [h3]; decide, h4⟩

section sim
variable {K : Type} [Add K] [Sub K] [Mul K] [Div K] [Neg K] [LT K] [LE K]
  [DecidableLT K] [DecidableLE K] [OfNat K 0] [OfNat K 1] [NatCast K] [HasExp K]

/-- PROJECTION LEMMA: one period of the full model (pilot matrix, EVSEs, batteries, rates, peak;
    any carrier, period length, noise stream and scheduler) that raises nothing is exactly one
    period of the event core — the core does not depend on any of the numerics. -/
theorem sim_body_core (cfg : Sim.Cfg K) (sched : Sim.View K → Except Err (Sim.Schedule K)) (s : Sim.State K)
    (h : (Sim.body cfg sched s).2 = none) :
    EventCore.body cfg.core noFail noFail s.core = ((Sim.body cfg sched s).1.core, none) :=
  Sim.body_core_ok (Prod.ext rfl h)

/-- C01 for the full model: if the scenario is `Valid` and `Sim.run` raises nothing (i.e. the
    scheduler does not fail and returns only schedules the EVSEs accept), then it stops after
    `horizon` periods with the queue empty and every station vacant, and `event_history` holds
    one plug-in (at arrival) and one unplug (at departure) per session, key-sorted. -/
theorem sim_run_C01 (cfg : Sim.Cfg K) (sched : Sim.View K → Except Err (Sim.Schedule K))
    (hv : Valid cfg.core) (n : Nat) (hn : horizon cfg.core ≤ n)
    (h : (Sim.run cfg sched n (Sim.init cfg)).2 = none) :
    let c := (Sim.run cfg sched n (Sim.init cfg)).1.core
    c.pending = [] ∧ c.iter = horizon cfg.core ∧ (∀ st, c.occ st = none) ∧
    (∀ x ∈ cfg.core.sessions,
      c.eventHist.filter (fun e => e.kind == .plugin && e.sess == x.id) = [plugEv x] ∧
      c.eventHist.filter (fun e => e.kind == .unplug && e.sess == x.id) = [unplugEv x]) ∧
    c.eventHist.Pairwise (fun a b => a.keyLe b = true) := by
  intro c
  have hI : Inv cfg.core (horizon cfg.core) c := Sim.run_inv_horizon cfg sched hv hn h
  exact ⟨hI.pending_nil hv, hI.iter, all_vacant_at_end hI, fun x hx => ⟨plugged_once hv hI x hx, unplugged_once hv hI x hx⟩,
    history_sorted hI⟩

/-- C01 for the full model over CPython's array heap (`Sim.runQ heapQ`) — this is what the C01
    driver executes and what the correspondence compares with the real `Simulator`, tie order
    included -/
theorem sim_runQ_heap_C01 (cfg : Sim.Cfg K) (sched : Sim.View K → Except Err (Sim.Schedule K))
    (hv : Valid cfg.core) (n : Nat) (hn : horizon cfg.core ≤ n)
    (h : (Sim.runQ heapQ cfg sched n (Sim.initQ heapQ cfg)).2 = none) :
    let c := (Sim.runQ heapQ cfg sched n (Sim.initQ heapQ cfg)).1.core
    c.pending = [] ∧ c.iter = horizon cfg.core ∧ (∀ st, c.occ st = none) ∧
    (∀ x ∈ cfg.core.sessions,
      c.eventHist.filter (fun e => e.kind == .plugin && e.sess == x.id) = [plugEv x] ∧
      c.eventHist.filter (fun e => e.kind == .unplug && e.sess == x.id) = [unplugEv x]) ∧
    c.eventHist.Pairwise (fun a b => a.keyLe b = true) := by
  intro c
  have hproj := Sim.runQ_core heapQ cfg sched n (Sim.initQ heapQ cfg) h
  obtain ⟨c', hr, hp, hi, hvac, honce, hsorted⟩ := run_terminates_real_heap hv (sched := noFail) (apply := noFail)
    (fun _ => rfl) (fun _ => rfl) n hn
  rw [Sim.initQ_core, hr] at hproj
  have hc : c' = c := congrArg Prod.fst hproj
  subst hc
  exact ⟨hp, hi, hvac, honce, hsorted⟩

end sim

end Acn.C01
