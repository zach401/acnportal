/-
  C16 — the predefined site networks never admit more power than the transformer ratings.

  Carrier: any linear ordered field `K` with an element `r`, `r * r = 3`
  (√3; ℝ is an instance).  The site data (`Gen.Sites`) are regenerated from the working tree on
  every run — by EXECUTING the factories: rows, angles, voltages, limits, and the dependence of every limit on
  the capacity arguments (fitted by probing and normalised to `cap · N/D [· √3]`), so they are the same for every
  spelling of the source; `site_structure_*` / `site_instances` / `site_default_ratings` are re-decided on them by
  the kernel.  `simple_acn`: `AcnProofs/C16Simple.lean`.
  `vt`, `rt` are the network's tolerances (`violation_tolerance = 1e-5`, `relative_tolerance = 1e-7`):
  the network accepts `limit + max(vt, rt·limit)` per line, and that tolerance term is explicit below.
  Exact arithmetic; that the doubles stay within 1e-9 of it is validated by correspondence (partial).
-/
import AcnProofs.Lemmas.SitesXfmr
import Mathlib.Analysis.Real.Sqrt

namespace Acn.C16
open Acn.Feas Acn.Sites Acn.Gen.Sites Acn.SitesFeas Acn.SitesTopo Acn.SitesMain Acn.SitesXfmr

/-! ## T1 obligations on the regenerated data -/

/-- the topologies of site `s` built with the default `voltage=208` -/
def siteTopos (s : String) : List Topo := topos.filter fun T => T.site == s && T.nominalV == (208, 1)

/-- (name, number of EVSEs, rating) of the pods -/
def podTable (T : Topo) : List (String × Nat × Option (Int × Nat)) :=
  T.pods.map fun p => (p.name, p.evses.length, podRating T p)

def panelTable (T : Topo) : List (String × Nat × Option (Int × Nat)) :=
  T.panels.map fun p => (p.name, p.lines.evses.length, panelRating T p)

/-- (name, number of EVSEs, capacity parameter) of the transformers -/
def xfmrTable (T : Topo) : List (String × Nat × Option Nat) :=
  T.xfmrs.map fun x => (x.name, x.sec.evses.length, (xfmrCap T x).map (·.1))

/-- the site has exactly one topology in the dump, it passes `topoOk`, and its documented sizes and
    ratings are as given -/
def structureOk (s : String) (n : Nat) (xt : List (String × Nat × Option Nat))
    (pt pdt : List (String × Nat × Option (Int × Nat))) : Bool :=
  match siteTopos s with
  | [T] => topoOk T && decide (nStations T = n) && decide (xfmrTable T = xt) &&
      decide (panelTable T = pt) && decide (podTable T = pdt)
  | _ => false

/-- the `voltage` argument only changes the EVSE voltages: six topologies (3 sites × {208, 240} V), all
    pass `topoOk` (every EVSE carries exactly the requested voltage), and erasing the voltages leaves
    three. -/
theorem site_structure_all_voltages :
    topos.length = 6 ∧ topos.all topoOk = true ∧
    (topos.map fun T => { T with nominalV := (0, 1), voltages := [] }).eraseDups.length = 3 := by
  decide +kernel

/-- `topoOk` is decided once for all generated topologies; the site theorems below take it from here -/
theorem generated_topoOk (T : Topo) (h : T ∈ topos) : topoOk T = true :=
  List.all_eq_true.mp site_structure_all_voltages.2.1 T h

/-- Caltech: 54 EVSEs, each with a line-to-line angle and under the one transformer whose secondary
    rows are `1_AB − 1_CA`, `1_BC − 1_AB`, `1_CA − 1_BC` with limit `cap·1000/3/120`; two 80 A pods of
    eight same-angle EVSEs (full list of checks: `Sites.topoOk`). -/
theorem site_structure_caltech :
    structureOk "caltech" 54 [("", 54, some 0)] []
      [("CC Pod", 8, some (80, 1)), ("AV Pod", 8, some (80, 1))] = true := by
  have h : siteTopos "caltech" = [topo0] := by decide +kernel
  simp only [structureOk, h, generated_topoOk topo0 (by simp [topos]), Bool.true_and]
  decide +kernel

/-- JPL: 52 EVSEs; two transformers (14 EVSEs on capacity 0, 38 on capacity 1); sub-panels at
    100 A / 225 A per line. -/
theorem site_structure_jpl :
    structureOk "jpl" 52
      [("First Floor Transformer", 14, some 0), ("Third/Fourth Floor Transformer", 38, some 1)]
      [("First Floor SP1", 4, some (100, 1)), ("First Floor SP2", 6, some (100, 1)),
        ("Third Floor Panel", 19, some (225, 1)), ("Fourth Floor Panel", 19, some (225, 1))] [] = true := by
  have h : siteTopos "jpl" = [topo1] := by decide +kernel
  simp only [structureOk, h, generated_topoOk topo1 (by simp [topos]), Bool.true_and]
  decide +kernel

/-- Office001: 8 EVSEs under one transformer. -/
theorem site_structure_office001 :
    structureOk "office001" 8 [("", 8, some 0)] [] [] = true := by
  have h : siteTopos "office001" = [topo2] := by decide +kernel
  simp only [structureOk, h, generated_topoOk topo2 (by simp [topos]), Bool.true_and]
  decide +kernel

/-- every executed factory call (3 sites × basic/real EVSEs × 3 capacity settings at 208 V and one at
    240 V, plus the deprecated `CaltechACN` wrapper called by keyword and positionally): the limits the
    object carries equal the fitted formulas (`cap · N/D [· √3]`, fitted by probing the factory) at the
    capacities passed (2⁻⁴⁰ relative for the double rounding; `√3` formulas compared in squared form),
    literal ratings exactly; the wrapper's networks have the same topology as `caltech_acn`'s (a swapped
    positional argument would create a new one). -/
theorem site_instances :
    insts.length = 26 ∧ insts.all instOk = true ∧
    (insts.map fun I => (I.topo, I.basic)).eraseDups.length = 12 ∧
    (insts.filter (·.factory == "CaltechACN")).length = 2 ∧
    ((insts.filter (·.factory == "CaltechACN")).all fun I =>
      insts.any fun J => J.factory == "caltech_acn" && J.topo == I.topo) = true := by
  decide +kernel

/-- **The documented default ratings.**  Every factory (and the deprecated wrapper) called with NO arguments at
    all — the defaults are those of the live signatures: Caltech 150 kW, JPL 45 kW / 150 kW, Office001 50 kW,
    real (non-BASIC) EVSEs, and the 208 V topology of the site (`topo0/1/2`; another default voltage would be a
    new topology).  The limits these objects carry equal the fitted formulas at those capacities (`instOk`), and
    limits, EVSE maximum rates and continuity are identical to those of the same factory called with the
    documented values passed explicitly.  (Pods 80 A, panels 100 / 225 A: `site_structure_*`.) -/
theorem site_default_ratings :
    (defaultInsts.map fun I => (I.factory, I.topo, I.basic, I.caps)) =
      [("caltech_acn", 0, false, [(150, 1)]), ("jpl_acn", 1, false, [(45, 1), (150, 1)]),
       ("office001_acn", 2, false, [(50, 1)]), ("CaltechACN", 0, false, [(150, 1)])] ∧
    ((topos.take 3).map fun T => (T.site, T.nominalV)) =
      [("caltech", (208, 1)), ("jpl", (208, 1)), ("office001", (208, 1))] ∧
    defaultInsts.all instOk = true ∧
    (defaultInsts.all fun I => insts.any fun J =>
      J.topo == I.topo && J.basic == I.basic && J.caps == I.caps && J.limits == I.limits &&
      J.maxRates == I.maxRates && J.continuous == I.continuous) = true := by
  decide +kernel

/-! ## the algebraic core -/

section
variable {K : Type} [Field K] [LinearOrder K] [IsStrictOrderedRing K]

/-- three line currents of magnitude ≤ m ⇒ (x + y + z)² ≤ 3 m²  (`x, y, z` the per-line-pair sums;
    their signs do not matter) -/
theorem wye_power (x y z m : K)
    (ha : x * x + x * z + z * z ≤ m * m) (hb : x * x + x * y + y * y ≤ m * m)
    (hc : y * y + y * z + z * z ≤ m * m) :
    (x + y + z) * (x + y + z) ≤ 3 * (m * m) := by
  -- the three quadratics add up to (x + y + z)² + ½((x − y)² + (y − z)² + (x − z)²)
  linarith [mul_self_nonneg (x - y), mul_self_nonneg (y - z), mul_self_nonneg (x - z)]

example : (86 : ℚ) * 86 + 86 * 86 + 86 * 86 ≤ 150 * 150 ∧ ¬ ((3 * 86 : ℚ) * (3 * 86) ≤ 1 * (150 * 150)) := by
  decide +kernel

set_option linter.unusedVariables false in
/-- The squared phasor magnitudes of the three rows of a line triple (transformer secondary or
    panel) ARE the 120° quadratics of the per-line-pair sums `X, Y, Z` — for every topology that
    passes `topoOk`, every current vector of the right length, with cos/sin of 30°, −90°, 150°
    written through `r`, `r·r = 3`. -/
theorem line_current_sq (T : Topo) (hT : topoOk T = true) (tr : Triple) (htr : tripleOk T tr = true)
    (r : K) (hr : r * r = 3) (caps x : List K) (hx : x.length = nStations T) :
    let X := gsum T tr.evses angAB x
    let Y := gsum T tr.evses angBC x
    let Z := gsum T tr.evses angCA x
    aggSq T r caps tr.a x = X * X + X * Z + Z * Z ∧
    aggSq T r caps tr.b x = X * X + X * Y + Y * Y ∧
    aggSq T r caps tr.c x = Y * Y + Y * Z + Z * Z ∧
    groupSum tr.evses x = X + Y + Z := by
  have G := topoFacts_of T hT
  have F := tripleFacts_of T tr htr
  refine ⟨?_, ?_, ?_, groupSum_split T tr F G x⟩
  · rw [aggSq_eq T r caps x _ F.ha, aggA_re T tr F G r x, aggA_im T tr F G x, SitesAlg.lineA_sq r _ _ hr]
  · rw [aggSq_eq T r caps x _ F.hb, aggB_re T tr F G r x, aggB_im T tr F G x, SitesAlg.lineB_sq r _ _ hr]
  · rw [aggSq_eq T r caps x _ F.hc, aggC_re T tr F G r x, aggC_im T tr F G x, SitesAlg.lineC_sq r _ _ hr]

/-! ## the rows through the line-pair sums -/

/-- **Feasibility is exactly the conjunction over periods and constraint rows** of
    `0 ≤ bound ∧ |aggregate|² ≤ bound²` (`bound = limit + max(vt, rt·limit)`), for every topology that
    passes `topoOk`.  With `line_current_sq` the secondary / panel rows are the 120° quadratics. -/
theorem feasible_iff (T : Topo) (hT : topoOk T = true) (r vt rt : K) (caps : List K) (S : List (List K)) :
    feasible T r vt rt caps S = true ↔
      ∀ t, t < periods S → ∀ i, i < T.rows.length →
        0 ≤ boundOf T r vt rt caps i ∧
        aggSq T r caps i (period S t) ≤ boundOf T r vt rt caps i * boundOf T r vt rt caps i := by
  have G := topoFacts_of T hT
  have hl : (netOf T r caps).lims.length = T.rows.length := by simp [netOf, G.limLen]
  rw [feasible, netFeasible_iff _ _ _ _ _ _ _ (by rw [hl]; exact G.rowsPos) (by simp [netOf, G.limLen]), hl]
  refine forall₄_congr fun t _ i hi => ?_
  have e : (netOf T r caps).lims.getD i 0 = limK r caps (limOf T i) := by
    show (T.lims.map (limK r caps)).getD i 0 = _
    rw [List.getD_eq_getElem _ _ (by simpa [G.limLen] using hi), List.getElem_map, limOf,
      List.getD_eq_getElem _ _ (by rw [G.limLen]; exact hi)]
  rw [rowOk, e]
  simp [magLe, aggSq, boundOf, period]

/-- A transformer secondary and a panel are the same object, a line triple whose three rows have one bound `m`:
    the rows accept a current vector iff the three 120° quadratics of its line-pair sums are at most `m²`. -/
theorem triple_rows_iff (T : Topo) (hT : topoOk T = true) (tr : Triple) (htr : tripleOk T tr = true)
    (r vt rt : K) (hr : r * r = 3) (caps v : List K) (hv : v.length = nStations T) (m : K)
    (hb : ∀ i ∈ [tr.a, tr.b, tr.c], boundOf T r vt rt caps i = m) :
    let X := gsum T tr.evses angAB v
    let Y := gsum T tr.evses angBC v
    let Z := gsum T tr.evses angCA v
    ((∀ i ∈ [tr.a, tr.b, tr.c], 0 ≤ boundOf T r vt rt caps i ∧
        aggSq T r caps i v ≤ boundOf T r vt rt caps i * boundOf T r vt rt caps i) ↔
      (0 ≤ m ∧ X * X + X * Z + Z * Z ≤ m * m ∧ X * X + X * Y + Y * Y ≤ m * m ∧ Y * Y + Y * Z + Z * Z ≤ m * m)) := by
  intro X Y Z
  obtain ⟨ea, eb, ec, _⟩ := line_current_sq T hT tr htr r hr caps v hv
  simp only [List.mem_cons, List.not_mem_nil, or_false, forall_eq_or_imp, forall_eq] at hb ⊢
  rw [hb.1, hb.2.1, hb.2.2, ea, eb, ec]
  exact ⟨fun ⟨⟨h0, ha⟩, ⟨_, hb⟩, ⟨_, hc⟩⟩ => ⟨h0, ha, hb, hc⟩,
    fun ⟨h0, ha, hb, hc⟩ => ⟨⟨h0, ha⟩, ⟨h0, hb⟩, ⟨h0, hc⟩⟩⟩

/-- the three secondary rows of a transformer accept a current vector **iff** the three quadratics of
    its per-line-pair sums are at most `m²`, `m = cap·1000/360 + max(vt, rt·cap·1000/360)` — nothing else
    about the vector matters -/
theorem secondary_feasible_iff (T : Topo) (hT : topoOk T = true) (x : Xfmr) (hx : x ∈ T.xfmrs)
    (r vt rt : K) (hr : r * r = 3) (caps v : List K) (hv : v.length = nStations T) :
    ∃ k ops, xfmrCap T x = some (k, ops) ∧
      let m := caps.getD k 0 * 1000 / 360 + tolOf vt rt (caps.getD k 0 * 1000 / 360)
      let X := gsum T x.sec.evses angAB v
      let Y := gsum T x.sec.evses angBC v
      let Z := gsum T x.sec.evses angCA v
      ((∀ i ∈ [x.sec.a, x.sec.b, x.sec.c], 0 ≤ boundOf T r vt rt caps i ∧
          aggSq T r caps i v ≤ boundOf T r vt rt caps i * boundOf T r vt rt caps i) ↔
        (0 ≤ m ∧ X * X + X * Z + Z * Z ≤ m * m ∧ X * X + X * Y + Y * Y ≤ m * m ∧ Y * Y + Y * Z + Z * Z ≤ m * m)) := by
  obtain ⟨k, ops, hcap, htri, hb⟩ := secondary_bound T x ((topoFacts_of T hT).xf x hx) r vt rt hr caps
  exact ⟨k, ops, hcap, triple_rows_iff T hT x.sec htri r vt rt hr caps v hv _ hb⟩

/-- row `i` accepts the squared aggregate magnitude `q`: `0 ≤ bound ∧ q ≤ bound²` -/
def rowWithin (T : Topo) (r vt rt : K) (caps : List K) (i : Nat) (q : K) : Prop :=
  0 ≤ boundOf T r vt rt caps i ∧ q ≤ boundOf T r vt rt caps i * boundOf T r vt rt caps i

/-- Every constraint row of an accepted topology is a transformer row, a panel line or a pod, so a current
    vector (as a one-period schedule) is accepted as soon as the quadratics of the line-pair sums
    (`line_current_sq`, `primary_current_sq`) and the pod sums are within the bounds of those rows. -/
theorem feasible_of_line_sums (T : Topo) (hT : topoOk T = true) (r vt rt : K) (hr : r * r = 3)
    (caps v : List K) (hv : v.length = nStations T)
    (hx : ∀ x ∈ T.xfmrs,
      let X := gsum T x.sec.evses angAB v
      let Y := gsum T x.sec.evses angBC v
      let Z := gsum T x.sec.evses angCA v
      rowWithin T r vt rt caps x.sec.a (X * X + X * Z + Z * Z) ∧
      rowWithin T r vt rt caps x.sec.b (X * X + X * Y + Y * Y) ∧
      rowWithin T r vt rt caps x.sec.c (Y * Y + Y * Z + Z * Z) ∧
      rowWithin T r vt rt caps x.pa ((X * X + Y * Y + 4 * (Z * Z) - X * Y + 2 * (X * Z) + 2 * (Y * Z)) / 16) ∧
      rowWithin T r vt rt caps x.pb ((4 * (X * X) + Y * Y + Z * Z + 2 * (X * Y) + 2 * (X * Z) - Y * Z) / 16) ∧
      rowWithin T r vt rt caps x.pc ((X * X + 4 * (Y * Y) + Z * Z + 2 * (X * Y) - X * Z + 2 * (Y * Z)) / 16))
    (hp : ∀ p ∈ T.panels,
      let X := gsum T p.lines.evses angAB v
      let Y := gsum T p.lines.evses angBC v
      let Z := gsum T p.lines.evses angCA v
      rowWithin T r vt rt caps p.lines.a (X * X + X * Z + Z * Z) ∧
      rowWithin T r vt rt caps p.lines.b (X * X + X * Y + Y * Y) ∧
      rowWithin T r vt rt caps p.lines.c (Y * Y + Y * Z + Z * Z))
    (hd : ∀ p ∈ T.pods, rowWithin T r vt rt caps p.row (groupSum p.evses v * groupSum p.evses v)) :
    feasible T r vt rt caps (v.map fun a => [a]) = true := by
  have G := topoFacts_of T hT
  rw [feasible_iff T hT]
  intro t ht i hi
  rw [period_singletons v t ht]
  show rowWithin T r vt rt caps i (aggSq T r caps i v)
  have hrole := G.role i hi
  simp only [roleRows, List.mem_append, List.mem_flatMap, List.mem_map, List.mem_cons, List.not_mem_nil,
    or_false] at hrole
  rcases hrole with (⟨x, hm, hi⟩ | ⟨p, hm, hi⟩) | ⟨p, hm, rfl⟩
  · obtain ⟨ea, eb, ec, _⟩ := line_current_sq T hT x.sec (xfmrFacts_of T x (G.xf x hm)).tri r hr caps v hv
    obtain ⟨pa, pb, pc⟩ := primary_current_sq T G x (G.xf x hm) r hr caps v
    obtain ⟨ha, hb, hc, hpa, hpb, hpc⟩ := hx x hm
    rcases hi with rfl | rfl | rfl | rfl | rfl | rfl
    exacts [ea ▸ ha, eb ▸ hb, ec ▸ hc, pa ▸ hpa, pb ▸ hpb, pc ▸ hpc]
  · obtain ⟨ea, eb, ec, _⟩ := line_current_sq T hT p.lines (panelFacts_of T p (G.pn p hm)).1 r hr caps v hv
    obtain ⟨ha, hb, hc⟩ := hp p hm
    rcases hi with rfl | rfl | rfl
    exacts [ea ▸ ha, eb ▸ hb, ec ▸ hc]
  · rw [pod_current_sq T G p (podFacts_of T G p (G.pd p hm)) r hr caps v]
    exact hd p hm

/-! ## the power bound -/

/-- **C16, power.**  For EVERY topology accepted by `topoOk` (the three sites are, by
    `site_structure_*`), EVERY capacity vector, EVERY schedule with one row per station that
    `is_feasible` accepts (tolerances `vt`, `rt`), EVERY transformer `x` and period `t`:
        V_LL · Σ_{j∈x} S_j(t)  ≤  cap·1000 + 3·V_LN·max(vt, rt·cap·1000/360)
    with V_LN = 120, V_LL = 120·r, r·r = 3, and `cap` the transformer's capacity parameter [kW].
    (No sign condition on the schedule is needed; non-negative schedules are a special case.) -/
theorem site_power_bound (T : Topo) (hT : topoOk T = true) (x : Xfmr) (hx : x ∈ T.xfmrs)
    (r vt rt : K) (hr : r * r = 3) (caps : List K) (S : List (List K))
    (hlen : S.length = nStations T) (hfeas : feasible T r vt rt caps S = true)
    (t : Nat) (ht : t < periods S) :
    ∃ k ops, xfmrCap T x = some (k, ops) ∧
      120 * r * groupSum x.sec.evses (period S t)
        ≤ caps.getD k 0 * 1000 + 360 * tolOf vt rt (caps.getD k 0 * 1000 / 360) := by
  have hv : (period S t).length = nStations T := by rw [period, length_col]; exact hlen
  obtain ⟨k, ops, hcap, hiff⟩ := secondary_feasible_iff T hT x hx r vt rt hr caps (period S t) hv
  have htri := (xfmrFacts_of T x ((topoFacts_of T hT).xf x hx)).tri
  have F := tripleFacts_of T x.sec htri
  refine ⟨k, ops, hcap, ?_⟩
  obtain ⟨h0, ha, hb, hc⟩ := hiff.mp fun i hi => (feasible_iff T hT r vt rt caps S).mp hfeas t ht i (by
    simp only [List.mem_cons, List.not_mem_nil, or_false] at hi
    rcases hi with rfl | rfl | rfl
    exacts [F.ha, F.hb, F.hc])
  rw [(line_current_sq T hT x.sec htri r hr caps _ hv).2.2.2]
  calc 120 * r * _ ≤ 360 * (caps.getD k 0 * 1000 / 360 + tolOf vt rt (caps.getD k 0 * 1000 / 360)) :=
        SitesAlg.power_of_wye r _ _ hr h0 (wye_power _ _ _ _ ha hb hc)
    _ = _ := by ring

theorem sqrt3 : Real.sqrt 3 * Real.sqrt 3 = 3 := Real.mul_self_sqrt (by norm_num)

/-- non-vacuity (Office001 as generated, 50 kW, √3 ∈ ℝ): a non-negative three-phase schedule drawing
    220 A (45.7 kW at 120√3 V) satisfies every hypothesis of `site_power_bound` -/
example : ∃ (r : ℝ) (S : List (List ℝ)), r * r = 3 ∧ topoOk topo2 = true ∧ S.length = nStations topo2 ∧
    (∀ row ∈ S, ∀ v ∈ row, 0 ≤ v) ∧ feasible topo2 r (1 / 100000) (1 / 10000000) [50] S = true ∧
    0 < periods S ∧ (topo2.xfmrs.map fun x => groupSum x.sec.evses (period S 0)) = [220] := by
  have hT : topoOk topo2 = true := generated_topoOk topo2 (by simp [topos])
  let q : List ℚ := [26, 26, 26, 26, 26, 26, 32, 32]
  refine ⟨Real.sqrt 3, (q.map fun c : ℚ => (c : ℝ) * 1).map fun a => [a], sqrt3, hT, by decide,
    scaled_nonneg q 1 (by decide +kernel) zero_le_one, ?_, by decide, ?_⟩
  · refine feasible_of_line_sums topo2 hT _ _ _ sqrt3 _ _ (by decide) ?_ (by simp [topo2]) (by simp [topo2])
    intro x hx
    obtain rfl := List.mem_singleton.mp hx
    have F := tripleFacts_of topo2 _ (xfmrFacts_of topo2 _ ((topoFacts_of _ hT).xf _ hx)).tri
    intro X Y Z
    obtain ⟨hX, hY, hZ⟩ : X = _ ∧ Y = _ ∧ Z = _ := line_sums_scaled topo2 _ F q 1 78 78 64
      (by decide +kernel) (by decide +kernel) (by decide +kernel)
    rw [hX, hY, hZ]
    simp only [rowWithin, boundOf, limOf, topo2, List.getD_cons_succ, List.getD_cons_zero, limK_mul]
    norm_num [tolOf, pyMax]
  · show [groupSum _ (period _ 0)] = _
    rw [period_singletons _ _ (by decide), groupSum_scaled, show groupSum _ q = 220 from by decide +kernel]
    norm_num

/-- the same with the tolerance spelled out: `≤ cap·1000·(1 + rt) + 360·vt` for non-negative
    capacity and tolerances -/
theorem site_power_bound_explicit (T : Topo) (hT : topoOk T = true) (x : Xfmr) (hx : x ∈ T.xfmrs)
    (r vt rt : K) (hr : r * r = 3) (hvt : 0 ≤ vt) (hrt : 0 ≤ rt) (caps : List K) (hcaps : ∀ c ∈ caps, 0 ≤ c)
    (S : List (List K)) (hlen : S.length = nStations T) (hfeas : feasible T r vt rt caps S = true)
    (t : Nat) (ht : t < periods S) :
    ∃ k ops, xfmrCap T x = some (k, ops) ∧
      120 * r * groupSum x.sec.evses (period S t) ≤ caps.getD k 0 * 1000 * (1 + rt) + 360 * vt := by
  obtain ⟨k, ops, hc, h⟩ := site_power_bound T hT x hx r vt rt hr caps S hlen hfeas t ht
  refine ⟨k, ops, hc, le_trans h ?_⟩
  have hc0 : 0 ≤ caps.getD k 0 := by
    by_cases hk : k < caps.length
    · rw [List.getD_eq_getElem _ _ hk]; exact hcaps _ (List.getElem_mem hk)
    · rw [List.getD_eq_default _ _ (by omega)]
  have hmax : tolOf vt rt (caps.getD k 0 * 1000 / 360) ≤ vt + rt * (caps.getD k 0 * 1000 / 360) := by
    unfold tolOf; rw [pyMax_eq_max]
    exact max_le_add_of_nonneg hvt (mul_nonneg hrt (div_nonneg (mul_nonneg hc0 (by norm_num)) (by norm_num)))
  calc _ ≤ caps.getD k 0 * 1000 + 360 * (vt + rt * (caps.getD k 0 * 1000 / 360)) := by gcongr
    _ = _ := by ring

/-- nominal form: at 208 V (`kv = 208/(120·√3)`, i.e. `kv · (120·r) = 208`) the feasible power is at
    most `kv` times the 120√3-volt allowance — the 0.074 % of DESIGN §8 and nothing more -/
theorem site_power_bound_nominal208 (T : Topo) (hT : topoOk T = true) (x : Xfmr) (hx : x ∈ T.xfmrs)
    (r kv vt rt : K) (hr : r * r = 3) (hkv0 : 0 ≤ kv) (hkv : kv * (120 * r) = 208)
    (caps : List K) (S : List (List K))
    (hlen : S.length = nStations T) (hfeas : feasible T r vt rt caps S = true)
    (t : Nat) (ht : t < periods S) :
    ∃ k ops, xfmrCap T x = some (k, ops) ∧
      208 * groupSum x.sec.evses (period S t)
        ≤ kv * (caps.getD k 0 * 1000 + 360 * tolOf vt rt (caps.getD k 0 * 1000 / 360)) := by
  obtain ⟨k, ops, hc, h⟩ := site_power_bound T hT x hx r vt rt hr caps S hlen hfeas t ht
  refine ⟨k, ops, hc, ?_⟩
  have := mul_le_mul_of_nonneg_left h hkv0
  calc 208 * groupSum x.sec.evses (period S t)
      = kv * (120 * r * groupSum x.sec.evses (period S t)) := by rw [← hkv]; ring
    _ ≤ _ := this

/-- **C16, pods and sub-panels.**  For an accepted schedule: every pod's summed current is at most
    its literal rating plus the declared tolerance (same line pair ⇒ magnitude = sum), and for every
    panel the three squared line currents (exact 120° algebra of the panel's per-line-pair sums) are
    at most (rating + tolerance)². -/
theorem pod_panel_within_rating (T : Topo) (hT : topoOk T = true)
    (r vt rt : K) (hr : r * r = 3) (caps : List K) (S : List (List K))
    (hlen : S.length = nStations T) (hfeas : feasible T r vt rt caps S = true)
    (t : Nat) (ht : t < periods S) :
    (∀ p ∈ T.pods, ∃ n d, podRating T p = some (n, d) ∧
      groupSum p.evses (period S t) ≤ ratK n d + tolOf vt rt (ratK n d)) ∧
    (∀ p ∈ T.panels, ∃ n d, panelRating T p = some (n, d) ∧
      let X := gsum T p.lines.evses angAB (period S t)
      let Y := gsum T p.lines.evses angBC (period S t)
      let Z := gsum T p.lines.evses angCA (period S t)
      let b : K := ratK n d + tolOf vt rt (ratK n d)
      0 ≤ b ∧ X * X + X * Z + Z * Z ≤ b * b ∧ X * X + X * Y + Y * Y ≤ b * b ∧ Y * Y + Y * Z + Z * Z ≤ b * b) := by
  have G := topoFacts_of T hT
  constructor
  · intro p hp
    have P := podFacts_of T G p (G.pd p hp)
    obtain ⟨n, d, hl⟩ := P.rating
    refine ⟨n, d, by simp [podRating, constLim, hl], ?_⟩
    obtain ⟨hb0, hb⟩ := (feasible_iff T hT r vt rt caps S).mp hfeas t ht p.row P.hrow
    rw [pod_current_sq T G p P r hr caps] at hb
    have := nonneg_le_nonneg_of_sq_le_sq hb0 hb
    unfold boundOf at this
    simpa [hl, limK] using this
  · intro p hp
    obtain ⟨n, d, hr', htri, hb⟩ := panel_bound T p (G.pn p hp) r vt rt caps
    have F := tripleFacts_of T p.lines htri
    refine ⟨n, d, hr', (triple_rows_iff T hT p.lines htri r vt rt hr caps _
      (by rw [period, length_col]; exact hlen) _ hb).1 fun i hi => ?_⟩
    refine (feasible_iff T hT r vt rt caps S).mp hfeas t ht i ?_
    simp only [List.mem_cons, List.not_mem_nil, or_false] at hi
    rcases hi with rfl | rfl | rfl
    exacts [F.ha, F.hb, F.hc]

set_option maxHeartbeats 4000000 in
set_option maxRecDepth 100000 in
/-- non-vacuity (Caltech as generated, 150 kW): the CC pod at its 80 A rating together with BC and CA
    load is accepted, so the hypotheses of `pod_panel_within_rating` hold with a pod exactly at its rating -/
example : ∃ (r : ℝ) (S : List (List ℝ)), r * r = 3 ∧ topoOk topo0 = true ∧ S.length = nStations topo0 ∧
    feasible topo0 r (1 / 100000) (1 / 10000000) [150] S = true ∧ 0 < periods S ∧
    (topo0.pods.map fun p => groupSum p.evses (period S 0)) = [80, 0] := by
  have hT : topoOk topo0 = true := generated_topoOk topo0 (by simp [topos])
  -- 10 A on the eight EVSEs of the CC pod (AB), 2 × 30 A on BC, 2 × 16 A on CA
  let q : List ℚ := List.replicate 18 0 ++ List.replicate 8 10 ++ [0, 0, 30, 30] ++ List.replicate 12 0 ++
    [16, 16] ++ List.replicate 10 0
  -- the line-pair sums under the transformer and the pod sums, with the limits of their rows
  have hx : ∀ x ∈ topo0.xfmrs,
      (groupSum (x.sec.evses.filter fun j => angleOf topo0 j == angAB) q = 80 ∧
       groupSum (x.sec.evses.filter fun j => angleOf topo0 j == angBC) q = 60 ∧
       groupSum (x.sec.evses.filter fun j => angleOf topo0 j == angCA) q = 32) ∧
      (limOf topo0 x.sec.a = .ofCap 0 [.mul 25 9] ∧ limOf topo0 x.sec.b = .ofCap 0 [.mul 25 9] ∧
       limOf topo0 x.sec.c = .ofCap 0 [.mul 25 9]) ∧
      limOf topo0 x.pa = .ofCap 0 [.mul 1000 831] ∧ limOf topo0 x.pb = .ofCap 0 [.mul 1000 831] ∧
       limOf topo0 x.pc = .ofCap 0 [.mul 1000 831] := by
    decide +kernel
  have hp : ∀ p ∈ topo0.pods, limOf topo0 p.row = .const 80 1 ∧
      (groupSum p.evses q = 80 ∨ groupSum p.evses q = 0) := by
    decide +kernel
  refine ⟨Real.sqrt 3, (q.map fun c : ℚ => (c : ℝ) * 1).map fun a => [a], sqrt3, hT, by decide +kernel, ?_,
    by decide +kernel, ?_⟩
  · refine feasible_of_line_sums topo0 hT _ _ _ sqrt3 _ _ (by decide +kernel) ?_ (fun p hp => nomatch hp) ?_
    · intro x hm
      obtain ⟨⟨hX, hY, hZ⟩, ⟨ha, hb, hc⟩, hpa, hpb, hpc⟩ := hx x hm
      have F := tripleFacts_of topo0 _ (xfmrFacts_of topo0 _ ((topoFacts_of _ hT).xf _ hm)).tri
      intro X Y Z
      obtain ⟨hX, hY, hZ⟩ : X = _ ∧ Y = _ ∧ Z = _ := line_sums_scaled topo0 _ F q 1 80 60 32 hX hY hZ
      rw [hX, hY, hZ]
      simp only [rowWithin, boundOf, ha, hb, hc, hpa, hpb, hpc, List.getD_cons_zero, limK_mul]
      norm_num [tolOf, pyMax]
    · intro p hm
      obtain ⟨hl, hs⟩ := hp p hm
      rw [groupSum_scaled]
      simp only [rowWithin, boundOf, hl, limK_const]
      rcases hs with hs | hs <;> rw [hs] <;> norm_num [tolOf, pyMax]
  · show [groupSum _ (period _ 0), groupSum _ (period _ 0)] = _
    rw [period_singletons _ _ (by decide +kernel), groupSum_scaled, groupSum_scaled,
      show groupSum _ q = 80 from by decide +kernel, show groupSum _ q = 0 from by decide +kernel]
    norm_num

/-! ## converse and tightness -/

/-- the wye bound is attained: balanced line-pair sums `x = y = z = m·r/3` put all three line currents
    exactly at `m` and draw exactly `120·r·(x+y+z) = 360·m` -/
theorem wye_power_attained (r m : K) (hr : r * r = 3) :
    let s := m * r / 3
    s * s + s * s + s * s = m * m ∧ 120 * r * (s + s + s) = 360 * m := by
  constructor
  · linear_combination (m * m / 3) * hr
  · linear_combination (120 * m) * hr

/-- **Tightness, any site / capacity / tolerance.**  A current vector whose three line-pair sums under
    transformer `x` are balanced at `m·r/3` sits exactly ON the three secondary bounds and draws exactly
    `cap·1000 + 360·max(vt, rt·cap·1000/360)` at 120√3 V: the allowance of `site_power_bound` (and of the
    oracle) cannot be lowered. -/
theorem balanced_draws_full_allowance (T : Topo) (hT : topoOk T = true) (x : Xfmr) (hx : x ∈ T.xfmrs)
    (r vt rt : K) (hr : r * r = 3) (caps v : List K) (hv : v.length = nStations T) :
    ∃ k ops, xfmrCap T x = some (k, ops) ∧
      let m := caps.getD k 0 * 1000 / 360 + tolOf vt rt (caps.getD k 0 * 1000 / 360)
      (gsum T x.sec.evses angAB v = m * r / 3 → gsum T x.sec.evses angBC v = m * r / 3 →
       gsum T x.sec.evses angCA v = m * r / 3 →
        aggSq T r caps x.sec.a v = m * m ∧ aggSq T r caps x.sec.b v = m * m ∧ aggSq T r caps x.sec.c v = m * m ∧
        120 * r * groupSum x.sec.evses v
          = caps.getD k 0 * 1000 + 360 * tolOf vt rt (caps.getD k 0 * 1000 / 360)) := by
  obtain ⟨k, ops, hcap, htri, _⟩ := secondary_bound T x ((topoFacts_of T hT).xf x hx) r vt rt hr caps
  refine ⟨k, ops, hcap, ?_⟩
  intro m h1 h2 h3
  obtain ⟨ea, eb, ec, es⟩ := line_current_sq T hT x.sec htri r hr caps v hv
  obtain ⟨w1, w2⟩ := wye_power_attained r m hr
  rw [ea, eb, ec, es, h1, h2, h3]
  refine ⟨w1, w1, w1, ?_⟩
  rw [w2]; ring

/-- … and such a schedule exists and is ACCEPTED by the whole network (primary rows included):
    Office001 as generated, 50 kW, default tolerances, √3 ∈ ℝ — a non-negative schedule that
    `is_feasible` accepts and that draws exactly `50·1000 + 360·max(1e-5, 1e-7·50000/360)` W. -/
theorem office001_bound_attained :
    ∃ (r : ℝ) (S : List (List ℝ)), r * r = 3 ∧ S.length = nStations topo2 ∧
      (∀ row ∈ S, ∀ v ∈ row, 0 ≤ v) ∧ feasible topo2 r (1 / 100000) (1 / 10000000) [50] S = true ∧
      0 < periods S ∧
      (topo2.xfmrs.map fun x => 120 * r * groupSum x.sec.evses (period S 0))
        = [50 * 1000 + 360 * tolOf (1 / 100000) (1 / 10000000) ((50 : ℝ) * 1000 / 360)] := by
  have hT : topoOk topo2 = true := generated_topoOk topo2 (by simp [topos])
  -- each line pair carries a third of `m·√3`, `m = 50000/360 + 1e-7·50000/360 = 10000001/72000` the bound
  -- of the secondary rows: 3 AB, 3 BC, 2 CA stations
  let q : List ℚ := List.replicate 6 (1 / 9) ++ List.replicate 2 (1 / 6)
  refine ⟨Real.sqrt 3, (q.map fun c : ℚ => (c : ℝ) * (10000001 / 72000 * Real.sqrt 3)).map fun a => [a], sqrt3,
    by decide, scaled_nonneg q _ (by decide +kernel) (by positivity), ?_, by decide, ?_⟩
  · refine feasible_of_line_sums topo2 hT _ _ _ sqrt3 _ _ (by decide) ?_ (by simp [topo2]) (by simp [topo2])
    intro x hx
    obtain rfl := List.mem_singleton.mp hx
    have F := tripleFacts_of topo2 _ (xfmrFacts_of topo2 _ ((topoFacts_of _ hT).xf _ hx)).tri
    intro X Y Z
    obtain ⟨hX, hY, hZ⟩ : X = _ ∧ Y = _ ∧ Z = _ := line_sums_scaled topo2 _ F q _ (1 / 3) (1 / 3) (1 / 3)
      (by decide +kernel) (by decide +kernel) (by decide +kernel)
    -- X = Y = Z and X² = m²/3: the secondary rows sit exactly on `m²`, the primary rows at `3m²/16`
    have hXX : X * X = (10000001 / 72000) ^ 2 / 3 := by
      rw [hX]; push_cast; linear_combination ((10000001 / 72000 : ℝ) ^ 2 / 9) * sqrt3
    rw [hY, hZ, ← hX]
    simp only [rowWithin, boundOf, limOf, topo2, List.getD_cons_succ, List.getD_cons_zero, limK_mul, hXX]
    norm_num [tolOf, pyMax]
  · show [120 * _ * groupSum _ (period _ 0)] = _
    rw [period_singletons _ _ (by decide), groupSum_scaled, show groupSum _ q = 1 from by decide +kernel]
    norm_num [tolOf, pyMax]
    linear_combination (120 * (10000001 / 72000) : ℝ) * sqrt3

/-- DESIGN §8's example as a theorem: Caltech as generated, 150 kW, default tolerances — a balanced
    schedule (AB on the ten non-pod EVSEs) that the whole network accepts (pods, primary rows included)
    and that draws exactly `150·1000 + 360·max(1e-5, 1e-7·150000/360)` W at 120√3 V (150.11 kW at 208 V). -/
theorem caltech_bound_attained :
    ∃ (r : ℝ) (S : List (List ℝ)), r * r = 3 ∧ S.length = nStations topo0 ∧
      feasible topo0 r (1 / 100000) (1 / 10000000) [150] S = true ∧ 0 < periods S ∧
      (topo0.xfmrs.map fun x => 120 * r * groupSum x.sec.evses (period S 0))
        = [150 * 1000 + 360 * tolOf (1 / 100000) (1 / 10000000) ((150 : ℝ) * 1000 / 360)] := by
  have hT : topoOk topo0 = true := generated_topoOk topo0 (by simp [topos])
  -- a third of `m·√3` per line pair, `m = 150000/360 + 1e-7·150000/360 = 10000001/24000`: AB on the ten
  -- non-pod stations, the sixteen pod stations idle, 14 BC and 14 CA stations
  let q : List ℚ := List.replicate 10 (1 / 30) ++ List.replicate 16 0 ++ List.replicate 28 (1 / 42)
  refine ⟨Real.sqrt 3, (q.map fun c : ℚ => (c : ℝ) * (10000001 / 24000 * Real.sqrt 3)).map fun a => [a], sqrt3,
    by decide, ?_, by decide, ?_⟩
  · refine feasible_of_line_sums topo0 hT _ _ _ sqrt3 _ _ (by decide) ?_ (by simp [topo0]) ?_
    · intro x hx
      obtain rfl := List.mem_singleton.mp hx
      have F := tripleFacts_of topo0 _ (xfmrFacts_of topo0 _ ((topoFacts_of _ hT).xf _ hx)).tri
      intro X Y Z
      obtain ⟨hX, hY, hZ⟩ : X = _ ∧ Y = _ ∧ Z = _ := line_sums_scaled topo0 _ F q _ (1 / 3) (1 / 3) (1 / 3)
        (by decide +kernel) (by decide +kernel) (by decide +kernel)
      have hXX : X * X = (10000001 / 24000) ^ 2 / 3 := by
        rw [hX]; push_cast; linear_combination ((10000001 / 24000 : ℝ) ^ 2 / 9) * sqrt3
      rw [hY, hZ, ← hX]
      simp only [rowWithin, boundOf, limOf, topo0, List.getD_cons_succ, List.getD_cons_zero, limK_mul, hXX]
      norm_num [tolOf, pyMax]
    · intro p hp
      have h0 : ∀ p ∈ topo0.pods, groupSum p.evses q = 0 ∧ limOf topo0 p.row = .const 80 1 := by
        decide +kernel
      rw [groupSum_scaled, (h0 p hp).1]
      simp only [rowWithin, boundOf, (h0 p hp).2, limK_const]
      norm_num [tolOf, pyMax]
  · show [120 * _ * groupSum _ (period _ 0)] = _
    rw [period_singletons _ _ (by decide), groupSum_scaled, show groupSum _ q = 1 from by decide +kernel]
    norm_num [tolOf, pyMax]
    linear_combination (120 * (10000001 / 24000) : ℝ) * sqrt3

/-! ## primary side -/

set_option linter.unusedVariables false in
/-- **Primary rows are implied bounds.**  Each primary row is ¼ of the difference of two secondary rows
    (checked column by column by `topoOk`), so whenever the two secondary magnitudes are ≤ m the primary
    magnitude is ≤ m/2 (`4·|I_p|² ≤ m²`).  Hence a primary limit ≥ half the secondary bound (JPL:
    `√3·` the secondary limit) never binds, and a smaller one (Caltech / Office001: `cap·1000/3/277`) only
    removes schedules — it cannot admit more power. -/
theorem primary_implied (T : Topo) (hT : topoOk T = true) (x : Xfmr) (hx : x ∈ T.xfmrs)
    (r : K) (caps v : List K) (hv : v.length = nStations T) (m : K)
    (ha : aggSq T r caps x.sec.a v ≤ m * m) (hb : aggSq T r caps x.sec.b v ≤ m * m)
    (hc : aggSq T r caps x.sec.c v ≤ m * m) :
    4 * aggSq T r caps x.pa v ≤ m * m ∧ 4 * aggSq T r caps x.pb v ≤ m * m ∧
    4 * aggSq T r caps x.pc v ≤ m * m := by
  have G := topoFacts_of T hT
  have hxo := G.xf x hx
  have F := tripleFacts_of T x.sec (xfmrFacts_of T x hxo).tri
  obtain ⟨p1, p2, p3⟩ := xfmr_primaryOk T x hxo
  have d := triple_den T x.sec F
  exact ⟨primary_implied_row T _ _ _ p1 F.ha F.hc (fun j hj => ⟨(d j hj).1, (d j hj).2.2⟩) r caps v m ha hc,
    primary_implied_row T _ _ _ p2 F.hb F.ha (fun j hj => ⟨(d j hj).2.1, (d j hj).1⟩) r caps v m hb ha,
    primary_implied_row T _ _ _ p3 F.hc F.hb (fun j hj => ⟨(d j hj).2.2, (d j hj).2.1⟩) r caps v m hc hb⟩

/-- the constant of `primary_implied` is sharp: `4·|¼(ra − rc)|² = m²` when the two secondary phasors are
    opposite, ra = m, rc = −m (here m = 1) -/
example : (4 : ℚ) * (((1 - (-1)) / 4) * ((1 - (-1)) / 4) + ((0 - 0) / 4) * ((0 - 0) / 4)) = 1 * 1 := by
  norm_num

/-- the three sites as they are in the working tree: the power bound holds for each of their
    transformers, for every capacity vector and every accepted schedule -/
theorem generated_sites_power_bound (T : Topo) (hmem : T ∈ topos) (x : Xfmr) (hx : x ∈ T.xfmrs)
    (r vt rt : K) (hr : r * r = 3) (caps : List K) (S : List (List K))
    (hlen : S.length = nStations T) (hfeas : feasible T r vt rt caps S = true)
    (t : Nat) (ht : t < periods S) :
    ∃ k ops, xfmrCap T x = some (k, ops) ∧
      120 * r * groupSum x.sec.evses (period S t)
        ≤ caps.getD k 0 * 1000 + 360 * tolOf vt rt (caps.getD k 0 * 1000 / 360) := by
  exact site_power_bound T (generated_topoOk T hmem) x hx r vt rt hr caps S hlen hfeas t ht

end
end Acn.C16
