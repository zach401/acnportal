/-
  C08 — greedy grants the max feasible rate; round robin stops only when blocked — for an ARBITRARY
  upper-bound estimator.

  The property's clauses speak about each session's OWN bound.  With `estimate_max_rate` that bound
  comes from user code: any `UpperBoundEstimatorBase` subclass, whose `get_maximum_rates` may return any
  dict `session_id → bound` (above the EVSE maximum, `inf`, zero, below the minimum pilot, between the
  levels of a finite-rate EVSE, key missing, foreign keys).  The model is the estimator-parametric
  `Sorted.scheduleCallEst` of `AcnModel/SortedEst.lean` (shared with C07; `drv_C08` runs it); the
  estimator is a parameter `est : List Session → Session → Option bound` and every theorem below is
  for EVERY such function.  They are the theorems of `AcnProofs/C08.lean` (`greedy_sequential`,
  `bisection_within_eps`, `short_circuit`, `discrete_is_max`, `rr_stop_reason`, `rr_continues`) applied
  to the PREPROCESSED sessions of the call, together with `own_bound_any_estimator`, which says what
  the preprocessed bounds are in terms of the EVSE, the estimator's answer and the minimum pilot
  (`Sorted.OwnBound`, an equality).  `Sorted.scheduleCall` (the `SimpleRampdown` model) is the instance
  `Acn.C07.rampdown_is_an_estimator`.

  Helpers: `Lemmas/SortedOpt.lean`, `SortedLink.lean`.
-/
import AcnProofs.C08
import AcnProofs.Lemmas.SortedLink

set_option linter.unusedSectionVars false

namespace Acn.C08
open Acn Acn.Sorted

variable {K : Type} [Field K] [LinearOrder K] [IsStrictOrderedRing K]

/-- `own_bound_any_estimator`: in a `schedule()` call with ANY estimator, every queued session `s`
    derives from exactly the session `s1` the estimator was handed for it (same session id, same
    station, same energies; `s1` = an unfinished input session `s0` with
    `max_rates = min(max_rates, max_pilot of its EVSE)`, so `s1.maxRate ≤ max_pilot`), and its
    bounds are `Sorted.OwnBound`:
      `max_rates(s) = max( min(s1.max_rates, estimator answer for s1 — if any), min_rates(s) )`,
      `min_rates(s)` = the incoming one, or the EVSE's minimum pilot when uninterrupted charging
      applies it (both 0 when it refuses).
    The greedy upper bound is `ubOf s = min(max_rates(s), remaining amp-periods)`, the round-robin one
    `rrUb s = min(max_rates(s), max_pilot, remaining amp-periods)`; i.e. the session's own bound is
    `min(EVSE max, remaining demand, max(estimator bound, minimum pilot))`.  The answer is looked up for
    `s1` — the session itself — whatever else the dict holds. -/
theorem own_bound_any_estimator [HasCeilNat K] (feas : List K → Bool) (cfg : Config K) (infra : Infra K)
    (period : K) (time : Int) (est : List (Session K) → Session K → Option K)
    (raw l : List (Session K)) (hres : resolve infra raw = .ok l) (hndl : (l.map (·.idx)).Nodup) :
    ∀ s ∈ (scheduleCallEst feas cfg infra period time est raw).order,
      ∃ s1 ∈ (scheduleCallEst feas cfg infra period time est raw).estIn,
        OwnBound cfg infra period
          (if cfg.estimate = true then
            est (scheduleCallEst feas cfg infra period time est raw).estIn s1 else none) s1 s ∧
        s1.maxRate ≤ infra.maxPilot.getD s1.idx 0 ∧
        ∃ s0 ∈ l, s1 = { s0 with maxRate := pyMin s0.maxRate (infra.maxPilot.getD s0.idx 0) } := by
  obtain ⟨_, _, hmem⟩ := scheduleCallEst_queue feas cfg infra period time est raw l hres hndl
  obtain ⟨_, hin⟩ := scheduleCallEst_order feas cfg infra period time est raw l hres
  intro s hs
  obtain ⟨s1, hs1, hown⟩ := preprocessEst_own feas cfg infra period est l s (hmem s hs).1
  rw [hin]
  exact ⟨s1, hs1, hown, estInput_le_maxPilot infra period l s1 hs1, estInput_spec infra period l s1 hs1⟩

/-- what the bounds in the statements below are -/
example (infra : Infra K) (period : K) (s : Session K) :
    ubOf infra period s = min s.maxRate (rap infra period s) ∧
    rrUb infra period s = min (min s.maxRate (infra.maxPilot.getD s.idx 0)) (rap infra period s) ∧
    lbOf s = max 0 s.minRate := by
  simp [ubOf, rrUb, lbOf, pyMin3]

/-- the greedy algorithm behind `scheduleCallEst` is `sorting_algorithm` on the sorted preprocessed
    sessions -/
theorem greedy_call_is_sortingAlgorithm [HasCeilNat K] (feas : List K → Bool) (cfg : Config K)
    (infra : Infra K) (period : K) (time : Int) (est : List (Session K) → Session K → Option K)
    (raw l : List (Session K)) (hres : resolve infra raw = .ok l) (hg : cfg.algo = .greedy) :
    (scheduleCallEst feas cfg infra period time est raw).result =
      sortingAlgorithm feas cfg.fuel cfg.eps infra period
        (scheduleCallEst feas cfg infra period time est raw).order := by
  unfold scheduleCallEst
  simp only [hres, hg]

/-- `greedy_sequential` for ANY estimator: in a returned greedy schedule, for the queue
    `pre ++ s :: post` (sorted preprocessed sessions), the grant of `s` is `greedyRate` on the schedule
    `cur` in which every session of `pre` holds its FINAL grant, `s` and every session of `post` their
    lower bounds, every other station 0. -/
theorem greedy_sequential_any_estimator [HasCeilNat K] (feas : List K → Bool) (cfg : Config K)
    (infra : Infra K) (period : K) (time : Int) (est : List (Session K) → Session K → Option K)
    (raw l : List (Session K)) (sch : List K) (pre : List (Session K)) (s : Session K)
    (post : List (Session K))
    (hres : resolve infra raw = .ok l) (hndl : (l.map (·.idx)).Nodup) (hg : cfg.algo = .greedy)
    (hord : (scheduleCallEst feas cfg infra period time est raw).order = pre ++ s :: post)
    (h : (scheduleCallEst feas cfg infra period time est raw).result = .ok sch) :
    ∃ cur r, greedyRate feas cfg.fuel cfg.eps infra period cur s = .ok r ∧ sch[s.idx]? = some r ∧
      cur.length = infra.ids.length ∧
      (∀ t ∈ pre, cur[t.idx]? = sch[t.idx]?) ∧
      (∀ t ∈ s :: post, cur[t.idx]? = some (lbOf t)) ∧
      (∀ j, j < infra.ids.length → (∀ t ∈ pre ++ s :: post, t.idx ≠ j) → cur[j]? = some 0) := by
  obtain ⟨hnd, hidx, _⟩ := scheduleCallEst_queue feas cfg infra period time est raw l hres hndl
  rw [greedy_call_is_sortingAlgorithm feas cfg infra period time est raw l hres hg, hord] at h
  rw [hord] at hnd hidx
  exact greedy_sequential feas cfg.fuel cfg.eps infra period pre s post sch hnd hidx h

/-- `greedy_max_feasible_any_estimator` (continuous EVSE).  For EVERY estimator function, in a returned
    greedy schedule each session `s` — in priority order: `pre` before it, `post` after it — gets, on
    the schedule `cur` of `greedy_sequential` (earlier sessions at their final grants), the largest
    pilot that is feasible and lies within ITS OWN bounds `[lbOf s, ubOf s]`, within `eps`:
      * the grant `r` is feasible given the earlier grants, and `lbOf s ≤ r ≤ ubOf s`;
      * if `ubOf s` itself is feasible, `r = ubOf s` exactly;
      * every feasible value `x ∈ [lbOf s, ubOf s]` of that coordinate satisfies `x < r + eps`;
    where the bounds of `s` are its own (`own_bound_any_estimator`, first conjunct): computed from the
    answer the estimator gave for THIS session, before the search (the search runs inside them).
    Hypotheses: `feas` has interval sections in this coordinate (`feasible_set_is_interval`: proved
    for the phasor check, see `greedy_max_feasible_any_estimator_alg`), `eps > 0`, `lbOf s ≤ ubOf s`,
    and enough fuel for the bisection (`ub − lb ≤ eps·2^fuel`; the loop of the source runs until
    `ub − lb ≤ eps`). -/
theorem greedy_max_feasible_any_estimator [HasCeilNat K] (feas : List K → Bool) (cfg : Config K)
    (infra : Infra K) (period : K) (time : Int) (est : List (Session K) → Session K → Option K)
    (raw l : List (Session K)) (sch : List K) (pre : List (Session K)) (s : Session K)
    (post : List (Session K))
    (hres : resolve infra raw = .ok l) (hndl : (l.map (·.idx)).Nodup) (hg : cfg.algo = .greedy)
    (heps : 0 < cfg.eps) (hint : ∀ cur, IntervalFeasible feas cur s.idx)
    (hord : (scheduleCallEst feas cfg infra period time est raw).order = pre ++ s :: post)
    (h : (scheduleCallEst feas cfg infra period time est raw).result = .ok sch)
    (hc : infra.cont.getD s.idx true = true) (hle : lbOf s ≤ ubOf infra period s)
    (hfuel : ubOf infra period s - lbOf s ≤ cfg.eps * 2 ^ cfg.fuel) :
    (∃ s1 ∈ (scheduleCallEst feas cfg infra period time est raw).estIn,
        OwnBound cfg infra period
          (if cfg.estimate = true then
            est (scheduleCallEst feas cfg infra period time est raw).estIn s1 else none) s1 s ∧
        s1.maxRate ≤ infra.maxPilot.getD s1.idx 0) ∧
    ∃ (cur : List K) (r : K), sch[s.idx]? = some r ∧ cur.length = infra.ids.length ∧
      (∀ t ∈ pre, cur[t.idx]? = sch[t.idx]?) ∧
      (∀ t ∈ s :: post, cur[t.idx]? = some (lbOf t)) ∧
      (∀ j, j < infra.ids.length → (∀ t ∈ pre ++ s :: post, t.idx ≠ j) → cur[j]? = some 0) ∧
      feas (cur.set s.idx r) = true ∧ lbOf s ≤ r ∧ r ≤ ubOf infra period s ∧
      (feas (cur.set s.idx (ubOf infra period s)) = true → r = ubOf infra period s) ∧
      ∀ x, lbOf s ≤ x → x ≤ ubOf infra period s → feas (cur.set s.idx x) = true → x < r + cfg.eps := by
  constructor
  · obtain ⟨s1, hs1, h1, h2, _⟩ := own_bound_any_estimator feas cfg infra period time est raw l hres hndl s
      (by rw [hord]; simp)
    exact ⟨s1, hs1, h1, h2⟩
  · obtain ⟨cur, r, h1, h2, h3, h4, h5, h6⟩ := greedy_sequential_any_estimator feas cfg infra period time
      est raw l sch pre s post hres hndl hg hord h
    obtain ⟨_, g2, g3, g4, g5, g6⟩ := greedyRate_cont_max feas cfg.fuel cfg.eps heps infra period cur s r hc
      (h5 s List.mem_cons_self) (hint cur) hle hfuel h1
    exact ⟨cur, r, h2, h3, h4, h5, h6, g2, g3, g4, g5, g6⟩

/-- … with no hypothesis on the feasibility predicate left when it is the phasor check the algorithms
    use (`algFeasible`: any constraint matrix incl. mixed signs, any limits, angles, tolerances) -/
theorem greedy_max_feasible_any_estimator_alg [HasCeilNat K] (M : List (List K)) (lims c sn : List K)
    (vt rt : K) (cfg : Config K)
    (infra : Infra K) (period : K) (time : Int) (est : List (Session K) → Session K → Option K)
    (raw l : List (Session K)) (sch : List K) (pre : List (Session K)) (s : Session K)
    (post : List (Session K))
    (hres : resolve infra raw = .ok l) (hndl : (l.map (·.idx)).Nodup) (hg : cfg.algo = .greedy)
    (heps : 0 < cfg.eps)
    (hord : (scheduleCallEst (Acn.Feas.algFeasible M lims c sn vt rt) cfg infra period time est raw).order
      = pre ++ s :: post)
    (h : (scheduleCallEst (Acn.Feas.algFeasible M lims c sn vt rt) cfg infra period time est raw).result
      = .ok sch)
    (hc : infra.cont.getD s.idx true = true) (hle : lbOf s ≤ ubOf infra period s)
    (hfuel : ubOf infra period s - lbOf s ≤ cfg.eps * 2 ^ cfg.fuel) :
    ∃ (cur : List K) (r : K), sch[s.idx]? = some r ∧ (∀ t ∈ pre, cur[t.idx]? = sch[t.idx]?) ∧
      (∀ t ∈ s :: post, cur[t.idx]? = some (lbOf t)) ∧
      Acn.Feas.algFeasible M lims c sn vt rt (cur.set s.idx r) = true ∧
      lbOf s ≤ r ∧ r ≤ ubOf infra period s ∧
      (Acn.Feas.algFeasible M lims c sn vt rt (cur.set s.idx (ubOf infra period s)) = true →
        r = ubOf infra period s) ∧
      ∀ x, lbOf s ≤ x → x ≤ ubOf infra period s →
        Acn.Feas.algFeasible M lims c sn vt rt (cur.set s.idx x) = true → x < r + cfg.eps := by
  obtain ⟨_, cur, r, h1, _, h3, h4, _, h6, h7, h8, h9, h10⟩ :=
    greedy_max_feasible_any_estimator _ cfg infra period time est raw l sch pre s post hres hndl hg heps
      (fun cur => feasible_set_is_interval M lims c sn vt rt cur s.idx) hord h hc hle hfuel
  exact ⟨cur, r, h1, h3, h4, h6, h7, h8, h9, h10⟩

/-- `greedy_discrete_largest_any_estimator` (finite-rate EVSE, levels ascending).  For EVERY estimator
    function, in a returned greedy schedule the grant `r` of session `s` is EXACTLY the largest
    allowable level of its EVSE that lies within the session's own bounds `[lbOf s, ubOf s]` and is
    feasible given the earlier grants (`cur` as in `greedy_sequential`) — every larger level within the
    bounds fails the check — or 0 when no level within the bounds passes.  Any feasibility predicate. -/
theorem greedy_discrete_largest_any_estimator [HasCeilNat K] (feas : List K → Bool) (cfg : Config K)
    (infra : Infra K) (period : K) (time : Int) (est : List (Session K) → Session K → Option K)
    (raw l : List (Session K)) (sch : List K) (pre : List (Session K)) (s : Session K)
    (post : List (Session K))
    (hres : resolve infra raw = .ok l) (hndl : (l.map (·.idx)).Nodup) (hg : cfg.algo = .greedy)
    (hord : (scheduleCallEst feas cfg infra period time est raw).order = pre ++ s :: post)
    (h : (scheduleCallEst feas cfg infra period time est raw).result = .ok sch)
    (hc : infra.cont.getD s.idx true = false)
    (hsorted : (infra.allow.getD s.idx []).Pairwise (· < ·)) :
    (∃ s1 ∈ (scheduleCallEst feas cfg infra period time est raw).estIn,
        OwnBound cfg infra period
          (if cfg.estimate = true then
            est (scheduleCallEst feas cfg infra period time est raw).estIn s1 else none) s1 s ∧
        s1.maxRate ≤ infra.maxPilot.getD s1.idx 0) ∧
    ∃ (cur : List K) (r : K), sch[s.idx]? = some r ∧ cur.length = infra.ids.length ∧
      (∀ t ∈ pre, cur[t.idx]? = sch[t.idx]?) ∧
      (∀ t ∈ s :: post, cur[t.idx]? = some (lbOf t)) ∧
      (∀ j, j < infra.ids.length → (∀ t ∈ pre ++ s :: post, t.idx ≠ j) → cur[j]? = some 0) ∧
      ((r ∈ infra.allow.getD s.idx [] ∧ lbOf s ≤ r ∧ r ≤ ubOf infra period s ∧
          feas (cur.set s.idx r) = true ∧
          ∀ a ∈ infra.allow.getD s.idx [], lbOf s ≤ a → a ≤ ubOf infra period s → r < a →
            feas (cur.set s.idx a) = false) ∨
       (r = 0 ∧ ∀ a ∈ infra.allow.getD s.idx [], lbOf s ≤ a → a ≤ ubOf infra period s →
            feas (cur.set s.idx a) = false)) := by
  constructor
  · obtain ⟨s1, hs1, h1, h2, _⟩ := own_bound_any_estimator feas cfg infra period time est raw l hres hndl s
      (by rw [hord]; simp)
    exact ⟨s1, hs1, h1, h2⟩
  · obtain ⟨cur, r, h1, h2, h3, h4, h5, h6⟩ := greedy_sequential_any_estimator feas cfg infra period time
      est raw l sch pre s post hres hndl hg hord h
    refine ⟨cur, r, h2, h3, h4, h5, h6, ?_⟩
    rcases greedyRate_ok h1 with ⟨hc', _⟩ | ⟨_, rfl⟩
    · exact nomatch hc'.symm.trans hc
    · -- the levels the walk goes down are those of the EVSE within the session's bounds
      rcases walkDown_max feas cur s.idx _ (hsorted.filter _) with ⟨g1, g2, g3⟩ | ⟨g1, g2⟩
      · obtain ⟨m1, m2, m3⟩ := mem_levelsIn.mp g1
        exact Or.inl ⟨m1, m2, m3, g2, fun a ha h1 h2 hlt => g3 a (mem_levelsIn.mpr ⟨ha, h1, h2⟩) hlt⟩
      · exact Or.inr ⟨g1, fun a ha h1 h2 => g2 a (mem_levelsIn.mpr ⟨ha, h1, h2⟩)⟩

/-- `rr_stop_iff_blocked_any_estimator`.  For EVERY estimator function: in the `while` loop of
    `round_robin` run by a `schedule()` call (the level lists `levels` are those of `rrInit` on the
    sorted preprocessed sessions — what `roundRobin` passes to `rrLoop`), at ANY loop state `st` whose
    deque head is a queued session `s`:
      * the level list the loop uses for `s` is `rrLevels s`: the levels of its EVSE (finite list, or
        `arange(min, max + inc/2, inc)`) within ITS OWN bounds `[lbOf s, rrUb s]`;
      * `s` leaves the deque in this trip IF AND ONLY IF it has no next level in that list or its next
        level is infeasible for the schedule at that moment (otherwise it is incremented and re-queued);
      * "no next level" means nothing within its own bounds is left: every level `a` of the EVSE with
        `lbOf s ≤ a ≤ rrUb s` sits at a position `≤` the current one;
      * the bounds of `s` are its own (`OwnBound`: from the estimator's answer for this session). -/
theorem rr_stop_iff_blocked_any_estimator [HasCeilNat K] (feas : List K → Bool) (cfg : Config K)
    (infra : Infra K) (period : K) (time : Int) (est : List (Session K) → Session K → Option K)
    (raw l : List (Session K)) (hres : resolve infra raw = .ok l) (hndl : (l.map (·.idx)).Nodup)
    (hlen : infra.allow.length = infra.ids.length)
    (s : Session K) (hs : s ∈ (scheduleCallEst feas cfg infra period time est raw).order)
    (st : RRState K) (rest : List (Session K)) (hq : st.queue = s :: rest) :
    (rrInit (rrLevels infra period cfg.inc) infra.ids.length infra.allow
        (scheduleCallEst feas cfg infra period time est raw).order).2.getD s.idx [] =
      rrLevels infra period cfg.inc s ∧
    ((rrStep feas (rrInit (rrLevels infra period cfg.inc) infra.ids.length infra.allow
          (scheduleCallEst feas cfg infra period time est raw).order).2 st).queue = rest ↔
      (¬ (st.rateIdx.getD s.idx 0 + 1 < (rrLevels infra period cfg.inc s).length) ∨
       feas (st.sched.set s.idx
        ((rrLevels infra period cfg.inc s).getD (st.rateIdx.getD s.idx 0 + 1) 0)) = false)) ∧
    (¬ (st.rateIdx.getD s.idx 0 + 1 < (rrLevels infra period cfg.inc s).length) →
      ∀ a ∈ rrBase infra cfg.inc s, lbOf s ≤ a → a ≤ rrUb infra period s →
        ∃ j, j ≤ st.rateIdx.getD s.idx 0 ∧ (rrLevels infra period cfg.inc s)[j]? = some a) ∧
    (∃ s1 ∈ (scheduleCallEst feas cfg infra period time est raw).estIn,
        OwnBound cfg infra period
          (if cfg.estimate = true then
            est (scheduleCallEst feas cfg infra period time est raw).estIn s1 else none) s1 s ∧
        s1.maxRate ≤ infra.maxPilot.getD s1.idx 0) := by
  obtain ⟨hnd, hidx, _⟩ := scheduleCallEst_queue feas cfg infra period time est raw l hres hndl
  have hlv' := (rrInit_spec (rrLevels infra period cfg.inc) infra.ids.length infra.allow
    (scheduleCallEst feas cfg infra period time est raw).order (hlen ▸ hidx)).2.2.2 hnd s hs
  refine ⟨hlv', ?_, ?_, ?_⟩
  · rw [rrStep_stops_iff feas _ st s rest hq, hlv']
  · intro hk
    rw [rrLevels_eq] at hk ⊢
    exact no_level_left _ _ _ _ hk
  · obtain ⟨s1, hs1, h1, h2, _⟩ := own_bound_any_estimator feas cfg infra period time est raw l hres hndl s hs
    exact ⟨s1, hs1, h1, h2⟩

/-! ### non-vacuity: hostile estimator answers on a concrete instance over ℚ -/

section estex
local instance : HasCeilNat ℚ := ⟨fun x => (Rat.ceil x).toNat⟩

/-- two stations under one binding limit (`x₀ + x₁ ≤ 40`): A continuous `[0, 32]`, B finite-rate
    `{0, 8, 16, 24, 32}`; both sessions still need far more than 32 A for one period -/
def exFeas : List ℚ → Bool := fun x => decide (x.getD 0 0 + x.getD 1 0 ≤ 40)

def exInfra : Infra ℚ :=
  ⟨["A", "B"], [32, 32], [0, 8], [208, 208], [true, false], [[0, 32], [0, 8, 16, 24, 32]]⟩

/-- session ids differ from station ids; `y` (on B) arrives later than `x` (on A) -/
def exRaw : List (Session ℚ) :=
  [⟨"A", "x", 0, 0, 9, 9, 50, 0, 0, 32⟩, ⟨"B", "y", 0, 1, 8, 8, 50, 0, 0, 32⟩]

def exCfg (algo : Algo) (sort : SortKind) : Config ℚ :=
  { algo := algo, sort := sort, uninterrupted := false, estimate := true, inc := 1, eps := 1 / 100,
    fuel := 60 }

/-- the estimator answers 100 A for `x` (above its EVSE's 32 A), 20 A for `y` (between the levels 16
    and 24), and lists a station id and a stranger -/
def exEst : List (Session ℚ) → Session ℚ → Option ℚ :=
  fun _ => estOfDict [("x", 100), ("y", 20), ("B", 0), ("ghost", 1)]

/-- the hypotheses of the theorems above hold on this instance (resolved, distinct stations, sorted
    level lists, `lb ≤ ub`, fuel) and the clauses can be read off:
    first-come-first-served — `x` first gets its own bound 32 (not 100), then `y` the largest level
    `≤ 20` that still fits: 8;  last-come-first-served — `y` first gets 16 (its own bound 20 rounds down
    to a level, NOT `x`'s bound), then `x` the maximum feasible rate 24 within `eps`;
    round robin — `y` stops at 16 because nothing within its own bound is left, `x` at 24 because 25 is
    infeasible at that moment. -/
example :
    (match resolve exInfra exRaw with
     | .ok l => decide (l.map (·.idx) = [0, 1])
     | .error _ => false) = true ∧
    ((scheduleCallEst exFeas (exCfg .greedy .fcfs) exInfra 5 3 exEst exRaw).order.map (·.session)) = ["x", "y"] ∧
    ((scheduleCallEst exFeas (exCfg .greedy .fcfs) exInfra 5 3 exEst exRaw).order.all fun s =>
      decide (lbOf s ≤ ubOf exInfra 5 s) &&
      decide (ubOf exInfra 5 s - lbOf s ≤ (1 / 100) * 2 ^ 60)) = true ∧
    ((scheduleCallEst exFeas (exCfg .greedy .fcfs) exInfra 5 3 exEst exRaw).order.map (·.maxRate)) = [32, 20] ∧
    (scheduleCallEst exFeas (exCfg .greedy .fcfs) exInfra 5 3 exEst exRaw).result = .ok [32, 8] ∧
    ((scheduleCallEst exFeas (exCfg .greedy .lcfs) exInfra 5 3 exEst exRaw).order.map (·.session)) = ["y", "x"] ∧
    (match (scheduleCallEst exFeas (exCfg .greedy .lcfs) exInfra 5 3 exEst exRaw).result with
     | .ok [a, b] => decide (a ≤ 24) && decide (24 < a + 1 / 100) && decide (b = 16)
     | _ => false) = true ∧
    (scheduleCallEst exFeas (exCfg .roundRobin .fcfs) exInfra 5 3 exEst exRaw).result = .ok [24, 16] ∧
    (scheduleCallEst exFeas (exCfg .roundRobin .fcfs) exInfra 5 3 exEst exRaw).trace.filter (fun t => !t.2.2) =
      [("y", 1, false), ("x", 0, false)] := by
  decide +kernel

/-- `greedy_discrete_largest_any_estimator` instantiated: for EVERY estimator function `est` (no
    condition at all), whatever schedule first-come-first-served greedy returns on this instance, the
    entry of the finite-rate station B (session `y`, served second) is one of its levels or 0 -/
example (est : List (Session ℚ) → Session ℚ → Option ℚ) (sch : List ℚ) (sx sy : Session ℚ)
    (hord : (scheduleCallEst exFeas (exCfg .greedy .fcfs) exInfra 5 3 est exRaw).order = [sx] ++ sy :: [])
    (hidx : sy.idx = 1)
    (h : (scheduleCallEst exFeas (exCfg .greedy .fcfs) exInfra 5 3 est exRaw).result = .ok sch) :
    ∃ r, sch[1]? = some r ∧ (r ∈ [0, 8, 16, 24, 32] ∨ r = 0) := by
  have hres : resolve exInfra exRaw =
      .ok [⟨"A", "x", 0, 0, 9, 9, 50, 0, 0, 32⟩, ⟨"B", "y", 1, 1, 8, 8, 50, 0, 0, 32⟩] := by rfl
  obtain ⟨_, cur, r, h1, _, _, _, _, h6⟩ := greedy_discrete_largest_any_estimator exFeas
    (exCfg .greedy .fcfs) exInfra 5 3 est exRaw _ sch [sx] sy [] hres (by decide) rfl hord h
    (by rw [hidx]; rfl) (by rw [hidx]; decide +kernel)
  rw [hidx] at h1 h6
  refine ⟨r, h1, ?_⟩
  rcases h6 with ⟨g, _⟩ | ⟨g, _⟩
  · left; exact g
  · right; exact g

end estex

end Acn.C08
