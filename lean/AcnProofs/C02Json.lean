/-
  C02 — the energy ledger for a simulation that is INTERRUPTED, WRITTEN TO JSON, LOADED AND RESUMED
  (`to_json()` → `Simulator.from_json()` → `update_scheduler()` → `run()`).

  The in-place half (`run()` called again on the same object) is in `AcnProofs/C02.lean`
  (`ledger_invariant_aborted`, `ledger_invariant_resume`, `…_resumed`).  This module adds the JSON half on top of
  C09's machinery: `Registry.dump` / `load` (the memoised walks of base.py), the concrete per-class codec
  `RegistrySim.encode` / `decode`, well-formedness of every state a run can leave behind (`RegistrySim.run_sinv`),
  the inversion lemma `RegistrySim.decode_of` — the lemmas behind `C09.decode_encode` / `C09.crash_json_resume_eq`.
  Both modules speak about the same predicates `Ledger.Inv` (`Lemmas/LedgerInv.lean`), `Ledger.Resumed`,
  `Ledger.ApplyErr` (`Lemmas/LedgerResume.lean`).  The statements do not go through `C09.lean` itself, so that C02 does not
  depend on C09's regenerated attribute tables (`Gen/Serial.lean`).

  Main statements: `crash_state_json_roundtrip` / `calls_json_roundtrip` (the round trip is the identity on every state
  any number of `run()` calls can leave behind — `Lemmas/RegistryCalls.lean` extends C09's `run_sinv` from loop heads to
  the mid-period states aborted periods leave), `resumedJ_resumed` (a life with JSON steps at any point visits only
  `Resumed` states), `ledger_invariant_resume_json` / `ledger_invariant_resumed_json` (the ledger and its clauses).

  Carrier: any linear ordered field; `Lawful sh rd`: the scalar parsers invert the scalar renderings (C09).
-/
import AcnProofs.Lemmas.LedgerResume
import AcnProofs.Lemmas.RegistryRoundtrip
import AcnProofs.Lemmas.RegistryReach
import AcnProofs.Lemmas.RegistryWF2
import AcnProofs.Lemmas.RegistryCalls
import AcnProofs.Lemmas.RegistryLawful

set_option linter.unusedSectionVars false
set_option linter.unusedVariables false

namespace Acn.C02Json
open Acn Acn.EventCore Acn.Sim Acn.Ledger Acn.Registry Finset

variable {K : Type} [Field K] [LinearOrder K] [IsStrictOrderedRing K] [HasExp K]

/-- THE ROUND TRIP IS THE IDENTITY ON WHAT A RUN LEAVES BEHIND.  `Valid` scenario (C01's hypothesis), any scheduler,
    any fuel, any outcome of `run()` (completed, out of fuel, aborted in any period by an event, the scheduler,
    `_update_schedules` or `update_pilots`): the simulator can be written (`to_json` = `dump ∘ encode`), loaded
    (`from_json` = `load`, which rebuilds exactly the dumped context) and decoded, and the decoded simulator state IS
    the state that was written — station order and registered voltages (static data `cfg`), every EV ONCE with its
    energy counter and battery, the rate and pilot matrices, `peak`, the queue, the occupancy. -/
theorem crash_state_json_roundtrip {sh : RegistrySim.Show K} {rd : RegistrySim.Read K}
    (hl : RegistrySim.Lawful sh rd) (cfg : Sim.Cfg K) (hv : Valid cfg.core)
    (sched : View K → Except EventCore.Err (Schedule K)) (n : Nat) :
    let s1 := (Sim.run cfg sched n (Sim.init cfg)).1
    ∃ ctx, dump (RegistrySim.encode sh cfg s1) RegistrySim.root = .ok ctx ∧ load ctx RegistrySim.root = .ok ctx ∧
      RegistrySim.decode rd cfg (RegistrySim.ambOf s1) ctx.get = some s1 :=
  (RegistrySim.Calls.call sched n .init).roundtrip hl hv

/-- INTERRUPTED, SERIALISED, LOADED: the first `run()` (any scheduler) is aborted in ANY period — by anything but the
    pilots/rates half of a period (`ApplyErr`, see `Lemmas/LedgerResume.lean`) —, the simulator is written to JSON,
    loaded and decoded: the loaded simulator `s'` exists, and it is a `Resumed` state of the scenario.  So everything
    `C02.lean` proves of `Resumed` states (`ledger_invariant_resumed`, `session_energy_eq_sum_resumed`,
    `peak_eq_max_resumed`, `total_energy_eq_integral_resumed`, `rate_zero_when_vacant_resumed`,
    `sim_energy_eq_battery_gain_resumed`) holds of it and of every state reached from it by further `run()` calls
    (`Resumed.call`), completed or aborted again. -/
theorem loaded_is_resumed {sh : RegistrySim.Show K} {rd : RegistrySim.Read K}
    (hl : RegistrySim.Lawful sh rd) (cfg : Sim.Cfg K) (hv : Valid cfg.core)
    (sched1 : View K → Except EventCore.Err (Schedule K)) (n1 : Nat)
    (he : ∀ e, (Sim.run cfg sched1 n1 (Sim.init cfg)).2 = some e → ¬ ApplyErr e) :
    let s1 := (Sim.run cfg sched1 n1 (Sim.init cfg)).1
    ∃ ctx s', dump (RegistrySim.encode sh cfg s1) RegistrySim.root = .ok ctx ∧ load ctx RegistrySim.root = .ok ctx ∧
      RegistrySim.decode rd cfg (RegistrySim.ambOf s1) ctx.get = some s' ∧ Resumed cfg s' := by
  intro s1
  obtain ⟨ctx, h1, h2, h3⟩ := crash_state_json_roundtrip hl cfg hv sched1 n1
  exact ⟨ctx, s1, h1, h2, h3, Resumed.call sched1 n1 Resumed.init rfl he⟩

/-- THE LEDGER OF THE JSON-RESUMED RUN.  `Valid` scenario with distinct station ids; the first `run()` is aborted in
    any period (not by the pilots/rates half); `to_json`, `from_json`, decode give a simulator `s'`; `run()` on it
    with ANY scheduler `sched2` (the same object handed back through `update_scheduler`, or another) reaches a loop
    head `s2` without raising — in particular: completes.  Then the ledger invariant holds of `s2`, and with it every
    clause of C02, for every EV `id` (initial object `e0` of the scenario, final object `e`):
      * energy delivered = battery gain;
      * energy delivered = Σ over the periods so far in which the snapshot shows the session at ITS station of
        `rates[st][τ] · V_st / 1000 · (period / 60)`, `V_st` the REGISTERED voltage of that station id;
      * the recorded rate is 0 where the snapshot shows a station vacant and in periods not yet simulated;
      * `peak` = max(0, max over ALL periods — before and after the interruption — of the aggregate current);
      * (session ids distinct) Σ energies = Σ_τ aggregate_power(τ) · period/60. -/
theorem ledger_invariant_resume_json {sh : RegistrySim.Show K} {rd : RegistrySim.Read K}
    (hl : RegistrySim.Lawful sh rd) (cfg : Sim.Cfg K) (hn : StationsNodup cfg) (hv : Valid cfg.core)
    (sched1 : View K → Except EventCore.Err (Schedule K)) (n1 : Nat)
    (he : ∀ e, (Sim.run cfg sched1 n1 (Sim.init cfg)).2 = some e → ¬ ApplyErr e) :
    let s1 := (Sim.run cfg sched1 n1 (Sim.init cfg)).1
    ∃ ctx s', dump (RegistrySim.encode sh cfg s1) RegistrySim.root = .ok ctx ∧ load ctx RegistrySim.root = .ok ctx ∧
      RegistrySim.decode rd cfg (RegistrySim.ambOf s1) ctx.get = some s' ∧
      ∀ (sched2 : View K → Except EventCore.Err (Schedule K)) (n2 : Nat) (s2 : State K),
        Sim.run cfg sched2 n2 s' = (s2, none) →
        Ledger.Inv cfg s2 ∧
        (∀ id e0 e, evIn cfg.evs id = some e0 → evIn s2.evs id = some e →
          e.delivered - e0.delivered = e.batt.charge - e0.batt.charge ∧
          e.delivered - e0.delivered =
            ∑ τ ∈ range s2.core.iter,
              if occAt s2.occLog τ (stationIndex cfg e0.station) = some id
              then s2.rates.get (stationIndex cfg e0.station) τ * volt cfg (stationIndex cfg e0.station) / 1000
                    * (cfg.period / 60)
              else 0) ∧
        (∀ τ i, (τ < s2.core.iter → i < cfg.stations.length → occAt s2.occLog τ i = none → s2.rates.get i τ = 0) ∧
                (s2.core.iter ≤ τ → s2.rates.get i τ = 0)) ∧
        (0 ≤ s2.peak ∧
         (∀ τ < s2.core.iter, ∑ i ∈ range cfg.stations.length, s2.rates.get i τ ≤ s2.peak) ∧
         (s2.peak = 0 ∨ ∃ τ < s2.core.iter, s2.peak = ∑ i ∈ range cfg.stations.length, s2.rates.get i τ)) ∧
        ((cfg.evs.map (·.session)).Nodup →
          (s2.evs.map (·.delivered)).sum - (cfg.evs.map (·.delivered)).sum =
            ∑ τ ∈ range s2.core.iter,
              (∑ i ∈ range cfg.stations.length, volt cfg i * s2.rates.get i τ / 1000) * (cfg.period / 60)) := by
  intro s1
  obtain ⟨ctx, s', h1, h2, h3, hR⟩ := loaded_is_resumed hl cfg hv sched1 n1 he
  refine ⟨ctx, s', h1, h2, h3, ?_⟩
  intro sched2 n2 s2 hrun
  have hL : Ledger.Inv cfg s2 := run_ledger hn sched2 n2 s' s2 (resumed_ledger hn hR) hrun
  exact ⟨hL, fun id e0 e h0 h => ⟨hL.gain id e0 e h0 h, hL.session_single hn h0 h⟩,
    fun τ i => ⟨hL.vacant τ i, hL.future τ i⟩, hL.peak_spec, fun hid => total_of_inv hid hL⟩

/-- the instance the property names: the scheduler raises in period `k` (and is `sched` otherwise), the loaded
    simulator is given `sched` again -/
theorem ledger_invariant_resume_json_crash {sh : RegistrySim.Show K} {rd : RegistrySim.Read K}
    (hl : RegistrySim.Lawful sh rd) (cfg : Sim.Cfg K) (hn : StationsNodup cfg) (hv : Valid cfg.core)
    (sched : View K → Except EventCore.Err (Schedule K)) (k n1 n2 : Nat)
    (hfail : (Sim.run cfg (failAt k sched) n1 (Sim.init cfg)).2 = some .schedulerFailed) :
    let s1 := (Sim.run cfg (failAt k sched) n1 (Sim.init cfg)).1
    ∃ ctx s', dump (RegistrySim.encode sh cfg s1) RegistrySim.root = .ok ctx ∧ load ctx RegistrySim.root = .ok ctx ∧
      RegistrySim.decode rd cfg (RegistrySim.ambOf s1) ctx.get = some s' ∧
      ∀ s2, Sim.run cfg sched n2 s' = (s2, none) → Ledger.Inv cfg s2 := by
  intro s1
  obtain ⟨ctx, s', h1, h2, h3, h4⟩ := ledger_invariant_resume_json hl cfg hn hv (failAt k sched) n1
    (fun e he => by rw [hfail] at he; cases he; exact schedulerFailed_not_applyErr)
  exact ⟨ctx, s', h1, h2, h3, fun s2 hrun => (h4 sched n2 s2 hrun).1⟩

/-! ### `to_json` / `from_json` at ANY point of the life of a resumed simulation -/

theorem resumed_calls {cfg : Sim.Cfg K} {s : State K} (h : Resumed cfg s) : RegistrySim.Calls cfg s := by
  induction h with
  | init => exact RegistrySim.Calls.init
  | call sched n _ hrun _ ih =>
    have := RegistrySim.Calls.call sched n ih
    rw [hrun] at this
    exact this

/-- the round trip is the identity on EVERY state a simulator object can be in after any number of `run()` calls
    (each completed, out of fuel or aborted — by anything, `update_pilots` included) in a `Valid` scenario -/
theorem calls_json_roundtrip {sh : RegistrySim.Show K} {rd : RegistrySim.Read K}
    (hl : RegistrySim.Lawful sh rd) (cfg : Sim.Cfg K) (hv : Valid cfg.core) (s : State K)
    (h : RegistrySim.Calls cfg s) :
    ∃ ctx, dump (RegistrySim.encode sh cfg s) RegistrySim.root = .ok ctx ∧ load ctx RegistrySim.root = .ok ctx ∧
      RegistrySim.decode rd cfg (RegistrySim.ambOf s) ctx.get = some s :=
  h.roundtrip hl hv

/-- the life of a simulator object that is run, aborted (not by the pilots/rates half), run again, AND written to JSON
    and loaded back at any point, any number of times: `json` is one `to_json` / `from_json` / decode step -/
inductive ResumedJ (sh : RegistrySim.Show K) (rd : RegistrySim.Read K) (cfg : Sim.Cfg K) : State K → Prop
  | init : ResumedJ sh rd cfg (Sim.init cfg)
  | call (sched : View K → Except EventCore.Err (Schedule K)) (n : Nat) {s s' : State K} {err : Option EventCore.Err} :
      ResumedJ sh rd cfg s → Sim.run cfg sched n s = (s', err) → (∀ e, err = some e → ¬ ApplyErr e) →
      ResumedJ sh rd cfg s'
  | json {s s' : State K} {ctx ctx' : Store} :
      ResumedJ sh rd cfg s → dump (RegistrySim.encode sh cfg s) RegistrySim.root = .ok ctx →
      load ctx RegistrySim.root = .ok ctx' →
      RegistrySim.decode rd cfg (RegistrySim.ambOf s) ctx'.get = some s' → ResumedJ sh rd cfg s'

/-- JSON STEPS ADD NO NEW STATES: every state of such a life is a `Resumed` state (a life without JSON steps) — each
    loaded simulator IS the simulator that was written.  Hence every theorem about `Resumed` states
    (`C02.ledger_invariant_resumed`, `session_energy_eq_sum_resumed`, `session_energy_interval_resumed`,
    `peak_eq_max_resumed`, `total_energy_eq_integral_resumed`, …) is a theorem about simulations resumed through
    JSON. -/
theorem resumedJ_resumed {sh : RegistrySim.Show K} {rd : RegistrySim.Read K} (hl : RegistrySim.Lawful sh rd)
    {cfg : Sim.Cfg K} (hv : Valid cfg.core) {s : State K} (h : ResumedJ sh rd cfg s) : Resumed cfg s := by
  induction h with
  | init => exact Resumed.init
  | call sched n _ hrun he ih => exact Resumed.call sched n ih hrun he
  | json _ hd hld hdec ih =>
    obtain ⟨ctx0, h1, h2, h3⟩ := calls_json_roundtrip hl cfg hv _ (resumed_calls ih)
    rw [h1] at hd
    cases hd
    rw [h2] at hld
    cases hld
    rw [h3] at hdec
    cases hdec
    exact ih

/-- … and the JSON step can always be taken: the simulator can be written, loaded and decoded at every point -/
theorem resumedJ_json_exists {sh : RegistrySim.Show K} {rd : RegistrySim.Read K} (hl : RegistrySim.Lawful sh rd)
    {cfg : Sim.Cfg K} (hv : Valid cfg.core) {s : State K} (h : ResumedJ sh rd cfg s) :
    ∃ ctx s', dump (RegistrySim.encode sh cfg s) RegistrySim.root = .ok ctx ∧ load ctx RegistrySim.root = .ok ctx ∧
      RegistrySim.decode rd cfg (RegistrySim.ambOf s) ctx.get = some s' ∧ ResumedJ sh rd cfg s' := by
  obtain ⟨ctx, h1, h2, h3⟩ := calls_json_roundtrip hl cfg hv s (resumed_calls (resumedJ_resumed hl hv h))
  exact ⟨ctx, s, h1, h2, h3, ResumedJ.json h h1 h2 h3⟩

/-- THE LEDGER OF A SIMULATION WITH ANY NUMBER OF INTERRUPTIONS, EACH RESUMED IN PLACE OR THROUGH JSON: the invariant
    and every clause of C02 (as in `ledger_invariant_resume_json`) at every state of its life -/
theorem ledger_invariant_resumed_json {sh : RegistrySim.Show K} {rd : RegistrySim.Read K}
    (hl : RegistrySim.Lawful sh rd) (cfg : Sim.Cfg K) (hn : StationsNodup cfg) (hv : Valid cfg.core)
    (s : State K) (h : ResumedJ sh rd cfg s) :
    Ledger.Inv cfg s ∧
    (∀ id e0 e, evIn cfg.evs id = some e0 → evIn s.evs id = some e →
      e.delivered - e0.delivered = e.batt.charge - e0.batt.charge ∧
      e.delivered - e0.delivered =
        ∑ τ ∈ range s.core.iter,
          if occAt s.occLog τ (stationIndex cfg e0.station) = some id
          then s.rates.get (stationIndex cfg e0.station) τ * volt cfg (stationIndex cfg e0.station) / 1000
                * (cfg.period / 60)
          else 0) ∧
    (∀ τ i, (τ < s.core.iter → i < cfg.stations.length → occAt s.occLog τ i = none → s.rates.get i τ = 0) ∧
            (s.core.iter ≤ τ → s.rates.get i τ = 0)) ∧
    (0 ≤ s.peak ∧
     (∀ τ < s.core.iter, ∑ i ∈ range cfg.stations.length, s.rates.get i τ ≤ s.peak) ∧
     (s.peak = 0 ∨ ∃ τ < s.core.iter, s.peak = ∑ i ∈ range cfg.stations.length, s.rates.get i τ)) ∧
    ((cfg.evs.map (·.session)).Nodup →
      (s.evs.map (·.delivered)).sum - (cfg.evs.map (·.delivered)).sum =
        ∑ τ ∈ range s.core.iter,
          (∑ i ∈ range cfg.stations.length, volt cfg i * s.rates.get i τ / 1000) * (cfg.period / 60)) := by
  have hL : Ledger.Inv cfg s := resumed_ledger hn (resumedJ_resumed hl hv h)
  exact ⟨hL, fun id e0 e h0 h => ⟨hL.gain id e0 e h0 h, hL.session_single hn h0 h⟩,
    fun τ i => ⟨hL.vacant τ i, hL.future τ i⟩, hL.peak_spec, fun hid => total_of_inv hid hL⟩

/-! ### non-vacuity: stations registered as "WEST-2" (240 V) before "EAST-1" (120 V) — not their sorted order —,
    back-to-back reuse of WEST-2, a crash in the event period 2 -/
section Examples
local instance : HasExp ℚ := ⟨fun x => x⟩

def exCfg : Sim.Cfg ℚ :=
  { stations := [⟨"WEST-2", .cont 0 (some 32), 240⟩, ⟨"EAST-1", .cont 0 (some 32), 120⟩],
    evs := [{ session := "x", station := "WEST-2", arrival := 0, departure := 2, estDeparture := 2, requested := 3,
              delivered := 0, rate := 0, batt := ⟨40, 5, 5, 6, 0, false, 0, 0, .continuous⟩ },
            { session := "y", station := "WEST-2", arrival := 2, departure := 3, estDeparture := 3, requested := 9,
              delivered := 0, rate := 0, batt := ⟨10, 8, 8, 6, 0, false, 0, 0, .continuous⟩ },
            { session := "z", station := "EAST-1", arrival := 1, departure := 3, estDeparture := 3, requested := 5,
              delivered := 0, rate := 0, batt := ⟨20, 2, 2, 6, 0, false, 0, 0, .continuous⟩ }],
    recomputes := [], maxRecompute := some 1, period := 60, atolCont := 1 / 1000, atolDeadband := 1 / 1000,
    atolFinite := 1 / 1000, fullEps := 1 / 1000, noise := [] }

def exSched : View ℚ → Except EventCore.Err (Schedule ℚ) := fun _ => .ok [("WEST-2", [25]), ("EAST-1", [10])]

theorem exCfg_valid : Valid exCfg.core := by decide +kernel

theorem exCfg_nodup : StationsNodup exCfg := by
  show (exCfg.stations.map (·.id)).Nodup
  decide

example : StationsNodup exCfg := exCfg_nodup

/-- the crash fires in period 2 with y already plugged in; 25 A at 240 V offers 6 kW = the batteries' maximum, 10 A at
    120 V is 1.2 kW: the rows are in REGISTRATION order (WEST-2 first), and the energies 12, 2, 2.4 kWh are the row
    sums weighted with 240 V resp. 120 V — with the voltages swapped they would be 6, 1, 4.8 -/
example :
    (Sim.run exCfg (failAt 2 exSched) 8 (Sim.init exCfg)).2 = some .schedulerFailed ∧
    (Sim.run exCfg (failAt 2 exSched) 8 (Sim.init exCfg)).1.core.iter = 2 ∧
    (Sim.run exCfg exSched 8 (Sim.run exCfg (failAt 2 exSched) 8 (Sim.init exCfg)).1).2 = none ∧
    (Sim.run exCfg exSched 8 (Sim.run exCfg (failAt 2 exSched) 8 (Sim.init exCfg)).1).1.rates.rows
      = [[25, 25, 25 / 3, 0], [0, 10, 10, 0]] ∧
    (Sim.run exCfg exSched 8 (Sim.run exCfg (failAt 2 exSched) 8 (Sim.init exCfg)).1).1.evs.map (·.delivered)
      = [12, 2, 12 / 5] ∧
    (Sim.run exCfg exSched 8 (Sim.run exCfg (failAt 2 exSched) 8 (Sim.init exCfg)).1).1.peak = 35 := by
  decide +kernel

/-- a lawful scalar codec exists over ℚ, so the whole chain applies to that crash state: written, loaded, decoded,
    resumed, ledger invariant at the end -/
example : ∃ ctx s', dump (RegistrySim.encode RegistrySim.exShow exCfg (Sim.run exCfg (failAt 2 exSched) 8 (Sim.init exCfg)).1)
      RegistrySim.root = .ok ctx ∧ load ctx RegistrySim.root = .ok ctx ∧
    RegistrySim.decode RegistrySim.exRead exCfg (RegistrySim.ambOf (Sim.run exCfg (failAt 2 exSched) 8 (Sim.init exCfg)).1)
      ctx.get = some s' ∧
    ∀ s2, Sim.run exCfg exSched 8 s' = (s2, none) → Ledger.Inv exCfg s2 :=
  ledger_invariant_resume_json_crash RegistrySim.exLawful exCfg exCfg_nodup
    exCfg_valid exSched 2 8 8 (by decide +kernel)

/-- a life with two interruptions — period 1, resumed through JSON; period 2, resumed in place — as a `ResumedJ` state:
    the JSON step exists (`resumedJ_json_exists`) -/
example : ∃ s', ResumedJ RegistrySim.exShow RegistrySim.exRead exCfg s' ∧
    ∀ s2 err, Sim.run exCfg (failAt 2 exSched) 8 s' = (s2, err) → (∀ e, err = some e → ¬ ApplyErr e) →
      ∀ s3, Sim.run exCfg exSched 8 s2 = (s3, none) → Ledger.Inv exCfg s3 := by
  have h1 : ResumedJ RegistrySim.exShow RegistrySim.exRead exCfg (Sim.run exCfg (failAt 1 exSched) 8 (Sim.init exCfg)).1 :=
    ResumedJ.call (failAt 1 exSched) 8 ResumedJ.init Prod.mk.eta.symm
      (fun e he => by
        have : (Sim.run exCfg (failAt 1 exSched) 8 (Sim.init exCfg)).2 = some .schedulerFailed := by decide +kernel
        rw [this] at he; cases he; exact schedulerFailed_not_applyErr)
  obtain ⟨ctx, s', _, _, _, hJ⟩ := resumedJ_json_exists RegistrySim.exLawful exCfg_valid h1
  refine ⟨s', hJ, fun s2 err h2 he2 s3 h3 => ?_⟩
  exact (ledger_invariant_resumed_json RegistrySim.exLawful exCfg exCfg_nodup
    exCfg_valid s3 (ResumedJ.call exSched 8 (ResumedJ.call (failAt 2 exSched) 8 hJ h2 he2) h3 (fun e he => by cases he))).1

end Examples

end Acn.C02Json
