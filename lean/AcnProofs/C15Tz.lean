/-
  C15 for zone-aware datetimes of ANY tzinfo implementation (PEP 495 zones with `fold`,
  fixed offsets, pytz, mixtures) and for several conversion batches in one process.
  Model: `AcnModel/SessionsTz.lean` — a datetime is a `Reading` (wall-clock seconds, UTC offset reported by its
  tzinfo for this reading); the offset function of the zone is a PARAMETER, so every theorem holds for every
  zone rule.  Carrier: any ordered field with a floor (`ℚ`, `ℝ`).
-/
import AcnModel.SessionsTz
import AcnProofs.Lemmas.SessionsTz
import AcnProofs.C15

set_option linter.unusedSectionVars false

namespace Acn.C15
open Acn.Sessions Acn.SessionsL Acn.SessionsTz Acn.SessionsTzL Acn.Evse

section tz
variable {K : Type} [Field K] [LinearOrder K] [IsStrictOrderedRing K] [FloorRing K]

/-- Two wall-clock readings of the same instant — in any two zones, under any two tzinfo
    implementations, with any `fold` — get the same period index (or the same error).  This holds
    by construction of the model: `readingIndex` reads a datetime through `timestamp()` only, as
    `_datetime_to_timestamp` does; that Python's `timestamp()` is `wall − utcoffset` is what the
    harness checks. -/
theorem index_depends_only_on_instant (r₁ r₂ : Reading K) (period : K)
    (h : r₁.instant = r₂.instant) : readingIndex r₁ period = readingIndex r₂ period := by
  unfold readingIndex; rw [h]

/-- `int(dt.timestamp() / (60·period))` on a reading at or after the epoch: the floor of
    `(wall − utcoffset) / (60·period)`. -/
theorem reading_index_spec (r : Reading K) (period : K) (hp : 0 < period) (h0 : 0 ≤ r.instant) :
    readingIndex r period = .ok ⌊(r.wall - r.off) / (60 * period)⌋ := by
  rw [readingIndex_pos hp, periodOf_of_nonneg hp h0]
  rfl

/-- Whole batch: `get_evs` called with readings of the same instants (start, connection and
    disconnection times re-expressed in other zones / by other tzinfo classes / with the other
    `fold`) and the same energies and ids returns the same sessions, or fails the same way
    (again by construction: `getEvsW` hands the converter the instants). -/
theorem sessions_depend_only_on_instants (start start' : Reading K) (docs docs' : List (WDoc K))
    (period V mp : K) (maxLen : Option Int) (bp : BattParams K) (ff : Bool)
    (hs : start.instant = start'.instant)
    (hd : List.Forall₂ (fun d d' => d.connect.instant = d'.connect.instant ∧
      d.disconnect.instant = d'.disconnect.instant ∧ d.kWh = d'.kWh ∧ d.session = d'.session ∧
      d.space = d'.space) docs docs') :
    getEvsW start docs period V mp maxLen bp ff = getEvsW start' docs' period V mp maxLen bp ff := by
  unfold getEvsW
  rw [hs, map_toDoc_congr hd]

/-- `arrival_departure_spec` in terms of readings: every session's arrival / departure is the floor
    period index of `wall − utcoffset` of its connection / disconnection reading minus that of the
    start reading (departure after the `max_len` cap), one session per document, in order. -/
theorem arrival_departure_spec_tz (start : Reading K) (docs : List (WDoc K)) (period V mp : K)
    (maxLen : Option Int) (bp : BattParams K) (ff : Bool) (evs : List (Ev K))
    (hp : 0 < period) (hs : 0 ≤ start.instant)
    (h : getEvsW start docs period V mp maxLen bp ff = .ok evs) :
    List.Forall₂ (fun d e =>
      e.session = d.session ∧ e.station = d.space ∧
      (0 ≤ d.connect.instant → e.arrival =
        ⌊(d.connect.wall - d.connect.off) / (60 * period)⌋ - ⌊(start.wall - start.off) / (60 * period)⌋) ∧
      (0 ≤ d.disconnect.instant → e.departure = capDeparture e.arrival
        (⌊(d.disconnect.wall - d.disconnect.off) / (60 * period)⌋ - ⌊(start.wall - start.off) / (60 * period)⌋)
        maxLen))
      docs evs := by
  unfold getEvsW at h
  obtain ⟨hf, -, -⟩ := arrival_departure_spec start.instant (docs.map WDoc.toDoc) period V mp maxLen bp ff evs hp hs h
  rw [List.forall₂_map_left_iff] at hf
  refine hf.imp ?_
  rintro d e ⟨h1, h2, -, h4, h5⟩
  exact ⟨h1, h2, h4, h5⟩

/-- Two readings whose instants are `k` whole periods apart (both at or after the epoch) get
    indices exactly `k` apart — whatever their wall-clock fields say. -/
theorem index_shift_whole_periods (r₁ r₂ : Reading K) (period : K) (k : Int) (hp : 0 < period)
    (h1 : 0 ≤ r₁.instant) (h2 : 0 ≤ r₂.instant)
    (h : r₂.instant = r₁.instant + (k : K) * (60 * period)) :
    ∃ i, readingIndex r₁ period = .ok i ∧ readingIndex r₂ period = .ok (i + k) := by
  refine ⟨_, readingIndex_pos hp, ?_⟩
  rw [readingIndex_pos hp, h, periodOf_add_periods hp k h1 (h ▸ h2)]

/-- **The repeated hour** (and, with the roles of the two offsets exchanged, the skipped hour).
    Two readings with the SAME wall-clock fields whose offsets differ by `Δ = off₁ − off₂ ≥ 0`
    (`fold=0` reads the offset before the transition, `fold=1` the one after; at the end of DST
    `Δ` is the DST saving) denote instants `Δ` apart, and their indices differ by
    `⌊Δ/(60·period)⌋` or one more; by exactly `Δ/(60·period)` when that is a whole number. -/
theorem repeated_hour_index (r₁ r₂ : Reading K) (period : K) (hp : 0 < period)
    (hw : r₁.wall = r₂.wall) (hΔ : r₂.off ≤ r₁.off) (h1 : 0 ≤ r₁.instant) :
    ∃ i₁ i₂, readingIndex r₁ period = .ok i₁ ∧ readingIndex r₂ period = .ok i₂ ∧
      r₂.instant = r₁.instant + (r₁.off - r₂.off) ∧
      i₁ + ⌊(r₁.off - r₂.off) / (60 * period)⌋ ≤ i₂ ∧
      i₂ ≤ i₁ + ⌊(r₁.off - r₂.off) / (60 * period)⌋ + 1 ∧
      (∀ k : Int, r₁.off - r₂.off = (k : K) * (60 * period) → i₂ = i₁ + k) := by
  have hinst : r₂.instant = r₁.instant + (r₁.off - r₂.off) := by
    unfold Reading.instant; rw [hw]; ring
  have hbd := periodOf_add_bounds hp h1 (sub_nonneg.2 hΔ)
  rw [← hinst, periodOf_of_nonneg hp (sub_nonneg.2 hΔ)] at hbd
  refine ⟨_, _, readingIndex_pos hp, readingIndex_pos hp, hinst, hbd.1, hbd.2, ?_⟩
  intro k hk
  rw [hinst, hk]
  exact periodOf_add_periods hp k h1 (hk ▸ add_nonneg h1 (sub_nonneg.2 hΔ))

/-- Readings of the repeated hour that are at least one period apart are told apart: equal wall
    fields (so equal as dict keys when they share the tzinfo object) but different indices. -/
theorem repeated_hour_readings_differ (r₁ r₂ : Reading K) (period : K) (i₁ i₂ : Int) (hp : 0 < period)
    (hw : r₁.wall = r₂.wall) (hΔ : r₂.off + 60 * period ≤ r₁.off) (h1 : 0 ≤ r₁.instant)
    (e1 : readingIndex r₁ period = .ok i₁) (e2 : readingIndex r₂ period = .ok i₂) : i₁ < i₂ := by
  rw [readingIndex_pos hp] at e1 e2
  injection e1 with e1; injection e2 with e2
  -- the second instant is at least one whole period after the first
  have h : r₁.instant + 60 * period ≤ r₂.instant := by
    unfold Reading.instant; rw [hw]; linarith only [hΔ]
  have h2 := periodOf_mono hp h
  rw [periodOf_add_period hp h1] at h2
  omega

/-- A session that connects and disconnects at the same wall-clock reading, once before and once
    after the end of DST (connect 01:30 `fold=0`, disconnect 01:30 `fold=1`): when the saving is
    `k` whole periods its stay is `k` periods, or `max_len` if that is smaller — never 0 unless
    `max_len = 0`. -/
theorem fold_session_stay (d : WDoc K) (offset : Int) (period V mp : K) (maxLen : Option Int)
    (bp : BattParams K) (ff : Bool) (e : Ev K) (k : Int) (hp : 0 < period)
    (hw : d.connect.wall = d.disconnect.wall) (h1 : 0 ≤ d.connect.instant) (hk0 : 0 ≤ k)
    (hk : d.connect.off - d.disconnect.off = (k : K) * (60 * period))
    (h : convertDoc d.toDoc offset period V mp maxLen bp ff = .ok e) :
    e.departure - e.arrival = (match maxLen with | some L => if L < k then L else k | none => k) := by
  obtain ⟨ha, hd, -⟩ := convertDoc_ok hp h
  -- the two instants are `k` whole periods apart, hence so are the two indices
  have hdis : d.toDoc.disconnect = d.toDoc.connect + (k : K) * (60 * period) := by
    show d.disconnect.wall - d.disconnect.off = d.connect.wall - d.connect.off + _
    rw [← hk, hw]; ring
  have hk' : (0 : K) ≤ (k : K) * (60 * period) := mul_nonneg (by exact_mod_cast hk0) (by positivity)
  have h1' : 0 ≤ d.toDoc.connect := h1
  rw [hdis, periodOf_add_periods hp k h1' (add_nonneg h1' hk'), add_sub_right_comm, ← ha] at hd
  rw [hd, capDeparture_add_sub]
  -- the `match` of the statement also carries `h`, which depends on `maxLen`
  cases maxLen <;> rfl

/-- Order is preserved with respect to INSTANTS: a document that disconnects at or after the
    instant it connects gets `arrival ≤ departure`, even when its wall-clock fields run backwards
    (connect 01:50 PDT, disconnect 01:10 PST) — `order_preserving` through `toDoc`. -/
theorem order_preserving_instants (d : WDoc K) (offset : Int) (period V mp : K) (maxLen : Option Int)
    (bp : BattParams K) (ff : Bool) (e : Ev K) (hp : 0 < period)
    (hL : ∀ L, maxLen = some L → 0 ≤ L) (hcd : d.connect.instant ≤ d.disconnect.instant)
    (h : convertDoc d.toDoc offset period V mp maxLen bp ff = .ok e) : e.arrival ≤ e.departure :=
  order_preserving d.toDoc offset period V mp maxLen bp ff e hp hL hcd h

/-! non-vacuity: America/Los_Angeles, 2019-11-03 (DST ends 09:00 UTC), 5-minute periods.
    Wall 01:30 = 1572744600 s on the calendar; offsets −7 h (PDT, `fold=0`) and −8 h (PST, `fold=1`). -/

def rPDT : Reading ℚ := { wall := 1572744600, off := -25200 }
def rPST : Reading ℚ := { wall := 1572744600, off := -28800 }
/-- the same instant as `rPDT`, read in UTC by a fixed-offset zone -/
def rUTC : Reading ℚ := { wall := 1572769800, off := 0 }
/-- 01:50 PDT and 01:10 PST: the wall clock runs backwards, the instants forwards -/
def rLate : Reading ℚ := { wall := 1572745800, off := -25200 }
def rEarly : Reading ℚ := { wall := 1572743400, off := -28800 }

example : readingIndex rPDT 5 = readingIndex rUTC 5 :=
  index_depends_only_on_instant _ _ _ (by norm_num [Reading.instant, rPDT, rUTC])

example : ∃ i, readingIndex rPDT 5 = .ok i ∧ readingIndex rPST 5 = .ok (i + 12) :=
  index_shift_whole_periods rPDT rPST 5 12 (by norm_num) (by norm_num [Reading.instant, rPDT])
    (by norm_num [Reading.instant, rPST]) (by norm_num [Reading.instant, rPDT, rPST])

theorem rPDT_index : readingIndex rPDT 5 = .ok 5242566 := by
  rw [reading_index_spec _ _ (by norm_num) (by norm_num [Reading.instant, rPDT])]
  congr 1; rw [Int.floor_eq_iff]; norm_num [rPDT]

example : readingIndex rPDT 5 = .ok 5242566 := rPDT_index

/-- 7-minute periods do not divide the hour: the two readings are 8 or 9 periods apart -/
example : ∃ i₁ i₂, readingIndex rPDT 7 = .ok i₁ ∧ readingIndex rPST 7 = .ok i₂ ∧ i₁ + 8 ≤ i₂ ∧ i₂ ≤ i₁ + 9 := by
  obtain ⟨i₁, i₂, h1, h2, -, h3, h4, -⟩ := repeated_hour_index rPDT rPST 7 (by norm_num) rfl
    (by norm_num [rPDT, rPST]) (by norm_num [Reading.instant, rPDT])
  have : ⌊(rPDT.off - rPST.off) / (60 * 7)⌋ = 8 := by rw [Int.floor_eq_iff]; norm_num [rPDT, rPST]
  rw [this] at h3 h4
  exact ⟨i₁, i₂, h1, h2, h3, by omega⟩

def foldDoc : WDoc ℚ := { connect := rPDT, disconnect := rPST, kWh := 3, session := "s", space := "CA-1" }
def backDoc : WDoc ℚ := { connect := rLate, disconnect := rEarly, kWh := 3, session := "t", space := "CA-2" }

/-- connect 01:30 `fold=0`, disconnect 01:30 `fold=1`: twelve 5-minute periods -/
example : ∃ e, convertDoc foldDoc.toDoc 5242300 5 208 (6656/1000) none defaultParams false = .ok e ∧
    e.departure - e.arrival = 12 := by
  obtain ⟨e, he⟩ := default_conversion_total foldDoc.toDoc 5242300 5 208 (6656/1000) none false
    (by norm_num) (by norm_num [foldDoc, WDoc.toDoc]) (by norm_num) (by intro L h; cases h)
    (by norm_num [foldDoc, WDoc.toDoc, Reading.instant, rPDT, rPST])
  refine ⟨e, he, ?_⟩
  have := fold_session_stay foldDoc 5242300 5 208 (6656/1000) none defaultParams false e 12 (by norm_num)
    rfl (by norm_num [foldDoc, Reading.instant, rPDT]) (by norm_num)
    (by norm_num [foldDoc, rPDT, rPST]) he
  simpa using this

example : backDoc.disconnect.wall < backDoc.connect.wall ∧
    ∀ e, convertDoc backDoc.toDoc 5242300 5 208 (6656/1000) none defaultParams false = .ok e →
      e.arrival ≤ e.departure := by
  refine ⟨by norm_num [backDoc, rLate, rEarly], ?_⟩
  intro e he
  exact order_preserving_instants backDoc 5242300 5 208 (6656/1000) none defaultParams false e (by norm_num)
    (by intro L h; cases h) (by norm_num [backDoc, Reading.instant, rLate, rEarly]) he

/-- Conversions do not influence each other: in any sequence of `get_evs` calls (any periods,
    voltages, powers, battery parameters, any documents — the same datetimes or the same
    (energy, stay) pairs may recur under other parameters) the answer of each call is the answer
    the call gives on its own.  The model has no state to carry (`runBatches` is a `map`), so this
    is a fact about `List.map`; that the code carries none is what the harness's batch check tests. -/
theorem batches_independent (pre post : List (Batch K)) (b : Batch K) :
    runBatches (pre ++ b :: post) = runBatches pre ++ runBatch b :: runBatches post ∧
    (runBatches (pre ++ b :: post))[pre.length]? = some (runBatch b) := by
  constructor
  · simp [runBatches]
  · simp [runBatches]

end tz

section memo
variable {α β κ : Type} [DecidableEq κ]

/-- A memo table in front of ANY pure function (`_datetime_to_timestamp`, `batt_cap_fn`, …) is
    invisible for EVERY sequence of calls — across documents, batches and parameter changes —
    provided equal keys imply equal values of the function. -/
theorem memo_transparent (f : α → β) (key : α → κ) (hkey : ∀ a b, key a = key b → f a = f b)
    (calls : List α) : memoRun f key [] calls = calls.map f :=
  memoRun_eq_map hkey calls [] (cacheOk_nil f key)

end memo

section memoIdx
variable {K : Type} [Field K] [LinearOrder K] [IsStrictOrderedRing K] [FloorRing K]

/-- … in particular a cache of the period index keyed on (instant, period) is invisible … -/
theorem index_cache_by_instant_sound (calls : List (Reading K × K)) :
    memoRun (fun c : Reading K × K => readingIndex c.1 c.2) (fun c => (c.1.instant, c.2)) [] calls
      = calls.map (fun c => readingIndex c.1 c.2) := by
  apply memo_transparent
  intro a b h
  simp only [Prod.mk.injEq] at h
  show readingIndex a.1 a.2 = readingIndex b.1 b.2
  rw [← h.2]
  exact index_depends_only_on_instant _ _ _ h.1

end memoIdx

/-- … whereas a cache keyed on what Python's `==`/`hash` see of two datetimes that share a
    PEP 495 tzinfo object (the wall-clock fields, not `fold`), together with the period, is NOT:
    connect 01:30 `fold=0` then disconnect 01:30 `fold=1` gets the first index twice. -/
theorem index_cache_by_wall_unsound :
    memoRun (fun c : Reading ℚ × ℚ => readingIndex c.1 c.2) (fun c => (c.1.wall, c.2)) []
        [(rPDT, 5), (rPST, 5)]
      ≠ [(rPDT, 5), (rPST, 5)].map (fun c => readingIndex c.1 c.2) := by
  have h2 : readingIndex rPST 5 = .ok 5242578 := by
    rw [reading_index_spec _ _ (by norm_num) (by norm_num [Reading.instant, rPST])]
    congr 1; rw [Int.floor_eq_iff]; norm_num [rPST]
  rw [memoRun_pair _ _ (rPDT, 5) (rPST, 5) rfl]
  intro h
  have : readingIndex rPDT 5 = readingIndex rPST 5 := (List.cons.inj (List.cons.inj h).2).1
  rw [rPDT_index, h2] at this
  cases this

/-- … and so is a cache keyed on the datetime alone: the same datetime under another period. -/
theorem index_cache_without_period_unsound :
    memoRun (fun c : Reading ℚ × ℚ => readingIndex c.1 c.2) (fun c => c.1.instant) []
        [(rPDT, 5), (rPDT, 15)]
      ≠ [(rPDT, 5), (rPDT, 15)].map (fun c => readingIndex c.1 c.2) := by
  have h2 : readingIndex rPDT 15 = .ok 1747522 := by
    rw [reading_index_spec _ _ (by norm_num) (by norm_num [Reading.instant, rPDT])]
    congr 1; rw [Int.floor_eq_iff]; norm_num [rPDT]
  rw [memoRun_pair _ _ (rPDT, 5) (rPDT, 15) rfl]
  intro h
  have : readingIndex rPDT 5 = readingIndex rPDT 15 := (List.cons.inj (List.cons.inj h).2).1
  rw [rPDT_index, h2] at this
  cases this

end Acn.C15
