/-
  C04 — applied pilots are exactly what the submitted schedules say.

  Model: `AcnModel/Pilots.lean` (`_increase_width`, `_update_schedules`, the growth and the column
  read of `run()` / `update_pilots`).  Spec: `pilotAt` (value given by the latest accepted
  submission that covers the period, else 0).

  Every theorem is for an arbitrary carrier `K` with a zero (no arithmetic is done on pilots),
  any station list, any sequence of submissions — any submission times (not even monotone),
  any lengths (including 0), any station subsets, any `lastTs` values (including `none` =
  empty queue), malformed submissions in between — and any start width.
-/
import AcnProofs.Lemmas.PilotsStep

set_option linter.unusedSectionVars false

namespace Acn.C04
open Acn Acn.Pilots

variable {K : Type} [OfNat K 0]

/-- `_increase_width` is invisible to readers of the matrix (any matrix, any target). -/
theorem increaseWidth_get (m : Mat K) (target i τ : Nat) :
    (increaseWidth m target).get i τ = m.get i τ :=
  increaseWidth_get' m target i τ

example : (increaseWidth (⟨[[1, 2], [3, 4]], 2⟩ : Mat ℤ) 5).get 1 1 = 4
    ∧ (increaseWidth (⟨[[1, 2], [3, 4]], 2⟩ : Mat ℤ) 5).get 1 4 = 0
    ∧ (increaseWidth (⟨[[1, 2], [3, 4]], 2⟩ : Mat ℤ) 5).width = 5 := by decide

/-- `_increase_width` keeps the shape invariant and never shrinks: new width = max old target. -/
theorem increaseWidth_preserves {n : Nat} {m : Mat K} (h : m.WF n) (target : Nat) :
    (increaseWidth m target).WF n ∧ (increaseWidth m target).width = max m.width target :=
  ⟨increaseWidth_wf h target, increaseWidth_width m target⟩

example : (⟨[[1, 2], [3, 4]], 2⟩ : Mat ℤ).WF 2 := by
  refine ⟨rfl, ?_⟩; intro r hr; simp at hr; rcases hr with rfl | rfl <;> rfl

/-- Block-write lemma (DESIGN §3.5): `pilot_signals[:, t:t+len] = blk` on a matrix that is wide
    enough changes exactly the cells of the block. -/
theorem writeBlock_get {n : Nat} {m : Mat K} (h : m.WF n) (t len : Nat) (blk : List (List K))
    (hd : blk.length = n) (hl : ∀ b ∈ blk, b.length = len) (hw : t + len ≤ m.width) (i τ : Nat) :
    (writeBlock m t blk).get i τ =
      if t ≤ τ ∧ τ < t + len then (blk.getD i []).getD (τ - t) 0 else m.get i τ :=
  writeBlock_get' h t len blk hd hl hw i τ

example : (writeBlock (⟨[[1, 2, 3, 4], [5, 6, 7, 8]], 4⟩ : Mat ℤ) 1 [[10, 11], [12, 13]]).rows
    = [[1, 10, 11, 4], [5, 12, 13, 8]] := by decide

/-! ### one call of `_update_schedules` -/

/-- `{}` changes nothing, whatever the period and the queue. -/
theorem empty_noop (stations : List String) (m : Mat K) (t : Nat) (lastTs : Option Nat) :
    updateSchedules stations m t lastTs [] = .ok m := rfl

/-- The shape invariant of `pilot_signals` (one row per station, every row exactly `width`
    long) is preserved by every call that returns. -/
theorem wf_preserved {stations : List String} {m m' : Mat K} (h : m.WF stations.length)
    (t : Nat) (lastTs : Option Nat) (sched : Sched K)
    (hu : updateSchedules stations m t lastTs sched = .ok m') : m'.WF stations.length :=
  updateSchedules_wf h t lastTs sched hu

/-- A schedule naming an unknown station raises `KeyError`, one with rows of unequal length (and
    only known stations) raises `InvalidScheduleError`; in both cases no new state is produced:
    the matrix the simulator holds afterwards (`submit`) is the old one.  Conversely these are
    the only ways to be rejected. -/
theorem reject_unchanged (stations : List String) (m : Mat K) (t : Nat) (lastTs : Option Nat)
    (sched : Sched K) :
    (unknownStation stations sched = true →
        updateSchedules stations m t lastTs sched = .error .keyError
        ∧ submit stations m ⟨t, lastTs, sched⟩ = m)
    ∧ (unknownStation stations sched = false → ragged sched = true →
        updateSchedules stations m t lastTs sched = .error .invalidSchedule
        ∧ submit stations m ⟨t, lastTs, sched⟩ = m)
    ∧ (∀ e, updateSchedules stations m t lastTs sched = .error e →
        (unknownStation stations sched = true ∨ ragged sched = true)
        ∧ submit stations m ⟨t, lastTs, sched⟩ = m) := by
  refine ⟨?_, ?_, ?_⟩
  · intro hu
    have hne : sched ≠ [] := by rintro rfl; simp [unknownStation] at hu
    have e : updateSchedules stations m t lastTs sched = .error .keyError := by
      rw [updateSchedules_cons _ _ _ _ _ hne]; simp [hu]
    exact ⟨e, by simp [submit, e]⟩
  · intro hu hr
    have hne : sched ≠ [] := by rintro rfl; simp [ragged] at hr
    have e : updateSchedules stations m t lastTs sched = .error .invalidSchedule := by
      rw [updateSchedules_cons _ _ _ _ _ hne]; simp [hu, hr]
    exact ⟨e, by simp [submit, e]⟩
  · intro e he
    refine ⟨?_, by simp [submit, he]⟩
    by_contra hc
    simp only [not_or, Bool.not_eq_true] at hc
    by_cases hne : sched = []
    · subst hne; cases he
    · rw [updateSchedules_cons _ _ _ _ _ hne] at he
      simp [hc.1, hc.2] at he

example : unknownStation ["A", "B"] ([("A", [1]), ("C", [2])] : Sched ℤ) = true := by decide
example : unknownStation ["A", "B"] ([("A", [1]), ("B", [2, 3])] : Sched ℤ) = false
    ∧ ragged ([("A", [1]), ("B", [2, 3])] : Sched ℤ) = true := by decide
example : updateSchedules ["A", "B"] (Mat.zeros 2 3 : Mat ℤ) 1 (some 2) [("A", [1]), ("C", [2, 3])]
    = .error .keyError := by rfl

/-- **Step theorem.**  An accepted schedule submitted at period `t` — for EVERY `t`, every width of
    the matrix and every `lastTs`, in particular `none` (the period in which the event queue is
    already empty; this was defect F2) and schedules reaching beyond the allocated horizon — is
    accepted; afterwards the matrix is well-formed, wide enough for the whole schedule, and every
    cell holds the schedule's value inside the block `[t, t+len)` (0 for omitted stations) and its
    old value outside. -/
theorem accepts_beyond_horizon {stations : List String} {m : Mat K} (h : m.WF stations.length)
    (t : Nat) (lastTs : Option Nat) (sched : Sched K) (ha : accepted stations sched = true) :
    ∃ m', updateSchedules stations m t lastTs sched = .ok m'
      ∧ m'.WF stations.length
      ∧ t + schedLen sched ≤ m'.width
      ∧ m.width ≤ m'.width
      ∧ ∀ st τ, m'.get (stations.idxOf st) τ =
          if t ≤ τ ∧ τ < t + schedLen sched then valueOf ⟨t, lastTs, sched⟩ st τ
          else m.get (stations.idxOf st) τ := by
  have hu := updateSchedules_accepted stations m t lastTs sched ha
  obtain ⟨-, hwid, hle, -⟩ := grown_spec h t lastTs (schedLen sched)
  refine ⟨_, hu, wf_preserved h t lastTs sched hu, hwid, hle, ?_⟩
  · intro st τ
    have := submit_get h ⟨t, lastTs, sched⟩ st τ
    simp only [submit, hu] at this
    rw [this]
    simp [covers, ha]

/-- the F2 scenario: 3-period schedule in period 6, queue empty, matrix 7 wide -/
example : ∃ m', updateSchedules ["A", "B"] (Mat.zeros 2 7 : Mat ℤ) 6 none [("A", [5, 6, 7])] = .ok m'
    ∧ m'.width = 9 ∧ m'.get 0 8 = 7 ∧ m'.get 1 8 = 0 := ⟨_, rfl, by decide⟩
example : accepted ["A", "B"] ([("A", [5, 6, 7])] : Sched ℤ) = true := by decide

/-- The dense schedule matrix does not depend on the order of the mapping's entries. -/
theorem densify_perm (stations : List String) {sched sched' : Sched K} (hp : sched.Perm sched')
    (hn : (sched.map Prod.fst).Nodup) (len : Nat) :
    densify stations sched len = densify stations sched' len :=
  Pilots.densify_perm stations hp hn len

/-- …and neither does anything else: result AND error class of `_update_schedules` are the same
    for every permutation of a dict (distinct keys). -/
theorem updateSchedules_perm (stations : List String) (m : Mat K) (t : Nat) (lastTs : Option Nat)
    {sched sched' : Sched K} (hp : sched.Perm sched') (hn : (sched.map Prod.fst).Nodup) :
    updateSchedules stations m t lastTs sched = updateSchedules stations m t lastTs sched' :=
  Pilots.updateSchedules_perm stations m t lastTs hp hn

example : ([("A", [1, 2]), ("B", [3, 4])] : Sched ℤ).Perm [("B", [3, 4]), ("A", [1, 2])]
    ∧ (([("A", [1, 2]), ("B", [3, 4])] : Sched ℤ).map Prod.fst).Nodup :=
  ⟨List.Perm.swap _ _ _, by decide⟩
example : densify ["B", "C", "A"] ([("A", [1, 2]), ("B", [3, 4])] : Sched ℤ) 2 = [[3, 4], [0, 0], [1, 2]]
    ∧ densify ["B", "C", "A"] ([("B", [3, 4]), ("A", [1, 2])] : Sched ℤ) 2 = [[3, 4], [0, 0], [1, 2]] := by
  decide

/-- What the spec means: if the submissions split as `before ++ s :: after` where `s` is accepted
    and covers `τ` and nothing in `after` does, then the pilot is what `s` says; if no submission
    covers `τ` it is 0. -/
theorem pilotAt_latest (stations : List String) (before after : List (Submission K))
    (s : Submission K) (st : String) (τ : Nat) (hs : covers stations s τ = true)
    (ha : ∀ x ∈ after, covers stations x τ = false) :
    pilotAt stations (before ++ s :: after) st τ = valueOf s st τ := by
  unfold pilotAt
  rw [pilotFrom_append, pilotFrom_cons, if_pos hs, pilotFrom_uncovered _ _ _ _ _ ha]

theorem pilotAt_uncovered (stations : List String) (subs : List (Submission K)) (st : String) (τ : Nat)
    (ha : ∀ x ∈ subs, covers stations x τ = false) : pilotAt stations subs st τ = 0 :=
  pilotFrom_uncovered _ _ _ _ _ ha

/-- **Overlay refinement.**  After ANY sequence of `_update_schedules` calls (accepted, empty or
    rejected ones, any periods — monotone or not —, any lengths, any station subsets, any `lastTs`),
    starting from the zero matrix of any width, every cell of `pilot_signals` read by station name
    holds exactly the value the specification assigns: that of the latest accepted submission
    covering the period, else 0.  (Unregistered names read 0 on both sides.) -/
theorem overlay_refines (stations : List String) (w : Nat) (subs : List (Submission K))
    (st : String) (τ : Nat) :
    (subs.foldl (submit stations) (Mat.zeros stations.length w)).get (stations.idxOf st) τ
      = pilotAt stations subs st τ := by
  rw [foldl_submit_get subs (zeros_wf _ _), zeros_get]
  rfl

/-- The same from any well-formed matrix: cells no later submission covers keep their value. -/
theorem overlay_refines_from {stations : List String} {m : Mat K} (h : m.WF stations.length)
    (subs : List (Submission K)) (st : String) (τ : Nat) :
    (subs.foldl (submit stations) m).get (stations.idxOf st) τ
      = pilotFrom stations (m.get (stations.idxOf st) τ) subs st τ
    ∧ (subs.foldl (submit stations) m).WF stations.length :=
  ⟨foldl_submit_get subs h st τ, foldl_submit_wf subs h⟩

/-- overlay of three submissions, the middle one rejected, the last one overlapping the first and
    omitting station A -/
example :
    let subs : List (Submission ℤ) :=
      [⟨0, some 3, [("A", [1, 2, 3]), ("B", [4, 5, 6])]⟩, ⟨1, some 3, [("A", [9]), ("Z", [9])]⟩,
       ⟨2, none, [("B", [7, 8, 9])]⟩]
    (subs.foldl (submit ["A", "B"]) (Mat.zeros 2 4)).rows = [[1, 2, 0, 0, 0], [4, 5, 7, 8, 9]]
    ∧ pilotAt ["A", "B"] subs "A" 1 = 2 ∧ pilotAt ["A", "B"] subs "A" 2 = 0
    ∧ pilotAt ["A", "B"] subs "B" 4 = 9 ∧ pilotAt ["A", "B"] subs "B" 5 = 0 := by decide

/-! ### what the EVSEs receive -/

/-- `run()` is the instance of the generic trip sequence whose growth target is `runWidth`. -/
theorem runPeriods_eq_runTrips (stations : List String) (m : Mat K) (ps : List (Period K)) :
    runPeriods stations m ps = runTrips stations m (tripsOfRun ps) :=
  Pilots.runPeriods_eq_runTrips stations m ps

/-- **Applied pilots, generic.**  For ANY sequence of loop trips — trips of `run()`, trips of
    `step()`, mixed, each growing the matrix to an arbitrary target — that does not raise: the final
    matrix is the spec of all submissions and the column handed to the EVSEs in the `k`-th trip is
    `pilotAt` of the submissions made up to and including that trip. -/
theorem trips_applied_eq_spec {stations : List String} (hn : stations.Nodup) (w : Nat)
    (trips : List (Period K × Nat)) (m' : Mat K) (cols : List (List K))
    (hrun : runTrips stations (Mat.zeros stations.length w) trips = .ok (m', cols)) :
    m'.WF stations.length
    ∧ (∀ st τ, m'.get (stations.idxOf st) τ = pilotAt stations (subsOf (trips.map Prod.fst)) st τ)
    ∧ cols.length = trips.length
    ∧ ∀ k (hk : k < trips.length), cols[k]? =
        some (stations.map fun st =>
          pilotAt stations (subsOf ((trips.take (k + 1)).map Prod.fst)) st trips[k].1.t) :=
  Pilots.trips_applied_eq_spec hn w trips m' cols hrun

/-- **Applied pilots.**  For a whole run — any list of periods, each with or without a scheduler
    call, any schedule, any queue horizon — that does not raise: the final matrix is the spec of all
    submissions, and the column `update_pilots` hands to the EVSEs in the `k`-th period is, station
    by station, `pilotAt` of the submissions made up to and including that period, at that
    period. -/
theorem applied_eq_spec {stations : List String} (hn : stations.Nodup) (w : Nat)
    (ps : List (Period K)) (m' : Mat K) (cols : List (List K))
    (hrun : runPeriods stations (Mat.zeros stations.length w) ps = .ok (m', cols)) :
    m'.WF stations.length
    ∧ (∀ st τ, m'.get (stations.idxOf st) τ = pilotAt stations (subsOf ps) st τ)
    ∧ cols.length = ps.length
    ∧ ∀ k (hk : k < ps.length), cols[k]? =
        some (stations.map fun st => pilotAt stations (subsOf (ps.take (k + 1))) st ps[k].t) :=
  Pilots.applied_eq_spec hn w ps m' cols hrun

/-- The only way a run can fail on the pilot matrix is a rejected schedule: as long as the queue's
    last timestamp is not in the past (it never is: `get_current_events` has removed everything
    ≤ t), column `t` exists when `update_pilots` reads it — also in the last period, where the queue
    is empty and the matrix is grown to `t + 1`. -/
theorem run_no_indexError {stations : List String} (w : Nat) (ps : List (Period K))
    (hl : ∀ p ∈ ps, ∀ l, p.lastTs = some l → p.t ≤ l) :
    runPeriods stations (Mat.zeros stations.length w) ps ≠ .error .indexError := by
  rw [runPeriods_eq_runTrips]
  apply runTrips_no_indexError' _ _ (zeros_wf _ _)
  intro pw hpw
  obtain ⟨p, hp, rfl⟩ := List.mem_map.1 hpw
  show p.t < runWidth p.t p.lastTs
  cases hlt : p.lastTs with
  | none => simp [runWidth]
  | some l =>
    have := hl p hp l hlt
    simp only [runWidth]
    omega

/-- a 3-period run on a matrix one column wide: schedule of length 3 in period 0, nothing in
    period 1, schedule for B only in period 2 (the last one: queue empty) reaching to period 4 -/
example :
    runPeriods ["A", "B"] (Mat.zeros 2 1 : Mat ℤ)
      [⟨0, some 2, some [("A", [1, 2, 3])]⟩, ⟨1, some 2, none⟩, ⟨2, none, some [("B", [7, 8, 9])]⟩]
    = .ok (⟨[[1, 2, 0, 0, 0], [0, 0, 7, 8, 9]], 5⟩, [[1, 0], [2, 0], [0, 7]]) := by rfl

/-! ### `step()`-driven simulations, and any mixture of loop trips -/

/-- **`step()`-driven simulation.**  A list of calls `step(sched_j)`, the `j`-th making a loop trip at
    each `(t, lastTs)` of `its_j` and submitting the SAME schedule in each: if nothing raises, the
    matrix afterwards is the spec of the submissions `(t, sched_j)` in the order made. -/
theorem step_applied_eq_spec {stations : List String} (hn : stations.Nodup) (w : Nat)
    (calls : List (Sched K × List (Nat × Option Nat))) (m' : Mat K) (cols : List (List K))
    (hrun : runTrips stations (Mat.zeros stations.length w) (tripsOfSteps calls) = .ok (m', cols)) :
    m'.WF stations.length
    ∧ (∀ st τ, m'.get (stations.idxOf st) τ =
        pilotAt stations
          (calls.flatMap fun c => c.2.map fun it => (⟨it.1, it.2, c.1⟩ : Submission K)) st τ)
    ∧ cols.length = (tripsOfSteps calls).length := by
  obtain ⟨k1, k2, k3, -⟩ := trips_applied_eq_spec hn w _ m' cols hrun
  refine ⟨k1, ?_, k3⟩
  intro st τ
  rw [k2, subsOf_tripsOfSteps]

/-- `step()` grows to `max(lastTs+1, t+1)`: column `t` always exists, whatever the queue says, so a
    step-driven simulation can only fail on the matrix through a rejected schedule. -/
theorem step_no_indexError {stations : List String} (w : Nat)
    (calls : List (Sched K × List (Nat × Option Nat))) :
    runTrips stations (Mat.zeros stations.length w) (tripsOfSteps calls) ≠ .error .indexError := by
  apply runTrips_no_indexError' _ _ (zeros_wf _ _)
  intro pw hpw
  simp only [tripsOfSteps, tripsOfStep, List.mem_flatMap, List.mem_map] at hpw
  obtain ⟨c, -, it, -, rfl⟩ := hpw
  exact lt_stepWidth _ _

/-- two `step` calls: the first makes trips at t = 0, 1 (its schedule re-submitted at 1 shifts it by
    one period), the second one trip at t = 2 with a longer horizon -/
example :
    runTrips ["A", "B"] (Mat.zeros 2 1 : Mat ℤ)
      (tripsOfSteps [([("A", [1, 2, 3])], [(0, some 2), (1, some 2)]), ([("B", [7, 8])], [(2, some 5)])])
    = .ok (⟨[[1, 1, 0, 0, 0, 0], [0, 0, 7, 8, 0, 0]], 6⟩, [[1, 0], [1, 0], [0, 7]]) := by rfl

/-! ### what a scheduler sees of the pilots applied before -/

/-- `Interface.last_applied_pilot_signals` read at `iteration = t + 1` with `t > 0` (the code's
    `i = iteration − 1 > 0`): for every active EV that had arrived by `t`, the pilot recorded for its
    station in period `t` — which is the entry of the column that was applied in period `t`.
    For `iteration ≤ 1` the code returns `{}` whatever was applied (second part). -/
theorem last_applied_eq_column {stations : List String} {m : Mat K} (h : m.WF stations.length)
    (t : Nat) (ht : 0 < t) (col : List K) (hc : appliedColumn m t = some col)
    (active : List (String × String × Nat)) (hreg : ∀ a ∈ active, a.2.1 ∈ stations) :
    (∃ vals, lastApplied stations m (t + 1) active = some vals
      ∧ vals.map Prod.fst = (active.filter fun a => decide (a.2.2 ≤ t)).map (·.1)
      ∧ ∀ k (hk : k < vals.length) (hk' : k < (active.filter fun a => decide (a.2.2 ≤ t)).length),
          col[stations.idxOf ((active.filter fun a => decide (a.2.2 ≤ t))[k]).2.1]? = some vals[k].2)
    ∧ ∀ it ≤ 1, lastApplied stations m it active = some [] := by
  refine ⟨?_, fun it hit => lastApplied_early stations m it active hit⟩
  -- the column exists, so every row is longer than `t`, and it holds the cells `m.get · t`
  obtain ⟨rfl, hlt⟩ := mapM_getElem?_some _ _ _ hc
  refine ⟨_, lastApplied_eq_get h ht hlt active hreg, by simp [Function.comp_def], fun k hk hk' => ?_⟩
  have hi : stations.idxOf ((active.filter fun a => decide (a.2.2 ≤ t))[k]).2.1 < m.rows.length := by
    rw [h.1]
    exact List.idxOf_lt_length_iff.2 (hreg _ (List.mem_filter.1 (List.getElem_mem hk')).1)
  simp [Mat.get, List.getD_eq_getElem?_getD, hi]

/-- The same in closed form, and tied to the specification: after any sequence of loop trips from the
    zero matrix, a scheduler reading `last_applied_pilot_signals` at `iteration = t + 1` (`t > 0`,
    column `t` allocated) sees, for each active EV that had arrived by `t`, exactly
    `pilotAt (all submissions so far) station t`. -/
theorem last_applied_eq_spec {stations : List String} (hn : stations.Nodup) (w : Nat)
    (trips : List (Period K × Nat)) (m' : Mat K) (cols : List (List K))
    (hrun : runTrips stations (Mat.zeros stations.length w) trips = .ok (m', cols))
    (t : Nat) (ht : 0 < t) (htw : t < m'.width)
    (active : List (String × String × Nat)) (hreg : ∀ a ∈ active, a.2.1 ∈ stations) :
    lastApplied stations m' (t + 1) active =
      some ((active.filter fun a => decide (a.2.2 ≤ t)).map fun a =>
        (a.1, pilotAt stations (subsOf (trips.map Prod.fst)) a.2.1 t)) := by
  obtain ⟨hwf, hget, -, -⟩ := trips_applied_eq_spec hn w trips m' cols hrun
  rw [lastApplied_eq_get hwf ht (fun r hr => by rw [hwf.2 r hr]; exact htw) active hreg]
  simp only [hget]

/-- period 2 applied [5, 9]; in period 3 the scheduler sees 5 for session x (station A, arrived at 0)
    and nothing for y (station B, arrives at 3); in periods 0 and 1 it sees nothing at all -/
example :
    lastApplied ["A", "B"] (⟨[[1, 3, 5, 7], [2, 4, 9, 8]], 4⟩ : Mat ℤ) 3 [("x", "A", 0), ("y", "B", 3)]
      = some [("x", 5)]
    ∧ appliedColumn (⟨[[1, 3, 5, 7], [2, 4, 9, 8]], 4⟩ : Mat ℤ) 2 = some [5, 9]
    ∧ lastApplied ["A", "B"] (⟨[[1, 3, 5, 7], [2, 4, 9, 8]], 4⟩ : Mat ℤ) 1 [("x", "A", 0)] = some [] := by
  decide

/-! ### a rejected schedule and the scheduling state of `run()` -/

/-- "Rejected without changing any state" includes the scheduling state: when `_update_schedules`
    raises inside `run()`, `_resolve`, `_last_schedule_update` and `schedule_history` are what they
    were (the malformed schedule is not stored), so if the scheduler had to be called in this period it
    has to be called again in the same period when `run()` is resumed.  An accepted (or empty) schedule
    clears `_resolve`, records the period and is stored last in the history. -/
theorem reject_keeps_scheduling_state (stations : List String) (s : SchedState K) (t : Nat)
    (lastTs : Option Nat) (sched : Sched K) (k : Option Nat) :
    (∀ e, schedStep stations s t lastTs sched = .error e →
        schedStepState stations s t lastTs sched = s
        ∧ mustSchedule (schedStepState stations s t lastTs sched) t k = mustSchedule s t k)
    ∧ (∀ s', schedStep stations s t lastTs sched = .ok s' →
        s'.resolve = false ∧ s'.lastUpdate = some t ∧ s'.history = s.history ++ [(t, sched)]
        ∧ updateSchedules stations s.m t lastTs sched = .ok s'.m) := by
  refine ⟨?_, ?_⟩
  · intro e he
    have : schedStepState stations s t lastTs sched = s := by simp [schedStepState, he]
    exact ⟨this, by rw [this]⟩
  · intro s' hs
    unfold schedStep at hs
    cases hu : updateSchedules stations s.m t lastTs sched with
    | error e => rw [hu] at hs; cases hs
    | ok m' =>
      rw [hu] at hs
      injection hs with hs
      subst hs
      exact ⟨rfl, rfl, rfl, rfl⟩

/-- a ragged schedule in period 3 while a recompute is pending: error, and the scheduler is still due -/
example :
    let s : SchedState ℤ := ⟨Mat.zeros 2 5, true, some 1, [(1, [("A", [4])])]⟩
    schedStep ["A", "B"] s 3 (some 4) [("A", [1]), ("B", [2, 3])] = .error .invalidSchedule
    ∧ mustSchedule (schedStepState ["A", "B"] s 3 (some 4) [("A", [1]), ("B", [2, 3])]) 3 (some 2) = true
    ∧ (schedStepState ["A", "B"] s 3 (some 4) [("A", [1]), ("B", [2, 3])]).history = [(1, [("A", [4])])] := by
  refine ⟨rfl, rfl, rfl⟩

/-! ### histories with steps that are not submissions: JSON save / restore, `update_scheduler` -/

/-- **Save / restore round trip of the matrix.**  `pilot_signals` of a network with at least one station
    (`n` rows, all of the matrix' width) comes back from `to_json` / `from_json` exactly as it went in —
    values, shape and width, whatever the width (including 0). -/
theorem restore_roundtrip {n : Nat} {m : Mat K} (h : m.WF n) (hn : 0 < n) : restoreMat m = some m := by
  obtain ⟨rows, w⟩ := m
  obtain ⟨h1, h2⟩ := h
  simp only at h1 h2
  cases rows with
  | nil => simp at h1; omega
  | cons r rs =>
    have hr : r.length = w := h2 r (List.mem_cons_self ..)
    have hall : rs.all (fun x => x.length == r.length) = true := by
      rw [List.all_eq_true]
      intro x hx
      have := h2 x (List.mem_cons_of_mem _ hx)
      simp [this, hr]
    rw [hr] at hall
    simp only [restoreMat, toJsonRows, ofJsonRows, hall, if_true, hr]

example : restoreMat (⟨[[1, 2, 0], [0, 7, 8]], 3⟩ : Mat ℤ) = some ⟨[[1, 2, 0], [0, 7, 8]], 3⟩ := by rfl
/-- (a simulator over a network WITHOUT stations does not survive the round trip: `np.array([])` is 1-D) -/
example : restoreMat (Mat.zeros 0 4 : Mat ℤ) = none := by rfl

/-- **Restores and scheduler swaps are invisible to the pilots.**  ANY history — loop trips of `run()`
    and `step()` with any schedules (accepted, empty, rejected: then both sides raise the same error),
    with `Simulator.from_json(sim.to_json())` and `update_scheduler` steps anywhere in between, any number
    of them — over a network with at least one station, from any well-formed matrix, is the history of its
    loop trips alone: same final matrix, same station order, same pilots received by every EVSE
    (reported BY STATION ID) in every trip, same error. -/
theorem hist_eq_trips {stations : List String} (hpos : 0 < stations.length) {m : Mat K}
    (hm : m.WF stations.length) (hs : List (HStep K)) :
    runHist stations m hs = histOfTrips stations (runTrips stations m (tripsOfHist hs)) := by
  induction hs generalizing m with
  | nil => rfl
  | cons h rest ih =>
    cases h with
    | trip p w =>
      simp only [runHist, runHistWith, tripsOfHist, runTrips]
      cases hp : periodStepW stations m p w with
      | error e => rfl
      | ok r =>
        obtain ⟨m1, col⟩ := r
        have hm1 : m1.WF stations.length := periodStepW_wf hm hp
        have := ih hm1
        simp only [runHist] at this
        simp only [this]
        cases hr : runTrips stations m1 (tripsOfHist rest) with
        | error e => rfl
        | ok r2 => obtain ⟨m2, cols⟩ := r2; rfl
    | restore =>
      simp only [runHist, runHistWith, tripsOfHist, restore_roundtrip hm hpos, jsonKeyOrder]
      exact ih hm
    | swap =>
      simp only [runHist, runHistWith, tripsOfHist]
      exact ih hm

/-- **Applied pilots for histories.**  For a history as above that starts from the zero matrix and does
    not raise: `station_ids` is still the registration order; every cell of the final matrix located by
    station id is the spec of the submissions made in the loop trips (restores and swaps contribute
    nothing and lose nothing: a multi-period schedule submitted before a restore / swap stays in force
    until a later SUBMISSION overwrites it); and in the `k`-th loop trip every EVSE received, by station
    id, `pilotAt` of the submissions made up to and including that trip. -/
theorem hist_applied_eq_spec {stations : List String} (hn : stations.Nodup) (hpos : 0 < stations.length)
    (w : Nat) (hs : List (HStep K)) (ids' : List String) (m' : Mat K) (cols : List (List (String × K)))
    (hrun : runHist stations (Mat.zeros stations.length w) hs = .ok (ids', m', cols)) :
    ids' = stations
    ∧ m'.WF stations.length
    ∧ (∀ st τ, getById ids' m' st τ = pilotAt stations (subsOf ((tripsOfHist hs).map Prod.fst)) st τ)
    ∧ cols.length = (tripsOfHist hs).length
    ∧ ∀ k (hk : k < (tripsOfHist hs).length), cols[k]? =
        some (stations.map fun st =>
          (st, pilotAt stations (subsOf (((tripsOfHist hs).take (k + 1)).map Prod.fst)) st
                 (tripsOfHist hs)[k].1.t)) := by
  rw [hist_eq_trips hpos (zeros_wf _ _)] at hrun
  cases hr : runTrips stations (Mat.zeros stations.length w) (tripsOfHist hs) with
  | error e => rw [hr] at hrun; cases hrun
  | ok r =>
    obtain ⟨m2, cols2⟩ := r
    rw [hr] at hrun
    simp only [histOfTrips] at hrun
    obtain ⟨rfl, rfl, rfl⟩ : stations = ids' ∧ m2 = m' ∧ _ = cols := by simpa using hrun
    obtain ⟨k1, k2, k3, k4⟩ := trips_applied_eq_spec hn w _ m2 cols2 hr
    refine ⟨rfl, k1, fun st τ => k2 st τ, by simp [k3], ?_⟩
    intro k hk
    rw [List.getElem?_map, k4 k hk]
    simp only [Option.map_some, Option.some.injEq]
    exact List.map_prod_left_eq_zip.symm

/-- the scenario class of the seeds: ids registered in non-sorted order, a 4-period schedule at 0 with a
    different row per station, a restore after period 0, a scheduler swap after period 1, an empty
    schedule at 2: the old schedule is what the EVSEs receive in all four periods, by id -/
example :
    runHist ["n", "e"] (Mat.zeros 2 1 : Mat ℤ)
      [.trip ⟨0, some 3, some [("n", [8, 8, 8, 8]), ("e", [16, 17, 18, 19])]⟩ 4, .restore,
       .trip ⟨1, some 3, none⟩ 4, .swap, .trip ⟨2, some 3, some []⟩ 4, .restore, .swap,
       .trip ⟨3, none, none⟩ 4]
    = .ok (["n", "e"], ⟨[[8, 8, 8, 8], [16, 17, 18, 19]], 4⟩,
           [[("n", 8), ("e", 16)], [("n", 8), ("e", 17)], [("n", 8), ("e", 18)], [("n", 8), ("e", 19)]]) := by
  rfl

/-- why the key order of the save / restore matters (`jsonKeyOrder` = identity in the code: `json.dump`
    without `sort_keys`): were the keys written in another order — here reversed — while the rows stay
    positional, station "e" would receive the pilots scheduled for "n" after the restore -/
example :
    runHistWith List.reverse ["n", "e"] (Mat.zeros 2 1 : Mat ℤ)
      [.trip ⟨0, some 1, some [("n", [8, 8]), ("e", [16, 17])]⟩ 2, .restore, .trip ⟨1, none, none⟩ 2]
    = .ok (["e", "n"], ⟨[[8, 8], [16, 17]], 2⟩, [[("n", 8), ("e", 16)], [("e", 8), ("n", 17)]]) := by
  rfl

end Acn.C04
