/-
  C15, end to end with C20: `acndata_events.generate_events` through the REAL client path
  (`DataClient.get_sessions_by_time` → pagination → `parse_dates` → `_convert_to_ev`).
  The client side is C20's (`collect` over a page chain, `parse_dates_faithful`, `same_instant`), the converter
  side is C15's (`convertDoc`, `arrival_departure_spec`).  Carrier: any ordered field with a floor.
-/
import AcnModel.SessionsE2E
import AcnProofs.Lemmas.SessionsE2E
import AcnProofs.C15

namespace Acn.C15
open Acn.HttpDate Acn.DataClient Acn.Sessions Acn.SessionsE2E Acn.SessionsL Acn.Evse

variable {K : Type} [Field K] [LinearOrder K] [IsStrictOrderedRing K] [FloorRing K]

/-- **End to end.**  Let the server answer the time-window query of `get_sessions_by_time(site,
    start, end)` by ANY finite chain of pages `ps` (any number of pages, any page sizes, empty
    pages included).  Whenever `generate_events` returns (i.e. builds its queue), then
    * it requested exactly the chain's URLs, starting with the time-window query, once each;
    * it produced exactly one EV — hence one `PluginEvent(ev.arrival, ev)` — per document the
      server sent, in server order;
    * each document carried a known `timezone`, RFC-1123 strings `connectionTime` /
      `disconnectTime` denoting instants `tc` / `td`, string ids, and its EV has those ids,
      `arrival = ⌊tc/(60·period)⌋ − ⌊start/(60·period)⌋` and
      `departure = ⌊td/(60·period)⌋ − ⌊start/(60·period)⌋` (after the `max_len` cap) — for
      every zone and offset rule (DST included), since the zone does not enter the instants. -/
theorem generate_events_end_to_end (zones : String → Option Zone) (base site : String)
    (start stop : Aware) (period V mp : K) (maxLen : Option Int) (bp : BattParams K) (ff : Bool)
    (fetch : String → Resp (RawSession K)) (fuel : Nat) (ps : List (Page (RawSession K)))
    (tr : Trace (Ev K)) (hp : 0 < period) (hs : 0 ≤ start.instant)
    (hchain : Chain base fetch
      (sessionsUrl base site (timeQuery (some start) (some stop) none false)) ps)
    (h : generateEvents zones base site start stop period V mp maxLen bp ff fetch fuel = .ok tr)
    (hstop : tr.stop = none) :
    validSite site = true ∧
    tr.urls = runUrls base (sessionsUrl base site (timeQuery (some start) (some stop) none false)) ps ∧
    List.Forall₂ (fun r e =>
      ∃ zname z sc tc sd td sid sp, Denotes zones r zname z sc tc sd td sid sp ∧
        e.session = sid ∧ e.station = sp ∧ e.estDeparture = e.departure ∧
        (0 ≤ tc → e.arrival =
          ⌊((tc : Int) : K) / (60 * period)⌋ - ⌊((start.instant : Int) : K) / (60 * period)⌋) ∧
        (0 ≤ td → e.departure = capDeparture e.arrival
          (⌊((td : Int) : K) / (60 * period)⌋ - ⌊((start.instant : Int) : K) / (60 * period)⌋) maxLen) ∧
        (tc ≤ td → (∀ L, maxLen = some L → 0 ≤ L) → e.arrival ≤ e.departure))
      (ps.flatMap (·.items)) tr.items ∧
    pluginEvents tr.items = tr.items.map (fun e => (e.arrival, e.session)) ∧
    (pluginEvents tr.items).length = (ps.flatMap (·.items)).length := by
  obtain ⟨hv, htr⟩ := (generateEvents_ok_iff hp).1 h
  have hsK : (0 : K) ≤ ((start.instant : Int) : K) := by exact_mod_cast hs
  obtain ⟨hurls, hall⟩ := collect_ok_forall₂ _ hchain fuel tr htr.symm hstop
  refine ⟨hv, hurls, hall.imp ?_, rfl, by simp [pluginEvents, hall.length_eq]⟩
  intro r e hre
  obtain ⟨zname, z, sc, tc, sd, td, sid, sp, hden, hconv⟩ := convRaw_ok hre
  obtain ⟨hs1, hs2, he, ha, hd⟩ := convertDoc_floor hp hsK hconv
  exact ⟨zname, z, sc, tc, sd, td, sid, sp, hden, hs1, hs2, he,
    fun htc => ha (Int.cast_nonneg htc), fun htd => hd (Int.cast_nonneg htd),
    fun hcd hL => order_preserving _ _ period V mp maxLen bp ff e hp hL (Int.cast_le.2 hcd) hconv⟩

/-- what a well-formed ACN-Data session document is for the converter: a known zone, RFC-1123
    connection / disconnection strings with `connect ≤ disconnect`, a non-negative energy, ids that
    are not themselves dates, and no malformed time-series stamp -/
def WellFormedRaw (zones : String → Option Zone) (r : RawSession K) : Prop :=
  ∃ zname z sc tc sd td sid sp, Denotes zones r zname z sc tc sd td sid sp ∧ tc ≤ td ∧ 0 ≤ r.kWh ∧
    parseRfc1123 sid = none ∧ parseRfc1123 sp = none ∧
    ∀ k l, (k, Val.ts l) ∈ r.fields → ∀ s ∈ l, parseRfc1123 s ≠ none

/-- **End to end, total** (default batteries): for a valid site, ANY finite page chain of well-formed
    documents and enough fuel for its pages, `generate_events` does return — nothing on the way
    (site check, pagination, `parse_dates`, conversion, `Battery` constructor) raises — so the
    conclusions of `generate_events_end_to_end` hold for it unconditionally. -/
theorem generate_events_end_to_end_total (zones : String → Option Zone) (base site : String)
    (start stop : Aware) (period V mp : K) (maxLen : Option Int) (ff : Bool)
    (fetch : String → Resp (RawSession K)) (fuel : Nat) (ps : List (Page (RawSession K)))
    (hp : 0 < period) (hm : 0 ≤ mp) (hL : ∀ L, maxLen = some L → 0 ≤ L)
    (hsite : validSite site = true)
    (hchain : Chain base fetch
      (sessionsUrl base site (timeQuery (some start) (some stop) none false)) ps)
    (hfuel : ps.length ≤ fuel)
    (hdocs : ∀ p ∈ ps, ∀ r ∈ p.items, WellFormedRaw zones r) :
    ∃ tr, generateEvents zones base site start stop period V mp maxLen defaultParams ff fetch fuel
        = .ok tr ∧ tr.stop = none ∧ tr.items.length = (ps.flatMap (·.items)).length := by
  refine ⟨_, (generateEvents_ok_iff hp).2 ⟨hsite, rfl⟩, ?_⟩
  have htot : ∀ p ∈ ps, ∀ r ∈ p.items, ∃ e,
      convRaw zones (Capstone.periodOf period ((start.instant : Int) : K)) period V mp maxLen
        defaultParams ff r = .ok e := by
    intro p hp' r hr
    obtain ⟨zname, z, sc, tc, sd, td, sid, sp, hden, hcd, hk, hsid, hsp, hts⟩ := hdocs p hp' r hr
    have hcd' : ((tc : Int) : K) ≤ ((td : Int) : K) := by exact_mod_cast hcd
    obtain ⟨e, he⟩ := default_conversion_total
      (⟨((tc : Int) : K), ((td : Int) : K), r.kWh, sid, sp⟩ : Sessions.Doc K)
      (Capstone.periodOf period ((start.instant : Int) : K)) period V mp maxLen ff hp hk hm hL hcd'
    exact ⟨e, convRaw_of_denotes hden hsid hsp hts he⟩
  have hstop := collect_total _ hchain fuel hfuel htot
  refine ⟨hstop, ?_⟩
  exact ((collect_ok_forall₂ _ hchain fuel _ rfl hstop).2).length_eq.symm

/-! non-vacuity: a two-page server, a Los Angeles document across the 2019 spring-forward instant and
    a UTC document capped by `max_len = 12`, evaluated through the whole composed model over ℚ -/

def exZones : String → Option Zone := fun n =>
  if n == "America/Los_Angeles" then some { init := -28800, trans := [(1552212000, -25200)] }
  else if n == "UTC" then some { init := 0, trans := [] } else none

def exStart : Aware := toZone (fun _ => 0) 1552204800
def exStop : Aware := toZone (fun _ => 0) 1552291200
def exUrl : String := sessionsUrl "b/" "caltech" (timeQuery (some exStart) (some exStop) none false)

def exRaw (sid c d tz : String) (kwh : ℚ) : RawSession ℚ :=
  { fields := [("_id", .str "x"), ("connectionTime", .str c), ("disconnectTime", .str d),
               ("doneChargingTime", .other), ("kWhDelivered", .other), ("sessionID", .str sid),
               ("spaceID", .str "CA-319"), ("timezone", .str tz)], kWh := kwh }

def exP1 : Page (RawSession ℚ) :=
  ⟨[exRaw "s1" "Sun, 10 Mar 2019 09:59:59 GMT" "Sun, 10 Mar 2019 10:00:01 GMT" "America/Los_Angeles" 3], .next "p2"⟩
def exP2 : Page (RawSession ℚ) :=
  ⟨[exRaw "s2" "Sun, 10 Mar 2019 10:00:00 GMT" "Sun, 10 Mar 2019 18:30:00 GMT" "UTC" 12], .last⟩

def exFetch : String → Resp (RawSession ℚ) := fun u =>
  if u == exUrl then .page exP1 else if u == "b/p2" then .page exP2 else .fail .keyError

set_option maxRecDepth 4000 in
example :
    (match generateEvents exZones "b/" "caltech" exStart exStop (5 : ℚ) 208 7 (some 12)
        (defaultParams : BattParams ℚ) false exFetch 5 with
     | .ok tr => tr.stop.isNone && (tr.items.map (fun e => (e.session, e.arrival, e.departure))
          == [("s1", 23, 24), ("s2", 24, 36)]) && tr.urls == [exUrl, "b/p2"]
     | .error _ => false) = true := by
  decide +kernel

/-- the hypotheses of `generate_events_end_to_end` hold for this two-page server -/
example : Chain "b/" exFetch exUrl [exP1, exP2] :=
  Run.cons (h := "p2") (by unfold exFetch; rw [if_pos (by decide +kernel)]) rfl
    (Run.last (by unfold exFetch; rw [if_neg (by decide +kernel), if_pos (by decide +kernel)]) rfl)

/-- the documents of the example server are well-formed in the sense of the totality theorem -/
example : WellFormedRaw exZones
    (exRaw "s1" "Sun, 10 Mar 2019 09:59:59 GMT" "Sun, 10 Mar 2019 10:00:01 GMT" "America/Los_Angeles" 3) :=
  ⟨"America/Los_Angeles", { init := -28800, trans := [(1552212000, -25200)] },
   "Sun, 10 Mar 2019 09:59:59 GMT", 1552211999, "Sun, 10 Mar 2019 10:00:01 GMT", 1552212001, "s1", "CA-319",
   ⟨by rfl, by rfl, by rfl, by decide +kernel, by rfl, by decide +kernel, by rfl, by rfl⟩,
   by norm_num, by norm_num [exRaw], by decide +kernel, by decide +kernel,
   by intro k l h; simp [exRaw] at h⟩

end Acn.C15
