/-
  C01, continued — simulations that are INTERRUPTED (the scheduler raises in period `k`), possibly SAVED
  (`to_json` → `Simulator.from_json` → `update_scheduler`) and RESUMED (`run()` again), once or twice.

  Every clause of C01 is stated for the COMPLETED simulation (`EventCore.Completed`, Lemmas/EventCoreFinal.lean:
  queue empty, no recompute request left, final iteration = horizon, every station vacant, each session exactly one
  plug-in entry at its arrival and exactly one unplug entry at its departure, `event_history` key-sorted and a
  permutation of the scenario's events, `ev_history` keys = the sessions in plug-in order); what an abort leaves
  is `EventCore.Aborted` (Lemmas/EventCoreAbort.lean).

  All for every carrier `K`, every `Valid` configuration, every scheduler whose uninterrupted run raises nothing, every
  raising period(s) and every fuel `n ≥ horizon` — by where a run with a failing scheduler stops and how the failed
  period is retried (`Sim.crash_cases`, Lemmas/ResumeProj.lean, from `resume_run`) and the loop invariant of C01.  The
  canonical (stable-sort) queue; the heap's tie order is covered for uninterrupted runs by `C01.sim_runQ_heap_C01` and
  for resumed runs by the correspondence (model run over `heapQ`).
  (Listed in `LEAN_MODULES` of harness/props/C01.py.)
-/
import AcnProofs.Lemmas.ResumeProj
import AcnProofs.Lemmas.EventCoreFinal
import AcnProofs.Lemmas.EventCoreAbort
import AcnProofs.Lemmas.RegistryJsonLawful

set_option linter.unusedSectionVars false

namespace Acn.C01Resume
open Acn Acn.EventCore Acn.Sim Acn.Registry

section
variable {K : Type} [Add K] [Sub K] [Mul K] [Div K] [Neg K] [LT K] [LE K]
  [DecidableLT K] [DecidableLE K] [OfNat K 0] [OfNat K 1] [NatCast K] [HasExp K]

theorem completed_of_obsEq {cfg : EventCore.Cfg} {s t : Sim.State K} (h : ObsEq s t) (hc : Completed cfg s.core) :
    Completed cfg t.core := by
  rw [h.eq_withInv]
  exact ⟨hc.queue_empty, hc.resolve, hc.final_iteration, hc.vacant, hc.plugged_once, hc.unplugged_once, hc.sorted,
    hc.complete, hc.evh, hc.evh_perm⟩

/-- **uninterrupted_completed** — a `Valid` scenario whose run raises nothing (the scheduler does not fail and only
    returns schedules the EVSEs accept) ends in a `Completed` state, for every fuel `n ≥ horizon`. -/
theorem uninterrupted_completed (cfg : Sim.Cfg K) (sched : View K → Except EventCore.Err (Schedule K))
    (hv : Valid cfg.core) (n : Nat) (hn : horizon cfg.core ≤ n) (hok : (run cfg sched n (Sim.init cfg)).2 = none) :
    Completed cfg.core (run cfg sched n (Sim.init cfg)).1.core :=
  completed_of_inv hv (run_inv_horizon cfg sched hv hn hok)

/-- **exactly_once_across_resume** — crash in period `k`, `run()` again on the same object. -/
theorem exactly_once_across_resume (cfg : Sim.Cfg K) (sched : View K → Except EventCore.Err (Schedule K))
    (hv : Valid cfg.core) (k n : Nat) (hn : horizon cfg.core ≤ n) (hok : (run cfg sched n (Sim.init cfg)).2 = none) :
    let r1 := run cfg (failAt k sched) n (Sim.init cfg)
    let r := run cfg sched n (Sim.init cfg)
    let r2 := run cfg sched (n - k) r1.1
    (r1 = r ∧ Completed cfg.core r1.1.core) ∨
    (r1.2 = some EventCore.Err.schedulerFailed ∧ r1.1.core.iter = k ∧ Fresh r1.1.core ∧
      r2.2 = none ∧ Completed cfg.core r2.1.core ∧ ObsEq r2.1 r.1) := by
  have hc := uninterrupted_completed cfg sched hv n hn hok
  rcases crash_cases cfg sched (sessionsOK_of_valid hv) k n with h | h
  · exact Or.inl ⟨h, h ▸ hc⟩
  · exact Or.inr ⟨h.failed, h.iter, h.fresh, h.ok hok, completed_of_obsEq h.obs.1.symm hc, h.obs.1⟩

/-- **aborted_state_spec** — the state the abort leaves: for every `Valid` configuration, scheduler, raising period
    `k` and fuel, if the uninterrupted run raises nothing then the interrupted run raises nothing but `SchedulerFailed`,
    and the state it leaves is `Aborted cfg.core k` (by `exactly_once_across_resume_json` this is also the state a JSON
    round trip hands to the second `run()`). -/
theorem aborted_state_spec (cfg : Sim.Cfg K) (sched : View K → Except EventCore.Err (Schedule K))
    (hv : Valid cfg.core) (k n : Nat) (hok : (run cfg sched n (Sim.init cfg)).2 = none) :
    let r1 := run cfg (failAt k sched) n (Sim.init cfg)
    ∀ e, r1.2 = some e → e = EventCore.Err.schedulerFailed ∧ Aborted cfg.core k r1.1.core := by
  intro r1 e he
  have hp := run_failAt_proj cfg sched k n (Sim.init cfg) hok
  have hi : (Sim.init cfg).core = EventCore.init cfg.core := rfl
  rw [hi] at hp
  exact run_failSched_spec hv k n 0 (EventCore.init cfg.core) (init_inv hv) r1.1.core e
    (by rw [hp]; exact Prod.ext rfl he)

/-- **exactly_once_across_resume_json** — crash in period `k`, `to_json`, `from_json`, `update_scheduler`, `run()`:
    for every lawful scalar codec the aborted state can be dumped and loaded, the decoded simulator `s'` IS the aborted
    one — no pending event is dropped or duplicated, the histories, the occupancy and the period counter are the
    aborted simulator's — and the simulation completed from `s'` satisfies every clause of C01. -/
theorem exactly_once_across_resume_json {sh : RegistrySim.Show K} {rd : RegistrySim.Read K} (hl : RegistrySim.Lawful sh rd)
    (cfg : Sim.Cfg K) (sched : View K → Except EventCore.Err (Schedule K)) (hv : Valid cfg.core) (k n : Nat)
    (hn : horizon cfg.core ≤ n) (hok : (run cfg sched n (Sim.init cfg)).2 = none) :
    let r1 := run cfg (failAt k sched) n (Sim.init cfg)
    let r := run cfg sched n (Sim.init cfg)
    ∃ ctx s', dump (RegistrySim.encode sh cfg r1.1) RegistrySim.root = .ok ctx ∧ load ctx RegistrySim.root = .ok ctx ∧
      RegistrySim.decode rd cfg (RegistrySim.ambOf r1.1) ctx.get = some s' ∧ s' = r1.1 ∧
      s'.core.pending = r1.1.core.pending ∧ s'.core.iter = r1.1.core.iter ∧ s'.core.eventHist = r1.1.core.eventHist ∧
      s'.core.evHist = r1.1.core.evHist ∧ s'.core.occ = r1.1.core.occ ∧
      ((r1 = r ∧ Completed cfg.core s'.core) ∨
       (r1.2 = some EventCore.Err.schedulerFailed ∧ s'.core.iter = k ∧ Fresh s'.core ∧
        (run cfg sched (n - k) s').2 = none ∧ Completed cfg.core (run cfg sched (n - k) s').1.core ∧
        ObsEq (run cfg sched (n - k) s').1 r.1)) := by
  intro r1 r
  obtain ⟨ctx, h1, h2, h3⟩ := (RegistrySim.Calls.call (failAt k sched) n .init).roundtrip hl hv
  exact ⟨ctx, _, h1, h2, h3, rfl, rfl, rfl, rfl, rfl, rfl, exactly_once_across_resume cfg sched hv k n hn hok⟩

/-- **exactly_once_across_resume_json_text** — the instance for the MODELLED text layer of CPython's `json`
    (`AcnModel/JsonText.lean`, `jsonShow` / `jsonRead`), for every rendering of doubles that round-trips. -/
theorem exactly_once_across_resume_json_text (d : RegistryJson.DoubleText K) (hd : d.RoundTrip)
    (cfg : Sim.Cfg K) (sched : View K → Except EventCore.Err (Schedule K)) (hv : Valid cfg.core) (k n : Nat)
    (hn : horizon cfg.core ≤ n) (hok : (run cfg sched n (Sim.init cfg)).2 = none) :
    let r1 := run cfg (failAt k sched) n (Sim.init cfg)
    ∃ ctx s', dump (RegistrySim.encode (RegistryJson.jsonShow d) cfg r1.1) RegistrySim.root = .ok ctx ∧
      RegistrySim.decode (RegistryJson.jsonRead d) cfg (RegistrySim.ambOf r1.1) ctx.get = some s' ∧
      s'.core.pending = r1.1.core.pending ∧
      (r1.2 = some EventCore.Err.schedulerFailed →
        (run cfg sched (n - k) s').2 = none ∧ Completed cfg.core (run cfg sched (n - k) s').1.core) := by
  obtain ⟨ctx, h1, _, h3⟩ := (RegistrySim.Calls.call (failAt k sched) n .init).roundtrip (RegistryJson.jsonLawful d hd) hv
  refine ⟨ctx, _, h1, h3, rfl, fun hf => ?_⟩
  have hc := Crashed.of_error (sessionsOK_of_valid hv) hok hf
  exact ⟨hc.ok hok, completed_of_obsEq hc.obs.1.symm (uninterrupted_completed cfg sched hv n hn hok)⟩

/-- **exactly_once_across_two_resumes** — two interruptions.  The scheduler raises in period `k₁` and — after the
    resume — again in period `k₂ > k₁`; each time `run()` is called again on the state the abort left.  If both failures
    fire, the third `run()` raises nothing and the simulation it completes satisfies every clause of C01 (and is
    observably the uninterrupted one). -/
theorem exactly_once_across_two_resumes (cfg : Sim.Cfg K) (sched : View K → Except EventCore.Err (Schedule K))
    (hv : Valid cfg.core) (k₁ k₂ n : Nat) (hlt : k₁ < k₂) (hn : horizon cfg.core ≤ n)
    (hok : (run cfg sched n (Sim.init cfg)).2 = none) :
    let r1 := run cfg (failAt k₁ (failAt k₂ sched)) n (Sim.init cfg)
    let r2 := run cfg (failAt k₂ sched) (n - k₁) r1.1
    let r3 := run cfg sched (n - k₂) r2.1
    let r := run cfg sched n (Sim.init cfg)
    r1.2 = some EventCore.Err.schedulerFailed → r1.1.core.iter = k₁ → r2.2 = some EventCore.Err.schedulerFailed →
    r2.1.core.iter = k₂ ∧ Fresh r2.1.core ∧ r3.2 = none ∧ Completed cfg.core r3.1.core ∧ ObsEq r3.1 r.1 := by
  simp only []
  intro hf1 hi1 hf2
  have hS := sessionsOK_of_valid hv
  -- the first crash, against the run `q` that fails in period `k₂` only
  rcases crash_cases cfg (failAt k₂ sched) hS k₁ n with hA | hA
  · -- it did not fire: `r1 = q` raised, so `q` crashed in period `k₂ ≠ k₁`
    have hq := (Crashed.of_error hS hok (hA ▸ hf1)).iter
    rw [← hA] at hq
    omega
  · -- `r2` is `q` up to the record and `q` raised, so it crashed in period `k₂`; the third run follows `q`'s resumption
    have hq := Crashed.of_error hS hok (hA.obs.2 ▸ hf2)
    have h3 := (run_obs cfg sched (n - k₂) hA.obs.1.symm).trans hq.obs
    exact ⟨hA.obs.1.symm.iter.trans hq.iter, hA.obs.1.symm.fresh hq.fresh, h3.2.trans hok,
      completed_of_obsEq h3.1.symm (uninterrupted_completed cfg sched hv n hn hok), h3.1⟩

/-- **exactly_once_across_two_resumes_json_first** — as above, the FIRST hand-over through JSON: the state the first
    abort left is written, loaded and decoded (every lawful codec); the decoded simulator is run with the scheduler that
    still fails in `k₂`, aborts there, and `run()` on that state completes the simulation with every clause of C01. -/
theorem exactly_once_across_two_resumes_json_first {sh : RegistrySim.Show K} {rd : RegistrySim.Read K}
    (hl : RegistrySim.Lawful sh rd) (cfg : Sim.Cfg K) (sched : View K → Except EventCore.Err (Schedule K))
    (hv : Valid cfg.core) (k₁ k₂ n : Nat) (hlt : k₁ < k₂) (hn : horizon cfg.core ≤ n)
    (hok : (run cfg sched n (Sim.init cfg)).2 = none) :
    let r1 := run cfg (failAt k₁ (failAt k₂ sched)) n (Sim.init cfg)
    ∃ ctx s', dump (RegistrySim.encode sh cfg r1.1) RegistrySim.root = .ok ctx ∧ load ctx RegistrySim.root = .ok ctx ∧
      RegistrySim.decode rd cfg (RegistrySim.ambOf r1.1) ctx.get = some s' ∧ s'.core.pending = r1.1.core.pending ∧
      (let r2 := run cfg (failAt k₂ sched) (n - k₁) s'
       let r3 := run cfg sched (n - k₂) r2.1
       r1.2 = some EventCore.Err.schedulerFailed → r1.1.core.iter = k₁ → r2.2 = some EventCore.Err.schedulerFailed →
       r3.2 = none ∧ Completed cfg.core r3.1.core) := by
  intro r1
  obtain ⟨ctx, h1, h2, h3⟩ := (RegistrySim.Calls.call (failAt k₁ (failAt k₂ sched)) n .init).roundtrip hl hv
  refine ⟨ctx, _, h1, h2, h3, rfl, ?_⟩
  intro r2 r3 hf1 hi1 hf2
  obtain ⟨_, _, h, hcpl, _⟩ := exactly_once_across_two_resumes cfg sched hv k₁ k₂ n hlt hn hok hf1 hi1 hf2
  exact ⟨h, hcpl⟩

end

/-! ### non-vacuity (ℚ): stations registered as `S9`, `S10` (not in alphabetical order); `a` on S9 [0,2), `b` on S9
    [2,4) (back-to-back hand-over in period 2), `c` on S10 [1,4); a recompute event at 3; `max_recompute = 2` -/
section Examples
local instance : HasExp ℚ := ⟨fun _ => 1⟩

private def exBatt : Battery.Batt ℚ :=
  { capacity := 40, charge := 5, init := 5, maxPower := 7, power := 0, twoStage := false, noiseLevel := 0,
    ts := 4/5, cmode := .continuous }
private def exEv (id st : String) (a d : Int) : Evse.Ev ℚ :=
  { session := id, station := st, arrival := a, departure := d, estDeparture := d, requested := 10,
    delivered := 0, rate := 0, batt := exBatt }
private def exCfg : Sim.Cfg ℚ :=
  { stations := [⟨"S9", .cont 0 (some 32), 208⟩, ⟨"S10", .cont 0 (some 32), 240⟩],
    evs := [exEv "b" "S9" 2 4, exEv "a" "S9" 0 2, exEv "c" "S10" 1 4], recomputes := [(3, "r0")], maxRecompute := some 2,
    period := 5, atolCont := 1/1000, atolDeadband := 1/1000, atolFinite := 1/1000, fullEps := 1/1000, noise := [] }
private def exSched : View ℚ → Except EventCore.Err (Schedule ℚ) := scripted [(1, some [("S9", [8, 9])])] [("S10", [16])]

theorem exCfg_valid : Valid exCfg.core := by decide +kernel

example : horizon exCfg.core = 5 := by decide

theorem exRun_ok : (run exCfg exSched 8 (Sim.init exCfg)).2 = none := by decide +kernel

theorem exRun_fail2 : (run exCfg (failAt 2 exSched) 8 (Sim.init exCfg)).2 = some EventCore.Err.schedulerFailed := by
  decide +kernel

example : (run exCfg exSched 8 (Sim.init exCfg)).2 = none := exRun_ok

/-- raising in the HAND-OVER period 2 (`a` leaves S9, `b` arrives there): the aborted state has processed both events,
    holds `b`'s follow-up unplug (4) in the queue and nothing of period 2; the second `run()` completes with `b`
    plugged once (2) and unplugged once (4) -/
example : (run exCfg (failAt 2 exSched) 8 (Sim.init exCfg)).2 = some EventCore.Err.schedulerFailed ∧
    (run exCfg (failAt 2 exSched) 8 (Sim.init exCfg)).1.core.pending =
      [⟨3, .recompute, "r0"⟩, ⟨4, .unplug, "c"⟩, ⟨4, .unplug, "b"⟩] ∧
    (run exCfg (failAt 2 exSched) 8 (Sim.init exCfg)).1.core.eventHist.map (·.ts) = [0, 1, 2, 2] ∧
    (run exCfg exSched 6 (run exCfg (failAt 2 exSched) 8 (Sim.init exCfg)).1).1.core.eventHist =
      [⟨0, .plugin, "a"⟩, ⟨1, .plugin, "c"⟩, ⟨2, .unplug, "a"⟩, ⟨2, .plugin, "b"⟩, ⟨3, .recompute, "r0"⟩,
       ⟨4, .unplug, "c"⟩, ⟨4, .unplug, "b"⟩] ∧
    (run exCfg exSched 6 (run exCfg (failAt 2 exSched) 8 (Sim.init exCfg)).1).1.core.iter = 5 := by
  decide +kernel

/-- `aborted_state_spec` on this instance: the queue the abort in the hand-over period 2 leaves is the queue of the
    loop head of period 3 — `b`'s unplug event (4) is in it, `b`'s plug-in event (2) is not -/
example : unplugEv ⟨"b", "S9", 2, 4⟩ ∈ (run exCfg (failAt 2 exSched) 8 (Sim.init exCfg)).1.core.pending ∧
    plugEv ⟨"b", "S9", 2, 4⟩ ∉ (run exCfg (failAt 2 exSched) 8 (Sim.init exCfg)).1.core.pending := by
  obtain ⟨_, hA⟩ := aborted_state_spec exCfg exSched exCfg_valid 2 8 exRun_ok _ exRun_fail2
  refine ⟨(hA.pend_mem _).2 (Or.inr (Or.inl ⟨⟨"b", "S9", 2, 4⟩, by decide, rfl, by decide, by decide⟩)), fun h => ?_⟩
  have := ((hA.pend_mem _).1 h).le_ts
  simp [plugEv] at this

/-- the theorem on this instance: the second disjunct -/
example : Completed exCfg.core (run exCfg exSched 6 (run exCfg (failAt 2 exSched) 8 (Sim.init exCfg)).1).1.core := by
  rcases exactly_once_across_resume exCfg exSched exCfg_valid 2 8 (by decide) exRun_ok with ⟨h, _⟩ | h
  · have h2 := exRun_fail2
    rw [h, exRun_ok] at h2
    cases h2
  · exact h.2.2.2.2.1

/-- two interruptions: period 0 (arrival of `a`) and the LAST period 4 (the final unplugs); both fire -/
example : (run exCfg (failAt 0 (failAt 4 exSched)) 8 (Sim.init exCfg)).2 = some EventCore.Err.schedulerFailed ∧
    (run exCfg (failAt 0 (failAt 4 exSched)) 8 (Sim.init exCfg)).1.core.iter = 0 ∧
    (run exCfg (failAt 4 exSched) 8 (run exCfg (failAt 0 (failAt 4 exSched)) 8 (Sim.init exCfg)).1).2 =
      some EventCore.Err.schedulerFailed ∧
    (run exCfg exSched 4 (run exCfg (failAt 4 exSched) 8
      (run exCfg (failAt 0 (failAt 4 exSched)) 8 (Sim.init exCfg)).1).1).1.core.iter = 5 := by
  decide +kernel

end Examples

end Acn.C01Resume
