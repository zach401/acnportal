/-
  C17 — tariff lookup is total, unambiguous and aligned with simulation time.

  Property theorems only (general part).  The obligations about the regenerated data of each
  of the five bundled files (`total_unambiguous_<file>`, `breakpoints_ok_<file>`, `loads_<file>`,
  `tariff_total_<file>`, `tariff_spec_<file>`) live in one module per file, `AcnProofs/Lemmas/TariffFile_<file>.lean`,
  so that a file whose data breaks an obligation does not take the other files' theorems down
  with it.
-/
import AcnModel.Tariff
import AcnProofs.Lemmas.TariffCalendar
import AcnProofs.Lemmas.TariffLookup
import AcnProofs.Lemmas.TariffSplit
import AcnProofs.Lemmas.TariffDecimal
import AcnModel.TariffPeriod
import AcnModel.TariffMemo
import AcnProofs.Lemmas.TariffRound
import AcnProofs.Lemmas.TariffMemo
import Mathlib.Tactic

namespace Acn.C17
open Acn.Tariff

/-! ### loader -/

/-- A season that wraps the new year is valid exactly on `[start, 12-31] ∪ [01-01, end]`, once:
    after the loader's split and sort, the number of valid schedules on any (month, day) of the
    year and weekday equals the number of file entries whose mask contains the weekday and whose
    season — wrap-around included — contains the date. -/
theorem wrap_split_spec {K : Type} (l : List (Schedule K)) (md : Nat × Nat) (wd : Nat)
    (h1 : mdLe (1, 1) md = true) (h2 : mdLe md (12, 31) = true) :
    countValid (sortByStart (splitWrap l)) md wd =
      (l.filter (fun s => s.mask.getD wd false && inSeason s md)).length := by
  rw [countValid_perm (sortByStart_perm _), countValid_eq_countP, ← List.countP_eq_length_filter]
  unfold splitWrap
  rw [List.countP_append, List.countP_map, List.countP_map, List.countP_filter]
  simp only [Function.comp_def]
  induction l with
  | nil => rfl
  | cons s l ih =>
    simp only [List.countP_cons]
    have := split_pointwise s md wd h1 h2
    omega

example : countValid (sortByStart (splitWrap
    [({ id := "W", start := (11, 1), stop := (4, 30), mask := [true, true, true, true, true, true, true],
        tariffs := [(0, (1 : Rat))], demand := 0 } : Schedule Rat)])) (1, 15) 2 = 1 := by decide +kernel

/-! ### breakpoint lookup -/

/-- For ANY breakpoint list that is strictly increasing and starts at 0 and any time of day
    `x ≥ 0` (in particular every `x ∈ [0, 24)`), `lookup` succeeds and returns the rate of the
    greatest breakpoint ≤ `x`. -/
theorem lookup_spec {K : Type} [LT K] [DecidableLT K] (l : List (Rat × K)) (hs : StrictTimes l)
    (p0 : Rat × K) (hhead : l.head? = some p0) (h0 : p0.1 = 0) (x : Rat) (hx : 0 ≤ x) :
    ∃ p ∈ l, lookup l x = .ok p.2 ∧ p.1 ≤ x ∧ ∀ q ∈ l, q.1 ≤ x → q.1 ≤ p.1 := by
  have hmem : p0 ∈ l := List.mem_of_mem_head? (by rw [hhead]; rfl)
  obtain ⟨p, hp⟩ := find_rev_exists l x p0 hmem (by rw [h0]; exact hx)
  obtain ⟨hpl, hpx, hmax⟩ := find_rev_spec l hs x p hp
  refine ⟨p, hpl, ?_, hpx, hmax⟩
  unfold lookup
  rw [sortPairs_of_strict l hs, hp]

example : lookup [((0 : Rat), (5 : Rat)), (17 / 2, 7), (43 / 2, 5)] (17 / 2) = .ok 7 := by decide +kernel
example : StrictTimes [((0 : Rat), (5 : Rat)), (17 / 2, 7), (43 / 2, 5)] := by
  simp [StrictTimes]; norm_num

/-! ### the `Decimal` hour value (tou_tariff.py:117-121) -/

/-- rounding bound of the model of `decimal` (any precision `p`, half-even): the result of rounding
    `num/den` is within half a unit of its last place, `|roundQ p num den − num/den| ≤ ½·10^e` with
    `e` the exponent of the result, and `e ≤ digits(num) − digits(den) − p + 1`, i.e. with
    `p = 28` at most `5·10^(E−28)` for a value of decimal exponent `E`. -/
theorem decimal_rounding_bound (p num den : Nat) (hden : 0 < den) (hnum : num ≠ 0) :
    |(roundQ p num den).toRat - (num : ℚ) / den| ≤ 1 / 2 * (10 : ℚ) ^ (roundQ p num den).e ∧
    (roundQ p num den).e ≤ (ndigits num : ℤ) - ndigits den - p + 1 :=
  ⟨roundQ_err p num den hden, roundQ_exp_le p num den hnum⟩

/-- for every whole second `h:m:s` that is not a whole minute, `Decimal(h) + Decimal(m)/60 +
    Decimal(s)/3600` is within 1.2·10⁻²⁶ of `(3600h + 60m + s)/3600` (`target_hour_close` has the
    same bound for every second after midnight, whole minutes included) -/
theorem decimal_hour_close (h m s : Nat) (hh : h < 24) (hm : m < 60) (hs0 : 1 ≤ s) (hs : s < 60) :
    |(targetHour h m s).toRat - (secOfDay h m s : ℚ) / 3600| ≤ 12 / 10 ^ 27 :=
  target_hour_close h m s hh hm hs (by unfold secOfDay; omega)

/-- for ALL 86 400 seconds of the day, comparing the `Decimal` hour value with a half-hour
    breakpoint `k/2` is the same as comparing whole seconds.  On the 48 half hours the value must be
    exact: kernel-checked table.  Every other second is at least 1/3600 h away from a half hour and
    the value is within 1.2·10⁻²⁶ of the exact one. -/
theorem decimal_no_flip (h m s : Nat) (hh : h < 24) (hm : m < 60) (hs : s < 60) (k : Nat) :
    (k : ℚ) / 2 ≤ (targetHour h m s).toRat ↔ 1800 * k ≤ secOfDay h m s := by
  by_cases hhalf : secOfDay h m s % 1800 = 0
  · have htab := flipOk_on_half_hours h hh
    rw [Bool.and_eq_true] at htab
    obtain ⟨rfl, rfl | rfl⟩ : s = 0 ∧ (m = 0 ∨ m = 30) := by unfold secOfDay at hhalf; omega
    · exact no_flip_of_flipOk h 0 0 htab.1 k
    · exact no_flip_of_flipOk h 30 0 htab.2 k
  · exact no_flip_of_close _ _ k
      (lt_of_le_of_lt (target_hour_close h m s hh hm hs (by omega)) (by norm_num)) hhalf

example : (targetHour 8 29 59).toRat < 17 / 2 ∧ (17 : ℚ) / 2 ≤ (targetHour 8 30 0).toRat := by
  decide +kernel

/-! ### schedule selection + lookup -/

/-- exactly one valid schedule ⇒ `_get_tariff_schedule` returns it -/
theorem select_of_count_one {K : Type} (l : List (Schedule K)) (md : Nat × Nat) (wd : Nat)
    (h : countValid l md wd = 1) :
    ∃ sch ∈ l, selectSchedule l md wd = .ok sch ∧
      (sch.mask.getD wd false && mdLe sch.start md && mdLe md sch.stop) = true := by
  unfold countValid at h
  unfold selectSchedule
  match hv : validSchedules l md wd, h with
  | [s], _ =>
    have hs : s ∈ validSchedules l md wd := by rw [hv]; exact List.mem_singleton.mpr rfl
    unfold validSchedules at hs
    rw [List.mem_filter] at hs
    exact ⟨s, hs.1, rfl, hs.2⟩

/-- more or fewer than one valid schedule ⇒ `get_tariff` raises -/
theorem select_error_of_count_ne_one {K : Type} (l : List (Schedule K)) (md : Nat × Nat) (wd : Nat)
    (h : countValid l md wd ≠ 1) : ∃ e, selectSchedule l md wd = .error e := by
  unfold countValid at h
  unfold selectSchedule
  match hv : validSchedules l md wd with
  | [] => exact ⟨_, rfl⟩
  | [s] => rw [hv] at h; simp at h
  | _ :: _ :: _ => exact ⟨_, rfl⟩

/-- `get_tariff` on a date with exactly one valid schedule whose breakpoints are in order returns
    the rate of the latest breakpoint at or before the (Decimal) hour value. -/
theorem get_tariff_spec {K : Type} [LT K] [DecidableLT K] (l : List (Schedule K))
    (md : Nat × Nat) (wd h m s : Nat) (hone : countValid l md wd = 1)
    (hbp : ∀ sch ∈ l, breakpointsOk sch = true) :
    ∃ sch ∈ l, selectSchedule l md wd = .ok sch ∧ ∃ p ∈ sch.tariffs,
      getTariff l md wd h m s = .ok p.2 ∧ p.1 ≤ (targetHour h m s).toRat ∧
      ∀ q ∈ sch.tariffs, q.1 ≤ (targetHour h m s).toRat → q.1 ≤ p.1 := by
  obtain ⟨sch, hmem, hsel, _⟩ := select_of_count_one l md wd hone
  have hb := hbp sch hmem
  simp only [breakpointsOk, Bool.and_eq_true] at hb
  obtain ⟨⟨hstrict, hzero⟩, _⟩ := hb
  have hx : 0 ≤ (targetHour h m s).toRat := by
    unfold Dec.toRat; split <;> positivity
  match hts : sch.tariffs, hzero with
  | p0 :: rest, hzero =>
    have h0 : p0.1 = 0 := by simpa [startsAtZeroB, hts] using hzero
    obtain ⟨p, hp, hl, hpx, hmax⟩ :=
      lookup_spec sch.tariffs (strict_of_strictTimesB _ hstrict) p0 (by rw [hts]; rfl) h0 _ hx
    refine ⟨sch, hmem, hsel, p, hp, ?_, hpx, hmax⟩
    unfold getTariff getTariffH
    rw [hsel]
    exact hl

/-- the same in whole seconds, for ALL 86 400 seconds of the day: with half-hour breakpoints the
    returned rate is that of the greatest breakpoint `k/2 h` with `1800·k ≤ seconds since midnight`.
    The 28-digit `Decimal` hour value cannot flip a comparison (`decimal_no_flip`). -/
theorem get_tariff_seconds_spec {K : Type} [LT K] [DecidableLT K] (l : List (Schedule K))
    (md : Nat × Nat) (wd h m s : Nat) (hone : countValid l md wd = 1)
    (hbp : ∀ sch ∈ l, breakpointsOk sch = true) (hh : h < 24) (hm : m < 60) (hs : s < 60) :
    ∃ sch ∈ l, selectSchedule l md wd = .ok sch ∧ ∃ p ∈ sch.tariffs, ∃ kp : Nat,
      getTariff l md wd h m s = .ok p.2 ∧ p.1 = (kp : ℚ) / 2 ∧ 1800 * kp ≤ secOfDay h m s ∧
      ∀ q ∈ sch.tariffs, ∀ kq : Nat, q.1 = (kq : ℚ) / 2 → 1800 * kq ≤ secOfDay h m s → kq ≤ kp := by
  obtain ⟨sch, hmem, hsel, p, hp, hget, hpx, hmax⟩ := get_tariff_spec l md wd h m s hone hbp
  have hb := hbp sch hmem
  simp only [breakpointsOk, Bool.and_eq_true, halfHoursB, List.all_eq_true, beq_iff_eq,
    decide_eq_true_eq] at hb
  obtain ⟨hden, hnn⟩ := hb.2 p hp
  -- `p.1` is a non-negative whole number of half hours: `p.1 = kp / 2`
  obtain ⟨kp, hkp⟩ : ∃ kp : ℕ, (kp : ℚ) / 2 = p.1 := by
    refine ⟨(p.1 * 2).num.toNat, ?_⟩
    rw [← Int.cast_natCast, Int.toNat_of_nonneg (Rat.num_nonneg.mpr (by linarith)),
      Rat.coe_int_num_of_den_eq_one hden]
    ring
  refine ⟨sch, hmem, hsel, p, hp, kp, hget, hkp.symm, ?_, ?_⟩
  · rw [← decimal_no_flip h m s hh hm hs, hkp]; exact hpx
  · intro q hq kq hqk hle
    have := hmax q hq (by rw [hqk]; exact (decimal_no_flip h m s hh hm hs kq).mpr hle)
    rw [hqk, ← hkp] at this
    have : (kq : ℚ) ≤ kp := by linarith
    exact_mod_cast this

/-- `get_tariff` at ANY instant `t` (seconds since the epoch, any sign, any year) of a tariff whose
    complete table has exactly one valid schedule everywhere and whose breakpoints are in order:
    the rate of the unique valid schedule at the latest breakpoint at or before the time of day. -/
theorem get_tariff_at_spec {K : Type} [LT K] [DecidableLT K] (l : List (Schedule K))
    (htab : ∀ md ∈ days366, ∀ wd < 7, countValid l md wd = 1)
    (hbp : ∀ sch ∈ l, breakpointsOk sch = true) (t : Int) :
    ∃ sch ∈ l, selectSchedule l (fieldsOf t).md (fieldsOf t).wd = .ok sch ∧ ∃ p ∈ sch.tariffs, ∃ kp : Nat,
      getTariffAt l t = .ok p.2 ∧ p.1 = (kp : ℚ) / 2 ∧
      1800 * kp ≤ secOfDay (fieldsOf t).h (fieldsOf t).m (fieldsOf t).s ∧
      ∀ q ∈ sch.tariffs, ∀ kq : Nat, q.1 = (kq : ℚ) / 2 →
        1800 * kq ≤ secOfDay (fieldsOf t).h (fieldsOf t).m (fieldsOf t).s → kq ≤ kp := by
  obtain ⟨hmd, hwd, hh, hm, hs⟩ := fields_in_table t
  exact get_tariff_seconds_spec l _ _ _ _ _ (htab _ hmd _ hwd) hbp hh hm hs

/-- totality at every instant of any year: if the complete 366 × 7 table has exactly one valid
    schedule everywhere and all breakpoint lists are in order, `get_tariff` and
    `get_demand_charge` succeed at every instant `t` (seconds since the epoch, any sign). -/
theorem tariff_total_of_table {K : Type} [LT K] [DecidableLT K] (l : List (Schedule K))
    (htab : ∀ md ∈ days366, ∀ wd < 7, countValid l md wd = 1)
    (hbp : ∀ sch ∈ l, breakpointsOk sch = true) (t : Int) :
    (∃ r, getTariffAt l t = .ok r) ∧ (∃ d, getDemandAt l t = .ok d) := by
  obtain ⟨sch, _, hsel, p, _, _, hget, _⟩ := get_tariff_at_spec l htab hbp t
  refine ⟨⟨p.2, hget⟩, ⟨sch.demand, ?_⟩⟩
  unfold getDemandAt getDemand
  simp only [hsel]; rfl

/-! ### vectors -/

/-- `get_tariffs(start, n, period)` is the vector of per-period lookups: it returns `v` iff `v` has
    length `n` and element `t` is `get_tariff(start + t·period)`, for every `t < n` — whatever
    midnight, month or year boundary lies in between. -/
theorem getTariffs_eq_map {K : Type} [LT K] [DecidableLT K] (l : List (Schedule K)) (start : Int)
    (n period : Nat) (v : List K) :
    getTariffs l start n period = .ok v ↔
      v.length = n ∧ ∀ t (ht : t < v.length),
        getTariffAt l (start + (t : Int) * ((period : Int) * 60)) = .ok v[t] :=
  mapM_range_ok_iff _ n v

/-- the same for an arbitrary microsecond start and an arbitrary `timedelta` step (float periods,
    sub-second periods, microsecond starts): element `t` is the tariff of the second that contains
    `start + t·step` -/
theorem getTariffsUs_eq_map {K : Type} [LT K] [DecidableLT K] (l : List (Schedule K)) (startUs : Int)
    (n : Nat) (stepUs : Int) (v : List K) :
    getTariffsUs l startUs n stepUs = .ok v ↔
      v.length = n ∧ ∀ t (ht : t < v.length),
        getTariffAt l ((startUs + (t : Int) * stepUs) / 1000000) = .ok v[t] :=
  mapM_range_ok_iff _ n v

/-- whole-second starts and whole-minute periods are the special case -/
theorem getTariffs_eq_getTariffsUs {K : Type} [LT K] [DecidableLT K] (l : List (Schedule K))
    (start : Int) (n period : Nat) :
    getTariffs l start n period = getTariffsUs l (start * 1000000) n ((period : Int) * 60 * 1000000) := by
  unfold getTariffs getTariffsUs
  congr 1
  funext t
  congr 1
  have : start * 1000000 + (t : Int) * ((period : Int) * 60 * 1000000) =
      (start + (t : Int) * ((period : Int) * 60)) * 1000000 := by ring
  rw [this, Int.mul_ediv_cancel _ (by norm_num)]

/-- `Interface.get_prices(n, start)`: element `t` is the tariff at `sim.start + (q + t)·period`,
    where `q` is the EXPLICIT `start` whenever one is given (0 included, whatever the current
    iteration is) and the current iteration only when `start` is `None`. -/
theorem interface_prices_aligned {K : Type} [LT K] [DecidableLT K] (l : List (Schedule K))
    (simStart : Int) (period iteration : Nat) (start : Option Int) (n : Nat) (v : List K)
    (h : interfacePrices l simStart period iteration start n = .ok v) :
    v.length = n ∧ ∀ t (ht : t < v.length),
      getTariffAt l (simStart + (queryStep iteration start + (t : Int)) * ((period : Int) * 60)) = .ok v[t] := by
  unfold interfacePrices at h
  obtain ⟨hlen, hv⟩ := (getTariffs_eq_map l _ n period v).mp h
  refine ⟨hlen, fun t ht => ?_⟩
  have := hv t ht
  rw [← this]; congr 1; ring

/-- an explicit start is taken as given — also `start = 0` while the simulation is at a later
    iteration — and `None` means the current iteration -/
theorem interface_explicit_start {K : Type} [LT K] [DecidableLT K] (l : List (Schedule K))
    (simStart : Int) (period it it' : Nat) (k : Int) (n : Nat) :
    interfacePrices l simStart period it (some k) n = interfacePrices l simStart period it' (some k) n ∧
    interfaceDemand l simStart period it (some k) = interfaceDemand l simStart period it' (some k) ∧
    interfacePrices l simStart period it (some 0) n = getTariffs l simStart n period ∧
    interfacePrices l simStart period it none n = interfacePrices l simStart period 0 (some (it : Int)) n := by
  refine ⟨rfl, rfl, ?_, rfl⟩
  unfold interfacePrices queryStep
  simp

/-- `Interface.get_demand_charge(start)` is the demand charge at `sim.start + q·period` -/
theorem interface_demand_aligned {K : Type} [LT K] [DecidableLT K] (l : List (Schedule K))
    (simStart : Int) (period iteration : Nat) (start : Option Int) :
    interfaceDemand l simStart period iteration start =
      getDemandAt l (simStart + queryStep iteration start * ((period : Int) * 60)) := by
  unfold interfaceDemand; congr 1; ring

/-- summing `get_prices(T, 0)·power·dt` over the whole run is `energy_cost` -/
theorem energy_cost_eq_interface_sum {K : Type} [Field K] [LinearOrder K] (l : List (Schedule K))
    (simStart : Int) (period iteration : Nat) (agg : List K) :
    energyCost l simStart period agg =
      (interfacePrices l simStart period iteration (some 0) agg.length).map
        (fun prices => dotK prices agg * ((period : K) / ((60 : Nat) : K))) := by
  have h0 := (interface_explicit_start l simStart period iteration iteration 0 agg.length).2.2.1
  rw [h0]
  unfold energyCost
  cases getTariffs l simStart agg.length period <;> rfl

/-! ### costs -/

section costs
variable {K : Type} [Field K] [LinearOrder K]

omit [LinearOrder K] in
/-- the shape shared by `energy_cost` for whole-minute and for arbitrary periods: a price vector,
    then its dot product with the powers times a factor -/
theorem cost_of_prices (r : Except Err (List K)) (agg : List K) (x c : K)
    (h : (do let prices ← r; pure (dotK prices agg * x)) = .ok c) :
    ∃ prices, r = .ok prices ∧ c = (List.zipWith (· * ·) prices agg).sum * x := by
  cases r with
  | error e => cases h
  | ok prices =>
    cases h
    exact ⟨prices, rfl, by rw [dotK, sumK, ← List.sum_eq_foldl]⟩

/-- `energy_cost = Σ_t price(start + t·period) · power_t · (period / 60)` -/
theorem energy_cost_def (l : List (Schedule K)) (simStart : Int) (period : Nat) (agg : List K) (c : K)
    (h : energyCost l simStart period agg = .ok c) :
    ∃ prices : List K, prices.length = agg.length ∧
      (∀ t (ht : t < prices.length),
        getTariffAt l (simStart + (t : Int) * ((period : Int) * 60)) = .ok prices[t]) ∧
      c = (List.zipWith (· * ·) prices agg).sum * ((period : K) / 60) := by
  obtain ⟨prices, hp, hc⟩ := cost_of_prices _ agg _ c h
  obtain ⟨hlen, hv⟩ := (getTariffs_eq_map l _ _ period prices).mp hp
  exact ⟨prices, hlen, hv, by rw [hc]; norm_num⟩

/-- `demand_charge = demand rate at sim.start × peak aggregate power` -/
theorem demand_charge_def (l : List (Schedule K)) (simStart : Int) (agg : List K) (c : K)
    (h : demandCharge l simStart agg = .ok c) :
    ∃ dc mx, getDemandAt l simStart = .ok dc ∧ mx ∈ agg ∧ (∀ a ∈ agg, a ≤ mx) ∧ c = dc * mx := by
  unfold demandCharge at h
  cases hd : getDemandAt l simStart with
  | error e => rw [hd] at h; cases h
  | ok dc =>
    rw [hd] at h
    cases agg with
    | nil => cases h
    | cons a as =>
      obtain ⟨hm, hle⟩ := foldl_pyMax_spec as a
      refine ⟨dc, as.foldl pyMax a, rfl, hm, hle, ?_⟩
      cases h; rfl

end costs

def exRaw : List (Raw Rat) :=
  [{ id := "A", start := (1, 1), stop := (12, 31), mask := "ALL", times := [0, 12], rates := [1, 3],
     demand := 7 }]

example : energyCost (loadedOf exRaw) 1577836800 360 [2, 2, 2, 2] = .ok 96 := by decide +kernel
example : demandCharge (loadedOf exRaw) 1577836800 [2, 5, 3] = .ok 35 := by decide +kernel
example : getTariffs (loadedOf exRaw) 1577836800 4 360 = .ok [1, 1, 3, 3] := by decide +kernel

/-! ### ANY period (0.5, 2.5, 0.01 … minutes), microsecond starts

`timedelta(minutes=period)` is `tdUs period` microseconds; `startUs` is the start in µs since the epoch.
Element `t` is looked up at the whole second that CONTAINS `start + t·timedelta`: the microseconds of
that instant are dropped (floor), not rounded. -/

/-- a period that is a whole number of microseconds (every period with ≤ 4 decimals of a second, every
    dyadic one down to 2⁻⁸ min …) becomes exactly `60·10⁶·p` µs -/
theorem period_timedelta_exact (p : ℚ) (hp : (p * 60000000).den = 1) : (tdUs p : ℚ) = p * 60000000 :=
  roundHalfEvenQ_of_den_one _ hp

/-- any other period is rounded (half-even) to the nearest microsecond -/
theorem period_timedelta_close (p : ℚ) : |(tdUs p : ℚ) - p * 60000000| ≤ 1 / 2 :=
  roundHalfEvenQ_err _

example : tdUs (1 / 2) = 30000000 ∧ tdUs (5 / 2) = 150000000 ∧ tdUs (1 / 100) = 600000 ∧
    tdUs (1 / 3) = 20000000 ∧ tdUs (1 / 120000000) = 0 ∧ tdUs (1 / 40000000) = 2 := by decide +kernel

/-- `get_tariffs(start, n, period)` for ANY rational period and any microsecond start: it returns `v`
    iff `v` has length `n` and element `t` is `get_tariff` at the whole second
    `⌊(start + t·timedelta(minutes=period)) / 1 s⌋`. -/
theorem get_tariffs_eq_lookup_any_period {K : Type} [LT K] [DecidableLT K] (l : List (Schedule K))
    (startUs : Int) (n : Nat) (p : ℚ) (v : List K) :
    getTariffsP l startUs n p = .ok v ↔
      v.length = n ∧ ∀ t (ht : t < v.length),
        getTariffAt l ⌊(((startUs + (t : Int) * tdUs p : Int) : ℚ)) / 1000000⌋ = .ok v[t] := by
  unfold getTariffsP
  rw [getTariffsUs_eq_map]
  simp only [ediv_million_eq_floor]

/-- … and when the period is a whole number of microseconds the instant that is looked up is exactly
    `⌊start + t·period⌋` in seconds: `start` (in seconds, with its microseconds) plus `t` times `60·p`
    seconds, microseconds DROPPED. -/
theorem get_tariffs_instant_exact (startUs : Int) (t : Nat) (p : ℚ) (hp : (p * 60000000).den = 1) :
    (startUs + (t : Int) * tdUs p) / 1000000 = ⌊(startUs : ℚ) / 1000000 + (t : ℚ) * (p * 60)⌋ := by
  rw [ediv_million_eq_floor]
  congr 1
  push_cast
  rw [period_timedelta_exact p hp]
  ring

/-- dropped, not rounded: 11:59:59.6 is priced as 11:59:59 -/
example : (1561982399600000 : Int) / 1000000 = 1561982399 := by decide

/-- totality for any period: on a tariff whose complete table has exactly one valid schedule everywhere,
    `get_tariffs` succeeds for every start, every length and every period — positive, zero or negative -/
theorem get_tariffs_total_any_period {K : Type} [LT K] [DecidableLT K] (l : List (Schedule K))
    (htab : ∀ md ∈ days366, ∀ wd < 7, countValid l md wd = 1)
    (hbp : ∀ sch ∈ l, breakpointsOk sch = true) (startUs : Int) (n : Nat) (p : ℚ) :
    ∃ v, getTariffsP l startUs n p = .ok v := by
  unfold getTariffsP getTariffsUs
  exact mapM_total _ _ (fun t _ => (tariff_total_of_table l htab hbp _).1)

/-- on whole-minute periods and whole-second starts `getTariffsP` is `getTariffs` -/
theorem any_period_extends_whole_minutes {K : Type} [LT K] [DecidableLT K] (l : List (Schedule K))
    (start : Int) (n period : Nat) :
    getTariffsP l (start * 1000000) n (period : ℚ) = getTariffs l start n period := by
  have h : tdUs (period : ℚ) = (period : Int) * 60 * 1000000 := by
    have hq : ((period : ℚ) * 60000000).den = 1 := by
      have : (period : ℚ) * 60000000 = ((period * 60000000 : ℕ) : ℚ) := by push_cast; ring
      rw [this]; exact Rat.den_natCast _
    have := period_timedelta_exact (period : ℚ) hq
    have h2 : ((tdUs (period : ℚ) : Int) : ℚ) = (((period : Int) * 60 * 1000000 : Int) : ℚ) := by
      rw [this]; push_cast; ring
    exact_mod_cast h2
  unfold getTariffsP
  rw [h, getTariffs_eq_getTariffsUs]

/-- `Interface.get_prices(n, start)` for any period: element `t` is the tariff at the whole second
    containing `sim.start + (q + t)·timedelta(minutes=period)`, `q` the explicit `start` if given (0
    included) and the current iteration otherwise. -/
theorem interface_prices_aligned_any_period {K : Type} [LT K] [DecidableLT K] (l : List (Schedule K))
    (simStartUs : Int) (p : ℚ) (iteration : Nat) (start : Option Int) (n : Nat) (v : List K)
    (h : interfacePricesP l simStartUs p iteration start n = .ok v) :
    v.length = n ∧ ∀ t (ht : t < v.length),
      getTariffAt l ⌊(((simStartUs + (queryStep iteration start + (t : Int)) * tdUs p : Int) : ℚ)) / 1000000⌋
        = .ok v[t] := by
  unfold interfacePricesP at h
  obtain ⟨hlen, hv⟩ := (getTariffsUs_eq_map l _ n _ v).mp h
  refine ⟨hlen, fun t ht => ?_⟩
  rw [← hv t ht, ← ediv_million_eq_floor]
  congr 2; ring

/-- `Interface.get_demand_charge(start)` for any period -/
theorem interface_demand_aligned_any_period {K : Type} [LT K] [DecidableLT K] (l : List (Schedule K))
    (simStartUs : Int) (p : ℚ) (iteration : Nat) (start : Option Int) :
    interfaceDemandP l simStartUs p iteration start =
      getDemandAt l ⌊(((simStartUs + queryStep iteration start * tdUs p : Int) : ℚ)) / 1000000⌋ := by
  unfold interfaceDemandP
  rw [← ediv_million_eq_floor]
  congr 2; ring

section costsP
variable {K : Type} [Field K] [LinearOrder K]

/-- `energy_cost = Σ_t price(⌊sim.start + t·timedelta(period)⌋) · power_t · (period / 60)` for any period;
    `pK` is the number `sim.period` in the carrier of the rates -/
theorem energy_cost_def_any_period (l : List (Schedule K)) (simStartUs : Int) (p : ℚ) (pK : K)
    (agg : List K) (c : K) (h : energyCostP l simStartUs p pK agg = .ok c) :
    ∃ prices : List K, prices.length = agg.length ∧
      (∀ t (ht : t < prices.length),
        getTariffAt l ⌊(((simStartUs + (t : Int) * tdUs p : Int) : ℚ)) / 1000000⌋ = .ok prices[t]) ∧
      c = (List.zipWith (· * ·) prices agg).sum * (pK / 60) := by
  obtain ⟨prices, hp, hc⟩ := cost_of_prices _ agg _ c h
  obtain ⟨hlen, hv⟩ := (getTariffsUs_eq_map l _ _ _ prices).mp hp
  refine ⟨prices, hlen, fun t ht => ?_, by rw [hc]; norm_num⟩
  rw [← ediv_million_eq_floor]; exact hv t ht

/-- the explicit-tariff contract: `energy_cost(sim, tariff)` and `demand_charge(sim, tariff)` use the tariff
    they are GIVEN, whatever `sim.signals` holds (another tariff, no tariff, not even a dict); only without an
    argument `signals["tariff"]` is used; with neither, they raise before any price is looked up. -/
theorem energy_cost_uses_given_tariff (l l' : List (Schedule K))
    (signals : Option (Option (List (Schedule K)))) (simStartUs : Int) (p : ℚ) (pK : K) (agg : List K) :
    energyCostWith (some l) signals simStartUs p pK agg = (energyCostP l simStartUs p pK agg).mapError .tariff ∧
    demandChargeWith (some l) signals simStartUs agg = (demandChargeP l simStartUs agg).mapError .tariff ∧
    energyCostWith none (some (some l')) simStartUs p pK agg = (energyCostP l' simStartUs p pK agg).mapError .tariff ∧
    demandChargeWith none (some (some l')) simStartUs agg = (demandChargeP l' simStartUs agg).mapError .tariff ∧
    energyCostWith none (some none) simStartUs p pK agg = .error (.pick .valueError) ∧
    demandChargeWith none (some none) simStartUs agg = .error (.pick .valueError) ∧
    energyCostWith none none simStartUs p pK agg = .error (.pick .typeError) ∧
    demandChargeWith none none simStartUs agg = .error (.pick .typeError) := by
  -- once a tariff `t` is picked, the result is that of `t`, its errors wrapped
  have picked : ∀ {β : Type} (arg : Option (List (Schedule K))) (sig) (t) (f : _ → Except Err β),
      Analysis.pickTariff arg sig = .ok t → withPicked arg sig f = (f t).mapError .tariff := by
    intro β arg sig t f h
    simp only [withPicked, h]
    cases f t <;> rfl
  exact ⟨picked _ _ _ _ rfl, picked _ _ _ _ rfl, picked _ _ _ _ rfl, picked _ _ _ _ rfl,
    rfl, rfl, rfl, rfl⟩

/-- … so a given tariff's cost is the defining sum over THAT tariff's prices -/
theorem energy_cost_given_tariff_def (l : List (Schedule K))
    (signals : Option (Option (List (Schedule K)))) (simStartUs : Int) (p : ℚ) (pK : K) (agg : List K) (c : K)
    (h : energyCostWith (some l) signals simStartUs p pK agg = .ok c) :
    ∃ prices : List K, prices.length = agg.length ∧
      (∀ t (ht : t < prices.length),
        getTariffAt l ⌊(((simStartUs + (t : Int) * tdUs p : Int) : ℚ)) / 1000000⌋ = .ok prices[t]) ∧
      c = (List.zipWith (· * ·) prices agg).sum * (pK / 60) := by
  rw [(energy_cost_uses_given_tariff l l signals simStartUs p pK agg).1] at h
  cases hc : energyCostP l simStartUs p pK agg with
  | error e => rw [hc] at h; cases h
  | ok c' =>
    rw [hc] at h
    have : c' = c := by simpa [Except.mapError] using h
    exact energy_cost_def_any_period l simStartUs p pK agg c (this ▸ hc)

end costsP

/-- half-minute periods from a start with microseconds: 4 elements from 2020-01-01 11:59:00.6 -/
example : getTariffsP (loadedOf exRaw) 1577879940600000 4 (1 / 2) = .ok [1, 1, 3, 3] := by decide +kernel
example : energyCostP (loadedOf exRaw) 1577879940600000 (1 / 2) (1 / 2 : Rat) [2, 2, 2, 2] = .ok (2 / 15) := by
  decide +kernel
example : energyCostWith (some (loadedOf exRaw)) (some (some [])) 1577879940600000 (1 / 2) (1 / 2 : Rat) [2, 2, 2, 2]
    = .ok (2 / 15) := by decide +kernel

/-! ### a memo of the selected schedule is invisible iff its key determines (month, day, weekday) -/

/-- For a key that determines (month, day) and the weekday, a tariff object that remembers the selected
    schedule per key answers EVERY history of `get_tariff` / `get_demand_charge` queries — any length, any
    years, starting from any cache filled by earlier histories — exactly as the object without the cache,
    and leaves a cache with the same guarantee. -/
theorem memo_transparent {K κ : Type} [DecidableEq κ] [LT K] [DecidableLT K] (key : Fields → κ)
    (hk : KeySound key) (l : List (Schedule K)) (qs : List Query) (c : Cache K κ) (hc : CacheOk key l c) :
    (runMemo key l c qs).1 = runPlain l qs ∧ CacheOk key l (runMemo key l c qs).2 := by
  induction qs generalizing c with
  | nil => exact ⟨rfl, hc⟩
  | cons q qs ih =>
    obtain ⟨h1, h2⟩ := selectMemo_spec key hk l c hc q.fields
    obtain ⟨h3, h4⟩ := ih _ h2
    refine ⟨?_, h4⟩
    simp only [runMemo, runPlain, List.map_cons, answerPlain]
    rw [h1, h3]; rfl

/-- … and ONLY for such keys: if two datetimes share a key but differ in (month, day) or weekday there
    is a tariff and a two-query history on which the cached object answers differently. -/
theorem memo_transparent_iff {κ : Type} [DecidableEq κ] (key : Fields → κ) :
    (∀ (l : List (Schedule ℚ)) (qs : List Query), (runMemo key l ([] : Cache ℚ κ) qs).1 = runPlain l qs) ↔
      KeySound key := by
  constructor
  · intro h f g hfg
    by_contra hne
    have hne' : ¬ (g.md = f.md ∧ g.wd = f.wd) := fun hh => hne ⟨hh.1.symm, hh.2.symm⟩
    exact runMemo_visible key f g hfg hne' (h _ _)
  · intro hk l qs
    exact (memo_transparent key hk l qs [] (cacheOk_nil key l)).1

/-- `get_tariffs` through such a cache (a per-call fast path, or the object's cache): element by element
    the answers of `get_tariffs` without it -/
theorem get_tariffs_memo_transparent {K κ : Type} [DecidableEq κ] [LT K] [DecidableLT K] (key : Fields → κ)
    (hk : KeySound key) (l : List (Schedule K)) (c : Cache K κ) (hc : CacheOk key l c)
    (startUs : Int) (n : Nat) (stepUs : Int) :
    (runMemo key l c (vecQueries startUs n stepUs)).1 =
      (List.range n).map (fun (t : Nat) => getTariffAt l ((startUs + (t : Int) * stepUs) / 1000000)) := by
  rw [(memo_transparent key hk l _ c hc).1]
  simp only [runPlain, vecQueries, List.map_map]
  rfl

/-- (month, day, weekday) and (year, month, day, weekday) are sound keys -/
theorem memo_key_full_sound : KeySound keyFull ∧ KeySound keyDate := by
  constructor <;> intro f g h <;> simp only [keyFull, keyDate, Prod.mk.injEq] at h <;> tauto

/-- summer weekdays 1 → 3 at noon, summer weekends 2, winter 5 -/
def exWeek : List (Raw Rat) :=
  [{ id := "SWD", start := (6, 1), stop := (9, 30), mask := "WEEKDAYS", times := [0, 12], rates := [1, 3], demand := 7 },
   { id := "SWE", start := (6, 1), stop := (9, 30), mask := "WEEKENDS", times := [0], rates := [2], demand := 7 },
   { id := "W", start := (10, 1), stop := (5, 31), mask := "ALL", times := [0], rates := [5], demand := 4 }]

/-- a cache keyed by (month, day) only is visible across years: Friday 2019-07-05 12:00, then Sunday
    2020-07-05 12:00 on the same object — the cache answers the weekday price 3, `get_tariff` says 2 -/
theorem memo_key_month_day_visible :
    ¬ KeySound keyMonthDay ∧
    (runMemo keyMonthDay (loadedOf exWeek) [] [.rate (fieldsOf 1562328000), .rate (fieldsOf 1593950400)]).1
      = [.ok 3, .ok 3] ∧
    runPlain (loadedOf exWeek) [.rate (fieldsOf 1562328000), .rate (fieldsOf 1593950400)] = [.ok 3, .ok 2] := by
  refine ⟨fun h => ?_, by decide +kernel, by decide +kernel⟩
  have := (h (fieldsOf 1562328000) (fieldsOf 1593950400) (by decide +kernel)).2
  revert this; decide +kernel

/-- a cache / fast path keyed by the day of the month only ("the vector ends on the same `.day` it starts
    on") is visible across months: 2019-05-31 12:00 (winter, 5), then 2019-07-31 12:00 (summer weekday, 3) -/
theorem memo_key_day_of_month_visible :
    ¬ KeySound keyDayOfMonth ∧
    (runMemo keyDayOfMonth (loadedOf exWeek) [] [.rate (fieldsOf 1559304000), .rate (fieldsOf 1564574400)]).1
      = [.ok 5, .ok 5] ∧
    runPlain (loadedOf exWeek) [.rate (fieldsOf 1559304000), .rate (fieldsOf 1564574400)] = [.ok 5, .ok 3] := by
  refine ⟨fun h => ?_, by decide +kernel, by decide +kernel⟩
  have := (h (fieldsOf 1559304000) (fieldsOf 1564574400) (by decide +kernel)).1
  revert this; decide +kernel

example : CacheOk keyFull (loadedOf exWeek) ([] : Cache Rat _) := cacheOk_nil _ _

end Acn.C17
