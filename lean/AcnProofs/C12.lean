/-
  C12 — the constraint matrix, limits and names stay aligned under add/remove/update, and the
  `Current` algebra yields the right coefficients.

  Helpers: `Lemmas/NetworkCurrent|NetworkOps|NetworkAlign|NetworkQuery|NetworkFeas|NetworkUse.lean`; the
  coefficient identities of the algebra are proved here, from the dict lemmas of `Lemmas/Assoc` through
  `coeff_eq_lookup`.  Model: `AcnModel/Network.lean`, which follows current.py as REPAIRED by
  fix F8 (a scalar multiple of a `Current` is a `Current`).  Coefficient identities hold over any
  ring `K` (ℚ, ℝ and every ordered field included); alignment needs only a zero.
-/
import AcnModel.Network
import AcnProofs.Lemmas.NetworkCurrent
import AcnProofs.Lemmas.NetworkAlign
import AcnProofs.Lemmas.NetworkQuery
import AcnProofs.Lemmas.NetworkFeas
import AcnProofs.Lemmas.NetworkUse
import Mathlib.Tactic

set_option linter.unusedSectionVars false

namespace Acn.C12
open Acn Acn.Network Acn.Network.Current

/-! ## 1. The `Current` algebra -/
section algebra
variable {K : Type} [Ring K]

theorem coeff_smulL (k : K) (c : Current K) (s : String) : coeff (smulL k c) s = k * coeff c s :=
  coeff_mapVal (fun _ v => k * v) (fun _ => mul_zero k) c s

theorem coeff_smulR (c : Current K) (k : K) (s : String) : coeff (smulR c k) s = coeff c s * k :=
  coeff_mapVal (fun _ v => v * k) (fun _ => zero_mul k) c s

theorem coeff_neg (c : Current K) (s : String) : coeff (neg c) s = - coeff c s := by
  unfold neg; rw [coeff_smulL]; simp

/-- `(a + b)[s] = a[s] + b[s]`, a station missing on one side counting 0 -/
theorem coeff_add (a b : Current K) (s : String) : coeff (add a b) s = coeff a s + coeff b s := by
  rw [add, coeff_eq_lookup, List.lookup_append, Assoc.lookup_mapVal (fun k v => v + coeff b k),
    Assoc.lookup_mapVal (fun _ v => 0 + v), Assoc.lookup_filterKey (fun k => !hasKey a k), hasKey_eq,
    coeff_eq_lookup a, coeff_eq_lookup b]
  -- a station of `a` takes `a[s] + b[s]` from the first half of the list, any other `0 + b[s]` from the second
  cases a.lookup s with
  | some x => rfl
  | none => cases b.lookup s with
    | some y => rfl
    | none => exact (add_zero (0 : K)).symm

theorem coeff_sub (a b : Current K) (s : String) : coeff (sub a b) s = coeff a s - coeff b s := by
  unfold sub; rw [coeff_add, coeff_neg, sub_eq_add_neg]

/-- Composition: for EVERY expression tree over `+`, `−`, `k*·`, `·*k` (scalar multiples used as
    operands of `+`/`−` included) the coefficient of a station in the evaluated `Current` is the
    expression evaluated on that station's coefficients. -/
theorem coeff_eval (e : Expr K) (s : String) : coeff e.eval s = e.coeffAt s := by
  induction e with
  | lit c => rfl
  | add l r ihl ihr => simp only [Expr.eval, Expr.coeffAt, coeff_add, ihl, ihr]
  | sub l r ihl ihr => simp only [Expr.eval, Expr.coeffAt, coeff_sub, ihl, ihr]
  | lmul k e ih => simp only [Expr.eval, Expr.coeffAt, coeff_smulL, ih]
  | rmul e k ih => simp only [Expr.eval, Expr.coeffAt, coeff_smulR, ih]

example : coeff (Expr.eval (.add (.lit (ofList ["A", "B"]))
    (.lmul 2 (.lit (ofDict [("B", 2), ("C", 1)])))) : Current ℚ) "B" = 5 := by decide +kernel
example : Net.row ["C", "A", "B"] (Expr.eval (.sub (.lmul 2 (.lit (ofDict [("B", 2), ("C", 1)])))
    (.lit (ofList ["A", "B"]))) : Current ℚ) = [2, -1, 3] := by decide +kernel

/-- the constructors of the class produce distinct keys … -/
theorem constructors_keys_nodup (items : List (String × K)) (ids : List String) (s : String) :
    (ofDict items).keys.Nodup ∧ (ofList ids : Current K).keys.Nodup ∧
      (ofStr s : Current K).keys.Nodup ∧ (Current.empty : Current K).keys.Nodup :=
  ⟨nodup_ofDict items, nodup_ofDict _, by simp [ofStr, keys], by simp [Current.empty, keys]⟩

/-- … and the operators preserve them: every value of the algebra is a finite map. -/
theorem eval_keys_nodup (e : Expr K) (h : LitsNodup e) : e.eval.keys.Nodup := by
  induction e with
  | lit c => exact h
  | add l r ihl ihr => exact nodup_add _ _ (ihl h.1) (ihr h.2)
  | sub l r ihl ihr => exact nodup_sub _ _ (ihl h.1) (ihr h.2)
  | lmul k e ih => exact nodup_smulL k _ (ih h)
  | rmul e k ih => exact nodup_smulR _ k (ih h)

example : LitsNodup (.add (.lit (ofList ["A", "B", "A"])) (.lmul 2 (.lit (ofDict [("B", 2), ("C", 1)]))) :
    Expr ℚ) := by
  refine ⟨?_, ?_⟩
  · show (ofList ["A", "B", "A"] : Current ℚ).keys.Nodup
    decide +kernel
  · show (ofDict [("B", 2), ("C", 1)] : Current ℚ).keys.Nodup
    decide +kernel

end algebra

/-! ## 2. Rows -/
section rows
variable {K : Type} [Zero K]

/-- The stored row does not depend on the order in which the `Current` lists its stations
    (pandas returns the key union of `a + b` in an order of its own choosing). -/
theorem row_indep_of_listing_order (stations : List String) (c c' : Current K)
    (hn : c.keys.Nodup) (hp : c.Perm c') : Net.row stations c = Net.row stations c' :=
  List.map_congr_left fun s _ => coeff_perm hn hp s

example : Net.row ["C", "A", "B"] ([("B", 2), ("C", 1)] : Current ℚ) =
    Net.row ["C", "A", "B"] [("C", 1), ("B", 2)] := by decide +kernel

/-- entry `j` of a row is the coefficient of the `j`-th registered station, whatever the
    registration order was -/
theorem row_entry (stations : List String) (c : Current K) (j : Nat) (hj : j < stations.length) :
    (Net.row stations c)[j]? = some (coeff c stations[j]) := by
  simp [Net.row, hj]

end rows

/-! ## 3. Alignment of matrix / magnitudes / index with a plain list of constraints -/
section align
variable {K : Type} [Zero K]

/-- **Refinement.**  After ANY history of register / add / remove / update operations (failing
    ones included) on a fresh network, the code's three containers are the images of ONE list of
    constraints `(current, limit, name)` — the specification's — and the code raised exactly where
    the specification refuses. -/
theorem align_refines (ops : List (Op K)) :
    (Net.init : Net K).trace ops = (Spec.init : Spec K).trace ops ∧
      Refines ((Net.init : Net K).run ops) ((Spec.init : Spec K).run ops) :=
  run_refines refines_init ops

/-- The same, entry by entry: equal lengths; `matrix[i][j] = coeff currentᵢ stations[j]`;
    `magnitudes[i] = limitᵢ`; `index[i] = nameᵢ`. -/
theorem align_pointwise (ops : List (Op K)) :
    let n := (Net.init : Net K).run ops
    let sp := (Spec.init : Spec K).run ops
    n.stations = sp.stations ∧
    (n.matrix.getD []).length = sp.cons.length ∧ n.magnitudes.length = sp.cons.length ∧
    n.index.length = sp.cons.length ∧
    ∀ i (hi : i < sp.cons.length),
      n.index[i]? = some sp.cons[i].name ∧ n.magnitudes[i]? = some sp.cons[i].limit ∧
      ∀ j (hj : j < sp.stations.length),
        ((n.matrix.getD [])[i]?.bind (·[j]?)) = some (coeff sp.cons[i].cur sp.stations[j]) := by
  intro n sp
  have h : Refines n sp := (align_refines ops).2
  refine ⟨h.stations, by rw [h.rows]; simp, by rw [h.mags]; simp, by rw [h.index]; simp, ?_⟩
  intro i hi
  refine ⟨by rw [h.index]; simp [hi], by rw [h.mags]; simp [hi], ?_⟩
  intro j hj
  rw [h.rows]
  simp [hi, Net.row, hj]

def exHistory : List (Op ℚ) :=
  [.register "C", .register "A", .register "B",
   .add [("B", 2), ("C", 1)] 7 none, .add [("A", 1), ("Z", 1)] 3 (some "bad"),
   .add (Current.sub [("A", 1), ("B", 1)] [("B", 2), ("C", 1)]) 8 (some "_const_0"),
   .remove "_const_0", .register "D", .update "nope" [] 1 none,
   .update "_const_0_v2" [("A", 4)] 9 none]

example : (Net.init.run exHistory).matrix = some [[0, 4, 0]] ∧
    (Net.init.run exHistory).magnitudes = [9] ∧ (Net.init.run exHistory).index = ["_const_0_v2"] ∧
    (Net.init.run exHistory).stations = ["C", "A", "B"] ∧
    Net.init.trace exHistory = [none, none, none, none, some .keyError, none, none,
      some .registration, some .keyError, none] := by decide +kernel

/-- A raising operation changes nothing — with the one exception the code has:
    `update_constraint` of an EXISTING name (see `update_failure_is_removal`). -/
theorem failed_op_changes_nothing (ops : List (Op K)) (o : Op K) (e : Err) :
    let n := (Net.init : Net K).run ops
    (n.step o).2 = some e → (∀ nm c l nn, o = .update nm c l nn → nm ∉ n.index) →
      (n.step o).1 = n := by
  intro n he hu
  exact (align_refines ops).2.step_error_unchanged he hu

/-- `update_constraint` is remove-then-add in the code (charging_network.py:321-322): with an
    existing name and a `Current` over an unregistered station it raises `KeyError` AFTER the
    removal.  The three containers stay aligned (`align_refines` covers this history too). -/
theorem update_failure_is_removal (n : Net K) (nm : String) (c : Current K) (l : K)
    (nn : Option String) (hin : nm ∈ n.index) (hm : n.matrix.isSome = true)
    (hk : ¬ ∀ k ∈ c.keys, k ∈ n.stations) :
    n.updateConstraint nm c l nn = ((n.removeConstraint nm).1, some .keyError) := by
  have hr : n.removeConstraint nm = ((n.removeConstraint nm).1, none) := by
    unfold Net.removeConstraint
    rw [if_pos hin]
    cases hmm : n.matrix with
    | none => rw [hmm] at hm; cases hm
    | some rows => rfl
  rw [updateConstraint_eq, if_pos hin, hr, Steps.andThen_ok, addConstraint_eq, removeConstraint_stations, if_neg hk]

example : (((Net.init : Net ℚ).run [.register "A", .add [("A", 1)] 5 (some "x")]).updateConstraint
    "x" [("Z", 1)] 6 none).2 = some .keyError ∧
    (((Net.init : Net ℚ).run [.register "A", .add [("A", 1)] 5 (some "x")]).updateConstraint
    "x" [("Z", 1)] 6 none).1.index = [] := by decide +kernel

/-- Stations cannot be registered once a constraint was added — not even after every
    constraint has been removed again. -/
theorem register_refused_after_constraint (n : Net K) (c : Current K) (l : K)
    (nm : Option String) (hadd : (n.addConstraint c l nm).2 = none) (ops : List (Op K))
    (s : String) :
    let n' := (n.addConstraint c l nm).1.run ops
    n'.register s = (n', some .registration) := by
  intro n'
  have : n'.matrix.isSome = true := run_isSome _ ops (addConstraint_isSome n c l nm hadd)
  unfold Net.register
  rw [if_pos this]

example : ((Net.init : Net ℚ).addConstraint [] 1 none).2 = none := by decide +kernel
example : (((Net.init : Net ℚ).run [.register "A", .add [("A", 1)] 5 none, .remove "_const_0"]).register
    "B").2 = some .registration := by decide +kernel

/-- Names stay distinct under `add_constraint` PROVIDED the `_v2` variant of a taken name is
    itself free.  (Without the proviso the code produces a duplicate — see the example below; the
    theorem deliberately claims no more than the code does.) -/
theorem names_nodup_add (n : Net K) (c : Current K) (l : K) (name : Option String)
    (hn : n.index.Nodup)
    (hv : (name.getD ("_const_" ++ toString n.index.length)) ∈ n.index →
      (name.getD ("_const_" ++ toString n.index.length)) ++ "_v2" ∉ n.index) :
    (n.addConstraint c l name).1.index.Nodup := by
  have hres : Net.resolveName n.index name ∉ n.index := by
    have hb : Net.resolveName n.index name =
        if name.getD ("_const_" ++ toString n.index.length) ∈ n.index then
          name.getD ("_const_" ++ toString n.index.length) ++ "_v2"
        else name.getD ("_const_" ++ toString n.index.length) := by
      cases name <;> rfl
    rw [hb]
    split
    · exact hv ‹_›
    · assumption
  rw [addConstraint_eq]
  split <;> [split; skip] <;> first | exact hn | skip
  exact List.nodup_append.mpr ⟨hn, List.nodup_singleton _, fun a ha b hb e =>
    hres (List.mem_singleton.1 hb ▸ e ▸ ha)⟩

/-- the `_v2` corner (DESIGN §8): a third use of a name duplicates `<name>_v2` -/
example : ((Net.init : Net ℚ).run [.add [] 1 (some "c"), .add [] 2 (some "c"),
    .add [] 3 (some "c")]).index = ["c", "c_v2", "c_v2"] := by decide +kernel

theorem names_nodup_remove (n : Net K) (name : String) (hn : n.index.Nodup) :
    (n.removeConstraint name).1.index.Nodup := by
  unfold Net.removeConstraint
  by_cases hin : name ∈ n.index
  · rw [if_pos hin]
    cases n.matrix with
    | none => exact hn
    | some rows => exact hn.erase name
  · rw [if_neg hin]; exact hn

end align

/-! ## 4. Subset queries -/
section query
variable {K : Type} [Ring K]

/-- `constraint_current(schedule, constraints=names, time_indices=times)` on any reachable
    network with at least one constraint ever added: the rows of the NAMED constraints, in network
    order (whatever the order / repetitions in `names`), by the REQUESTED columns in the requested
    order; entry = Σⱼ coeff(currentᵢ, stationⱼ) · schedule[j][τ].  `none` selects everything. -/
theorem subset_query (ops : List (Op K)) (sched : List (List K)) (T : Nat)
    (names : Option (List String)) (times : Option (List Int)) (cols : List Nat) :
    let n := (Net.init : Net K).run ops
    let sp := (Spec.init : Spec K).run ops
    sp.frozen = true → sched.length = sp.stations.length → Net.selTimes T times = some cols →
    n.constraintCurrent sched T names times =
      .ok ((sp.cons.filter (selName names)).map (fun t =>
        cols.map (fun τ => dotK (sp.stations.map (coeff t.cur)) (Net.column sched τ)))) := by
  intro n sp hf hs ht
  have h : Refines n sp := (align_refines ops).2
  obtain ⟨rows, hm, hsel⟩ := h.selected hf names
  simp only [Net.constraintCurrent, ht, hm, hsel, h.stations, hs, ne_eq, not_true_eq_false, if_false, List.map_map,
    Net.row, Function.comp_def]

example : ((Net.init : Net ℚ).run
      [.register "C", .register "A", .register "B",
       .add [("B", 2), ("C", 1)] 7 (some "x"), .add [("A", 1)] 3 (some "y"),
       .add [("A", -1), ("C", 1)] 3 (some "z")]).constraintCurrent
      [[1, 2], [3, 4], [5, 6]] 2 (some ["z", "nope", "x", "z"]) (some [-1, 0]) =
    .ok [[14, 11], [-2, -2]] := by decide +kernel

end query

/-! ## 5. Phase-angle / voltage vectors, and the link to C06 -/
section feas
variable {K : Type} [Field K] [LinearOrder K] [IsStrictOrderedRing K]

/-- The network with its `_phase_angles` / `_voltages` vectors runs the SAME constraint
    bookkeeping: every alignment theorem above applies to its `base`. -/
theorem full_net_projects (ops : List (FOp K)) :
    ((FullNet.init : FullNet K).run ops).base = (Net.init : Net K).run (ops.map FOp.toOp) ∧
      (FullNet.init : FullNet K).trace ops = (Net.init : Net K).trace (ops.map FOp.toOp) :=
  ⟨FullNet.run_base _ ops, FullNet.trace_base _ ops⟩

/-- **C12 → C06.**  The network reached by ANY history of register / add / remove / update
    operations in which no station id is registered twice, viewed as the object the feasibility
    checks read, satisfies `Feas.Net.WF` — the hypothesis of C06's agreement theorems. -/
theorem reachable_feas_wf (ops : List (FOp K)) (hf : FullNet.FreshRun (FullNet.init : FullNet K) ops)
    (vt rt : K) : (((FullNet.init : FullNet K).run ops).toFeas vt rt).WF :=
  toFeas_wf (full_refines ops) (run_vecInv vecInv_init ops hf) vt rt

/-- … hence, for every network a user can build that way: `infrastructure_info()` validates, and
    `ChargingNetwork.is_feasible` equals `infrastructure_constraints_feasible` on that view, in
    both modes, for every schedule matrix and any tolerances. -/
theorem reachable_three_agree (ops : List (FOp K))
    (hf : FullNet.FreshRun (FullNet.init : FullNet K) ops) (vt rt : K) (S : List (List K))
    (linear : Bool) (vt? rt? : Option K) :
    let net := ((FullNet.init : FullNet K).run ops).toFeas vt rt
    net.infraInfo = .ok net.view ∧
      net.isFeasible S linear vt? rt? =
        .ok (net.view.feasible2 S linear (vt?.getD net.vt) (rt?.getD net.rt)) :=
  ⟨Feas.Net.infra_ok (reachable_feas_wf ops hf vt rt),
    Feas.Net.isFeasible_eq_view _ (reachable_feas_wf ops hf vt rt) S linear vt? rt?⟩

def exFull : List (FOp ℚ) :=
  [.register "C" 1 0 208, .register "A" 0 1 208, .register "B" (3/5) (4/5) 240,
   .add [("B", 2), ("C", 1)] 7 none, .add [("Z", 1)] 3 (some "bad"), .remove "_const_0",
   .register "D" 1 0 208, .add [("A", 1), ("B", -1)] 9 (some "x")]

example : FullNet.FreshRun FullNet.init exFull := by
  simp only [exFull, FullNet.FreshRun, FullNet.FreshOp, and_true, true_and]
  refine ⟨?_, ?_, ?_, ?_⟩ <;> decide +kernel

/-- Registering a registered id again (before any constraint) appends a phase angle and a
    voltage but not a station: the vectors get out of step and the shape invariant is lost. -/
theorem reregistration_breaks_wf (f : FullNet K) (hv : VecInv f) (hm : f.base.matrix = none)
    (id : String) (hid : id ∈ f.base.stations) (c s v vt rt : K) :
    ¬ ((f.step (.register id c s v)).1.toFeas vt rt).WF := by
  intro h
  have h1 := h.hc
  simp only [FullNet.step, FullNet.register, hm, Option.isSome_none, Bool.false_eq_true, if_false,
    FullNet.toFeas, Net.register, hid, if_true, List.length_append, List.length_singleton] at h1
  have := hv.hc
  omega

example : VecInv (FullNet.init.run [FOp.register "A" (1 : ℚ) 0 208]) ∧
    "A" ∈ (FullNet.init.run [FOp.register "A" (1 : ℚ) 0 208]).base.stations :=
  ⟨⟨by decide +kernel, by decide +kernel, by decide +kernel⟩, by decide +kernel⟩

/-- `constraint_current` with the network's own phase angles (charging_network.py:476-484) on a
    network without re-registration: real and imaginary parts of the named rows, in network order,
    by the requested columns; entry = Σⱼ coeff(currentᵢ, stationⱼ)·(schedule[j][τ]·cos/sin φⱼ). -/
theorem full_query (ops : List (FOp K)) (hfr : FullNet.FreshRun (FullNet.init : FullNet K) ops)
    (sched : List (List K)) (T : Nat) (names : Option (List String)) (times : Option (List Int))
    (cols : List Nat) :
    let f := (FullNet.init : FullNet K).run ops
    let sp := (Spec.init : Spec K).run (ops.map FOp.toOp)
    sp.frozen = true → sched.length = sp.stations.length → Net.selTimes T times = some cols →
    f.constraintCurrent sched T names times =
      .ok ((sp.cons.filter (selName names)).map (fun t => cols.map (fun τ =>
              dotK (sp.stations.map (coeff t.cur))
                ((List.range sp.stations.length).map (fun j => FullNet.phasorEntry sched f.c j τ)))),
           (sp.cons.filter (selName names)).map (fun t => cols.map (fun τ =>
              dotK (sp.stations.map (coeff t.cur))
                ((List.range sp.stations.length).map (fun j => FullNet.phasorEntry sched f.s j τ))))) := by
  intro f sp hf hs ht
  have h : Refines f.base sp := full_refines ops
  obtain ⟨rows, hm, hsel⟩ := h.selected hf names
  have hw : FullNet.broadcastWidth sched.length f.c.length = some sp.stations.length :=
    h.stations ▸ (run_vecInv vecInv_init ops hfr).width (hs.trans (congrArg _ h.stations.symm))
  simp only [FullNet.constraintCurrent, ht, hw, hm, hsel, h.stations, ne_eq, not_true_eq_false, if_false,
    List.map_map, Net.row, Function.comp_def]

/-- After an id was registered twice, EVERY correctly shaped aggregate-current query raises
    (IndexError for a bad time index, else ValueError from numpy's broadcasting / matrix product,
    TypeError on a one-station network without constraints): the network is unusable, it does not
    return wrong numbers. -/
theorem reregistered_query_fails (f : FullNet K) (hlt : f.base.stations.length < f.c.length)
    (hpos : 0 < f.base.stations.length) (sched : List (List K))
    (hs : sched.length = f.base.stations.length) (T : Nat) (names : Option (List String))
    (times : Option (List Int)) : ∃ e, f.constraintCurrent sched T names times = .error e := by
  unfold FullNet.constraintCurrent
  cases Net.selTimes T times with
  | none => exact ⟨_, rfl⟩
  | some cols =>
    simp only
    unfold FullNet.broadcastWidth
    rw [hs]
    by_cases h1 : f.base.stations.length = 1
    · rw [if_neg (by omega), if_pos h1]
      simp only
      cases f.base.matrix with
      | none => exact ⟨_, rfl⟩
      | some rows =>
        simp only
        rw [if_pos (by omega)]
        exact ⟨_, rfl⟩
    · rw [if_neg (by omega), if_neg h1, if_neg (by omega)]
      exact ⟨_, rfl⟩

example : ∃ e, (FullNet.init.run [FOp.register "A" (1 : ℚ) 0 208, .register "B" 1 0 208,
    .register "A" 1 0 208, .add [("A", 1)] 5 none]).constraintCurrent [[1], [2]] 1 none none
      = .error e := ⟨.valueError, by decide +kernel⟩

end feas

/-! ## 6. The network in use: reads and save/resume between the edits -/
section use
variable {K : Type} [Field K] [LinearOrder K] [IsStrictOrderedRing K]

/-- `ChargingNetwork.from_json(net.to_json())` is the network that was saved: same stations in the
    same order, same matrix, limits, names, phase angles, voltages and tolerances (the station order
    travels ONLY as the key order of the `_EVSEs` dictionary). -/
theorem resume_eq (ids : String → Nat) (u : UNet K) : u.resume ids = u := UNet.resume_eq' ids u

example : (((UNet.init (1 : ℚ) 0).run [.edit (.register "s9" 1 0 208), .edit (.register "A" 0 1 240),
    .edit (.add [("A", 2)] 5 none)]).toDict (fun st => st.length)).evses = [("s9", 2), ("A", 1)] := by
  decide +kernel

/-- **Uses change nothing.**  For EVERY history that interleaves the edits with any number of
    feasibility questions (network / Interface / algorithm side, any mode and tolerances),
    aggregate-current queries, views, simulations and save/resume round trips: the object at the
    end is the one the edits alone produce, and the tolerances are the constructor's. -/
theorem history_with_uses (u : UNet K) (h : List (HOp K)) :
    (u.run h).full = u.full.run (edits h) ∧ (u.run h).vt = u.vt ∧ (u.run h).rt = u.rt := by
  induction h generalizing u with
  | nil => exact ⟨rfl, rfl, rfl⟩
  | cons o os ih =>
    cases o with
    | edit e =>
      have := ih (u.step (.edit e)).1
      simpa [UNet.run, UNet.step, edits, FullNet.run] using this
    | use x =>
      have := ih (u.step (.use x)).1
      rw [UNet.step_use] at this
      simpa [UNet.run, UNet.step_use, edits] using this

/-- … hence the alignment theorem holds for histories with uses: after ANY such history on a fresh
    network the three containers are the images of the specification's constraint list run over the
    edits alone, and the edits raised exactly where the specification refuses. -/
theorem history_with_uses_aligned (vt rt : K) (h : List (HOp K)) :
    editErrs ((UNet.init vt rt).answers h) = (Spec.init : Spec K).trace ((edits h).map FOp.toOp) ∧
      Refines ((UNet.init vt rt).run h).full.base ((Spec.init : Spec K).run ((edits h).map FOp.toOp)) := by
  refine ⟨?_, ?_⟩
  · rw [UNet.editErrs_answers]
    show (FullNet.init : FullNet K).trace (edits h) = _
    rw [FullNet.trace_base]
    exact (align_refines _).1
  · rw [(history_with_uses (UNet.init vt rt) h).1]
    exact full_refines (edits h)

def exUse : List (HOp ℚ) :=
  [.edit (.register "C" 1 0 208), .edit (.register "A" 0 1 208),
   .edit (.add [("A", 2), ("C", 1)] 7 none), .use (.feasible [[1], [2]] false none none),
   .use (.resume (fun _ => 0)), .edit (.add [("Z", 1)] 3 (some "bad")), .use .view,
   .use (.simulate [[[1], [1]]]), .edit (.update "_const_0" [("C", 3)] 9 (some "x")),
   .use (.query [[1], [2]] 1 none none true)]

example : edits exUse = [.register "C" 1 0 208, .register "A" 0 1 208,
    .add [("A", 2), ("C", 1)] 7 none, .add [("Z", 1)] 3 (some "bad"),
    .update "_const_0" [("C", 3)] 9 (some "x")] := rfl

example : ((UNet.init (0 : ℚ) 0).run exUse).full.base.matrix = some [[3, 0]] ∧
    ((UNet.init (0 : ℚ) 0).run exUse).full.base.magnitudes = [9] ∧
    ((UNet.init (0 : ℚ) 0).run exUse).full.base.index = ["x"] := by
  refine ⟨?_, ?_, ?_⟩ <;> decide +kernel

/-- **The model's `is_feasible` is C06's.**  On the network reached by any history of edits without
    re-registration, for a schedule with one row per station, the answer of
    `FullNet.isFeasible` (the entry point the correspondence of C12 exercises between the edits,
    with numpy's shape failures) is the answer of `Feas.Net.isFeasible` on the projected object —
    the function C06's theorems are about. -/
theorem use_feasible_eq_feas (ops : List (FOp K))
    (hfr : FullNet.FreshRun (FullNet.init : FullNet K) ops) (vt rt : K) (S : List (List K))
    (linear : Bool) (vt? rt? : Option K) (b : Bool) :
    let f := (FullNet.init : FullNet K).run ops
    S.length = f.base.stations.length →
    (f.isFeasible vt rt S linear vt? rt? = .ok b ↔
      (f.toFeas vt rt).isFeasible S linear vt? rt? = .ok b) := by
  intro f hS
  have hv : VecInv f := run_vecInv vecInv_init ops hfr
  unfold FullNet.isFeasible Feas.Net.isFeasible
  simp only [FullNet.toFeas]
  by_cases he : f.base.magnitudes.isEmpty = true
  · simp [he]
  · simp only [he, Bool.false_eq_true, if_false]
    cases hm : f.base.matrix with
    | none => simp
    | some rows =>
      simp only [Option.map_some]
      cases linear with
      | true => simp [hS]
      | false =>
        simp only [hv.width hS, Bool.false_eq_true, if_false, ne_eq, not_true_eq_false]
        rw [bcast_of_length hv.hc, bcast_of_length hv.hs, bcast_of_length hS]
        simp only [Except.ok.injEq]

example : FullNet.isFeasible ((FullNet.init : FullNet ℚ).run exFull) 0 0 [[1], [1], [9]] true none none
    = .ok false := by decide +kernel

end use

end Acn.C12
