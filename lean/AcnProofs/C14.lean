/-
  C14 — the battery models follow their documented charging laws.

  Property theorems only (helpers: `Lemmas/Battery*.lean`).  Carriers: a linear ordered
  field `K` for the ideal law, zero pilot and reset; ℝ (`HasExp ℝ = Real.exp`) for the
  two-stage closed form.  Noise off (`¬ 0 < noiseLevel`) wherever the law is deterministic.

  The documented law of `Linear2StageBattery` (class docstring, battery.py:132-134), as a
  rate of change of SoC:  `docRate p0 m ts s = min p0 (if s ≤ ts then m else m (1−s)/(1−ts))`
  — charge at the pilot's rate, capped by the maximum rate `m` up to the transition SoC `ts`
  and by a maximum that declines linearly to 0 at SoC 1 after it.
-/
import AcnProofs.Lemmas.BatteryLaw
import AcnProofs.Lemmas.BatteryUnique

namespace Acn.C14
open Acn Acn.Battery Acn.BattAlg Acn.BattFlow Acn.BattReal Acn.BattLaw
open Real Set Filter Topology

section field
variable {K : Type} [Field K] [LinearOrder K] [IsStrictOrderedRing K]

/-- ideal battery: the charging power is `min(pilot power, max power, power that exactly fills
    the battery in the period)`; charge and returned current follow from it; when the third
    term binds the battery ends exactly full -/
theorem ideal_law (b : Batt K) (pilot : K) {V T : K} (hV : 0 < V) (hT : 0 < T) :
    ∃ b' r, idealCharge b pilot V T = .ok (b', r) ∧
      b'.power = min (min (pilot * V / 1000) b.maxPower) ((b.capacity - b.charge) / (T / 60)) ∧
      b'.charge = b.charge + b'.power * (T / 60) ∧ r = b'.power * 1000 / V ∧
      (b'.power = (b.capacity - b.charge) / (T / 60) → b'.charge = b.capacity) := by
  refine ⟨_, _, idealCharge_ok b pilot hV hT, rfl, rfl, rfl, ?_⟩
  intro h
  show b.charge + idealPower b pilot V T * (T / 60) = b.capacity
  have h' : idealPower b pilot V T = (b.capacity - b.charge) / (T / 60) := h
  rw [h']; field_simp; ring

/-- ideal battery: delivered energy is non-decreasing in the pilot and in the period -/
theorem ideal_mono {b : Batt K} (hb : Inv b) {p1 p2 V T1 T2 : K} (hV : 0 < V) (hp1 : 0 ≤ p1)
    (hp : p1 ≤ p2) (hT1 : 0 < T1) (hT : T1 ≤ T2) :
    idealPower b p1 V T1 * (T1 / 60) ≤ idealPower b p2 V T1 * (T1 / 60) ∧
    idealPower b p1 V T1 * (T1 / 60) ≤ idealPower b p1 V T2 * (T2 / 60) := by
  have hm := hb.maxp_nonneg
  -- each energy is a minimum of three terms, every one of them monotone in the pilot and in the period
  rw [idealEnergy_eq b p1 V hT1, idealEnergy_eq b p2 V hT1, idealEnergy_eq b p1 V (hT1.trans_le hT)]
  constructor
  · gcongr
  · gcongr

/-- a zero pilot delivers nothing — every battery kind, every noise level and draw: the call
    returns 0 A, the charge is unchanged and the recorded power is 0 -/
theorem zero_pilot [HasExp K] {b : Batt K} (hb : Inv b) (ν : K) {V T : K} (hV : 0 < V) (hT : 0 < T) :
    ∃ b', charge b 0 V T ν = .ok (b', 0) ∧ b'.charge = b.charge ∧ b'.power = 0 := by
  -- the ideal power is at most the pilot's, which is 0
  have hi : idealPower b 0 V T ≤ 0 := by
    simpa using (idealPower_bounds hb (le_refl (0 : K)) hV hT).2.1
  refine charge_cases (P := fun x => ∃ b', x = .ok (b', 0) ∧ b'.charge = b.charge ∧ b'.power = 0) b 0 V T ν
    (fun _ _ => ⟨_, contCharge_zero b ν hV hT, rfl, rfl⟩) (fun _ _ => ?_) (fun _ => ?_)
  · obtain ⟨h0, h1⟩ := stepPower_bounds hb ν (le_refl (0 : K)) hV hT
    have hz : stepPower b 0 V T ν = 0 := le_antisymm (h1.trans hi) h0
    have e : stepCharge b 0 V T ν = .ok ({ b with power := 0 }, 0) := by
      rw [stepCharge_ok b 0 ν hV hT hb.cap_pos.ne', hz]; simp
    exact ⟨_, e, rfl, rfl⟩
  · have hz : idealPower b 0 V T = 0 :=
      le_antisymm hi (idealPower_bounds hb (le_refl (0 : K)) hV hT).1
    have e : idealCharge b 0 V T = .ok ({ b with power := 0 }, 0) := by
      rw [idealCharge_ok b 0 hV hT, hz]; simp
    exact ⟨_, e, rfl, rfl⟩

end field

/-! ### the two-stage closed form (ℝ) -/

/-- the documented law as a rate of change of SoC -/
noncomputable def docRate (p0 m ts y : ℝ) : ℝ :=
  min p0 (if y ≤ ts then m else m * (1 - y) / (1 - ts))

/-- with `κ = m/(1−ts)`: the documented rate is `min (min p0 m) (κ (1 − y))` -/
theorem docRate_eq {p0 m ts : ℝ} (hm : 0 < m) (hts : ts < 1) (y : ℝ) :
    docRate p0 m ts y = min (min p0 m) (m / (1 - ts) * (1 - y)) := by
  have h1 : 0 < 1 - ts := by linarith
  unfold docRate
  rw [min_assoc]
  congr 1
  split_ifs with h
  · rw [min_eq_left]
    rw [div_mul_eq_mul_div, le_div_iff₀ h1]; nlinarith
  · rw [min_eq_right]
    · ring
    · rw [div_mul_eq_mul_div, div_le_iff₀ h1]; nlinarith [not_le.mp h]

/-- the closed form, regime by regime.  With `p = min pilot_dsoc max_dsoc`,
    `κ = max_dsoc/(1−ts)` and `pts = 1 − p/κ` (which is the code's `pilot_transition_soc`):
    * pre-rampdown, no crossing within the period:  `s + p`
    * crossing at time `(pts − s)/p`:                `1 − (1−pts)·exp(−κ (s + p − pts)/p)`
    * rampdown from the start:                       `1 − (1−s)·exp(−κ)` -/
theorem twoStage_closed_form_regimes {s ts pd0 md : ℝ} (hmd : 0 < md) (hpd : 0 < pd0) (hts : ts < 1) :
    contPts ts (min pd0 md) md = 1 - min pd0 md / (md / (1 - ts)) ∧
    (s + min pd0 md ≤ 1 - min pd0 md / (md / (1 - ts)) → contSoc s ts pd0 md = s + min pd0 md) ∧
    (s < 1 - min pd0 md / (md / (1 - ts)) → 1 - min pd0 md / (md / (1 - ts)) < s + min pd0 md →
      contSoc s ts pd0 md = 1 - (min pd0 md / (md / (1 - ts))) *
        exp (-(md / (1 - ts)) * (s + min pd0 md - (1 - min pd0 md / (md / (1 - ts)))) / min pd0 md)) ∧
    (1 - min pd0 md / (md / (1 - ts)) ≤ s → contSoc s ts pd0 md = 1 - (1 - s) * exp (-(md / (1 - ts)))) := by
  have hp : 0 < min pd0 md := lt_min hpd hmd
  rw [contSoc_regimes hmd hpd hts]
  refine ⟨?_, fun h => ?_, fun h1 h2 => ?_, fun h => ?_⟩
  · unfold contPts
    rw [contPts_eq hmd.ne', div_div_eq_mul_div, mul_div_right_comm]
  · rw [if_pos (lt_of_lt_of_le (lt_add_of_pos_right s hp) h), if_pos h]
  · rw [if_pos h1, if_neg (not_le.mpr h2)]
  · rw [if_neg (not_lt.mpr h)]

/-- **the closed form solves the documented law.**  As a function of the elapsed time `t`
    (the pilot's and the maximum SoC rates per period are `p0·t`, `m·t`), the result of
    `_charge` has derivative `docRate` of its own value at every `t > 0` — including the
    crossing instant, where the two one-sided derivatives agree — and tends to the initial
    SoC as `t → 0+` (the code rejects `t = 0`). -/
theorem twoStage_solves_law {s ts p0 m : ℝ} (hm : 0 < m) (hp0 : 0 < p0) (hts : ts < 1) :
    (∀ t, 0 < t → HasDerivAt (fun τ => contSoc s ts (p0 * τ) (m * τ))
        (docRate p0 m ts (contSoc s ts (p0 * t) (m * t))) t) ∧
    Tendsto (fun τ => contSoc s ts (p0 * τ) (m * τ)) (𝓝[>] 0) (𝓝 s) := by
  have h1ts : 0 < 1 - ts := by linarith
  have hp : 0 < min p0 m := lt_min hp0 hm
  have hκ : 0 < m / (1 - ts) := div_pos hm h1ts
  constructor
  · intro t ht
    rw [docRate_eq hm hts, contSoc_eq_flow_t hm hp0 hts ht]
    refine (flowSoc_hasDerivAt hp hκ ht.le).congr_of_eventuallyEq ?_
    exact (eventually_gt_nhds ht).mono (fun τ hτ => contSoc_eq_flow_t hm hp0 hts hτ)
  · have hc := (flowSoc_hasDerivAt (s := s) hp hκ (le_refl 0)).continuousAt.tendsto
    rw [flowSoc_zero hp hκ] at hc
    refine (hc.mono_left nhdsWithin_le_nhds).congr' ?_
    exact eventually_nhdsWithin_of_forall (fun τ hτ => (contSoc_eq_flow_t hm hp0 hts hτ).symm)

/-- **… and it is THE solution**: any function that starts at `s`, is continuous on `[0, T]`
    and has right derivative `docRate` of its own value on `[0, T)` coincides with the
    result of `_charge` for every elapsed time in `(0, T]` (Grönwall; `docRate` is Lipschitz) -/
theorem twoStage_solves_law_unique {s ts p0 m T : ℝ} (hm : 0 < m) (hp0 : 0 < p0) (hts : ts < 1)
    (z : ℝ → ℝ) (hz0 : z 0 = s) (hzc : ContinuousOn z (Icc 0 T))
    (hz : ∀ t ∈ Ico 0 T, HasDerivWithinAt z (docRate p0 m ts (z t)) (Ici t) t) :
    ∀ t, 0 < t → t ≤ T → z t = contSoc s ts (p0 * t) (m * t) := by
  intro t ht htT
  have h1ts : 0 < 1 - ts := by linarith
  rw [contSoc_eq_flow_t hm hp0 hts ht]
  have hz' : ∀ t ∈ Ico 0 T, HasDerivWithinAt z (min (min p0 m) (m / (1 - ts) * (1 - z t))) (Ici t) t := by
    intro t ht; rw [← docRate_eq hm hts]; exact hz t ht
  exact BattFlow.flow_unique (lt_min hp0 hm) (div_pos hm h1ts) z hz0 hzc hz' t ⟨ht.le, htT⟩

/-- semigroup property in SoC units: charging for `a` and then for `c` (from the SoC reached)
    is charging for `a + c` — all regimes, including splits at, before and after the crossing -/
theorem split_period_soc {s ts p0 m a c : ℝ} (hm : 0 < m) (hp0 : 0 < p0) (hts : ts < 1)
    (ha : 0 < a) (hc : 0 < c) :
    contSoc (contSoc s ts (p0 * a) (m * a)) ts (p0 * c) (m * c) =
      contSoc s ts (p0 * (a + c)) (m * (a + c)) := by
  have h1ts : 0 < 1 - ts := by linarith
  rw [contSoc_eq_flow_t hm hp0 hts ha, contSoc_eq_flow_t hm hp0 hts hc,
    contSoc_eq_flow_t hm hp0 hts (add_pos ha hc),
    flowSoc_semigroup (lt_min hp0 hm) (div_pos hm h1ts) ha.le hc.le]

/-- **splitting a period** on the battery object: `charge(pilot, V, T)` leaves the same charge
    as `charge(pilot, V, a)` followed by `charge(pilot, V, T − a)`, for every `0 < a < T`
    (the property's `T/2` is the instance `a = T/2`), and the delivered ampere-minutes add up -/
theorem split_period {b : Batt ℝ} (hb : Inv b) (hm : 0 < b.maxPower) (hn : ¬ 0 < b.noiseLevel)
    (ν1 ν2 ν3 : ℝ) {pilot V a T : ℝ} (hV : 0 < V) (ha : 0 < a) (haT : a < T) (hp : 0 ≤ pilot) :
    ∃ b1 r1 b2 r2 bT rT, contCharge b pilot V a ν1 = .ok (b1, r1) ∧
      contCharge b1 pilot V (T - a) ν2 = .ok (b2, r2) ∧ contCharge b pilot V T ν3 = .ok (bT, rT) ∧
      b2.charge = bT.charge ∧ r1 * a + r2 * (T - a) = rT * T := by
  have hT : 0 < T := lt_trans ha haT
  have hTa : 0 < T - a := by linarith
  rcases eq_or_lt_of_le hp with h0 | h0
  · subst h0
    refine ⟨_, _, _, _, _, _, contCharge_zero b ν1 hV ha, contCharge_zero _ ν2 hV hTa,
      contCharge_zero b ν3 hV hT, rfl, by ring⟩
  · have hL : Lawful b := ⟨hb, hm, hn⟩
    obtain ⟨b1, r1, e1, hL1, hc1, hp1, hk1, hs1, hr1⟩ := contCharge_soc hL ν1 hV ha h0
    obtain ⟨b2, r2, e2, hL2, hc2, -, -, hs2, hr2⟩ := contCharge_soc hL1 ν2 hV hTa h0
    obtain ⟨bT, rT, eT, hLT, hcT, -, -, hsT, hrT⟩ := contCharge_soc hL ν3 hV hT h0
    -- the two routes end at the same SoC (semigroup), hence at the same charge (same capacity)
    have hsame : b2.charge = bT.charge := by
      rw [hL2.charge_eq, hLT.charge_eq, hs2, hsT, hp1, hk1, hs1, hc2, hc1, hcT,
        flowSoc_semigroup (rateP_pos hb hm h0 hV) (kappa_pos hb hm) ha.le hTa.le, add_sub_cancel]
    refine ⟨b1, r1, b2, r2, bT, rT, e1, e2, eT, hsame, ?_⟩
    rw [hr1, hr2, hrT, hsame]
    field_simp; ring

/-- delivered energy is non-decreasing in the length of the period -/
theorem mono_T {b : Batt ℝ} (hb : Inv b) (hm : 0 < b.maxPower) (hn : ¬ 0 < b.noiseLevel)
    (ν1 ν2 : ℝ) {pilot V T1 T2 : ℝ} (hV : 0 < V) (hT1 : 0 < T1) (hT : T1 ≤ T2) (hp : 0 ≤ pilot) :
    ∃ b1 r1 b2 r2, contCharge b pilot V T1 ν1 = .ok (b1, r1) ∧
      contCharge b pilot V T2 ν2 = .ok (b2, r2) ∧ b1.charge ≤ b2.charge := by
  have hT2 : 0 < T2 := lt_of_lt_of_le hT1 hT
  rcases eq_or_lt_of_le hp with h0 | h0
  · subst h0
    exact ⟨_, _, _, _, contCharge_zero b ν1 hV hT1, contCharge_zero b ν2 hV hT2, le_refl _⟩
  · have hL : Lawful b := ⟨hb, hm, hn⟩
    obtain ⟨b1, r1, e1, hL1, hc1, -, -, hs1, -⟩ := contCharge_soc hL ν1 hV hT1 h0
    obtain ⟨b2, r2, e2, hL2, hc2, -, -, hs2, -⟩ := contCharge_soc hL ν2 hV hT2 h0
    refine ⟨b1, r1, b2, r2, e1, e2, ?_⟩
    rw [hL1.charge_eq, hL2.charge_eq, hs1, hs2, hc1, hc2]
    exact mul_le_mul_of_nonneg_right
      (flowSoc_mono_t (rateP_pos hb hm h0 hV) (kappa_pos hb hm) hb.soc_le_one hT1.le hT)
      hb.cap_pos.le

/-- delivered energy is non-decreasing in the pilot (including across the clamp at the maximum
    rate and across the regime boundaries, which move with the pilot) -/
theorem mono_pilot {b : Batt ℝ} (hb : Inv b) (hm : 0 < b.maxPower) (hn : ¬ 0 < b.noiseLevel)
    (ν1 ν2 : ℝ) {p1 p2 V T : ℝ} (hV : 0 < V) (hT : 0 < T) (hp1 : 0 ≤ p1) (hp : p1 ≤ p2) :
    ∃ b1 r1 b2 r2, contCharge b p1 V T ν1 = .ok (b1, r1) ∧
      contCharge b p2 V T ν2 = .ok (b2, r2) ∧ b1.charge ≤ b2.charge := by
  rcases eq_or_lt_of_le hp1 with h0 | h0
  · subst h0
    obtain ⟨b2, r2, e2, hs2, _⟩ := contCharge_bounds hb hm ν2 hV hT hp
    exact ⟨_, _, b2, r2, contCharge_zero b ν1 hV hT, e2, hs2.charge_mono⟩
  · have hL : Lawful b := ⟨hb, hm, hn⟩
    obtain ⟨b1, r1, e1, hL1, hc1, -, -, hs1, -⟩ := contCharge_soc hL ν1 hV hT h0
    obtain ⟨b2, r2, e2, hL2, hc2, -, -, hs2, -⟩ := contCharge_soc hL ν2 hV hT (lt_of_lt_of_le h0 hp)
    refine ⟨b1, r1, b2, r2, e1, e2, ?_⟩
    rw [hL1.charge_eq, hL2.charge_eq, hs1, hs2, hc1, hc2]
    exact mul_le_mul_of_nonneg_right (flowSoc_mono_p (rateP_pos hb hm h0 hV)
      (rateP_mono b hb.cap_pos hV.le hp) (kappa_pos hb hm) hT.le) hb.cap_pos.le

/-- **reset after ANY history equals reset of the fresh battery**: calls never touch the
    parameters or the remembered initial charge, so `reset()` restores charge = init, power = 0
    and `reset(c)` has the same outcome (value or `ValueError`) as on the fresh object -/
theorem reset_restores (ops : List (Op ℝ)) (b : Batt ℝ) (i : Option ℝ) :
    reset (finalState b ops) i = reset b i ∧
    (reset b none = .ok { b with charge := b.init, power := 0 }) := by
  refine ⟨?_, rfl⟩
  obtain ⟨a1, a2, a3, a4, a5, a6, a7⟩ := finalState_sameParams ops b
  generalize finalState b ops = f at *
  obtain ⟨c, ch, ini, mp, pw, tw, nl, ts, cm⟩ := b
  obtain ⟨c', ch', ini', mp', pw', tw', nl', ts', cm'⟩ := f
  simp only at a1 a2 a3 a4 a5 a6 a7
  subst a1 a2 a3 a4 a5 a6 a7
  cases i <;> rfl

/-! ### non-vacuity -/

/-- `Linear2StageBattery(100, 70, 7)` (defaults: noise 0, transition SoC 0.8) -/
noncomputable def demo : Batt ℝ :=
  { capacity := 100, charge := 70, init := 70, maxPower := 7, power := 0, twoStage := true,
    noiseLevel := 0, ts := 4 / 5, cmode := .continuous }

theorem demo_ok : Inv demo ∧ 0 < demo.maxPower ∧ ¬ 0 < demo.noiseLevel :=
  ⟨by constructor <;> norm_num [demo], by norm_num [demo], by norm_num [demo]⟩

example : Inv demo ∧ 0 < demo.maxPower ∧ ¬ 0 < demo.noiseLevel := demo_ok

/-- the three regimes are all inhabited for `ts = 4/5`, `max_dsoc = 1/10`: pilot rate 1/20
    gives `pts = 9/10`; SoC 1/2 stays linear, SoC 22/25 crosses, SoC 19/20 ramps down -/
example : let pts : ℝ := 1 - min (1/20) (1/10) / ((1/10) / (1 - 4/5))
    pts = 9/10 ∧ (1/2 : ℝ) + min (1/20) (1/10) ≤ pts ∧
    ((22/25 : ℝ) < pts ∧ pts < 22/25 + min (1/20) (1/10)) ∧ pts ≤ (19/20 : ℝ) := by
  have : min (1/20 : ℝ) (1/10) = 1/20 := min_eq_left (by norm_num)
  simp only [this]; norm_num

/-- splitting applies to the demo battery: 32 A at 208 V, 5 minutes split 2 + 3 -/
example : ∃ b1 r1 b2 r2 bT rT, contCharge demo 32 208 2 0 = .ok (b1, r1) ∧
    contCharge b1 32 208 (5 - 2) 0 = .ok (b2, r2) ∧ contCharge demo 32 208 5 0 = .ok (bT, rT) ∧
    b2.charge = bT.charge ∧ r1 * 2 + r2 * (5 - 2) = rT * 5 :=
  split_period demo_ok.1 demo_ok.2.1 demo_ok.2.2 0 0 0 (by norm_num) (by norm_num) (by norm_num) (by norm_num)

end Acn.C14
