/-
  C11 — the event queue returns events by time then precedence, for every interleaving of
  operations; `get_current_events(t)` returns exactly the pending events with `ts ≤ t`; length,
  emptiness and last-timestamp reflect the pending set; a queue restored from JSON behaves
  identically.

  Property theorems only (helpers: `AcnProofs/Lemmas/Queue*.lean`).  Two layers
  (`AcnModel/Queue.lean`): the array heap transcribing CPython's `heapq` (`Acn.Queue`, what the
  driver executes against the real `EventQueue`) and the pending-multiset specification
  (`Acn.QSpec.Step`, which leaves the choice among equal keys open).  Every theorem is
  quantified over ALL operation sequences / states; nothing is bounded.
-/
import AcnProofs.Lemmas.QueueSpecRun
import AcnProofs.Lemmas.QueueRefine

namespace Acn.C11
open Acn Acn.QSpec

/-! ### the order (T1: precedences regenerated from event.py) -/

/-- obligation on the regenerated constants: Unplug < Plugin < Recompute -/
theorem prec_order : Gen.precUnplug < Gen.precPlugin ∧ Gen.precPlugin < Gen.precRecompute := by
  decide +kernel

/-- rank of a kind in the documented order: unplug, then plug-in, then recompute -/
def rank : EvKind → Nat
  | .unplug => 0 | .plugin => 1 | .recompute => 2

/-- with the precedences of the working tree, the tuple `<` is "timestamp, then unplug before
    plug-in before recompute" -/
theorem keyLt_by_kind (a b : Event) :
    a.keyLt b = true ↔ a.ts < b.ts ∨ (a.ts = b.ts ∧ rank a.kind < rank b.kind) := by
  obtain ⟨h1, h2⟩ := prec_order
  have h3 := h1.trans h2
  -- the three inequalities among the constants decide all nine pairs of kinds
  have : a.kind.prec < b.kind.prec ↔ rank a.kind < rank b.kind := by
    cases a.kind <;> cases b.kind <;>
      simp [EvKind.prec, rank, h1, h2, h3, h1.not_gt, h2.not_gt, h3.not_gt]
  rw [keyLt_iff, this]

/-- Python's tuple `<` on `(timestamp, event)` entries is a strict weak order: irreflexive,
    transitive, and incomparability (equal key) is transitive — for ANY precedence values. -/
theorem keyLt_strict_weak_order :
    (∀ a : Event, a.keyLt a = false) ∧
    (∀ a b c : Event, a.keyLt b = true → b.keyLt c = true → a.keyLt c = true) ∧
    (∀ a b c : Event, a.keyLt b = false → b.keyLt a = false → b.keyLt c = false →
      c.keyLt b = false → a.keyLt c = false ∧ c.keyLt a = false) :=
  ⟨keyLt_irrefl, keyLt_trans, keyLt_incomp_trans⟩

example : Event.keyLt ⟨3, .unplug, "a"⟩ ⟨3, .plugin, "a"⟩ = true ∧
    Event.keyLt ⟨3, .plugin, "a"⟩ ⟨3, .plugin, "b"⟩ = false ∧
    Event.keyLt ⟨3, .recompute, ""⟩ ⟨4, .unplug, "a"⟩ = true := by decide +kernel

/-! ### the heap layer (CPython `heapq` on an array) -/

/-- `heappush` keeps the heap invariant (no entry below its parent) and adds exactly one entry -/
theorem heap_push (a : Array Event) (e : Event) (h : Heap.Inv Event.keyLt a) :
    Heap.Inv Event.keyLt (Heap.heappush Event.keyLt a e) ∧
    (Heap.heappush Event.keyLt a e).toList.Perm (a.toList ++ [e]) := by
  obtain ⟨h1, h2⟩ := Heap.heappush_spec keyLt_swo a e h
  exact ⟨h1, by simpa using Array.perm_iff_toList_perm.mp h2⟩

/-- `heappop` on an empty heap raises; on a non-empty heap it returns a key-minimal entry,
    keeps the invariant, and the remaining multiset is the old one minus that entry -/
theorem heap_pop (a : Array Event) (h : Heap.Inv Event.keyLt a) :
    (a.size = 0 → Heap.heappop Event.keyLt a = .error .indexError) ∧
    (0 < a.size → ∃ e a', Heap.heappop Event.keyLt a = .ok (e, a') ∧
      Heap.Inv Event.keyLt a' ∧ a.toList.Perm (e :: a'.toList) ∧ e ∈ a.toList ∧
      ∀ x ∈ a.toList, x.keyLt e = false) := by
  refine ⟨Heap.heappop_empty a, fun hne => ?_⟩
  obtain ⟨a', h1, h2, h3⟩ := Heap.heappop_spec keyLt_swo a h hne
  exact ⟨a[0], a', h1, h2, h3, h3.symm.subset (by simp), h.root_min keyLt_swo hne⟩

/-- REFINEMENT, for every interleaving: the trace produced by the heap-layer queue from the
    empty queue over ANY operation sequence is a run of the specification, and the final
    array is a heap holding exactly the specification's pending multiset. -/
theorem refinement (ops : List QOp) :
    ∃ s', Run QSpec.empty0 (Queue.run Queue.empty0 ops).2 s' ∧
      Heap.Inv Event.keyLt (Queue.run Queue.empty0 ops).1.heap ∧
      (Queue.run Queue.empty0 ops).1.heap.toList.Perm s'.pending ∧
      (Queue.run Queue.empty0 ops).1.timestep = s'.timestep := by
  obtain ⟨s', h1, h2⟩ := Refines.empty0.run ops
  exact ⟨s', h1, h2.inv, h2.perm, h2.ts⟩

theorem heap_invariant (ops : List QOp) :
    Heap.Inv Event.keyLt (Queue.run Queue.empty0 ops).1.heap :=
  let ⟨_, _, h, _⟩ := refinement ops; h

/-- the same from any related pair of states (e.g. a restored queue, or mid-run) -/
theorem refinement_from (h : Queue.State) (s : QSpec.State) (r : Refines h s) (ops : List QOp) :
    ∃ s', Run s (Queue.run h ops).2 s' ∧ Refines (Queue.run h ops).1 s' := r.run ops

example : (Queue.run Queue.empty0
    [.add ⟨2, .recompute, "r"⟩, .add ⟨2, .plugin, "p"⟩, .add ⟨1, .plugin, "q"⟩, .add ⟨2, .unplug, "u"⟩,
     .getEvent, .getCurrent 2, .getEvent]).2.map Prod.snd =
    [.unit, .unit, .unit, .unit, .event ⟨1, .plugin, "q"⟩,
     .events [⟨2, .unplug, "u"⟩, ⟨2, .plugin, "p"⟩, ⟨2, .recompute, "r"⟩], .err .indexError] := by
  decide +kernel

/-- the executable instance of the specification (it picks the first inserted among the
    key-minimal events; the driver reports it next to the heap layer) is a run of the relation
    too — `Step` covers every choice function that returns a key-minimal pending event -/
theorem spec_instance_sound (s : State) (ops : List QOp) :
    Run s (QSpec.run s ops).2 (QSpec.run s ops).1 := by
  induction ops generalizing s with
  | nil => exact Run.nil s
  | cons op ops ih => exact Run.cons (step_sound s op) (ih _)

/-! ### what every run of the specification satisfies (hence every heap-layer run) -/

/-- every retrieval returns a key-minimal pending event and removes exactly it -/
theorem getEvent_min (s s' : State) (e : Event) (h : Step s .getEvent (.event e) s') :
    e ∈ s.pending ∧ (∀ x ∈ s.pending, x.keyLt e = false) ∧ s'.pending = s.pending.erase e := by
  cases h with
  | get _ hmin => exact ⟨hmin.1, hmin.2, rfl⟩

/-- `get_event` raises exactly on the empty queue -/
theorem getEvent_error_iff (s s' : State) (out : QOut) (h : Step s .getEvent out s') :
    out = .err .indexError ↔ s.pending = [] := by
  cases h with
  | getEmpty hs => simp [hs]
  | get e hmin =>
    simp only [reduceCtorEq, false_iff]
    intro hs; have := hmin.1; rw [hs] at this; simp at this

/-- `gets_sorted` (DESIGN §6 C11 formalisation): along ANY run of the specification, from any
    state, in which every inserted key is ≥ the most recent retrieval before it, the retrieved
    events are in non-decreasing key order (timestamp, then precedence). -/
theorem gets_sorted (s s' : State) (tr : List (QOp × QOut)) (h : Run s tr s')
    (hwt : wellTimed none tr) : (retrieved tr).Pairwise (fun a b => b.keyLt a = false) :=
  (run_sorted h none (by simp) hwt).1

/-- the same for the heap layer from the empty queue, for every operation sequence -/
theorem heap_gets_sorted (ops : List QOp)
    (hwt : wellTimed none (Queue.run Queue.empty0 ops).2) :
    (retrieved (Queue.run Queue.empty0 ops).2).Pairwise (fun a b => b.keyLt a = false) := by
  obtain ⟨s', h, _⟩ := refinement ops
  exact gets_sorted _ _ _ h hwt

/-- non-vacuity: a heap-layer run with interleaved adds and gets that is well timed, and what
    it retrieves -/
example : ∃ tr, (Queue.run Queue.empty0
      [.add ⟨1, .plugin, "a"⟩, .add ⟨3, .unplug, "a"⟩, .getEvent, .add ⟨1, .recompute, "r"⟩,
       .getCurrent 5]).2 = tr ∧ wellTimed none tr ∧
      retrieved tr = [⟨1, .plugin, "a"⟩, ⟨1, .recompute, "r"⟩, ⟨3, .unplug, "a"⟩] := by
  refine ⟨[(.add ⟨1, .plugin, "a"⟩, .unit), (.add ⟨3, .unplug, "a"⟩, .unit),
    (.getEvent, .event ⟨1, .plugin, "a"⟩), (.add ⟨1, .recompute, "r"⟩, .unit),
    (.getCurrent 5, .events [⟨1, .recompute, "r"⟩, ⟨3, .unplug, "a"⟩])], by decide +kernel, ?_, rfl⟩
  simp only [wellTimed]
  refine ⟨by simp, by simp, ?_, trivial⟩
  intro l hl; simp at hl; subst hl; decide +kernel

/-- `getCurrent_spec`: `get_current_events(t)` returns exactly the pending events with
    `ts ≤ t`, in non-decreasing key order, leaves exactly the others (in insertion order),
    and records `t`. -/
theorem getCurrent_spec (s s' : State) (t : Int) (out : QOut) (h : Step s (.getCurrent t) out s') :
    ∃ es, out = .events es ∧
      es.Perm (s.pending.filter (fun e => decide (e.ts ≤ t))) ∧
      es.Pairwise (fun a b => b.keyLt a = false) ∧
      s'.pending = s.pending.filter (fun e => !decide (e.ts ≤ t)) ∧ s'.timestep = t := by
  cases h with
  | cur _ es q' hcur =>
    obtain ⟨h1, h2, h3⟩ := hcur.spec
    exact ⟨es, rfl, h1, h2, h3, rfl⟩

/-- heap layer, any heap: the loop of `get_current_events` (whose fuel is the queue length)
    returns exactly the entries with `ts ≤ t`, sorted, and leaves a heap of exactly the others -/
theorem heap_getCurrent (h : Queue.State) (t : Int) (hinv : Heap.Inv Event.keyLt h.heap) :
    (Queue.getCurrent h t).2.Perm (h.heap.toList.filter (fun e => decide (e.ts ≤ t))) ∧
    (Queue.getCurrent h t).2.Pairwise (fun a b => b.keyLt a = false) ∧
    Heap.Inv Event.keyLt (Queue.getCurrent h t).1.heap ∧
    (Queue.getCurrent h t).1.heap.toList.Perm (h.heap.toList.filter (fun e => !decide (e.ts ≤ t))) ∧
    (Queue.getCurrent h t).1.timestep = t := by
  have r : Refines h ⟨h.heap.toList, h.timestep⟩ := ⟨hinv, List.Perm.refl _, rfl⟩
  obtain ⟨s', hstep, r'⟩ := r.step (.getCurrent t)
  obtain ⟨es, hout, h1, h2, h3, h4⟩ := getCurrent_spec _ _ _ _ hstep
  simp only [Queue.step] at hout r'
  simp only [QOut.events.injEq] at hout
  rw [hout]
  exact ⟨h1, h2, r'.inv, h3 ▸ r'.perm, r'.ts.trans h4⟩

/-- `len_empty_last`: in the specification the three queries are the length, emptiness and the
    maximum timestamp (`None` iff empty) of the pending multiset … -/
theorem len_empty_last (s s' : State) (out : QOut) :
    (Step s .len out s' → out = .nat s.pending.length ∧ s' = s) ∧
    (Step s .empty out s' → out = .bool (decide (s.pending = [])) ∧ s' = s) ∧
    (Step s .last out s' → s' = s ∧ ∃ o, out = .ts o ∧ (o = none ↔ s.pending = []) ∧
      ∀ m, o = some m ↔ (∃ x ∈ s.pending, x.ts = m) ∧ ∀ x ∈ s.pending, x.ts ≤ m) := by
  refine ⟨?_, ?_, ?_⟩
  · intro h; cases h; exact ⟨rfl, rfl⟩
  · intro h; cases h; refine ⟨?_, rfl⟩; cases s.pending <;> simp
  · intro h; cases h
    exact ⟨rfl, _, rfl, (lastTsList_spec _).1, (lastTsList_spec _).2⟩

/-- … and the heap layer answers them from the array exactly as the specification does from the
    multiset, in every state reached by any operation sequence -/
theorem heap_len_empty_last (ops : List QOp) :
    ∃ s', Run QSpec.empty0 (Queue.run Queue.empty0 ops).2 s' ∧
      Queue.len (Queue.run Queue.empty0 ops).1 = s'.pending.length ∧
      Queue.empty (Queue.run Queue.empty0 ops).1 = s'.pending.isEmpty ∧
      Queue.lastTimestamp (Queue.run Queue.empty0 ops).1 = lastTsList s'.pending := by
  obtain ⟨s', h1, r⟩ := Refines.empty0.run ops
  exact ⟨s', h1, r.size, r.empty_eq, lastTsList_perm r.perm⟩

/-- `restore_equiv`: a queue rebuilt from its serialised form (`_queue` array in array order,
    `_timestep`) is the SAME state — same array, not merely the same multiset — … -/
theorem restore_equiv (h : Queue.State) : Queue.fromJson (Queue.toJson h) = h := by
  simp [Queue.fromJson, Queue.toJson, fromWire_toWire]

/-- … hence every later result is identical, including the order among equal keys: a round trip
    anywhere in an operation sequence changes nothing but its own trace entry -/
theorem restore_continue (h : Queue.State) (ops₁ ops₂ : List QOp) :
    (Queue.run h (ops₁ ++ .roundtrip :: ops₂)).1 = (Queue.run h (ops₁ ++ ops₂)).1 ∧
    (Queue.run h (ops₁ ++ .roundtrip :: ops₂)).2.filter (fun p => p.1 ≠ .roundtrip) =
      (Queue.run h (ops₁ ++ ops₂)).2.filter (fun p => p.1 ≠ .roundtrip) := by
  induction ops₁ generalizing h with
  | nil =>
    have : (Queue.step h .roundtrip).1 = h := restore_equiv h
    simp only [List.nil_append, Queue.run, this]
    simp
  | cons op ops ih =>
    have := ih (Queue.step h op).1
    simp only [List.cons_append, Queue.run]
    refine ⟨this.1, ?_⟩
    simp only [List.filter_cons]
    rw [this.2]

/-- the serialised form lists every entry with its own timestamp, in array order -/
theorem wire_faithful (h : Queue.State) :
    (Queue.toJson h).1.map Prod.snd = h.heap.toList ∧ ∀ p ∈ (Queue.toJson h).1, p.1 = p.2.ts :=
  ⟨by simp [Queue.toJson, toWire, List.map_map, Function.comp_def], toWire_ts _⟩

example : let s := (Queue.run Queue.empty0 [.add ⟨2, .plugin, "p"⟩, .add ⟨1, .unplug, "u"⟩, .getCurrent 0]).1
    Queue.toJson s = ([(1, ⟨1, .unplug, "u"⟩), (2, ⟨2, .plugin, "p"⟩)], 0) := by decide +kernel

end Acn.C11
