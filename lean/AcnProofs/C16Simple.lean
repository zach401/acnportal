/-
  C16, part 2 — `simple_acn` (acnsim/network/sites/auto_acn.py): n single-phase stations of one EVSE type
  behind ONE aggregate constraint never admit more power than `aggregate_cap`.

  Namespace `Acn.C16`, continuing `AcnProofs/C16.lean`.  Carrier: any linear ordered field.
  The dependence of the limit on (`aggregate_cap`, `voltage`) is fitted on every run to the networks the factory
  of the working tree BUILDS (`Gen/SimpleAcn.lean`: a canonical monomial, the same for every spelling of the
  formula); `simple_formula` is the obligation on it, `simple_instances` the obligation on the executed calls.
  Exact arithmetic; the doubles are tied by the correspondence (partial).
-/
import AcnProofs.Lemmas.SimpleAcn

namespace Acn.C16
open Acn.Feas Acn.SimpleAcn Acn.Gen.SimpleAcn Acn.SimpleAcnLemmas

/-! ## T1 obligations on the regenerated data -/

section
variable {K : Type} [Field K] [LinearOrder K] [IsStrictOrderedRing K]

/-- **The regenerated limit of `simple_acn`.**  The monomial fitted to the built networks is
    `1000 · aggregate_cap / voltage`, so the limit of the aggregate constraint is `(aggregate_cap / voltage) · 1000`
    [A] for EVERY capacity and voltage; with `voltage = 0` Python's division raises. -/
theorem simple_formula (cap voltage : K) :
    limitMono = some { n := 1000, d := 1, cap := .times, voltage := .over } ∧
    limitOf cap voltage = if voltage = 0 then .error .zeroDivision else .ok (cap / voltage * 1000) := by
  have h : limitMono = some { n := 1000, d := 1, cap := .times, voltage := .over } := by decide
  refine ⟨h, ?_⟩
  by_cases hv : voltage = 0 <;>
    simp [limitOf, h, evalMono, applyDep, bind, Except.bind, isZero_iff, litK_eq, hv, pure, Except.pure]

end

/-- the documented defaults: 208 V, 150 kW, BASIC EVSEs -/
theorem simple_defaults_documented :
    defaultVoltage = some (208, 1) ∧ defaultCap = some (150, 1) ∧ defaultEvseType = "BASIC" := by
  decide +kernel

/-- every executed call (1 / 2 / 3 / 4 / 5 / 54 stations; the three EVSE types; 120 / 208 / 240 / 277 / 480 V;
    integer and fractional capacities; each argument also omitted): distinct stations in the order asked for,
    all at 0° and the requested voltage, one constraint with coefficient 1 on every station whose limit is the
    exact value of the fitted monomial (2⁻⁴⁰ relative for the double rounding), EVSEs of the requested type
    (`SimpleAcn.instOk`). -/
theorem simple_instances : insts.length = 8 ∧ insts.all instOk = true := by
  decide +kernel

/-! ## the model network -/

section
variable {K : Type} [Field K] [LinearOrder K] [IsStrictOrderedRing K]

/-- `simple_acn(ids, voltage, cap)` for any ids and any `voltage ≠ 0`: the stations are `ids`, every one at
    the requested voltage and angle 0, and there is exactly one constraint: coefficient 1 on every station,
    limit `cap / voltage · 1000` [A]. -/
theorem simple_acn_structure (ids : List String) (voltage cap : K) (hv : voltage ≠ 0) :
    simpleAcn ids voltage cap = .ok
      { stations := ids, voltages := List.replicate ids.length voltage, angles := List.replicate ids.length 0,
        M := [List.replicate ids.length 1], lims := [cap / voltage * 1000], names := [constraintName] } := by
  obtain ⟨_, h⟩ := simple_formula cap voltage
  simp only [simpleAcn, h, hv, if_false, bind, Except.bind, pure, Except.pure, List.map_const']

/-- with `voltage = 0` the factory raises `ZeroDivisionError` (after the registrations) -/
theorem simple_acn_zero_voltage (ids : List String) (cap : K) :
    simpleAcn ids 0 cap = .error .zeroDivision := by
  obtain ⟨_, h⟩ := simple_formula cap (0 : K)
  simp only [simpleAcn, h, if_true, bind, Except.bind]

example : simpleAcn ["a", "b", "c"] (208 : ℚ) 150 = .ok
    { stations := ["a", "b", "c"], voltages := [208, 208, 208], angles := [0, 0, 0], M := [[1, 1, 1]],
      lims := [9375 / 13], names := ["Aggregate Current"] } := by
  rw [simple_acn_structure _ _ _ (by norm_num)]; norm_num [constraintName, List.replicate]

/-- **Feasibility of a `simple_acn` network, exactly.**  For any station list, voltage ≠ 0, capacity,
    tolerances and schedule with one row per station: `is_feasible` answers, and it accepts **iff** in every
    period `0 ≤ b` and `|Σ_j S_j(t)| ≤ b`, `b = L + max(vt, rt·L)`, `L = cap / voltage · 1000`. -/
theorem simple_acn_feasible_iff (ids : List String) (voltage cap vt rt : K) (hv : voltage ≠ 0)
    (S : List (List K)) (hS : S.length = ids.length) :
    ∃ b, simpleFeasible ids voltage cap vt rt S = .ok b ∧
      (b = true ↔ ∀ t, t < periods S →
        0 ≤ cap / voltage * 1000 + max vt (rt * (cap / voltage * 1000)) ∧
        |total S t| ≤ cap / voltage * 1000 + max vt (rt * (cap / voltage * 1000))) := by
  refine ⟨netFeasible [List.replicate ids.length 1] [cap / voltage * 1000] (List.replicate ids.length 1)
    (List.replicate ids.length 0) vt rt S, ?_, ?_⟩
  · simp only [simpleFeasible, simple_acn_structure ids voltage cap hv, bind, Except.bind, netFeasible0]
    rw [if_pos (by simp [isZero_zero])]
    simp only [List.map_const', List.length_replicate]
  · simp only [total_eq]
    exact netFeasible_ones_iff ids.length _ vt rt S hS

/-- **C16 for `simple_acn`.**  Any number of stations, any voltage > 0, any capacity and tolerances: a
    schedule that `is_feasible` accepts draws, in every period, at the EVSE voltage at most
        voltage · Σ_j S_j(t) / 1000  ≤  aggregate_cap + voltage · max(vt, rt·L) / 1000      [kW]
    (`L = cap / voltage · 1000`; the second term is the network's declared tolerance `max(1e-5, 1e-7·L)` A
    expressed in kW — 2.1e-6 kW at 208 V for the defaults).  No sign condition on the schedule. -/
theorem simple_acn_power_le_cap (ids : List String) (voltage cap vt rt : K) (hv : 0 < voltage)
    (S : List (List K)) (hS : S.length = ids.length)
    (hfeas : simpleFeasible ids voltage cap vt rt S = .ok true) (t : Nat) (ht : t < periods S) :
    powerKW voltage S t ≤ cap + voltage * max vt (rt * (cap / voltage * 1000)) / 1000 := by
  obtain ⟨b, hb, hiff⟩ := simple_acn_feasible_iff ids voltage cap vt rt hv.ne' S hS
  rw [hb] at hfeas
  have hb' : b = true := by simpa using hfeas
  have h1 := le_trans (le_abs_self _) (hiff.mp hb' t ht).2
  rw [powerKW_eq, div_le_iff₀ (by norm_num : (0 : K) < 1000)]
  calc voltage * total S t
      ≤ voltage * (cap / voltage * 1000 + max vt (rt * (cap / voltage * 1000))) :=
        mul_le_mul_of_nonneg_left h1 hv.le
    _ = (cap + voltage * max vt (rt * (cap / voltage * 1000)) / 1000) * 1000 := by
        linear_combination voltage_mul_limit voltage cap hv.ne'

/-- the same with the tolerance spelled out, for non-negative capacity and tolerances:
    `≤ cap · (1 + rt) + voltage · vt / 1000` -/
theorem simple_acn_power_le_cap_explicit (ids : List String) (voltage cap vt rt : K) (hv : 0 < voltage)
    (hc : 0 ≤ cap) (hvt : 0 ≤ vt) (hrt : 0 ≤ rt)
    (S : List (List K)) (hS : S.length = ids.length)
    (hfeas : simpleFeasible ids voltage cap vt rt S = .ok true) (t : Nat) (ht : t < periods S) :
    powerKW voltage S t ≤ cap * (1 + rt) + voltage * vt / 1000 := by
  refine le_trans (simple_acn_power_le_cap ids voltage cap vt rt hv S hS hfeas t ht) ?_
  have hL : 0 ≤ rt * (cap / voltage * 1000) :=
    mul_nonneg hrt (mul_nonneg (div_nonneg hc hv.le) (by norm_num))
  have hmax : max vt (rt * (cap / voltage * 1000)) ≤ vt + rt * (cap / voltage * 1000) :=
    max_le_add_of_nonneg hvt hL
  calc cap + voltage * max vt (rt * (cap / voltage * 1000)) / 1000
      ≤ cap + voltage * (vt + rt * (cap / voltage * 1000)) / 1000 := by gcongr
    _ = cap * (1 + rt) + voltage * vt / 1000 := by
        linear_combination (rt / 1000) * voltage_mul_limit voltage cap hv.ne'

/-- **Converse (tightness).**  For voltage > 0, capacity ≥ 0 and a non-negative tolerance term, EVERY schedule
    whose periods each total exactly `L = cap / voltage · 1000` A is accepted, and it draws exactly
    `aggregate_cap` kW — the network does not stop short of the rating, and the bound of
    `simple_acn_power_le_cap` cannot be lowered below `cap`. -/
theorem simple_acn_tight (ids : List String) (voltage cap vt rt : K) (hv : 0 < voltage) (hc : 0 ≤ cap)
    (htol : 0 ≤ max vt (rt * (cap / voltage * 1000)))
    (S : List (List K)) (hS : S.length = ids.length)
    (hsum : ∀ t, t < periods S → total S t = cap / voltage * 1000) :
    simpleFeasible ids voltage cap vt rt S = .ok true ∧
    ∀ t, t < periods S → powerKW voltage S t = cap := by
  obtain ⟨b, hb, hiff⟩ := simple_acn_feasible_iff ids voltage cap vt rt hv.ne' S hS
  have hL : 0 ≤ cap / voltage * 1000 := mul_nonneg (div_nonneg hc hv.le) (by norm_num)
  constructor
  · rw [hb]
    congr 1
    rw [hiff]
    intro t ht
    rw [hsum t ht, abs_of_nonneg hL]
    exact ⟨add_nonneg hL htol, le_add_of_nonneg_right htol⟩
  · intro t ht
    rw [powerKW_eq, hsum t ht, voltage_mul_limit voltage cap hv.ne']
    norm_num

/-- non-vacuity of `simple_acn_tight` and of `simple_acn_power_le_cap`: three stations at 208 V behind 150 kW,
    two periods, each totalling 9375/13 A (= 150 kW): accepted with the default tolerances -/
example : simpleFeasible ["a", "b", "c"] (208 : ℚ) 150 (1 / 100000) (1 / 10000000)
    [[9375 / 13, 0], [0, 9000 / 13], [0, 375 / 13]] = .ok true ∧
    total ([[9375 / 13, 0], [0, 9000 / 13], [0, 375 / 13]] : List (List ℚ)) 1 = 150 / 208 * 1000 := by
  decide +kernel

/-- **Above the bound is rejected.**  A schedule one of whose periods totals more than
    `L + max(vt, rt·L)` is refused (so is one whose total is below `−(L + max …)`). -/
theorem simple_acn_above_rejected (ids : List String) (voltage cap vt rt : K) (hv : voltage ≠ 0)
    (S : List (List K)) (hS : S.length = ids.length) (t : Nat) (ht : t < periods S)
    (habove : cap / voltage * 1000 + max vt (rt * (cap / voltage * 1000)) < |total S t|) :
    simpleFeasible ids voltage cap vt rt S = .ok false := by
  obtain ⟨b, hb, hiff⟩ := simple_acn_feasible_iff ids voltage cap vt rt hv S hS
  rw [hb]
  congr 1
  rw [Bool.eq_false_iff]
  intro h
  exact absurd (hiff.mp h t ht).2 (not_le.mpr habove)

example : simpleFeasible ["a", "b", "c"] (208 : ℚ) 150 (1 / 100000) (1 / 10000000)
    [[9375 / 13], [1 / 1000], [0]] = .ok false := by decide +kernel

end
end Acn.C16
