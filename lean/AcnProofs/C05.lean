/-
  C05 — the scheduler is invoked exactly when required and sees the true, isolated state.

  Models: `AcnModel/EventCore.lean` (run loop), `AcnModel/Sim.lean` (full simulator, scheduler = parameter
  `View K → Except Err (Schedule K)`), `AcnModel/SchedView.lean` (`consulted`, `handedView`, `runViews`, `infra`),
  `AcnModel/NetEdits.lean` (`infraInfoAt`).

  What the code does (simulator.py:112-141, 212-236), stated precisely:
  * `_process_event` writes the EVENT'S OWN TIMESTAMP into `_last_schedule_update` for plug-in and
    unplug events (not for recompute events).  An event processed late (timestamp < iteration, e.g.
    a negative timestamp, or an unplug whose departure ≤ arrival) therefore leaves an EARLIER period
    there (`lastUpd_after_events`).
  * every processed event also sets `_resolve`, the recompute condition then holds in the same
    period, and the invocation overwrites `_last_schedule_update` with the current period.  Hence at
    every loop head `_resolve = False` and `_last_schedule_update` = period of the last invocation
    (`None` iff none) — `lastUpd_at_head`; the timestamps never influence a decision of `run()`.
  * consequently (`invoked_iff`): period `t` is an invocation period  ⇔  an event was popped in `t`
    ∨ (`max_recompute = m` ∧ (no earlier invocation ∨ `t − last ≥ m`)).  `max_recompute = 0` means
    "every period"; `None` means "only on events".

  * the trigger theorems are stated for `TraceG g`: traces of the period body under ANY loop condition `g`.
    `g = guard` is `Simulator.run` over plug-in / unplug / recompute events; `g = guardI ign` is the same
    loop over a queue that also holds events of types `_process_event` has no branch for (base
    `acnsim.Event`, user subclasses — `AcnModel/Ignored.lean`): they keep the loop going up to their
    timestamp and change nothing else, so "an event was popped" reads "a plug-in / unplug / recompute
    event was popped" and the closed form is `runI_invoked_iff`.

  Theorems about `EventCore` hold for EVERY configuration (valid or not) and every scheduler /
  pilot-application parameter (failing or not); the `_valid` versions add the closed form of "an
  event was popped in `t`" for valid scenarios from C01's loop invariant (`EventCore.Inv`, Lemmas/EventCoreHead.lean).

  What the scheduler sees: `view_true` (every dynamic field), `active_order` (sessions are listed in
  station REGISTRATION order), `infra_true` / `infra_ids_named` (every InfrastructureInfo field — a function of
  the static data; 0 x N when there are no constraints, the repaired F3).  When the network is EDITED while the
  simulation lives (`AcnModel/NetEdits.lean`: `update_constraint` / `remove_constraint` / `add_constraint` from the
  `post_charging_update` hook, before `run()`, between two `run()`s), the `infra_at_*` theorems: in every period the
  description is that of the network as edited so far — no staleness, no anticipation — and the ids of a view do
  not determine it (`infra_at_relimit_last`).

  INTERRUPTED AND RESUMED runs, `step()` prefixes: the last section (full-model / JSON half: AcnProofs/C05Resume.lean).
  Period `k` is invoked again on resume exactly once; a schedule supplied by `step()` counts as the last schedule
  update for the `run()` that follows.

  Isolation: in the model a view is a VALUE, so isolation holds by construction; what is proved is
  the precise form "the next state is a function of (state, value returned on the handed view)"
  (`isolation_model`, `isolation_run`).  That Python's object copies really are isolated is the
  correspondence half (vandalising scheduler, `harness/props/C05.py`).
-/
import AcnProofs.Lemmas.SchedView
import AcnProofs.Lemmas.SchedInfra
import AcnProofs.Lemmas.IgnoredEvents
import AcnProofs.Lemmas.NetEdits
import AcnProofs.Lemmas.StepContract
import Mathlib.Tactic

namespace Acn.C05
open Acn Acn.EventCore

/-! ## trigger logic (event core) -/

section core
variable {cfg : EventCore.Cfg} {sched apply : Core → Option Err} {g : Core → Bool}

theorem head_init (cfg : EventCore.Cfg) : Head (init cfg) :=
  ⟨rfl, rfl, by simp [init], by simp [init]⟩

/-- WITHIN a period, after the events: `_resolve` iff something was popped (when it was false at
    the head); `_last_schedule_update` = timestamp of the last plug-in/unplug popped (else unchanged) -/
theorem lastUpd_after_events {c c1 : Core} (h : eventsStage cfg c = (c1, none)) :
    c1.resolve = (c.resolve || !(popsAt c).isEmpty) ∧ c1.lastUpd = lastEvTs (popsAt c) c.lastUpd ∧
      c1.iter = c.iter ∧ c1.invoked = c.invoked :=
  let ⟨h1, h2, h3, h4⟩ := eventsStage_ok_facts h
  ⟨h3, h4, h1, h2⟩

/-- a late event: timestamp −3 processed in period 0 leaves −3 behind after the events stage; the
    invocation of the same period overwrites it with 0 -/
example :
    let cfg : EventCore.Cfg := { stations := ["A"], sessions := [⟨"x", "A", -3, 2⟩], recomputes := [], maxRecompute := none }
    (eventsStage cfg (init cfg)).1.lastUpd = some (-3) ∧ (body cfg noFail noFail (init cfg)).1.lastUpd = some 0
      ∧ (body cfg noFail noFail (init cfg)).1.invoked = [0] := by decide +kernel

/-- AT EVERY LOOP HEAD reached from a loop head: `_resolve` is false and `_last_schedule_update` is
    the period of the last invocation -/
theorem lastUpd_at_head {c c' : Core} {hs : List Core} (hc : Head c) (ht : TraceG g cfg sched apply c hs c') :
    c'.resolve = false ∧ c'.lastUpd = c'.invoked.getLast?.map (fun t => (t : Int)) ∧ c'.iter = c.iter + hs.length :=
  let ⟨h, hi, _⟩ := trace_head ht hc
  ⟨h.resolve, h.lastUpd, hi⟩

/-- every run of the loop IS such a trace (followed by one raising trip when it aborts) -/
theorem run_is_trace (n : Nat) (c c' : Core) (h : run cfg sched apply n c = (c', none)) :
    ∃ hs, Trace cfg sched apply c hs c' ∧ hs.length ≤ n ∧ (hs.length = n ∨ guard c' = false) :=
  run_trace n c c' none h

/-- the invocation that precedes period `t` in a list of invocation periods -/
def lastBefore (l : List Nat) (t : Nat) : Option Nat := (l.filter (· < t)).getLast?

/-- **invoked_iff** — for every configuration, every scheduler/pilot-application parameter, every loop
    condition `g` (whatever keeps the loop going: known events, `_resolve`, ignored-type events), every
    trace from a loop head `c` to `c'`, every head `h` of the trace (period `h.iter`):
    the scheduler was invoked in that period  ⇔  an event was popped in it, or `max_recompute = m`
    and the previous invocation (if any) lies at least `m` periods back. -/
theorem invoked_iff {c c' : Core} {hs : List Core} (hc : Head c) (ht : TraceG g cfg sched apply c hs c')
    {h : Core} (hh : h ∈ hs) :
    h.iter ∈ c'.invoked ↔
      popsAt h ≠ [] ∨ ∃ m, cfg.maxRecompute = some m ∧ ∀ u, lastBefore c'.invoked h.iter = some u → m + u ≤ h.iter := by
  obtain ⟨_, _, _, hf, hiff⟩ := trace_at ht hc hh
  rw [hiff, lastBefore, hf, trig_iff]

/-- nothing else is recorded: every invocation period added along a trace is a period of the trace,
    and the heads of a trace are the consecutive periods `c.iter, c.iter+1, …` -/
theorem invoked_only_in_trace {c c' : Core} {hs : List Core} (hc : Head c) (ht : TraceG g cfg sched apply c hs c') :
    (∀ t ∈ c'.invoked, t ∈ c.invoked ∨ ∃ h ∈ hs, h.iter = t) ∧ hs.map (·.iter) = List.range' c.iter hs.length :=
  ⟨trace_cover ht hc, (trace_head ht hc).2.2.2⟩

/-- whatever the parameters do (also when the run aborts with an error in the events, the scheduler or the
    pilot application) and whatever keeps the loop going, the recorded invocation periods are strictly
    increasing -/
theorem invoked_at_most_once_any_guard (n : Nat) (c' : Core) (o : Option Err)
    (h : runG g cfg sched apply n (init cfg) = (c', o)) : c'.invoked.Pairwise (· < ·) := by
  have := runG_trace n (init cfg) c' o h
  cases o with
  | none =>
    obtain ⟨hs, ht, _⟩ := this
    exact (trace_head ht (head_init cfg)).1.sorted
  | some e =>
    obtain ⟨hs, cl, ht, _, _, hb⟩ := this
    have hH := (trace_head ht (head_init cfg)).1
    rcases (body_err_invoked hb).2 with h1 | h1
    · rw [h1]; exact hH.sorted
    · rw [h1, List.pairwise_append]
      refine ⟨hH.sorted, by simp, ?_⟩
      intro a ha b hb'
      simp at hb'; subst hb'
      exact hH.lt_iter a ha

/-- **invoked_at_most_once** — `Simulator.run`, any parameters, any outcome: at most one invocation per period. -/
theorem invoked_at_most_once (n : Nat) (c' : Core) (o : Option Err)
    (h : run cfg sched apply n (init cfg) = (c', o)) : c'.invoked.Pairwise (· < ·) :=
  invoked_at_most_once_any_guard (g := guard) n c' o (by rw [runG_guard]; exact h)

theorem invoked_nodup (n : Nat) (c' : Core) (o : Option Err)
    (h : run cfg sched apply n (init cfg) = (c', o)) : c'.invoked.Nodup :=
  (invoked_at_most_once n c' o h).imp (fun hab => Nat.ne_of_lt hab)

/-- **invoked_after_events** (structural) — one trip round the loop consults the scheduler parameter
    at ONE state only: the state reached after this period's events, with the call recorded; and not
    at all when the recompute condition is false there or an event raised. -/
theorem invoked_after_events (c : Core) (sched' : Core → Option Err)
    (h : (eventsStage cfg c).2 = none → needsSched cfg.maxRecompute (eventsStage cfg c).1 = true →
      sched (markInvoked (eventsStage cfg c).1) = sched' (markInvoked (eventsStage cfg c).1)) :
    body cfg sched apply c = body cfg sched' apply c := by
  refine body_congr_sched fun c1 hes hn => ?_
  rw [hes] at h
  exact h rfl hn

/-! ### valid scenarios: the closed form -/

/-- **invoked_iff_valid** — valid scenario, trace from the constructor's state: period `t` of the
    trace is an invocation period  ⇔  some session arrives or departs at `t` or a recompute event
    carries timestamp `t`, or `max_recompute = m` and the previous invocation is ≥ `m` periods back. -/
theorem invoked_iff_valid (hv : Valid cfg) {c' : Core} {hs : List Core}
    (ht : TraceG g cfg sched apply (init cfg) hs c') {t : Nat} (hlt : t < hs.length) :
    t ∈ c'.invoked ↔
      EventAt cfg t ∨ ∃ m, cfg.maxRecompute = some m ∧ ∀ u, lastBefore c'.invoked t = some u → m + u ≤ t := by
  have hit := (trace_head ht (head_init cfg)).2.2.2
  have hmem : t ∈ hs.map (·.iter) := by
    rw [hit]; simp [init, List.mem_range']; omega
  obtain ⟨h, hh, rfl⟩ := List.mem_map.1 hmem
  rw [invoked_iff (head_init cfg) ht hh]
  have hI := (trace_inv hv ht (init_inv hv)).2 h hh
  rw [popsAt_ne_nil_iff hv hI]

/-! ### events of ignored types in the queue (`AcnModel/Ignored.lean`) -/

theorem runI_nil (n : Nat) (c : Core) : runI cfg sched apply [] n c = run cfg sched apply n c := by
  have hg : guardI [] = guard := by
    funext c
    simp [guardI, ignoredPending]
  unfold runI
  rw [hg]
  exact runG_guard n c

/-- **ignored_run_is_trace** — a run over a queue that also holds ignored-type events (any timestamps,
    late ones included) is a trace of the SAME period body: such events never reach `_resolve`,
    `_last_schedule_update`, the network or the queue, they only keep the loop going.  So
    `lastUpd_at_head`, `invoked_iff`, `invoked_only_in_trace`, `invoked_iff_valid` speak about it. -/
theorem ignored_run_is_trace (ign : List Int) (n : Nat) (c c' : Core) (h : runI cfg sched apply ign n c = (c', none)) :
    ∃ hs, TraceG (guardI ign) cfg sched apply c hs c' ∧ hs.length ≤ n ∧ (hs.length = n ∨ guardI ign c' = false) :=
  runG_trace n c c' none h

theorem invoked_at_most_once_ignored (ign : List Int) (n : Nat) (c' : Core) (o : Option Err)
    (h : runI cfg sched apply ign n (init cfg) = (c', o)) : c'.invoked.Pairwise (· < ·) :=
  invoked_at_most_once_any_guard n c' o h

/-- **runI_invoked_iff** — the whole run of a valid scenario whose queue also holds ignored-type events
    with timestamps `ign ≥ 0`, parameters that do not fail, any fuel ≥ `horizonI` (= one past the last
    timestamp, ignored ones included): the run is `horizonI` periods long, and period `t` is an invocation
    period ⇔ a session arrives or departs at `t` or a recompute event carries timestamp `t`, or
    `max_recompute = m` and the previous invocation is ≥ `m` periods back.  The ignored timestamps occur
    in the length of the run ONLY. -/
theorem runI_invoked_iff (hv : Valid cfg) {ign : List Int} (h0 : ∀ ts ∈ ign, 0 ≤ ts)
    (hsch : ∀ c, sched c = none) (hap : ∀ c, apply c = none) (n : Nat) (hn : horizonI cfg ign ≤ n) (t : Nat) :
    (runI cfg sched apply ign n (init cfg)).2 = none ∧ (runI cfg sched apply ign n (init cfg)).1.iter = horizonI cfg ign ∧
    (t ∈ (runI cfg sched apply ign n (init cfg)).1.invoked ↔
      t < horizonI cfg ign ∧ (EventAt cfg t ∨ ∃ m, cfg.maxRecompute = some m ∧
        ∀ u, lastBefore (runI cfg sched apply ign n (init cfg)).1.invoked t = some u → m + u ≤ t)) := by
  obtain ⟨c', hr, hI⟩ := runI_spec hv h0 hsch hap n 0 (init cfg) (init_inv hv) (Nat.zero_le _)
  rw [hr]
  simp only
  obtain ⟨hs, ht, _, _⟩ := runG_trace n (init cfg) c' none hr
  obtain ⟨hH, hit, _⟩ := trace_head ht (head_init cfg)
  have hiter : c'.iter = horizonI cfg ign := by
    rw [hI.iter]; omega
  have hlen : hs.length = horizonI cfg ign := by
    rw [hit] at hiter
    simp only [init, Nat.zero_add] at hiter
    exact hiter
  refine ⟨trivial, hiter, ?_⟩
  constructor
  · intro hm
    have hlt : t < horizonI cfg ign := by
      have := hH.lt_iter t hm
      omega
    exact ⟨hlt, (invoked_iff_valid hv ht (by omega)).1 hm⟩
  · rintro ⟨hlt, h⟩
    exact (invoked_iff_valid hv ht (by omega)).2 h

/-- `runI_invoked_iff` with the fuel the compiled driver uses (`fuelForI`) -/
theorem runI_invoked_iff_fuelForI (hv : Valid cfg) {ign : List Int} (h0 : ∀ ts ∈ ign, 0 ≤ ts)
    (hsch : ∀ c, sched c = none) (hap : ∀ c, apply c = none) (t : Nat) :
    t ∈ (runI cfg sched apply ign (fuelForI cfg ign) (init cfg)).1.invoked ↔
      t < horizonI cfg ign ∧ (EventAt cfg t ∨ ∃ m, cfg.maxRecompute = some m ∧
        ∀ u, lastBefore (runI cfg sched apply ign (fuelForI cfg ign) (init cfg)).1.invoked t = some u → m + u ≤ t) :=
  (runI_invoked_iff hv h0 hsch hap (fuelForI cfg ign) (horizonI_le_fuelForI cfg ign) t).2.2

/-! ### the loop of `run()` itself: no ignored-type events -/

/-- **run_invoked_iff** — the whole run of a valid scenario with parameters that do not fail, any
    fuel ≥ horizon (= last timestamp + 1): the set of invocation periods in closed form. -/
theorem run_invoked_iff (hv : Valid cfg) (hsch : ∀ c, sched c = none) (hap : ∀ c, apply c = none)
    (n : Nat) (hn : horizon cfg ≤ n) (t : Nat) :
    t ∈ (run cfg sched apply n (init cfg)).1.invoked ↔
      t < horizon cfg ∧ (EventAt cfg t ∨ ∃ m, cfg.maxRecompute = some m ∧
        ∀ u, lastBefore (run cfg sched apply n (init cfg)).1.invoked t = some u → m + u ≤ t) := by
  have h := (runI_invoked_iff hv (ign := []) (by simp) hsch hap n (by rw [horizonI_nil]; exact hn) t).2.2
  rwa [runI_nil, horizonI_nil] at h

/-- `run_invoked_iff` with the fuel the compiled drivers use (`horizon ≤ fuelFor`: `EventCore.horizon_le_fuelFor`):
    the run that is compared with the implementation is the run the closed form speaks about -/
theorem run_invoked_iff_fuelFor (hv : Valid cfg) (hsch : ∀ c, sched c = none) (hap : ∀ c, apply c = none) (t : Nat) :
    t ∈ (run cfg sched apply (fuelFor cfg) (init cfg)).1.invoked ↔
      t < horizon cfg ∧ (EventAt cfg t ∨ ∃ m, cfg.maxRecompute = some m ∧
        ∀ u, lastBefore (run cfg sched apply (fuelFor cfg) (init cfg)).1.invoked t = some u → m + u ≤ t) :=
  run_invoked_iff hv hsch hap (fuelFor cfg) (horizon_le_fuelFor cfg) t

/-! ### non-vacuity -/

/-- a valid scenario: one station, one session [1,6), a recompute event at 9, `max_recompute = 2` -/
def exCfg : EventCore.Cfg :=
  { stations := ["A"], sessions := [⟨"x", "A", 1, 6⟩], recomputes := [(9, "r")], maxRecompute := some 2 }

example : Valid exCfg := by decide

/-- period 0: never run; 1: plug-in; 3, 5: two periods elapsed; 6: unplug (one period after 5);
    8: two periods elapsed; 9: recompute event (one period after 8).  Not 2, 4, 7. -/
example : (run exCfg noFail noFail (fuelFor exCfg) (init exCfg)).1.invoked = [0, 1, 3, 5, 6, 8, 9]
    ∧ horizon exCfg = 10 ∧ horizon exCfg ≤ fuelFor exCfg := by decide +kernel

/-- `max_recompute = None`: only the event periods; `max_recompute = 0`: every period -/
example : (run { exCfg with maxRecompute := none } noFail noFail 12 (init exCfg)).1.invoked = [1, 6, 9]
    ∧ (run { exCfg with maxRecompute := some 0 } noFail noFail 12 (init exCfg)).1.invoked = [0, 1, 2, 3, 4, 5, 6, 7, 8, 9] := by
  decide +kernel

/-- ignored-type events at 6 (the unplug period) and 12 (after everything else): the invocations up to 9
    are the same, the loop goes on to period 12 on the timer (11), and with `max_recompute = None` the
    three extra periods see no invocation at all; `horizonI = 13` -/
example : (runI exCfg noFail noFail [6, 12] (fuelForI exCfg [6, 12]) (init exCfg)).1.invoked = [0, 1, 3, 5, 6, 8, 9, 11]
    ∧ (runI exCfg noFail noFail [6, 12] (fuelForI exCfg [6, 12]) (init exCfg)).1.iter = 13
    ∧ (runI { exCfg with maxRecompute := none } noFail noFail [6, 12] 20 (init exCfg)).1.invoked = [1, 6, 9]
    ∧ (runI { exCfg with maxRecompute := none } noFail noFail [6, 12] 20 (init exCfg)).1.iter = 13
    ∧ horizonI exCfg [6, 12] = 13 ∧ (∀ ts ∈ [6, 12], (0 : Int) ≤ ts) := by decide +kernel

/-- a failing scheduler: the period is recorded once, the run aborts there -/
example : (run exCfg (fun c => if c.iter = 3 then some .schedulerFailed else none) noFail 12 (init exCfg)).1.invoked = [0, 1, 3]
    ∧ (run exCfg (fun c => if c.iter = 3 then some .schedulerFailed else none) noFail 12 (init exCfg)).2 = some .schedulerFailed := by
  decide +kernel

end core

/-! ## what the scheduler sees, and isolation (full simulator model) -/

section sim
open Acn.Sim
variable {K : Type} [Add K] [Sub K] [Mul K] [Div K] [Neg K] [LT K] [LE K]
  [DecidableLT K] [DecidableLE K] [OfNat K 0] [OfNat K 1] [NatCast K] [HasExp K]

/-- the full model's loop is the event core's loop (`Sim.run_core`, Lemmas/EventCoreSim.lean), so every trigger theorem
    above speaks about `Sim.run`: the invocation periods of a run that raises nothing are those of
    the core run -/
theorem sim_invoked_core (cfg : Sim.Cfg K) (sched : View K → Except Err (Schedule K)) (n : Nat) (s : State K)
    (h : (Sim.run cfg sched n s).2 = none) :
    (Sim.run cfg sched n s).1.core.invoked = (EventCore.run cfg.core noFail noFail n s.core).1.invoked := by
  rw [run_core cfg sched n s h]

/-- `sim_invoked_core` for a queue that also holds ignored-type events -/
theorem simI_invoked_core (cfg : Sim.Cfg K) (sched : View K → Except Err (Schedule K)) (ign : List Int) (n : Nat) (s : State K)
    (h : (Sim.runI cfg sched ign n s).2 = none) :
    (Sim.runI cfg sched ign n s).1.core.invoked = (EventCore.runI cfg.core noFail noFail ign n s.core).1.invoked := by
  unfold EventCore.runI
  rw [runG_core (guardI ign) cfg sched n s h]
  rfl

/-- **views_faithful** — along a run that raises nothing, the recorded views are in order exactly one
    per invocation, and each carries its invocation period as `current_time` -/
theorem views_faithful (cfg : Sim.Cfg K) (sched : View K → Except Err (Schedule K)) (n : Nat) (s s' : State K)
    (h : Sim.run cfg sched n s = (s', none)) :
    s'.core.invoked = s.core.invoked ++ (runViews cfg sched n s).map (·.iter) := by
  rw [← runViewsG_guard]
  exact runG_invoked_views guard cfg sched n s s' (by rw [Sim.runG_guard]; exact h)

theorem views_faithful_ignored (cfg : Sim.Cfg K) (sched : View K → Except Err (Schedule K)) (ign : List Int) (n : Nat)
    (s s' : State K) (h : Sim.runI cfg sched ign n s = (s', none)) :
    s'.core.invoked = s.core.invoked ++ (runViewsI cfg sched ign n s).map (·.iter) :=
  runG_invoked_views (guardI ign) cfg sched n s s' h

/-- **sched_sees_handed_view** (after-events, at most once, for the full model) — one trip round the
    loop depends on the scheduler parameter only through its value on `handedView cfg s`, the view of
    the state reached after this period's events -/
theorem sched_sees_handed_view (cfg : Sim.Cfg K) (sched sched' : View K → Except Err (Schedule K)) (s : State K)
    (h : ∀ v, handedView cfg s = some v → sched v = sched' v) : Sim.body cfg sched s = Sim.body cfg sched' s :=
  body_congr cfg sched sched' s h

/-- **view_true** — every field of the view handed to the scheduler, as a function of the simulator
    state `s` at the loop head and of the occupancy `s1.core.occ` reached after this period's events:
    * `current_time` = the period;  `get_prev_peak` = `peak`;
    * active sessions = for each station (in registration order) its occupant after the events, if its
      remaining demand exceeds the `fully_charged` threshold — with the EV record (energy delivered,
      last actual rate) the simulator holds at the loop head, i.e. after the previous period's charging;
    * `last_applied_pilot_signals`: EMPTY while `iteration ≤ 1`; from the third period on, for every
      active session with `arrival ≤ iteration − 1`, the entry `pilot_signals[station, iteration − 1]`;
    * the occupancy list = occupants after the events. -/
theorem view_true (cfg : Sim.Cfg K) (s : State K) (v : View K) (h : handedView cfg s = some v) :
    ∃ s1, consulted cfg s = some s1 ∧ v = view cfg s1 ∧
      v.iter = s.core.iter ∧ v.peak = s.peak ∧
      (∀ e, e ∈ v.active ↔ ∃ st ∈ cfg.stations, ∃ x, s1.core.occ st.id = some x ∧ evOf s x.id = some e ∧
        cfg.fullEps < e.requested - e.delivered) ∧
      (s.core.iter ≤ 1 → v.lastPilots = []) ∧
      (2 ≤ s.core.iter → ∀ id p, (id, p) ∈ v.lastPilots ↔ ∃ e ∈ v.active, e.session = id ∧
        e.arrival ≤ ((s.core.iter - 1 : Nat) : Int) ∧ p = s.pilots.get (stationIndex cfg e.station) (s.core.iter - 1)) ∧
      v.connected = cfg.stations.map (fun st => (s1.core.occ st.id).map (·.id)) := by
  obtain ⟨s1, hc, _, rfl⟩ := (handedView_eq_some cfg s v).1 h
  obtain ⟨e1, e2, _, e4, e5, _⟩ := consulted_spec cfg s s1 hc
  have hev : ∀ id, evOf s1 id = evOf s id := fun id => by unfold evOf; rw [e1]
  refine ⟨s1, hc, rfl, e5, e4, ?_, ?_, ?_, rfl⟩
  · intro e
    show e ∈ activeEvs cfg s1 ↔ _
    rw [mem_activeEvs_iff]
    constructor
    · rintro ⟨st, hst, ho, hlt⟩
      obtain ⟨x, hx, hxe⟩ := (occupantEv_eq_some s1 st.id e).1 ho
      exact ⟨st, hst, x, hx, (hev x.id) ▸ hxe, hlt⟩
    · rintro ⟨st, hst, x, hx, hxe, hlt⟩
      exact ⟨st, hst, (occupantEv_eq_some s1 st.id e).2 ⟨x, hx, (hev x.id).symm ▸ hxe⟩, hlt⟩
  · intro hle
    exact lastApplied_early cfg s1 (by rw [e5]; exact hle)
  · intro hge id p
    show (id, p) ∈ lastApplied cfg s1 ↔ _
    rw [mem_lastApplied_iff cfg s1 (by rw [e5]; exact hge), e5, e2]
    rfl

/-- **view_true_valid** — valid scenario (`EventCore.Inv` at the loop head of period `t`): the
    occupant of station `st` at consultation time is the session with `arrival ≤ t < departure` on
    that station; so the active sessions are EXACTLY the connected, not fully charged ones. -/
theorem view_true_valid (cfg : Sim.Cfg K) (hv : Valid cfg.core) {t : Nat} {s : State K} (hI : Inv cfg.core t s.core)
    (v : View K) (h : handedView cfg s = some v) (e : Evse.Ev K) :
    e ∈ v.active ↔ ∃ st ∈ cfg.stations, ∃ x ∈ cfg.core.sessions, x.station = st.id ∧ x.arrival ≤ t ∧
      (t : Int) < x.departure ∧ evOf s x.id = some e ∧ cfg.fullEps < e.requested - e.delivered := by
  obtain ⟨s1, hc, _, _, _, hact, _⟩ := view_true cfg s v h
  rw [hact e]
  constructor
  · rintro ⟨st, hst, x, hx, hxe, hlt⟩
    obtain ⟨a, b, c, d⟩ := (consulted_occ_valid cfg hv hI hc st.id x).1 hx
    exact ⟨st, hst, x, a, b, c, d, hxe, hlt⟩
  · rintro ⟨st, hst, x, a, b, c, d, hxe, hlt⟩
    exact ⟨st, hst, x, (consulted_occ_valid cfg hv hI hc st.id x).2 ⟨a, b, c, d⟩, hxe, hlt⟩

/-- **isolation_model** — the next state depends only on (state, value returned on the handed view):
    replacing the scheduler by the constant function with that value changes nothing; and when no
    view is handed out the scheduler is irrelevant. -/
theorem isolation_model (cfg : Sim.Cfg K) (sched : View K → Except Err (Schedule K)) (s : State K) :
    (∀ v, handedView cfg s = some v → Sim.body cfg sched s = Sim.body cfg (fun _ => sched v) s) ∧
    (handedView cfg s = none → ∀ sched', Sim.body cfg sched s = Sim.body cfg sched' s) := by
  constructor
  · intro v hv
    apply body_congr
    intro v' hv'
    rw [hv] at hv'
    simp only [Option.some.injEq] at hv'
    rw [hv']
  · intro hn sched'
    apply body_congr
    intro v hv
    rw [hn] at hv
    simp at hv

/-- **isolation_run** — whole runs: a scheduler that returns the same values on the views handed out
    (whatever else it does, e.g. to its arguments) produces the same trajectory and is handed the
    same views -/
theorem isolation_run (cfg : Sim.Cfg K) (sched sched' : View K → Except Err (Schedule K)) (n : Nat) (s : State K)
    (h : ∀ v ∈ runViews cfg sched n s, sched v = sched' v) :
    Sim.run cfg sched' n s = Sim.run cfg sched n s ∧ runViews cfg sched' n s = runViews cfg sched n s :=
  run_congr cfg sched sched' n s h

theorem isolation_run_ignored (cfg : Sim.Cfg K) (sched sched' : View K → Except Err (Schedule K)) (ign : List Int)
    (n : Nat) (s : State K) (h : ∀ v ∈ runViewsI cfg sched ign n s, sched v = sched' v) :
    Sim.runI cfg sched' ign n s = Sim.runI cfg sched ign n s ∧ runViewsI cfg sched' ign n s = runViewsI cfg sched ign n s :=
  runG_congr (guardI ign) cfg sched sched' n s h

omit [Add K] [Sub K] [Mul K] [Div K] [Neg K] [LE K] [DecidableLE K] [OfNat K 1] [NatCast K] [HasExp K] in
/-- the infrastructure description is a function of the static configuration: one entry per
    registered station, in registration order -/
theorem infra_static (cfg : Sim.Cfg K) : (infra cfg).map (·.id) = cfg.core.stations := by
  simp [infra, Sim.Cfg.core]

/-- **active_order** — the ORDER in which the view lists sessions (`active_sessions()`, the argument
    of `schedule()`, and the deprecated `active_evs`, which all enumerate `network.active_evs`):
    station REGISTRATION order — the list of occupants station by station, with the vacant stations
    and the fully charged occupants dropped; not plug-in order, not arrival order.  The
    `last_applied_pilot_signals` entries follow the same order. -/
theorem active_order (cfg : Sim.Cfg K) (s : State K) (v : View K) (h : handedView cfg s = some v) :
    ∃ s1, consulted cfg s = some s1 ∧
      v.active = (cfg.stations.map fun st => occupantEv s1 st.id).filterMap (fun o => o.filter (isActive cfg)) ∧
      (v.active.map some).Sublist (cfg.stations.map fun st => occupantEv s1 st.id) ∧
      (v.lastPilots.map Prod.fst).Sublist (v.active.map (·.session)) := by
  obtain ⟨s1, hc, _, rfl⟩ := (handedView_eq_some cfg s v).1 h
  exact ⟨s1, hc, activeEvs_eq_filterMap cfg s1, activeEvs_sublist cfg s1, lastApplied_keys_sublist cfg s1⟩

omit [Add K] [Sub K] [Mul K] [Div K] [Neg K] [LE K] [DecidableLE K] [OfNat K 1] [NatCast K] [HasExp K] in
/-- **infra_true** — EVERY field of the `InfrastructureInfo` handed out, for a network built by
    registering the (distinct) stations and then adding constraints over registered stations:
    station ids = registration order; voltages / phases = what `register_evse` was given; one matrix
    row per constraint, in `add_constraint` order, whose entry for station `j` is the coefficient of
    `j` in the constrained `Current` (0 if absent); limits in the same order; per-station part =
    `infra cfg`; no constraints = 0 x N.  The view is a function of the static data only. -/
theorem infra_true (cfg : Sim.Cfg K) (nd : NetDesc K) (hnd : (cfg.stations.map (·.id)).Nodup)
    (hk : ∀ c ∈ nd.constraints, ∀ k ∈ c.1.keys, k ∈ cfg.stations.map (·.id)) :
    (infraInfo cfg nd).stationIds = cfg.stations.map (·.id) ∧
    (infraInfo cfg nd).voltages = cfg.stations.map (·.voltage) ∧
    (infraInfo cfg nd).phases = nd.phases ∧
    (infraInfo cfg nd).constraintMatrix =
      nd.constraints.map (fun c => (cfg.stations.map (·.id)).map (Network.Current.coeff c.1)) ∧
    (infraInfo cfg nd).constraintLimits = nd.constraints.map (·.2.1) ∧
    (infraInfo cfg nd).constraintIds.length = nd.constraints.length ∧
    (infraInfo cfg nd).stations = infra cfg := by
  obtain ⟨a1, a2, a3, a4⟩ := run_adds nd.constraints (⟨cfg.stations.map (·.id), none, [], []⟩ : Network.Net K) rfl hk
  have a5 := (congrArg List.length a4).trans (resolved_length nd.constraints [])
  simp only [List.nil_append, Option.getD_none, List.length_nil, Nat.zero_add] at a2 a3 a5
  unfold infraInfo netOf
  rw [run_register_stations cfg hnd]
  exact ⟨a1, rfl, rfl, a2, a3, a5, rfl⟩

omit [Add K] [Sub K] [Mul K] [Div K] [Neg K] [LE K] [DecidableLE K] [OfNat K 1] [NatCast K] [HasExp K] in
/-- explicitly and distinctly named constraints appear under their names, in `add_constraint` order -/
theorem infra_ids_named (cfg : Sim.Cfg K) (nd : NetDesc K) (hnd : (cfg.stations.map (·.id)).Nodup)
    (hk : ∀ c ∈ nd.constraints, ∀ k ∈ c.1.keys, k ∈ cfg.stations.map (·.id))
    (hsome : ∀ c ∈ nd.constraints, c.2.2.isSome) (hnames : (nd.constraints.filterMap (·.2.2)).Nodup) :
    (infraInfo cfg nd).constraintIds = nd.constraints.filterMap (·.2.2) := by
  have := (run_adds nd.constraints (⟨cfg.stations.map (·.id), none, [], []⟩ : Network.Net K) rfl hk).2.2.2
  rw [resolved_named nd.constraints [] hsome (by simpa using hnames), List.nil_append] at this
  unfold infraInfo netOf
  rw [run_register_stations cfg hnd]
  exact this

end sim

/-! ## the network EDITED between invocations (`AcnModel/NetEdits.lean`)

  `infra_true` speaks about the network the simulator is built with.  The network object stays editable
  (`add_constraint` / `remove_constraint` / `update_constraint`, from the `post_charging_update` hook, before
  `run()`, between two `run()`s); the description handed out in period `t` must be the description of the network
  AS EDITED SO FAR — nothing older.  The plain-list specification of the network (`Network.Spec`, C12) says what
  that is; `Network.run_refines` (C12) ties the code's three parallel containers to it for every history. -/

section edits
open Acn.Sim Acn.Network
variable {K : Type} [Zero K] [LT K] [DecidableLT K]

/-- **infra_at_true** — for EVERY configuration, EVERY edit history (rejected operations included) and every
    period `t`: the `InfrastructureInfo` handed out in period `t` describes exactly the constraint list a user
    obtains by replaying, on paper, the construction of the network and then the edits made before the invocation
    of period `t`, in the order made (`Spec.run Spec.init (historyAt …)`): the names in that order, the limits in
    that order, one matrix row per constraint whose entry for station `j` is the coefficient of `j` in the
    constrained current (0 if absent).  Voltages, phase angles and the per-station part are those of the
    construction. -/
theorem infra_at_true (cfg : Sim.Cfg K) (nd : NetDesc K) (edits : List (NetEdit K)) (t : Nat) :
    let sp := Spec.run Spec.init (historyAt cfg nd edits t)
    (infraInfoAt cfg nd edits t).stationIds = sp.stations ∧
    (infraInfoAt cfg nd edits t).constraintIds = sp.cons.map (·.name) ∧
    (infraInfoAt cfg nd edits t).constraintLimits = sp.cons.map (·.limit) ∧
    (infraInfoAt cfg nd edits t).constraintMatrix =
      sp.cons.map (fun c => sp.stations.map (Current.coeff c.cur)) ∧
    (infraInfoAt cfg nd edits t).voltages = cfg.stations.map (·.voltage) ∧
    (infraInfoAt cfg nd edits t).phases = nd.phases ∧
    (infraInfoAt cfg nd edits t).stations = infra cfg := by
  intro sp
  have hr := (run_refines (refines_init (K := K)) (historyAt cfg nd edits t)).2
  rw [← netAt_eq_run] at hr
  exact ⟨hr.stations, hr.index, hr.mags, hr.rows, rfl, rfl, rfl⟩

/-- constraint edits never change WHICH stations are described, nor their order, voltages, phase angles,
    pilot ranges: that part of every view is the one of the construction (`infra_true`) -/
theorem infra_at_static (cfg : Sim.Cfg K) (nd : NetDesc K) (edits : List (NetEdit K)) (t : Nat)
    (hnd : (cfg.stations.map (·.id)).Nodup) :
    (infraInfoAt cfg nd edits t).stationIds = cfg.stations.map (·.id) ∧
    (infraInfoAt cfg nd edits t).stationIds = (infraInfo cfg nd).stationIds ∧
    (infraInfoAt cfg nd edits t).voltages = (infraInfo cfg nd).voltages ∧
    (infraInfoAt cfg nd edits t).phases = (infraInfo cfg nd).phases ∧
    (infraInfoAt cfg nd edits t).stations = (infraInfo cfg nd).stations := by
  have h1 : (netAt cfg nd edits t).stations = cfg.stations.map (·.id) := by
    unfold netAt editsInForce
    rw [run_opsOf_stations, netOf_stations cfg nd hnd]
  exact ⟨h1, h1.trans (netOf_stations cfg nd hnd).symm, rfl, rfl, rfl⟩

/-- before the first edit comes into force the description is the one of the construction -/
theorem infra_at_before (cfg : Sim.Cfg K) (nd : NetDesc K) (edits : List (NetEdit K)) (t : Nat)
    (h : ∀ e ∈ edits, t < e.since) : infraInfoAt cfg nd edits t = infraInfo cfg nd := by
  have h0 : entriesInForce edits t = [] := by
    unfold entriesInForce
    rw [List.filter_eq_nil_iff]
    intro e he
    simpa using h e he
  unfold infraInfoAt infraInfo netAt editsInForce
  rw [h0]
  rfl

/-- NO STALENESS, NO ANTICIPATION: the description depends on the history only through the entries in force —
    two periods between which nothing came into force see the same description … -/
theorem infra_at_congr (cfg : Sim.Cfg K) (nd : NetDesc K) (edits : List (NetEdit K)) (t t' : Nat)
    (h : ∀ e ∈ edits, (e.since ≤ t ↔ e.since ≤ t')) :
    infraInfoAt cfg nd edits t = infraInfoAt cfg nd edits t' := by
  have h0 : entriesInForce edits t = entriesInForce edits t' := by
    unfold entriesInForce
    apply List.filter_congr
    intro e he
    simp [h e he]
  unfold infraInfoAt netAt editsInForce
  rw [h0]

omit [LT K] [DecidableLT K] in
/-- … and (history in application order) the network described at a LATER invocation is the network described
    at the earlier one with exactly the operations that came into force in between applied to it, in order.
    In particular every one of them is reflected: an implementation that hands out at `t'` what it assembled at
    `t` is correct only if that list of operations leaves the containers unchanged. -/
theorem infra_at_between (cfg : Sim.Cfg K) (nd : NetDesc K) (edits : List (NetEdit K))
    (hs : edits.Pairwise fun a b => a.since ≤ b.since) {t t' : Nat} (h : t ≤ t') :
    netAt cfg nd edits t' =
      Net.run (netAt cfg nd edits t) (opsOf (edits.filter fun e => decide (t < e.since ∧ e.since ≤ t'))) := by
  unfold netAt editsInForce
  rw [entriesInForce_split edits hs h, opsOf_append, Sim.run_append]

/-- **infra_at_relimit_last** — the time-varying site limit: `update_constraint(name, current, limit)` under
    the SAME name on the LAST constraint (a unique name), coming into force between the invocations of periods
    `t` and `t'`.  The two invocations see the same constraint ids in the same order and the same stations — and
    the later one sees the new limit and the new row in the last position (everything else as before).  So the
    ids (and station ids) of a view do NOT determine it. -/
theorem infra_at_relimit_last (cfg : Sim.Cfg K) (nd : NetDesc K) (edits : List (NetEdit K)) (t t' T : Nat)
    (name : String) (c : Current K) (l : K) (ns : List String)
    (hin : ∀ e ∈ edits, e.since ≤ t) (htT : t < T) (hTt : T ≤ t')
    (hids : (infraInfoAt cfg nd edits t).constraintIds = ns ++ [name]) (hname : name ∉ ns)
    (hk : ∀ k ∈ c.keys, k ∈ (infraInfoAt cfg nd edits t).stationIds) :
    let hist := edits ++ [⟨T, [ConOp.update name c l none]⟩]
    infraInfoAt cfg nd hist t = infraInfoAt cfg nd edits t ∧
    (infraInfoAt cfg nd hist t').constraintIds = (infraInfoAt cfg nd hist t).constraintIds ∧
    (infraInfoAt cfg nd hist t').stationIds = (infraInfoAt cfg nd hist t).stationIds ∧
    (infraInfoAt cfg nd hist t').constraintLimits = (infraInfoAt cfg nd hist t).constraintLimits.dropLast ++ [l] ∧
    (infraInfoAt cfg nd hist t').constraintMatrix =
      (infraInfoAt cfg nd hist t).constraintMatrix.dropLast ++
        [(infraInfoAt cfg nd hist t).stationIds.map (Current.coeff c)] := by
  intro hist
  have hall : edits.filter (fun e => decide (e.since ≤ t)) = edits := by
    rw [List.filter_eq_self]; intro e he; simpa using hin e he
  have hall' : edits.filter (fun e => decide (e.since ≤ t')) = edits := by
    rw [List.filter_eq_self]; intro e he; simpa using le_trans (hin e he) (le_trans (le_of_lt htT) hTt)
  have hf : entriesInForce hist t = entriesInForce edits t := by
    unfold entriesInForce
    rw [List.filter_append, List.filter_cons_of_neg (by simpa using htT)]
    simp
  have hf' : entriesInForce hist t' = entriesInForce edits t ++ [⟨T, [ConOp.update name c l none]⟩] := by
    unfold entriesInForce
    rw [List.filter_append, List.filter_cons_of_pos (by simpa using hTt), hall, hall']
    simp
  have hst : infraInfoAt cfg nd hist t = infraInfoAt cfg nd edits t := by
    unfold infraInfoAt netAt editsInForce; rw [hf]
  have hhist : historyAt cfg nd hist t' = historyAt cfg nd edits t ++ [Op.update name c l none] := by
    unfold historyAt editsInForce
    rw [hf', opsOf_append]
    simp [opsOf, ConOp.toOp]
  obtain ⟨b1, b2, b3, b4, -, -, -⟩ := infra_at_true cfg nd edits t
  obtain ⟨a1, a2, a3, a4, -, -, -⟩ := infra_at_true cfg nd hist t'
  rw [hhist, spec_run_snoc] at a1 a2 a3 a4
  generalize Spec.run Spec.init (historyAt cfg nd edits t) = sp at b1 b2 b3 b4 a1 a2 a3 a4
  rw [b2] at hids
  obtain ⟨cs, xs, hcons, hcs, hxs⟩ := List.map_eq_append_iff.1 hids
  obtain ⟨x, rfl, hx⟩ : ∃ x, xs = [x] ∧ x.name = name := by
    match xs, hxs with
    | [x], h => exact ⟨x, rfl, by simpa using h⟩
  subst hx
  have hupd := spec_update_last sp cs x c l hcons (by rw [hcs]; exact hname) (by rw [← b1]; exact hk)
  have hstep : (sp.step (Op.update x.name c l none)).1 = { sp with frozen := true, cons := cs ++ [⟨c, l, x.name⟩] } := hupd
  rw [hstep] at a1 a2 a3 a4
  refine ⟨hst, ?_, ?_, ?_, ?_⟩
  · rw [hst, a2, b2, hcons]; simp
  · rw [hst, a1, b1]
  · rw [hst, a3, b3, hcons]; simp
  · rw [hst, a4, b4, b1, hcons]; simp

/-- non-vacuity (ℚ): stations A, B; "agg" over both at 64 A and an unnamed row on B -/
def exCfg2 : Sim.Cfg ℚ :=
  { stations := [⟨"A", .cont 0 (some 32), 208⟩, ⟨"B", .finite [0, 8, 16], 240⟩], evs := [], recomputes := [],
    maxRecompute := some 2, period := 5, atolCont := 1 / 1000, atolDeadband := 1 / 1000, atolFinite := 1 / 1000,
    fullEps := 1 / 1000, noise := [] }

def exNd : NetDesc ℚ :=
  { phases := [30, -90], constraints := [([("A", 1), ("B", 1)], 64, some "agg"), ([("B", 2)], 40, none)] }

/-- the hook of period 2 re-rates the LAST constraint under its own name (40 → 24), the hook of period 5 re-rates
    "agg" (which moves to the end), an edit between two `run()`s (the first stopped at 9) removes the unnamed row -/
def exEdits : List (NetEdit ℚ) :=
  [⟨3, [.update "_const_1" [("B", 2)] 24 none]⟩, ⟨6, [.update "agg" [("A", 1), ("B", 1)] 50 none]⟩, ⟨9, [.remove "_const_1"]⟩]

/-- periods ≤ 2 see the construction, periods 3-5 the same ids with the new limit, periods ≥ 6 the reordered
    rows, periods ≥ 9 one row -/
example :
    (infraInfoAt exCfg2 exNd exEdits 2).constraintLimits = (infraInfo exCfg2 exNd).constraintLimits ∧
    (infraInfoAt exCfg2 exNd exEdits 2).constraintLimits = [64, 40] ∧
    (infraInfoAt exCfg2 exNd exEdits 3).constraintIds = ["agg", "_const_1"] ∧
    (infraInfoAt exCfg2 exNd exEdits 3).constraintLimits = [64, 24] ∧
    (infraInfoAt exCfg2 exNd exEdits 5).constraintMatrix = [[1, 1], [0, 2]] ∧
    (infraInfoAt exCfg2 exNd exEdits 6).constraintIds = ["_const_1", "agg"] ∧
    (infraInfoAt exCfg2 exNd exEdits 6).constraintLimits = [24, 50] ∧
    (infraInfoAt exCfg2 exNd exEdits 8).constraintMatrix = [[0, 2], [1, 1]] ∧
    (infraInfoAt exCfg2 exNd exEdits 9).constraintIds = ["agg"] ∧
    (infraInfoAt exCfg2 exNd exEdits 40).constraintMatrix = [[1, 1]] := by
  decide +kernel

/-- the hypotheses of `infra_at_static`, `infra_at_between` and `infra_at_relimit_last` (first entry of `exEdits`:
    `t = 2 < T = 3 ≤ t' = 5`, no earlier entry) hold here, and the conclusion of the latter reads: ids
    `["agg", "_const_1"]` in both periods, limits `[64, 40]` then `[64, 24]` -/
example :
    (exCfg2.stations.map (·.id)).Nodup ∧ (exEdits.Pairwise fun a b => a.since ≤ b.since) ∧
    (infraInfoAt exCfg2 exNd [] 2).constraintIds = ["agg"] ++ ["_const_1"] ∧ "_const_1" ∉ ["agg"] ∧
    (∀ k ∈ Current.keys ([("B", 2)] : Current ℚ), k ∈ (infraInfoAt exCfg2 exNd [] 2).stationIds) ∧
    (infraInfoAt exCfg2 exNd ([] ++ [⟨3, [ConOp.update "_const_1" [("B", 2)] 24 none]⟩]) 5).constraintLimits = [64, 24] := by
  decide +kernel

example : (infraInfoAt exCfg2 exNd ([] ++ [⟨3, [ConOp.update "_const_1" [("B", 2)] 24 none]⟩]) 5).constraintLimits =
    (infraInfoAt exCfg2 exNd ([] ++ [⟨3, [ConOp.update "_const_1" [("B", 2)] 24 none]⟩]) 2).constraintLimits.dropLast ++ [24] :=
  (infra_at_relimit_last exCfg2 exNd [] 2 5 3 "_const_1" [("B", 2)] 24 ["agg"] (by simp) (by decide) (by decide)
    (by decide +kernel) (by decide) (by decide +kernel)).2.2.2.1

end edits

/-! ### non-vacuity (full model over ℚ; the ideal battery never calls `exp`) -/

section simex
open Acn.Sim

local instance : HasExp ℚ := ⟨fun x => x⟩

/-- station A (0–32 A, 208 V), session x on [1,4) asking 10 kWh, ideal battery, 5-minute periods,
    `max_recompute = 2` -/
def exSim : Sim.Cfg ℚ :=
  { stations := [⟨"A", .cont 0 (some 32), 208⟩],
    evs := [{ session := "x", station := "A", arrival := 1, departure := 4, estDeparture := 4, requested := 10,
              delivered := 0, rate := 0,
              batt := { capacity := 40, charge := 5, init := 5, maxPower := 7, power := 0, twoStage := false,
                        noiseLevel := 0, ts := 0, cmode := .continuous } }],
    recomputes := [], maxRecompute := some 2, period := 5, atolCont := 1 / 1000, atolDeadband := 1 / 1000,
    atolFinite := 1 / 1000, fullEps := 1 / 1000, noise := [] }

def exSched : View ℚ → Except Err (Schedule ℚ) := fun _ => .ok [("A", [16, 16])]

/-- invoked in 0 (never run), 1 (plug-in), 3 (two periods), 4 (unplug); the session is visible in
    periods 1 and 3, the last pilot only in period 3 (empty in period 1 although … ≤ 1), the energy
    delivered in period 3 is what two periods at 16 A delivered -/
example :
    (Sim.run exSim exSched 8 (Sim.init exSim)).2 = none ∧
    (Sim.run exSim exSched 8 (Sim.init exSim)).1.core.invoked = [0, 1, 3, 4] ∧
    (runViews exSim exSched 8 (Sim.init exSim)).map (fun v => (v.iter, v.active.map (fun e => (e.session, e.delivered)), v.lastPilots))
      = [(0, [], []), (1, [("x", 0)], []), (3, [("x", 16 * 208 / 1000 * (5 / 60) * 2)], [("x", 16)]), (4, [], [])] := by
  decide +kernel

/-- a scheduler that differs from `exSched` only OFF the handed views yields the same run -/
example : Sim.run exSim (fun v => if v.iter = 2 then .error .schedulerFailed else exSched v) 8 (Sim.init exSim)
    = Sim.run exSim exSched 8 (Sim.init exSim) := by
  refine (isolation_run exSim exSched _ 8 (Sim.init exSim) ?_).1
  decide +kernel

/-- two stations, one aggregate constraint over both, one over the second only (coefficient 2):
    the full infrastructure view; and the constraint-free network is 0 x N -/
example :
    let cfg2 : Sim.Cfg ℚ := { exSim with stations := [⟨"A", .cont 0 (some 32), 208⟩, ⟨"B", .finite [0, 8, 16], 240⟩] }
    let nd : NetDesc ℚ := { phases := [30, -90], constraints := [([("A", 1), ("B", 1)], 64, some "agg"), ([("B", 2)], 40, none)] }
    (infraInfo cfg2 nd).constraintMatrix = [[1, 1], [0, 2]] ∧ (infraInfo cfg2 nd).constraintLimits = [64, 40] ∧
    (infraInfo cfg2 nd).constraintIds = ["agg", "_const_1"] ∧ (infraInfo cfg2 nd).stationIds = ["A", "B"] ∧
    (infraInfo cfg2 nd).voltages = [208, 240] ∧ (infraInfo cfg2 nd).phases = [30, -90] ∧
    (infraInfo cfg2 { nd with constraints := [] }).constraintMatrix = [] := by decide +kernel

end simex

/-! ## interrupted and resumed runs; `step()` prefixes -/

section resume
variable {cfg : EventCore.Cfg}

/-- **resume_invoked_record** — every valid scenario, every period `k`, every fuel: a `run()` whose scheduler raises when
    it is entered in period `k` (`failSchedAt k`), continued by a second `run()` on the state the abort left (the period's
    events applied, `_resolve` / `_last_schedule_update` as the events left them, the failed call recorded).  Either the
    failure never fires — the run is the uninterrupted run, which does not invoke the scheduler in period `k` — or the
    first `run()` aborts in period `k` and the second ends in EXACTLY the uninterrupted run's final state (iteration,
    queue, occupancy, `_resolve`, `_last_schedule_update`, both histories) with the invocation record
    `pre ++ [k] ++ [k] ++ post` instead of `pre ++ [k] ++ post`: period `k` is invoked again on resume, once, and every
    other period exactly as without the interruption. -/
theorem resume_invoked_record (hv : Valid cfg) (k n : Nat) :
    let r1 := run cfg (failSchedAt k) noFail n (init cfg)
    let r := run cfg noFail noFail n (init cfg)
    (r1 = r ∧ k ∉ r.1.invoked) ∨
    (r1.2 = some .schedulerFailed ∧ r1.1.iter = k ∧ Fresh r1.1 ∧
      ∃ pre post, r1.1.invoked = pre ++ [k] ∧ r.1.invoked = pre ++ [k] ++ post ∧ (∀ t ∈ post, k < t) ∧
        run cfg noFail noFail (n - k) r1.1 = (setInv (pre ++ [k] ++ [k] ++ post) r.1, r.2)) :=
  -- `resume_invoked` from the constructor's state: `[] ++ δ` is `δ` and `n - (k - 0)` is `n - k` by computation
  (resume_invoked cfg k n (Sim.init_noOverdue (Sim.sessionsOK_of_valid hv)) (Nat.zero_le k)).imp_left
    fun ⟨h1, _, h2, h3⟩ => ⟨h1, h2 ▸ h3⟩

/-- **resume_invoked_iff** — closed form: valid scenario, non-failing continuation, fuel ≥ horizon.  If the uninterrupted
    run does not invoke the scheduler in period `k` the failure never fires.  Otherwise `run()` aborts in period `k`, the
    second `run()` completes (no error, `horizon` periods), and in the completed simulation period `t` is an invocation
    period  ⇔  `t < horizon` and a session arrives or departs at `t` or a recompute event carries timestamp `t`, or
    `max_recompute = m` and the previous invocation period lies ≥ `m` periods back; period `k` is recorded exactly twice
    (the failed call and its repetition), every other period at most once. -/
theorem resume_invoked_iff (hv : Valid cfg) (k n : Nat) (hn : horizon cfg ≤ n) :
    let r1 := run cfg (failSchedAt k) noFail n (init cfg)
    let r := run cfg noFail noFail n (init cfg)
    let r2 := run cfg noFail noFail (n - k) r1.1
    (k ∉ r.1.invoked → r1 = r) ∧
    (k ∈ r.1.invoked → r1.2 = some .schedulerFailed ∧ r1.1.iter = k ∧ r2.2 = none ∧ r2.1.iter = horizon cfg ∧
      (∀ t, t ∈ r2.1.invoked ↔ t < horizon cfg ∧ (EventAt cfg t ∨ ∃ m, cfg.maxRecompute = some m ∧
        ∀ u, lastBefore r.1.invoked t = some u → m + u ≤ t)) ∧
      r2.1.invoked.count k = 2 ∧ ∀ t, t ≠ k → r2.1.invoked.count t ≤ 1) := by
  intro r1 r r2
  obtain ⟨c', hr, hI⟩ := run_spec hv (sched := noFail) (apply := noFail) (fun _ => rfl) (fun _ => rfl) n 0 (init cfg)
    (init_inv hv) (Nat.zero_le _)
  have hr' : r = (c', none) := hr
  have hiter : c'.iter = horizon cfg := by rw [hI.iter]; omega
  have hsorted : c'.invoked.Pairwise (· < ·) := by
    have := invoked_at_most_once (cfg := cfg) (sched := noFail) (apply := noFail) n c' none hr
    exact this
  rcases resume_invoked_record hv k n with ⟨h1, h2⟩ | ⟨h1, h2, _, pre, post, h4, h5, _, h7⟩
  · exact ⟨fun _ => h1, fun hk => absurd hk h2⟩
  · have h5' : c'.invoked = pre ++ [k] ++ post := by
      have : r.1.invoked = pre ++ [k] ++ post := h5
      rw [hr'] at this; exact this
    have hk : k ∈ r.1.invoked := by
      show k ∈ r.1.invoked
      rw [hr', h5']; simp
    refine ⟨fun hnk => absurd hk hnk, fun _ => ?_⟩
    have h7' : r2 = (setInv (pre ++ [k] ++ [k] ++ post) c', none) := by
      have : r2 = (setInv (pre ++ [k] ++ [k] ++ post) r.1, r.2) := h7
      rw [hr'] at this; exact this
    -- the resumed run's record is the uninterrupted one with `k` entered once more
    have hcount : ∀ t, r2.1.invoked.count t = c'.invoked.count t + [k].count t := fun t => by
      rw [h7', h5']
      simp only [setInv, List.count_append]
      omega
    have hle : ∀ t, c'.invoked.count t ≤ 1 :=
      List.nodup_iff_count_le_one.1 (hsorted.imp fun hab => Nat.ne_of_lt hab)
    refine ⟨h1, h2, by rw [h7'], by rw [h7']; exact hiter, fun t => ?_, ?_, fun t ht => ?_⟩
    · refine Iff.trans ?_ (run_invoked_iff hv (fun _ => rfl) (fun _ => rfl) n hn t)
      show t ∈ r2.1.invoked ↔ t ∈ r.1.invoked
      rw [h7', hr', h5']
      simp only [setInv, List.mem_append, or_assoc, or_self_left]
    · rw [hcount, List.count_singleton_self, le_antisymm (hle k) (List.count_pos_iff.2 (by rw [h5']; simp))]
    · rw [hcount, (List.count_eq_zero (l := [k])).2 (by simpa using ht), Nat.add_zero]
      exact hle t

/-- the Lean example of the trigger section (session [1,6), recompute event at 9, `max_recompute = 2`; uninterrupted:
    `[0, 1, 3, 5, 6, 8, 9]`): raising in the event period 6, the timer period 3, the LAST period 9 (queue already empty:
    the loop guard is kept alive by `_resolve`), and in period 0 before anything was ever scheduled
    (`_last_schedule_update = None`) — each is invoked again on resume, once; raising in the quiet period 2 never fires -/
example :
    (run exCfg noFail noFail 12 (run exCfg (failSchedAt 6) noFail 12 (init exCfg)).1).1.invoked = [0, 1, 3, 5, 6, 6, 8, 9] ∧
    (run exCfg (failSchedAt 6) noFail 12 (init exCfg)).1.resolve = true ∧
    (run exCfg noFail noFail 12 (run exCfg (failSchedAt 3) noFail 12 (init exCfg)).1).1.invoked = [0, 1, 3, 3, 5, 6, 8, 9] ∧
    (run exCfg (failSchedAt 3) noFail 12 (init exCfg)).1.resolve = false ∧
    (run exCfg (failSchedAt 3) noFail 12 (init exCfg)).1.lastUpd = some 1 ∧
    (run exCfg noFail noFail 12 (run exCfg (failSchedAt 9) noFail 12 (init exCfg)).1).1.invoked = [0, 1, 3, 5, 6, 8, 9, 9] ∧
    (run exCfg (failSchedAt 9) noFail 12 (init exCfg)).1.pending = [] ∧
    (run exCfg noFail noFail 12 (run exCfg (failSchedAt 0) noFail 12 (init exCfg)).1).1.invoked = [0, 0, 1, 3, 5, 6, 8, 9] ∧
    (run exCfg (failSchedAt 0) noFail 12 (init exCfg)).1.lastUpd = none ∧
    (run exCfg (failSchedAt 2) noFail 12 (init exCfg)).2 = none ∧
    (run exCfg noFail noFail 12 (run exCfg (failSchedAt 9) noFail 12 (init exCfg)).1).1.iter = 10 := by decide +kernel

end resume

section stepc
open Acn.Sim
variable {K : Type} [Add K] [Sub K] [Mul K] [Div K] [Neg K] [LT K] [LE K]
  [DecidableLT K] [DecidableLE K] [OfNat K 0] [OfNat K 1] [NatCast K] [HasExp K]

/-- **step_pass_contract** — one pass of `Simulator.step(new_schedule)` that raises nothing: the schedule handed in is
    applied to the CURRENT period (the pilot of every station in period `t` is the schedule's entry, 0 if omitted), the
    simulation advances by exactly one period, and on the event core the pass is `supplyPass`: `_last_schedule_update := t`,
    `_resolve := False`, `t + 1`, then the events of period `t + 1` are applied (which set `_resolve` again). -/
theorem step_pass_contract (cfg : Sim.Cfg K) (sch : Schedule K) {s s' : State K}
    (hwf : s.pilots.WF (cfg.stations.map (·.id)).length) (h : stepPass cfg sch s = (s', none))
    (hcov : Pilots.covers (cfg.stations.map (·.id))
      ⟨s.core.iter, (lastTs s.core.pending).map Int.toNat, sch⟩ s.core.iter = true) :
    supplyPass cfg.core s.core = (s'.core, none) ∧ s'.core.iter = s.core.iter + 1 ∧
    (s'.core.resolve = !(popsAt (advance (markScheduled s.core))).isEmpty) ∧
    ∀ st, s'.pilots.get ((cfg.stations.map (·.id)).idxOf st) s.core.iter =
      Pilots.valueOf ⟨s.core.iter, (lastTs s.core.pending).map Int.toNat, sch⟩ st s.core.iter := by
  have ht := stepPass_trigger cfg sch h
  refine ⟨stepPass_supply cfg sch h, ht.1, ht.2.1, ?_⟩
  intro st
  have := (stepPass_applies_schedule cfg sch s hwf (by rw [h]) hcov st).1
  rw [h] at this
  exact this

/-- **step_loop_test** — after a pass the loop of `step()` goes on iff events are left, no event was applied in the new
    period, and `max_recompute` is `None` or ≥ 2: `step()` advances to the next period in which a recompute is due -/
theorem step_loop_test (cfg : Sim.Cfg K) (sch : Schedule K) {s s' : State K} (h : stepPass cfg sch s = (s', none)) :
    stepCond cfg.maxRecompute false s'.core =
      .ok (!s'.core.pending.isEmpty && !s'.core.resolve &&
        (match cfg.maxRecompute with | none => true | some m => decide (2 ≤ m))) :=
  stepCond_after_pass cfg sch h

/-- **step_exactly_one_period** — with `max_recompute ≤ 1`, or when the pass stops in an event period or empties the
    queue, the call is exactly one pass: it advances exactly one period and returns `event_queue.empty()` -/
theorem step_exactly_one_period (cfg : Sim.Cfg K) (sch : Schedule K) (n : Nat) {s s' : State K}
    (hp : s.core.pending ≠ []) (h : stepPass cfg sch s = (s', none))
    (hc : (∃ m, cfg.maxRecompute = some m ∧ m ≤ 1) ∨ s'.core.resolve = true ∨ s'.core.pending = []) :
    step cfg sch (n + 2) s = (s', .ok s'.core.pending.isEmpty) ∧ s'.core.iter = s.core.iter + 1 := by
  rcases hc with ⟨m, hm, hle⟩ | hc
  · exact step_one_period cfg sch n hm hle hp h
  · exact step_stops_at_event cfg sch n hp h hc

/-- **step_then_run_invoked** — the `run()` that follows a `step()` pass.  Let the pass be made in period `t` from a
    state with events left and nothing overdue in period `t + 1` (`NoOverdue`: true after an earlier pass, and initially
    when no event carries timestamp 0), let `sup` be the earlier periods in which a schedule was supplied (any increasing
    list of periods < `t`; a ghost).  If the continued run raises nothing, it invokes the scheduler in exactly the periods
    `δ` in which the loop of `run()` started at the loop head `H` = "period `t + 1`, schedule last supplied in `t`" does:
    `H` satisfies the loop-head invariant, there is a trace from `H` whose record is `sup ++ [t] ++ δ`, and for every
    period `h.iter ≥ t + 1` of it:  `h.iter ∈ δ`  ⇔  an event was popped in that period (for `t + 1`: applied by the pass)
    ∨ `max_recompute = m` and the last period in which a schedule was supplied or the scheduler invoked lies ≥ `m` back. -/
theorem step_then_run_invoked (cfg : Sim.Cfg K) (sch : Schedule K) (sched : View K → Except Err (Schedule K))
    {s s' : State K} (h : stepPass cfg sch s = (s', none)) (hp : s.core.pending ≠ [])
    (hI : NoOverdue cfg.core (advance (markScheduled s.core)))
    (sup : List Nat) (hsup : sup.Pairwise (· < ·)) (hlt : ∀ t ∈ sup, t < s.core.iter) (n : Nat)
    (hok : (Sim.run cfg sched (n + 1) s').2 = none) :
    let H := setInv (sup ++ [s.core.iter]) (advance (markScheduled s.core))
    Head H ∧ ∃ δ hs cH, Trace cfg.core noFail noFail H hs cH ∧ cH.invoked = sup ++ [s.core.iter] ++ δ ∧
      (Sim.run cfg sched (n + 1) s').1.core.invoked = s.core.invoked ++ δ ∧ (∀ t ∈ δ, s.core.iter + 1 ≤ t) ∧
      ∀ h ∈ hs, s.core.iter + 1 ≤ h.iter ∧ (h.iter ∈ δ ↔ popsAt h ≠ [] ∨ ∃ m, cfg.maxRecompute = some m ∧
        ∀ u, lastBefore (sup ++ [s.core.iter] ++ δ) h.iter = some u → m + u ≤ h.iter) := by
  intro H
  have hH : Head H := .of_invoked hsup hlt rfl rfl rfl rfl
  have hs := stepPass_supply cfg sch h
  have hg : guard (advance (markScheduled s.core)) = true := by
    cases hpe : s.core.pending with
    | nil => exact absurd hpe hp
    | cons a l => simp [EventCore.guard, advance, markScheduled, hpe]
  obtain ⟨δ, d1, d2, d3⟩ := run_after_supply (cfg := cfg.core) blind_noFail blind_noFail hI hg hs sup n
  have hcore := run_core cfg sched (n + 1) s' hok
  rw [d3] at hcore
  simp only [Prod.mk.injEq] at hcore
  obtain ⟨hc1, hc2⟩ := hcore
  rcases hR : run cfg.core noFail noFail (n + 1) H with ⟨cH, o⟩
  rw [hR] at d1 hc1 hc2
  simp only [] at d1 hc1 hc2
  subst hc2
  obtain ⟨hs', ht, _, _⟩ := run_trace (n + 1) H cH none hR
  refine ⟨hH, δ, hs', cH, ht, d1, ?_, d2, ?_⟩
  · rw [← hc1]; rfl
  · intro hd hhd
    obtain ⟨_, hge, _, _, _⟩ := trace_at ht hH hhd
    have hge' : s.core.iter + 1 ≤ hd.iter := hge
    refine ⟨hge', ?_⟩
    have hiff : hd.iter ∈ cH.invoked ↔ popsAt hd ≠ [] ∨ ∃ m, cfg.maxRecompute = some m ∧
        ∀ u, lastBefore cH.invoked hd.iter = some u → m + u ≤ hd.iter := invoked_iff hH ht hhd
    rw [d1] at hiff
    refine Iff.trans ?_ hiff
    simp only [List.mem_append, List.mem_singleton]
    constructor
    · intro hm; exact Or.inr hm
    · rintro ((hm | hm) | hm)
      · have := hlt _ hm; omega
      · omega
      · exact hm

end stepc

/-! ### non-vacuity of the `step()` theorems (`exSim`: session x on [1,4), `max_recompute = 2`) -/
section stepex
open Acn.Sim

local instance : HasExp ℚ := ⟨fun x => x⟩

/-- one `step()` call on the fresh simulator: a single pass (it stops in the event period 1, whose plug-in it applies,
    leaving `_resolve` set), returns `False` (events are left); the `run()` that follows invokes the scheduler at once in
    period 1 (the pending request), then in 3 (two periods elapsed) and 4 (unplug) — not in period 0, for which `step()`
    supplied the schedule, and not in 2 -/
example :
    (stepPass exSim [("A", [16])] (Sim.init exSim)).2 = none ∧
    (stepPass exSim [("A", [16])] (Sim.init exSim)).1.core.iter = 1 ∧
    (stepPass exSim [("A", [16])] (Sim.init exSim)).1.core.resolve = true ∧
    (stepPass exSim [("A", [16])] (Sim.init exSim)).1.core.lastUpd = some 1 ∧
    (step exSim [("A", [16])] 8 (Sim.init exSim)).2 = .ok false ∧
    (Sim.run exSim exSched 8 (stepPass exSim [("A", [16])] (Sim.init exSim)).1).2 = none ∧
    (Sim.run exSim exSched 8 (stepPass exSim [("A", [16])] (Sim.init exSim)).1).1.core.invoked = [1, 3, 4] := by
  decide +kernel

/-- the hypotheses of `step_then_run_invoked` hold there: events are left and nothing is overdue in period 1 -/
example : (Sim.init exSim).core.pending ≠ [] ∧ NoOverdue exSim.core (advance (markScheduled (Sim.init exSim).core)) := by
  refine ⟨by decide, ?_⟩
  have hp : (advance (markScheduled (Sim.init exSim).core)).pending = [⟨1, .plugin, "x"⟩] := by decide +kernel
  have hf : findSession exSim.core "x" = some ⟨"x", "A", 1, 4⟩ := by decide +kernel
  intro e he _
  rw [hp, List.mem_singleton] at he
  subst he
  refine ⟨by decide, ?_⟩
  intro y hy
  rw [hf] at hy
  cases hy
  decide

/-- with `max_recompute = 1` every call is exactly one period (`step_exactly_one_period`): three calls, iterations 1, 2, 3 -/
example : ((steps { exSim with maxRecompute := some 1 } 8 [[("A", [16])], [], [("A", [8])]]
      (Sim.init { exSim with maxRecompute := some 1 })).2.map fun r => r.2) = [1, 2, 3] ∧
    -- with `max_recompute = None` the second call runs on from period 1 to the next event period, 4
    ((steps { exSim with maxRecompute := none } 8 [[("A", [16])], [("A", [8])]]
      (Sim.init { exSim with maxRecompute := none })).2.map fun r => r.2) = [1, 4] := by
  decide +kernel

end stepex

end Acn.C05
