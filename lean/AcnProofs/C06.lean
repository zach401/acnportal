/-
  C06 — the feasibility check matches the phasor definition; the network-side, interface-side
  and algorithm-side checks agree; the linear relaxation is conservative.

  Helpers: `Lemmas/FeasSums|FeasAgree|FeasComplex|FeasCurrent.lean`.
  Carrier: any linear ordered field `K` (ℚ and ℝ included).  Stations carry unit phasors
  `(c_j, s_j)`; `c_j² + s_j² = 1` is used only by `linear_conservative*`.
  `wsum row x z = Σ_j row_j · (x_j · z_j)` and `lsum row x = Σ_j |row_j| · x_j` are `List.sum`s
  (`FeasSums` relates the model's left folds to them).
  The linear modes and the infrastructure view follow the REPAIRED code (fixes/F3–F5.diff).
-/
import AcnModel.Gen.Consts
import AcnProofs.Lemmas.FeasAgree
import AcnProofs.Lemmas.FeasComplex
import AcnProofs.Lemmas.FeasCurrent

namespace Acn.C06
open Acn Acn.Feas

set_option linter.unusedSectionVars false

variable {K : Type} [Field K] [LinearOrder K] [IsStrictOrderedRing K]

/-! ### 1. the network check is the phasor definition -/

/-- `netFeasible` ⇔ for every constraint row `i` (with its limit) and every period `t`,
    the bound `lim_i + max vt (rt·lim_i)` is non-negative and
    `(Σ_j M_ij S_jt c_j)² + (Σ_j M_ij S_jt s_j)² ≤ (lim_i + max vt (rt·lim_i))²`.
    Any matrix, any limits (negative ones included), any tolerances, any number of stations,
    constraints and periods. -/
theorem net_feasible_iff (M : List (List K)) (lims c s : List K) (vt rt : K) (S : List (List K))
    (hne : lims ≠ []) :
    netFeasible M lims c s vt rt S = true ↔
      ∀ t < periods S, ∀ p ∈ List.zip M lims,
        0 ≤ p.2 + max vt (rt * p.2) ∧
        wsum p.1 (col S t) c ^ 2 + wsum p.1 (col S t) s ^ 2 ≤ (p.2 + max vt (rt * p.2)) ^ 2 := by
  have he : lims.isEmpty = false := by simpa using hne
  unfold netFeasible
  rw [he]
  simp only [Bool.false_eq_true, if_false, List.all_eq_true, List.mem_range, rowOk, magLe_iff,
    aggRe_eq, aggIm_eq, tolOf_eq]

example : netFeasible [[(1 : ℚ), 1, 0], [0, 1, -1]] [5, 4] [1, 0, 3/5] [0, 1, 4/5] (1/100) (1/1000)
    [[3, 4], [4, 3], [1, 0]] = true := by decide +kernel
example : netFeasible [[(1 : ℚ), 1, 0], [0, 1, -1]] [5, 4] [1, 0, 3/5] [0, 1, 4/5] (1/100) (1/1000)
    [[3, 4], [4, 3.1], [1, 0]] = false := by decide +kernel

/-- the other case spelled out: a constraint whose bound `lim + tol` is negative makes every
    schedule with at least one period infeasible. -/
theorem net_infeasible_of_neg_bound (M : List (List K)) (lims c s : List K) (vt rt : K)
    (S : List (List K)) (hT : 0 < periods S) (p : List K × K) (hp : p ∈ List.zip M lims)
    (hneg : p.2 + max vt (rt * p.2) < 0) :
    netFeasible M lims c s vt rt S = false := by
  have hne : lims ≠ [] := by
    rintro rfl; simp at hp
  rw [Bool.eq_false_iff]
  intro h
  have := ((net_feasible_iff M lims c s vt rt S hne).mp h 0 hT p hp).1
  exact absurd this (not_le.mpr hneg)

example : netFeasible [[(1 : ℚ)]] [-1] [1] [0] (1/100) (1/1000) [[0]] = false := by decide +kernel

/-- index form of `net_feasible_iff` for an `m × n` matrix, `n` stations and `T` periods given
    as functions: feasible ⇔ `∀ i t`, `0 ≤ b_i` and
    `(Σ_j M i j · S j t · c j)² + (Σ_j M i j · S j t · s j)² ≤ b_i²`, `b_i = lim i + max vt (rt · lim i)`. -/
theorem net_feasible_iff_fin {m n T : Nat} (M : Fin m → Fin n → K) (lim : Fin m → K)
    (c s : Fin n → K) (vt rt : K) (S : Fin n → Fin T → K) (hm : 0 < m) (hn : 0 < n) :
    netFeasible (List.ofFn fun i => List.ofFn (M i)) (List.ofFn lim) (List.ofFn c) (List.ofFn s)
        vt rt (List.ofFn fun j => List.ofFn (S j)) = true ↔
      ∀ (i : Fin m) (t : Fin T),
        0 ≤ lim i + max vt (rt * lim i) ∧
        (∑ j, M i j * (S j t * c j)) ^ 2 + (∑ j, M i j * (S j t * s j)) ^ 2
          ≤ (lim i + max vt (rt * lim i)) ^ 2 := by
  obtain ⟨n', rfl⟩ : ∃ n', n = n' + 1 := ⟨n - 1, by omega⟩
  have hper : periods (List.ofFn fun j => List.ofFn (S j)) = T := by simp [periods, List.ofFn_succ]
  rw [netFeasible_iff _ _ _ _ _ _ _ (by simpa using hm) (by simp), hper, List.length_ofFn,
    forall_comm (α := Fin m)]
  simp only [Fin.forall_iff]
  refine forall₄_congr fun t ht i hi => ?_
  rw [getD_ofFn _ hi, getD_ofFn _ hi, col, List.map_ofFn, rowOk, magLe_iff, aggRe_eq, aggIm_eq,
    tolOf_eq]
  simp only [Function.comp_def, getD_ofFn _ ht, wsum_ofFn]

/-- instance at `m = 1, n = 2, T = 1`: orthogonal phasors, currents 3 and 4 against the limit 5
    (`3² + 4² = 5²`: the edge itself is feasible) -/
example : netFeasible (List.ofFn fun i : Fin 1 => List.ofFn (![![(1 : ℚ), -1]] i)) (List.ofFn ![(5 : ℚ)])
    (List.ofFn ![(1 : ℚ), 0]) (List.ofFn ![(0 : ℚ), 1]) 0 0
    (List.ofFn fun j : Fin 2 => List.ofFn (![![(3 : ℚ)], ![4]] j)) = true := by decide +kernel

/-- **the phasor definition itself**, over ℝ with `c_j = cos φ_j`, `s_j = sin φ_j`: feasible ⇔ for
    every constraint `i` and period `t`, `‖Σ_j M i j · S j t · e^{iφ_j}‖ ≤ lim i + max vt (rt · lim i)`
    (a negative bound is never met, so that case needs no separate clause). -/
theorem net_feasible_iff_phasor {m n T : Nat} (M : Fin m → Fin n → ℝ) (lim : Fin m → ℝ)
    (φ : Fin n → ℝ) (vt rt : ℝ) (S : Fin n → Fin T → ℝ) (hm : 0 < m) (hn : 0 < n) :
    netFeasible (List.ofFn fun i => List.ofFn (M i)) (List.ofFn lim)
        (List.ofFn fun j => Real.cos (φ j)) (List.ofFn fun j => Real.sin (φ j))
        vt rt (List.ofFn fun j => List.ofFn (S j)) = true ↔
      ∀ (i : Fin m) (t : Fin T),
        ‖∑ j, ((M i j * S j t : ℝ) : ℂ) * Complex.exp ((φ j : ℂ) * Complex.I)‖
          ≤ lim i + max vt (rt * lim i) := by
  rw [net_feasible_iff_fin M lim _ _ vt rt S hm hn]
  refine forall_congr' fun i => forall_congr' fun t => ?_
  rw [norm_le_iff_sq, phasor_sum_re, phasor_sum_im]
  simp only [mul_assoc]

/-- `constraint_current(S, constraints=names, time_indices=ts)`: selecting rows (matrix order) and
    periods (request order, repeats allowed) commutes with computing the aggregate currents; an
    index beyond the schedule is an `IndexError`. -/
theorem constraint_current_select (cids : List String) (M : List (List K)) (c s : List K)
    (S : List (List K)) (names : Option (List String)) (ts : List Nat) :
    (constraintCurrentSq cids M c s S names (some ts)
      = if ∀ t ∈ ts, t < periods S then
          .ok ((selectRows cids M names).map fun row => ts.map fun t => sqMag row c s (col S t))
        else .error .indexError) ∧
    (cids.length = M.length → selectRows cids M none = M) := by
  refine ⟨?_, selectRows_all cids M⟩
  split
  · exact constraintCurrentSq_select cids M c s S names ts ‹_›
  · rename_i h
    simp only [not_forall, not_lt] at h
    obtain ⟨t, ht, hle⟩ := h
    exact constraintCurrentSq_oob cids M c s S names ts ⟨t, ht, hle⟩

/-- rows `q` only (the unknown name is ignored), periods 1, 1, 0 -/
example : constraintCurrentSq ["p", "q"] [[(1 : ℚ), 1, 0], [0, 1, -1]] [1, 0, 3/5] [0, 1, 4/5]
    [[3, 4], [4, 3], [1, 0]] (some ["q", "zz"]) (some [1, 1, 0])
      = .ok [[9, 9, 53/5]] := by decide +kernel

/-! ### 2. the three checkers agree -/

/-- network / interface∘densify / algorithm side give the same Boolean for equal tolerances:
    every matrix, any number of stations, constraints and periods (phase-aware mode).
    `sched` is any non-empty mapping whose rows have the common length `len`. -/
theorem three_agree (stations : List String) (M : List (List K)) (lims c s : List K) (vt rt : K)
    (sched : List (String × List K)) (len : Nat) (hne : sched ≠ [])
    (hlen : ∀ p ∈ sched, p.2.length = len) :
    ifaceFeasibleE stations M lims c s vt rt false sched
      = .ok (netFeasible M lims c s vt rt (densify stations sched len)) ∧
    ifaceFeasible stations M lims c s vt rt sched
      = netFeasible M lims c s vt rt (densify stations sched len) ∧
    (∀ S, algFeasible2 M lims c s vt rt S = netFeasible M lims c s vt rt S) ∧
    (∀ x, x ≠ [] → algFeasible M lims c s vt rt x
            = netFeasible M lims c s vt rt (x.map fun v => [v])) := by
  refine ⟨?_, (iface_total_eq stations M lims c s vt rt sched len hne hlen).1,
    fun S => (net_eq_alg2 M lims c s vt rt S).symm, fun x hx => alg1_eq_net M lims c s vt rt x hx⟩
  simpa using ifaceE_ok stations M lims c s vt rt false sched len hne hlen

/-- agreement of the three LINEAR modes (repaired code), same generality -/
theorem linear_modes_agree (stations : List String) (M : List (List K)) (lims c s : List K)
    (vt rt : K) (sched : List (String × List K)) (len : Nat) (hne : sched ≠ [])
    (hlen : ∀ p ∈ sched, p.2.length = len) :
    ifaceFeasibleE stations M lims c s vt rt true sched
      = .ok (netLinear M lims vt rt (densify stations sched len)) ∧
    ifaceLinear stations M lims vt rt sched = netLinear M lims vt rt (densify stations sched len) ∧
    (∀ S, algLinear2 M lims vt rt S = netLinear M lims vt rt S) := by
  refine ⟨?_, (iface_total_eq stations M lims c s vt rt sched len hne hlen).2,
    fun S => (netLinear_eq_alg2 M lims vt rt S).symm⟩
  simpa using ifaceE_ok stations M lims c s vt rt true sched len hne hlen

example : ifaceFeasibleE ["A", "B", "C"] [[(1 : ℚ), -1, 0]] [20] [1, 0, 3/5] [0, 1, 4/5] (1/100) 0 true
      [("B", [12, 1]), ("A", [9, 1])] = .ok false ∧
    algLinear2 [[(1 : ℚ), -1, 0]] [20] (1/100) 0 [[9, 1], [12, 1], [0, 0]] = false ∧
    ifaceFeasibleE ["A", "B", "C"] [[(1 : ℚ), -1, 0]] [20] [1, 0, 3/5] [0, 1, 4/5] (1/100) 0 false
      [("B", [12, 1]), ("A", [9, 1])] = .ok true := by decide +kernel

/-- rows of different lengths are refused by the interface side (and only those) -/
theorem iface_rejects_ragged (stations : List String) (M : List (List K)) (lims c s : List K)
    (vt rt : K) (linear : Bool) (k : String) (r : List K) (rest : List (String × List K)) :
    ifaceFeasibleE stations M lims c s vt rt linear ((k, r) :: rest) = .error .invalidSchedule
      ↔ ∃ q ∈ rest, q.2.length ≠ r.length := by
  constructor
  · intro h
    by_contra hcon
    simp only [not_exists, not_and, not_not] at hcon
    have hlen : ∀ p ∈ (k, r) :: rest, p.2.length = r.length := by
      intro p hp
      rcases List.mem_cons.mp hp with rfl | hp
      · rfl
      · exact hcon p hp
    rw [ifaceE_ok stations M lims c s vt rt linear _ r.length (by simp) hlen] at h
    cases h
  · exact ifaceE_err stations M lims c s vt rt linear k r rest

/-- the same agreement on the objects the entry points live on: for a network whose arrays
    satisfy the shape invariant, `Interface.is_feasible(mapping)`, `ChargingNetwork.is_feasible`
    on the dense matrix and `infrastructure_constraints_feasible` on `infrastructure_info()`
    return the same answer — both modes, default (`None`) or explicit tolerances, with or without
    constraints — and building the infrastructure view succeeds. -/
theorem three_agree_entry (net : Net K) (hwf : net.WF) (sched : List (String × List K)) (len : Nat)
    (hne : sched ≠ []) (hlen : ∀ p ∈ sched, p.2.length = len) (linear : Bool)
    (vt? rt? : Option K) :
    net.infraInfo = .ok net.view ∧
    net.ifaceIsFeasible sched linear vt? rt?
      = net.isFeasible (densify net.stations sched len) linear vt? rt? ∧
    net.isFeasible (densify net.stations sched len) linear vt? rt?
      = .ok (net.view.feasible2 (densify net.stations sched len) linear
              (vt?.getD net.vt) (rt?.getD net.rt)) :=
  ⟨Net.infra_ok hwf, Net.iface_eq_net net sched len hne hlen linear vt? rt?,
    Net.isFeasible_eq_view net hwf _ linear vt? rt?⟩

/-- a concrete well-formed network (phasors (1,0), (0,1), (3/5,4/5); mixed-sign rows) -/
def exNet : Net ℚ :=
  { stations := ["A", "B", "C"], c := [1, 0, 3/5], s := [0, 1, 4/5], voltages := [208, 208, 208],
    matrix := some { cols := 3, rows := [[1, 1, 0], [0, 1, -1]] }, lims := [5, 4],
    cids := ["p", "q"], vt := 1/100, rt := 1/1000 }

/-- the hypotheses of `three_agree_entry` are satisfiable -/
example : exNet.WF :=
  ⟨rfl, rfl, rfl, rfl, (by intro h; cases h), (by intro M h; cases h; exact ⟨rfl, rfl⟩)⟩

example : exNet.ifaceIsFeasible [("C", [1, 0]), ("A", [3, 4]), ("B", [4, 3])] false none none
    = .ok true := by decide +kernel
example : exNet.ifaceIsFeasible [("C", [1, 0]), ("A", [3, 4]), ("B", [4, 31/10])] false none none
    = .ok false := by decide +kernel
example : exNet.ifaceIsFeasible [("C", [1, 0]), ("A", [3, 4]), ("B", [4, 31/10])] false
    (some 1) none = .ok true := by decide +kernel
example : exNet.ifaceIsFeasible [("C", [1]), ("A", [3, 4])] false none none
    = .error .invalidSchedule := by decide +kernel

/-! ### 3. no constraints -/

/-- a network without constraints accepts every schedule, through all three entry points and
    in both modes -/
theorem no_constraints_feasible (M : List (List K)) (c s : List K) (vt rt : K)
    (S : List (List K)) (stations : List String) (sched : List (String × List K)) :
    netFeasible M [] c s vt rt S = true ∧ netLinear M [] vt rt S = true ∧
    algFeasible2 M [] c s vt rt S = true ∧ algLinear2 M [] vt rt S = true ∧
    (∀ x, algFeasible M [] c s vt rt x = true ∧ algLinear M [] vt rt x = true) ∧
    ifaceFeasible stations M [] c s vt rt sched = true ∧
    ifaceLinear stations M [] vt rt sched = true := by
  refine ⟨by simp [netFeasible], by simp [netLinear, netFeasibleLinear],
    by simp [algFeasible2, algFeasible], by simp [algLinear2, algLinear],
    fun x => ⟨by simp [algFeasible], by simp [algLinear]⟩, ?_, ?_⟩
  · cases sched with
    | nil => rfl
    | cons p rest => simp [ifaceFeasible, netFeasible]
  · cases sched with
    | nil => rfl
    | cons p rest => simp [ifaceLinear, netLinear, netFeasibleLinear]

/-- a constraint-free network is usable by schedulers: building the infrastructure view of a
    network with `N` registered stations and no constraint succeeds, it is a `0 × N` matrix,
    and the algorithm-side check accepts every schedule on it (finding F3 on the unrepaired
    tree: `AttributeError`). -/
theorem infra_of_unconstrained_ok (net : Net K) (hc : net.c.length = net.stations.length)
    (hs : net.s.length = net.stations.length) (hv : net.voltages.length = net.stations.length)
    (hm : net.matrix = none) (hl : net.lims = []) (hi : net.cids = []) :
    ∃ info, net.infraInfo = .ok info ∧ info.nCons = 0 ∧ info.nCols = net.stations.length ∧
      info.matrix = [] ∧ info.stations = net.stations ∧
      ∀ S linear vt rt, info.feasible2 S linear vt rt = true ∧
        ∀ x, info.feasible1 x linear vt rt = true := by
  have hwf : net.WF :=
    ⟨hc, hs, hv, (by simp [hi, hl]), (fun _ => hl), (by intro M h; rw [hm] at h; cases h)⟩
  refine ⟨net.view, Net.infra_ok hwf, ?_, ?_, ?_, rfl, ?_⟩
  · simp [Net.view, Net.mat, hm]
  · simp [Net.view, Net.mat, hm]
  · simp [Net.view, Net.mat, hm]
  · intro S linear vt rt
    have hmat : net.view.matrix = [] := by simp [Net.view, Net.mat, hm]
    constructor
    · cases linear <;>
        simp [Infra.feasible2, hmat, algFeasible2, algFeasible, algLinear2, algLinear]
    · intro x
      cases linear <;> simp [Infra.feasible1, hmat, algFeasible, algLinear]

/-- two registered stations, no constraint -/
def exNet0 : Net ℚ :=
  { stations := ["A", "B"], c := [1, 0], s := [0, 1], voltages := [208, 240],
    matrix := none, lims := [], cids := [], vt := 1/100, rt := 0 }

example : (exNet0.infraInfo.toOption.map fun i => (i.nCons, i.nCols)) = some (0, 2) := by
  decide +kernel

/-! ### 4. the linear relaxation is conservative -/

/-- **`S ≥ 0 → linear-feasible → phase-aware feasible`** for unit phasors: every matrix
    (mixed signs), any number of stations / constraints / periods, any limits and tolerances.
    The triangle inequality for phasor sums is `Feas.phasor_sq_le` (squares as double sums, compared
    term by term), used through `Feas.phasor_sq_le_abs` (`Lemmas/FeasSums.lean`). -/
theorem linear_conservative (M : List (List K)) (lims c s : List K) (vt rt : K)
    (S : List (List K)) (hu : UnitPhasors c s) (hS : ∀ row ∈ S, ∀ v ∈ row, 0 ≤ v)
    (h : netLinear M lims vt rt S = true) : netFeasible M lims c s vt rt S = true :=
  netFeasible_of_linear M lims c s vt rt S hu hS h

example : netLinear [[(1 : ℚ), -1, 0]] [20] (1/100) 0 [[8], [12], [3]] = true ∧
    netFeasible [[(1 : ℚ), -1, 0]] [20] [1, 0, 3/5] [0, 1, 4/5] (1/100) 0 [[8], [12], [3]] = true ∧
    UnitPhasors [(1 : ℚ), 0, 3/5] [0, 1, 4/5] := by
  refine ⟨by decide +kernel, by decide +kernel, rfl, ?_⟩
  intro p hp
  simp [List.zip] at hp
  rcases hp with rfl | rfl | rfl <;> norm_num

/-- conservativeness through the entry points: a non-negative mapping accepted by
    `Interface.is_feasible(linear=True)` is accepted by `Interface.is_feasible`, by
    `ChargingNetwork.is_feasible` and by the algorithm-side check (same tolerances). -/
theorem linear_conservative_entry (net : Net K) (hwf : net.WF) (hu : UnitPhasors net.c net.s)
    (sched : List (String × List K)) (len : Nat) (hne : sched ≠ [])
    (hlen : ∀ p ∈ sched, p.2.length = len) (hS : ∀ p ∈ sched, ∀ v ∈ p.2, 0 ≤ v)
    (vt? rt? : Option K) (h : net.ifaceIsFeasible sched true vt? rt? = .ok true) :
    net.ifaceIsFeasible sched false vt? rt? = .ok true ∧
    net.isFeasible (densify net.stations sched len) false vt? rt? = .ok true ∧
    net.view.feasible2 (densify net.stations sched len) false (vt?.getD net.vt) (rt?.getD net.rt)
      = true := by
  have key : net.isFeasible (densify net.stations sched len) false vt? rt? = .ok true :=
    Net.isFeasible_of_linear net hu _ (densify_nonneg _ _ _ hS) vt? rt?
      (Net.iface_eq_net net sched len hne hlen true vt? rt? ▸ h)
  refine ⟨by rw [Net.iface_eq_net net sched len hne hlen]; exact key, key, ?_⟩
  have := Net.isFeasible_eq_view net hwf (densify net.stations sched len) false vt? rt?
  rw [key] at this
  simpa using this.symm

example : exNet.ifaceIsFeasible [("A", [1]), ("C", [2]), ("B", [1])] true none none = .ok true ∧
    exNet.ifaceIsFeasible [("A", [1]), ("C", [2]), ("B", [1])] false none none = .ok true ∧
    UnitPhasors exNet.c exNet.s := by
  refine ⟨by decide +kernel, by decide +kernel, rfl, ?_⟩
  intro p hp
  simp [exNet, List.zip] at hp
  rcases hp with rfl | rfl | rfl <;> norm_num

/-! ### 5. regenerated constants (T1) -/

/-- the default tolerances of the algorithm-side check equal the network's defaults, and are
    non-negative (re-extracted from the working tree on every run) -/
theorem gen_tolerances :
    Acn.Gen.algAbsTol = Acn.Gen.netAbsTol ∧ Acn.Gen.algRelTol = Acn.Gen.netRelTol ∧
    0 < Acn.Gen.netAbsTol ∧ 0 ≤ Acn.Gen.netRelTol := by decide +kernel

/-! ### 6. save / restore -/

/-- a network whose arrays have the shape numpy gives them answers every feasibility query the
    same after any number of `from_json(to_json())` round trips of the network: the restored
    object IS the saved one (first conjunct; the others are its consequences) — station order, phasors,
    voltages, matrix (also one without rows), limits, names and tolerances — hence
    `Interface.is_feasible` on every mapping, `ChargingNetwork.is_feasible` on every matrix and
    the infrastructure view (on which the algorithm side decides) are unchanged, in both modes,
    with default or explicit tolerances.  Any number of stations, constraints and periods. -/
theorem restore_preserves_checks (net : Net K) (hrow : net.RowsWF) (n : Nat) :
    net.restoreN n = net ∧
    (∀ (sched : List (String × List K)) (linear : Bool) (vt? rt? : Option K),
      (net.restoreN n).ifaceIsFeasible sched linear vt? rt? = net.ifaceIsFeasible sched linear vt? rt?) ∧
    (∀ (S : List (List K)) (linear : Bool) (vt? rt? : Option K),
      (net.restoreN n).isFeasible S linear vt? rt? = net.isFeasible S linear vt? rt?) ∧
    (net.restoreN n).infraInfo = net.infraInfo := by
  have h := Net.restoreN_eq net hrow n
  refine ⟨h, ?_, ?_, ?_⟩ <;> simp [h]

/-- the hypothesis is satisfiable, also by a network whose constraints have all been removed -/
example : exNet.RowsWF := by
  intro M h; cases h; exact ⟨rfl, by intro r hr; simp at hr; rcases hr with rfl | rfl <;> rfl⟩
example : (({ exNet with matrix := some { cols := 3, rows := [] }, lims := [], cids := [] } : Net ℚ).restore.matrix.map
    fun M => (M.cols, M.rows.length)) = some (3, 0) := by decide +kernel

def exNetCAB : Net ℚ := { exNet with stations := ["C", "A", "B"] }
/-- the station ORDER travels only as the key order of the `_EVSEs` object: a document with the
    same content whose keys come in another order (here: sorted) restores to a network that gives a
    different verdict on the same `{station: rates}` mapping — which is why the C06 correspondence
    (`harness/props/C06.py`) judges restored objects per station id against the generated case, never against themselves. -/
example : exNetCAB.restore.ifaceIsFeasible [("C", [5])] false none none = .ok true ∧
    ({ exNetCAB.toDoc with evses := ["A", "B", "C"] } : NetDoc ℚ).toNet.ifaceIsFeasible
      [("C", [5])] false none none = .ok false := by
  constructor <;> decide +kernel

end Acn.C06
