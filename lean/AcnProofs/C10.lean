/-
  C10 — results are deterministic and independent of incidental ordering.

  DETERMINISM.  Every model (`Acn.Feas`, `Acn.Pilots`, `Acn.EventCore`, `Acn.Sim`) is a Lean
  FUNCTION of the scenario: running it twice gives the same answer by `rfl`.  There is nothing to
  prove and no theorem pretends otherwise; what the property claims about determinism is that the
  IMPLEMENTATION refines a function, which is checked by the harness (every scenario is run twice
  in-process; every eighth one, and every one in the thorough tier, also under three `PYTHONHASHSEED`s in
  subprocesses, `harness/props/C10.py`).

  INDEPENDENCE OF INCIDENTAL ORDER.  The theorems below are the index mechanics the property is
  about, each for all inputs (the relations on the full simulator model `Acn.Sim` are listed at the top
  of `section simulator`):
    * constraints in any order            `feasible_perm_constraints` (the network-side check),
                                          `run_perm_constraints` (the WHOLE simulator with the modelled sorted
                                          algorithms: the rows reach `Sim` only through the scheduler)
    * stations in any order               `feasible_perm_stations`, `densify_equivariant`,
                                          `updateSchedules_equivariant`, `run_equivariant_stations` (the WHOLE
                                          simulator `Acn.Sim.run`), `run_equivariant_stations_dict` /
                                          `…_sorted` / `…_uncontrolled` (… with the modelled algorithms, tie-free
                                          keys), `run_equivariant_stations_partial` (core only, but from any
                                          state and with failing schedulers)
    * ties in a sort key                  `sort_perm_of_distinct_keys`
    * sessions / events in any order      `popCurrent_perm`, `plugins_commute`, `unplugs_commute`,
                                          `eventsStage_perm`, `run_perm_sessions` (the WHOLE simulator),
                                          `run_perm_sessions_sorted` (… with the sorted / uncontrolled algorithms),
                                          `run_perm_sessions_core`, `run_perm_sessions_partial` (event core)
    * time shift by `k` periods           `updateSchedules_shift`, `run_shift` (the WHOLE simulator, `max_recompute`
                                          = None), `run_shift_anchored` (any `max_recompute`, an event in period 0),
                                          `run_shift_aligned` (`max_recompute = m`, `m ∣ k`, no event needed),
                                          `run_shift_sorted` (… with the sorted / uncontrolled algorithms, None),
                                          `run_shift_from` (from any related states, errors included);
                                          event core only: `body_shift`, `run_shift_partial` (None),
                                          `run_shift_core` (every `max_recompute`, errors included)
  `σ` is a list of station numbers that is a permutation of `0..n-1`; `reidx σ l d` reads the
  per-station list `l` in that order.  Helper lemmas: `AcnProofs/Lemmas/Equiv*.lean`.

  Four more property files:
    `AcnProofs/C10Stations.lean`  stations: RAISING runs (`run_equivariant_stations_raise`), `uninterrupted_charging`
                                  (`run_equivariant_stations_sorted_any`, `…_sorted_uninterrupted`), uncontrolled
    `AcnProofs/C10Rampdown.lean`  stations × the stateful rampdown estimator (`runSt_equivariant_stations_rampdown`)
    `AcnProofs/C10Sessions.lean`  session / event listing order: RAISING runs (`run_perm_sessions_raise`)
    `AcnProofs/C10Shift.lean`     shift: `uninterrupted_charging` (`run_shift_sorted_any`), the sorted algorithms with
                                  `max_recompute ≠ None` (`run_shift_sorted_recompute`, `run_shift_sorted_late`)
-/
import AcnProofs.Lemmas.EquivPilots
import AcnProofs.Lemmas.EquivShift
import AcnProofs.Lemmas.EquivSimStationsRaiseRun
import AcnProofs.Lemmas.EquivSimShiftPrefix
import AcnProofs.Lemmas.EquivSimSessionsRun
import AcnProofs.Lemmas.EquivSimSorted
import AcnProofs.Lemmas.EquivSimSortedStations
import AcnProofs.Lemmas.EquivSortedShift
import AcnProofs.Lemmas.EventCorePilots
import AcnProofs.C08

set_option linter.unusedSectionVars false

namespace Acn.C10
open Acn.EventCore

section feasibility
open Acn.Feas
variable {K : Type} [Field K] [LinearOrder K] [IsStrictOrderedRing K]

/-- Adding the constraints in another order (any permutation of the (row, limit) pairs) does not
    change the verdict of `ChargingNetwork.is_feasible`: all schedules, all phasors, all tolerances. -/
theorem feasible_perm_constraints (M M' : List (List K)) (lims lims' c s : List K) (vt rt : K)
    (S : List (List K)) (hM : M.length = lims.length) (hM' : M'.length = lims'.length)
    (h : (List.zip M' lims').Perm (List.zip M lims)) :
    netFeasible M' lims' c s vt rt S = netFeasible M lims c s vt rt S := by
  unfold netFeasible
  have hl : lims'.isEmpty = lims.isEmpty := by
    have := h.length_eq
    simp only [List.length_zip, hM, hM', Nat.min_self] at this
    cases lims <;> cases lims' <;> simp at this ⊢
  rw [hl]
  split
  · rfl
  · congr 1
    funext t
    exact h.all_eq

example (a b : List K) (l1 l2 : K) (c s : List K) (vt rt : K) (S : List (List K)) :
    netFeasible [b, a] [l2, l1] c s vt rt S = netFeasible [a, b] [l1, l2] c s vt rt S :=
  feasible_perm_constraints [a, b] [b, a] [l1, l2] [l2, l1] c s vt rt S rfl rfl (List.Perm.swap _ _ [])

/-- Registering the stations in another order — ONE permutation `σ` applied to the columns of the
    constraint matrix, to the phasors and to the rows of the (rectangular) schedule — does not
    change the verdict: the aggregate currents are sums over a permuted list. -/
theorem feasible_perm_stations (σ : List Nat) (n : Nat) (hσ : σ.Perm (List.range n))
    (M : List (List K)) (lims c s : List K) (vt rt : K) (S : List (List K)) (w : Nat)
    (hM : ∀ row ∈ M, row.length = n) (hc : c.length = n) (hs : s.length = n)
    (hS : S.length = n) (hw : ∀ r ∈ S, r.length = w) :
    netFeasible (M.map (fun row => reidx σ row 0)) lims (reidx σ c 0) (reidx σ s 0) vt rt (reidx σ S []) =
      netFeasible M lims c s vt rt S := by
  unfold netFeasible
  rw [periods_reidx σ n hσ S w hS hw]
  split
  · rfl
  · congr 1
    funext t
    rw [col_reidx]
    exact rows_reidx σ n hσ M lims c s (col S t) vt rt hM hc hs (by rw [length_col, hS])

example : netFeasible ([[1, 1, 0], [0, 1, 2]].map (fun row => reidx [2, 0, 1] row 0)) [10, 20]
        (reidx [2, 0, 1] ([1, 0, 1] : List ℚ) 0) (reidx [2, 0, 1] [0, 1, 0] 0) 0 0
        (reidx [2, 0, 1] [[3, 4], [5, 6], [1, 1]] [])
    = netFeasible [[1, 1, 0], [0, 1, 2]] [10, 20] ([1, 0, 1] : List ℚ) [0, 1, 0] 0 0 [[3, 4], [5, 6], [1, 1]] :=
  feasible_perm_stations [2, 0, 1] 3 (by decide) _ _ _ _ _ _ _ 2 (by simp) rfl rfl rfl (by simp)

end feasibility

section pilots
variable {K : Type} [OfNat K 0]
open Acn.Pilots

/-- The dense schedule matrix follows the station order: station order permuted ⇒ rows permuted
    (simulator.py:265-272, interface.py:667-674). -/
theorem densify_equivariant (σ : List Nat) (stations : List String) (sched : Sched K) (len : Nat)
    (h : ∀ i ∈ σ, i < stations.length) :
    Pilots.densify (reidx σ stations "") sched len = reidx σ (Pilots.densify stations sched len) [] :=
  densify_reidx σ stations sched len h

example : Pilots.densify (reidx [1, 0] ["A", "B"] "") [("B", [(7 : ℤ)])] 1 = [[7], [0]]
    ∧ Pilots.densify ["A", "B"] [("B", [(7 : ℤ)])] 1 = [[0], [7]] := by decide

/-- `_update_schedules` is equivariant: with the stations registered in the order `σ` and the pilot
    matrix rows in that order, the same submission (a dict keyed by station id) yields the
    row-permuted matrix — same error class, same growth, same block.  All schedules (malformed
    ones included), all periods, all queue horizons. -/
theorem updateSchedules_equivariant (σ : List Nat) (stations : List String)
    (hσ : σ.Perm (List.range stations.length)) (m : Mat K) (hm : m.rows.length = stations.length)
    (t : Nat) (lastTs : Option Nat) (sched : Sched K) :
    updateSchedules (reidx σ stations "") (m.reidx σ) t lastTs sched
      = (updateSchedules stations m t lastTs sched).map (Mat.reidx σ) :=
  updateSchedules_reidx σ stations hσ m hm t lastTs sched

example : (updateSchedules (reidx [1, 0] ["A", "B"] "") ((Mat.zeros 2 2 : Mat ℤ).reidx [1, 0]) 1 (some 1)
      [("A", [5, 6])]).toOption.map (·.rows) = some [[0, 0, 0], [0, 5, 6]] := by decide

/-- `_update_schedules` commutes with a time shift: the same submission `k` periods later into the
    matrix with `k` zero columns in front gives the shifted matrix (first `k` columns stay 0). -/
theorem updateSchedules_shift (k : Nat) (stations : List String) (m : Mat K) (t : Nat) (lastTs : Option Nat)
    (sched : Sched K) :
    updateSchedules stations (shiftMat k m) (t + k) (lastTs.map (· + k)) sched
      = (updateSchedules stations m t lastTs sched).map (shiftMat k) :=
  updateSchedules_shift' k stations m t lastTs sched

example : (updateSchedules ["A", "B"] (shiftMat 2 (Mat.zeros 2 2 : Mat ℤ)) (1 + 2) (some (1 + 2))
      [("A", [5, 6])]).toOption.map (·.rows) = some [[0, 0, 0, 5, 6], [0, 0, 0, 0, 0]] := by decide

end pilots

section events

/-- `get_current_events`: the multiset popped, the multiset left, and the fact that the popped
    events come out key-sorted do not depend on the insertion order of the queue (ties between equal
    keys are the only freedom). -/
theorem popCurrent_perm {p p' : List Event} (h : p.Perm p') (t : Nat) :
    (popCurrent t p).1.Perm (popCurrent t p').1 ∧ (popCurrent t p).2.Perm (popCurrent t p').2 ∧
    (popCurrent t p).1.Pairwise (fun a b => a.keyLe b = true) ∧
    (popCurrent t p').1.Pairwise (fun a b => a.keyLe b = true) :=
  popCurrent_perm' h t

/-- Two plug-ins of the same period on DIFFERENT stations commute: if one order succeeds so does
    the other, and the states agree up to the order of the history / queue entries. -/
theorem plugins_commute (cfg : Cfg) {x y : Session} (hx : findSession cfg x.id = some x)
    (hy : findSession cfg y.id = some y) (hst : x.station ≠ y.station) (hts : x.arrival = y.arrival)
    (c c1 : Core) (h : processAll cfg [plugEv x, plugEv y] c = (c1, none)) :
    ∃ c2, processAll cfg [plugEv y, plugEv x] c = (c2, none) ∧ CoreEquiv c1 c2 := by
  have hst' : y.station ≠ x.station := fun e => hst e.symm
  by_cases hmx : x.station ∈ cfg.stations
  · by_cases hmy : y.station ∈ cfg.stations
    · cases hox : c.occ x.station with
      | some z => simp [processAll, step, process, plugEv, hx, hmx, hox] at h
      | none =>
        cases hoy : c.occ y.station with
        | some z => simp [processAll, step, process, plugEv, hx, hy, hmx, hmy, hox, hoy, setOcc, hst'] at h
        | none =>
          -- the other plug-in leaves the station vacant
          simp only [processAll, step_plugin hx hmx hox, step_plugin hy hmy hoy] at h ⊢
          rw [step_plugin hy hmy (by simp [setOcc, hst', hoy])] at h
          rw [step_plugin hx hmx (by simp [setOcc, hst, hox])]
          simp only [Prod.mk.injEq, and_true] at h ⊢
          subst h
          refine ⟨_, rfl, rfl, ?_, setOcc_comm c.occ hst (some x) (some y), rfl, by simp [hts], ?_, ?_, rfl⟩
          -- queue, event history and `ev_history`: the two new entries in the other order
          all_goals
            simp only [List.append_assoc]
            exact List.Perm.append_left _ (List.Perm.swap _ _ _)
    · cases hox : c.occ x.station with
      | some z => simp [processAll, step, process, plugEv, hx, hmx, hox] at h
      | none => simp [processAll, step, process, plugEv, hx, hy, hmx, hmy, hox] at h
  · simp [processAll, step, process, plugEv, hx, hmx] at h

/-- … and so do two unplugs. -/
theorem unplugs_commute (cfg : Cfg) {x y : Session} (hx : findSession cfg x.id = some x)
    (hy : findSession cfg y.id = some y) (hst : x.station ≠ y.station) (hts : x.departure = y.departure)
    (c c1 : Core) (h : processAll cfg [unplugEv x, unplugEv y] c = (c1, none)) :
    ∃ c2, processAll cfg [unplugEv y, unplugEv x] c = (c2, none) ∧ CoreEquiv c1 c2 := by
  have hst' : y.station ≠ x.station := fun e => hst e.symm
  by_cases hmx : x.station ∈ cfg.stations
  · by_cases hmy : y.station ∈ cfg.stations
    · simp only [processAll, step_unplug hx hmx, step_unplug hy hmy, Prod.mk.injEq, and_true] at h ⊢
      subst h
      -- whether an unplug hits is decided at its own station, which the other unplug leaves alone
      have hyx : unplugHits (step cfg (unplugEv x) c).1 y = unplugHits c y :=
        unplugHits_congr (by rw [step_unplug hx hmx]; simp only; split <;> simp [setOcc, hst'])
      have hxy : unplugHits (step cfg (unplugEv y) c).1 x = unplugHits c x :=
        unplugHits_congr (by rw [step_unplug hy hmy]; simp only; split <;> simp [setOcc, hst])
      rw [step_unplug hx hmx] at hyx
      rw [step_unplug hy hmy] at hxy
      refine ⟨_, rfl, rfl, List.Perm.refl _, ?_, rfl, by simp [hts], ?_, List.Perm.refl _, rfl⟩
      · simp only [hyx, hxy]
        by_cases hux : unplugHits c x = true <;> by_cases huy : unplugHits c y = true <;>
          simp only [hux, huy, if_true, if_false, Bool.false_eq_true]
        exact setOcc_comm c.occ hst none none
      · show (c.eventHist ++ [unplugEv x] ++ [unplugEv y]).Perm (c.eventHist ++ [unplugEv y] ++ [unplugEv x])
        rw [List.append_assoc, List.append_assoc]
        exact List.Perm.append_left _ (List.Perm.swap _ _ _)
    · simp [processAll, step, process, unplugEv, hx, hy, hmx, hmy] at h
  · simp [processAll, step, process, unplugEv, hx, hmx] at h

def exCfg : Cfg :=
  { stations := ["A", "B"], sessions := [⟨"x", "A", 0, 2⟩, ⟨"y", "B", 0, 2⟩, ⟨"z", "A", 2, 3⟩],
    recomputes := [(2, "r0")], maxRecompute := some 2 }

def exCfg' : Cfg :=
  { stations := ["B", "A"], sessions := [⟨"z", "A", 2, 3⟩, ⟨"y", "B", 0, 2⟩, ⟨"x", "A", 0, 2⟩],
    recomputes := [(2, "r0")], maxRecompute := some 2 }

example : (processAll exCfg [plugEv ⟨"x", "A", 0, 2⟩, plugEv ⟨"y", "B", 0, 2⟩] (init exCfg)).2 = none
    ∧ (processAll exCfg [plugEv ⟨"x", "A", 0, 2⟩, plugEv ⟨"y", "B", 0, 2⟩] (init exCfg)).1.evHist = ["x", "y"]
    ∧ (processAll exCfg [plugEv ⟨"y", "B", 0, 2⟩, plugEv ⟨"x", "A", 0, 2⟩] (init exCfg)).1.evHist = ["y", "x"] := by
  decide

theorem exCfg_valid : Valid exCfg := by decide

theorem exCfg_perm : CfgPerm exCfg exCfg' :=
  ⟨by decide, by decide, fun _ => List.Perm.mem_iff (by decide), rfl⟩

/-- The state after a period's events does not depend on the order in which the sessions (and the
    recompute events, and the stations) were listed: two runs over permuted tables that are in
    states satisfying the loop invariant of the same period (`Inv`, C01) and agree on
    `_last_schedule_update` reach states that agree exactly on occupancy (keyed by station),
    `_resolve`, `_last_schedule_update`, and up to order on queue and histories.  No error. -/
theorem eventsStage_perm {cfg cfg' : Cfg} (hv : Valid cfg) (hp : CfgPerm cfg cfg') {t : Nat} {c c' : Core}
    (hI : Inv cfg t c) (hI' : Inv cfg' t c') (hl : c.lastUpd = c'.lastUpd) (hi : c.invoked = c'.invoked) :
    ∃ c1 c1', eventsStage cfg c = (c1, none) ∧ eventsStage cfg' c' = (c1', none) ∧ CoreEquiv c1 c1' := by
  obtain ⟨c1, c1', h1, h1', he⟩ := eventsStage_equiv hv ⟨hI, hI'.of_perm hp, hl, hi⟩
  refine ⟨c1, c1', h1, ?_, he⟩
  rw [← h1']
  simp only [eventsStage, processAll_congr (process_perm hv hp)]

/-- The whole run of the event core over permuted session / recompute / station tables ends in
    equivalent states: same iteration, occupancy, flags and scheduler invocation periods; queue
    and histories equal as multisets (their order is fixed up to ties by `history_sorted`, C01).
    Event-core layer (it also allows a permuted station table); Sim level: `run_perm_sessions`. -/
theorem run_perm_sessions_partial {cfg cfg' : Cfg} (hv : Valid cfg) (hp : CfgPerm cfg cfg')
    {sched apply : Core → Option Err} (hs : ∀ c, sched c = none) (ha : ∀ c, apply c = none) (n : Nat) :
    ∃ d d', run cfg sched apply n (init cfg) = (d, none) ∧ run cfg' sched apply n (init cfg') = (d', none) ∧
      CoreEquiv d d' := by
  have hR : Rel cfg 0 (init cfg) (init cfg') :=
    ⟨init_inv hv, (init_inv (hv.of_perm hp)).of_perm hp, rfl, rfl⟩
  obtain ⟨d, d', _, hr, hr', hRel⟩ := run_equiv hv hs ha n 0 _ _ hR
  exact ⟨d, d', hr, by rw [run_congr_cfg (process_perm hv hp) hp.maxRecompute]; exact hr', hRel.equiv⟩

example : Valid exCfg ∧ CfgPerm exCfg exCfg'
    ∧ (run exCfg noFail noFail 10 (init exCfg)).1.eventHist.map (·.sess) = ["x", "y", "x", "y", "z", "r0", "z"]
    ∧ (run exCfg' noFail noFail 10 (init exCfg')).1.eventHist.map (·.sess) = ["y", "x", "y", "x", "z", "r0", "z"]
    ∧ (run exCfg noFail noFail 10 (init exCfg)).1.invoked = [0, 2, 3] := by
  refine ⟨exCfg_valid, exCfg_perm, by decide, by decide, by decide⟩

/-- Registering the stations in another order does not change the event core of the run at all:
    any state, any fuel, any scheduler / pilot application (failing ones included).
    Event-core layer; Sim level: `run_equivariant_stations`. -/
theorem run_equivariant_stations_partial (cfg : Cfg) (st' : List String) (h : ∀ s, s ∈ st' ↔ s ∈ cfg.stations)
    (sched apply : Core → Option Err) (n : Nat) (c : Core) :
    run { cfg with stations := st' } sched apply n c = run cfg sched apply n c :=
  run_congr_cfg (cfg := cfg) (cfg' := { cfg with stations := st' }) (process_congr (fun _ => rfl) h) rfl sched apply n c

/-- One trip round the loop commutes with a time shift of `k` periods, from ANY state, errors
    included, for a scheduler / pilot application that cannot tell the shifted state from the
    original (i.e. depends on the view through relative time only). -/
theorem body_shift (k : Nat) (cfg : Cfg) {sched sched' apply apply' : Core → Option Err}
    (hs : ∀ c, sched' (shiftCore k c) = sched c) (ha : ∀ c, apply' (shiftCore k c) = apply c) (c : Core) :
    body (shiftCfg k cfg) sched' apply' (shiftCore k c) =
      (shiftCore k (body cfg sched apply c).1, (body cfg sched apply c).2) :=
  SimShift.body_sh k [] cfg hs ha c

/-- Shifting every session and recompute event by `k` periods shifts the run by `k`: after the `k`
    idle periods the shifted run is, step for step, the shift of the original run — event
    timestamps, invocation periods, `_last_schedule_update` and the iteration counter move by `k`,
    occupancy, flags and errors are the same.
    Event-core layer, `max_recompute = None`; every `max_recompute`: `run_shift_core`; Sim level: `run_shift`. -/
theorem run_shift_partial (k : Nat) (cfg : Cfg) {sched sched' apply apply' : Core → Option Err}
    (hs : ∀ c, sched' (shiftCore k c) = sched c) (ha : ∀ c, apply' (shiftCore k c) = apply c)
    (hmr : cfg.maxRecompute = none)
    (hidle : ∀ c, c.resolve = false → (∀ e ∈ c.pending, (c.iter : Int) < e.ts) → apply' c = none)
    (hne : initPending cfg ≠ []) (hnn : ∀ e ∈ initPending cfg, 0 ≤ e.ts) (n : Nat) :
    run (shiftCfg k cfg) sched' apply' (k + n) (init (shiftCfg k cfg)) =
      (shiftCore k (run cfg sched apply n (init cfg)).1, (run cfg sched apply n (init cfg)).2) := by
  rw [SimShift.idle_run_gen (shiftCfg k cfg) k
    (fun d hd _ hpd => ⟨fun hn => by simp [needsSched, shiftCfg, hmr, hd] at hn, hidle d hd hpd⟩) k n _
    (SimShift.idleAhead_init k hne hnn), show (shiftCfg k cfg).maxRecompute = none from hmr,
    SimShift.idleIter_none k _ rfl]
  have hinit : ({ init (shiftCfg k cfg) with iter := (init (shiftCfg k cfg)).iter + k } : Core)
      = shiftCore k (init cfg) := by
    simp only [init, shiftCore, initPending_shift, List.map_nil, Option.map_none, Nat.zero_add]
  rw [hinit]
  exact run_shift_from k cfg hs ha n (init cfg)

example : exCfg.maxRecompute = some 2 ∧ initPending { exCfg with maxRecompute := none } ≠ []
    ∧ (run (shiftCfg 3 { exCfg with maxRecompute := none }) noFail noFail (3 + 10)
        (init (shiftCfg 3 { exCfg with maxRecompute := none }))).1.invoked = [3, 5, 6]
    ∧ (run { exCfg with maxRecompute := none } noFail noFail 10 (init { exCfg with maxRecompute := none })).1.invoked
        = [0, 2, 3] := by
  refine ⟨rfl, by decide, by decide, by decide⟩

open Acn.SimShift in
/-- EVENT CORE, EVERY `max_recompute`, ERRORS INCLUDED.  `Aligned k cfg`: `max_recompute = None`, or
    something is due in period 0 of the original scenario, or `max_recompute = m` with `m = 0 ∨ m ∣ k`.
    Then the shifted run (with `k` more units of fuel) stops with the same error as the original run
    and ends in `sh k V ·` of the original final state — every timestamp moved by `k`, the idle
    invocations `V` of the prefix in front of `invoked` — up to `_last_schedule_update`, and EXACTLY
    in that state unless period 0 of the original run raised (a raise in the very first period keeps
    the `_last_schedule_update` of the idle prefix).
    The scheduler / pilot application are arbitrary (failing ones included) functions of the core that
    cannot tell the shifted state from the original (`hs`, `ha`: for every record `V` of earlier
    invocations), do not read `_last_schedule_update` (`hsL`; the pilot application may) and do nothing
    while nothing has happened (`hidle`). -/
theorem run_shift_core (k : Nat) (cfg : Cfg) {sched sched' apply apply' : Core → Option Err}
    (hs : ∀ V c, sched' (sh k V c) = sched c) (ha : ∀ V c, apply' (sh k V c) = apply c)
    (hsL : ∀ L c, sched' (setLUc L c) = sched' c)
    (hidle : ∀ d : Core, d.resolve = false → d.iter < k → (∀ e ∈ d.pending, (d.iter : Int) < e.ts) →
      sched' d = none ∧ apply' d = none)
    (hne : initPending cfg ≠ []) (hnn : ∀ e ∈ initPending cfg, 0 ≤ e.ts) (hal : Aligned k cfg) (n : Nat) :
    ∃ V,
      (∃ L, run (shiftCfg k cfg) sched' apply' (k + (n + 1)) (init (shiftCfg k cfg)) =
        (setLUc L (sh k V (run cfg sched apply (n + 1) (init cfg)).1), (run cfg sched apply (n + 1) (init cfg)).2)) ∧
      ((body cfg sched apply (init cfg)).2 = none →
        run (shiftCfg k cfg) sched' apply' (k + (n + 1)) (init (shiftCfg k cfg)) =
          (sh k V (run cfg sched apply (n + 1) (init cfg)).1, (run cfg sched apply (n + 1) (init cfg)).2)) :=
  run_shift_core' k cfg hs ha hsL hidle hne hnn hal n

/-- nothing is due in period 0, `max_recompute = 2` -/
def exCfgLate : Cfg :=
  { stations := ["A", "B"], sessions := [⟨"x", "A", 1, 3⟩, ⟨"y", "B", 2, 6⟩], recomputes := [(3, "r0")],
    maxRecompute := some 2 }

open Acn.SimShift in
/-- the hypotheses of `run_shift_core` are satisfiable WITHOUT an event in period 0 (`k = 4`, `2 ∣ 4`):
    the idle prefix records `V = [0, 2]`; and they are needed: for `k = 3` the shifted run is NOT
    `V ++` the shifted original for the idle invocations `V = [0, 2]` (nor for any other `V`: it is
    consulted in 5 but not in 3, the original in 0 and 1) -/
example : Aligned 4 exCfgLate ∧ (∀ e ∈ initPending exCfgLate, 0 < e.ts) ∧ initPending exCfgLate ≠ []
    ∧ (run exCfgLate noFail noFail 11 (init exCfgLate)).1.invoked = [0, 1, 2, 3, 5, 6]
    ∧ (run (shiftCfg 4 exCfgLate) noFail noFail (4 + 11) (init (shiftCfg 4 exCfgLate))).1.invoked
        = [0, 2] ++ [0, 1, 2, 3, 5, 6].map (· + 4)
    ∧ (run (shiftCfg 3 exCfgLate) noFail noFail (3 + 11) (init (shiftCfg 3 exCfgLate))).1.invoked
        = [0, 2, 4, 5, 6, 8, 9] := by
  refine ⟨Or.inr (Or.inr ⟨2, rfl, Or.inr ⟨2, rfl⟩⟩), by decide, by decide, by decide, by decide, by decide⟩

end events

section simulator
open Acn.Sim Acn.SimEquiv
variable {K : Type} [Field K] [LinearOrder K] [IsStrictOrderedRing K] [HasExp K]

/- The four relations on the full simulator model `Acn.Sim.run`, with what they relate and where each is proved.
   (1) station registration order: pilots, rates, evsePilot, rows of occLog σ-permuted (equal keyed by station
       id); evs, peak, core, noiseIdx equal (`StEquiv σ`).  Needs `PermOK` (distinct ids, constant noise: draws
       are consumed in station order).  Completing runs: `run_equivariant_stations` (`SchedEquivariant`),
       `…_dict` (`SchedEquivariantD`), `…_sorted`, `…_uncontrolled` (tie-free views: the sort is stable on a
       station-ordered list).  Raising runs, `uninterrupted_charging`: C10Stations; rampdown estimator: C10Rampdown.
       Not covered: a non-constant noise stream (order-dependent).
   (2) constraint order: `Acn.Sim` has no constraint table; the rows are read by `network.is_feasible` (a warning,
       `feasible_perm_constraints`) and by the scheduler (`run_perm_constraints`: the two runs are equal).
       Not covered: that `add_constraint` calls in another order yield a row permutation of the matrix.
   (3) session / recompute listing order: pilots, rates, peak, evsePilot, noiseIdx, occLog equal; evs equal per
       session id (`EvsPerm`); cores `CoreEquiv`.  Needs `Valid` and `SchedIgnoresEvsePilot`; no tie hypothesis
       (`network.active_evs` is in station order).  `run_perm_sessions`, `…_sorted`; raising runs: C10Sessions.
       Not covered: (1) and (3) in one statement.
   (4) time shift by `k`: pilots, rates `shiftMat k`; timestamps + k, the idle invocations `V` in front of
       `invoked`; k vacant rows in front of occLog; peak, evsePilot, noiseIdx equal (`ShEquiv k V pre`).  Needs
       `ShiftOK`, `SchedShiftInvariant k`, and `max_recompute = None` (`run_shift`, errors included), or an event
       in period 0 (`run_shift_anchored`), or `m = 0 ∨ m ∣ k` (`run_shift_aligned`), the latter two with
       `SchedIdle k`; otherwise false (example after `run_shift_core`).  `run_shift_sorted`; `SchedIdleZ`,
       `uninterrupted_charging`, the case `m ∤ k`: C10Shift.  `run_shift_anchored` / `run_shift_aligned` speak of
       runs that return; every outcome with `max_recompute ≠ None` (a raising run raises the same error in the same
       relative period, in states related up to `_last_schedule_update`): `SimShift.run_shift_aligned_out`; event
       core: `run_shift_core`. -/

/-- CAPSTONE (stations).  Register the stations in the order `σ` (any permutation of the station
    numbers) and hand the simulator a scheduler pair that is `SchedEquivariant` (answers views that
    differ only by the station order with the same `{station id ↦ pilots}` dict).  Then every run of
    the FULL simulator model `Acn.Sim.run` (events, scheduling, `_update_schedules`, `update_pilots`
    with the battery models, `_store_actual_charging_rates`, peak, occupancy snapshots) that completes
    without raising on the original scenario completes on the permuted one, and the final states are
    `StEquiv σ`: pilot and rate matrices and `EVSE.current_pilot` are the σ-row-permuted ones
    (i.e. equal keyed by station id), and the event core (iteration, queue, occupancy, event / EV
    histories, invocation periods), every per-EV record (energy, rate, battery), the peak and the
    number of random draws are EQUAL.  Any fuel `n`, any scenario with pairwise different station
    ids, any EVSE / battery kinds, any schedules.
    Hypotheses that are genuinely needed: `ConstNoise` — the random stream is consumed in station
    order, so only a constant stream is order-independent; no raise — when `update_pilots` raises,
    the stations before the offender have already charged, and "before" is the registration order. -/
theorem run_equivariant_stations (σ : List Nat) (d : Station K) (cfg : Cfg K) (h : PermOK σ cfg)
    {sched sched' : View K → Except EventCore.Err (Schedule K)} (hs : SchedEquivariant σ sched sched')
    (n : Nat) (r : State K) (hr : Sim.run cfg sched n (Sim.init cfg) = (r, none)) :
    ∃ r', Sim.run (permCfg σ d cfg) sched' n (Sim.init (permCfg σ d cfg)) = (r', none) ∧ StEquiv σ r r' := by
  obtain ⟨he, hsh, ho⟩ := init_equiv (d := d) h
  exact run_equiv_ok h hs.toSt n he hsh ho (fun _ _ => trivial) hr

/-- the scripted-by-station-name scheduler and the empty scheduler are equivariant (for every σ) -/
theorem scripted_schedEquivariant (σ : List Nat) (script : List (Nat × Option (Schedule K))) (dflt : Schedule K) :
    SchedEquivariant σ (scripted script dflt) (scripted script dflt) ∧
    SchedEquivariant σ (emptySched (K := K)) emptySched :=
  ⟨scripted_equivariant σ script dflt, emptySched_equivariant σ⟩

theorem constNoise_of_short {cfg : Cfg K} (h : cfg.noise.length ≤ 1) : ConstNoise cfg := by
  intro i j
  unfold noiseAt
  match hn : cfg.noise with
  | [] => rfl
  | [v] => simp [Nat.mod_one]
  | _ :: _ :: _ => rw [hn] at h; simp at h

/-- the hypotheses of `run_equivariant_stations` are satisfiable: two stations swapped -/
example (cfg : Cfg K) (a b : Station K) (hab : a.id ≠ b.id) (hst : cfg.stations = [a, b]) (v : K)
    (hno : cfg.noise = [v]) : PermOK [1, 0] cfg :=
  ⟨by rw [hst]; exact List.Perm.swap 0 1 [], by simp [Ledger.StationsNodup, hst, hab], constNoise_of_short (by simp [hno])⟩

end simulator

section shift
open Acn.Sim Acn.SimShift
variable {K : Type} [Field K] [LinearOrder K] [IsStrictOrderedRing K] [HasExp K]

/-- The whole simulator commutes with a time shift FROM ANY PAIR OF RELATED STATES: every
    `max_recompute`, every fuel, errors included (same error class in the same relative period).
    `ShEquiv k V pre s s'`: core of `s'` = core of `s` with every timestamp (iteration, queue, event
    history, `_last_schedule_update`, invocation periods) moved by `k`; pilot and rate matrices =
    `shiftMat k` (k zero columns in front); EV records equal up to their shifted arrival / departure
    fields; peak, `EVSE.current_pilot`, number of random draws equal. -/
theorem run_shift_from (k : Nat) (cfg : Cfg K) (hd : DepNonneg cfg.core)
    {sched sched' : View K → Except EventCore.Err (Schedule K)} (hs : SchedShiftInvariant k sched sched')
    (V : List Nat) (pre : List (List (Option String))) (n : Nat) {s s' : State K}
    (he : ShEquiv k V pre s s') (hp : PendNonneg s.core) :
    (Sim.run (shiftCfgS k cfg) sched' n s').2 = (Sim.run cfg sched n s).2 ∧
    ShEquiv k V pre (Sim.run cfg sched n s).1 (Sim.run (shiftCfgS k cfg) sched' n s').1 :=
  run_shift_sim hd hs n he hp

/-- CAPSTONE (shift, `max_recompute = None`).  Shift every session (arrival, departure, estimated
    departure) and every recompute event by `k` periods and hand the simulator a scheduler that
    depends on its view through relative time only (`SchedShiftInvariant`).  Then the run of the FULL
    simulator model on the shifted scenario, with `k` more units of fuel, raises iff the original
    does (same error), and its final state is the shift of the original final state: pilot / rate
    matrices with `k` ZERO columns in front, event timestamps / iteration / invocation periods moved
    by `k`, `k` all-vacant rows in front of the occupancy log, energies, peak, draws equal.
    `ShiftOK`: the scenario has an event, no negative timestamps, every EVSE accepts the idle pilot 0
    (an EVSE with `min_rate > 0` aborts ANY run in period 0, DESIGN §8). -/
theorem run_shift (k : Nat) (cfg : Cfg K) (h : ShiftOK cfg)
    {sched sched' : View K → Except EventCore.Err (Schedule K)} (hs : SchedShiftInvariant k sched sched')
    (hmr : cfg.maxRecompute = none) (n : Nat) :
    (Sim.run (shiftCfgS k cfg) sched' (k + n) (Sim.init (shiftCfgS k cfg))).2 = (Sim.run cfg sched n (Sim.init cfg)).2 ∧
    ShEquiv k [] (List.replicate k (noneRow cfg)) (Sim.run cfg sched n (Sim.init cfg)).1
      (Sim.run (shiftCfgS k cfg) sched' (k + n) (Sim.init (shiftCfgS k cfg))).1 := by
  obtain ⟨sk, hrun, hcore, he⟩ := idle_prefix (k := k) (sched' := sched') h (fun hne => absurd hmr hne)
  -- with `max_recompute = None` the idle periods only move the clock: nothing to erase, no invocation on record
  rw [hmr, idleIter_none k _ rfl] at hcore
  have hsk : setLU none sk = sk := by
    unfold setLU
    rw [← show sk.core.lastUpd = none by rw [hcore]; rfl]
  rw [hsk, show sk.core.invoked = [] by rw [hcore]; rfl] at he
  rw [Sim.run_eq, Steps.loopE_add, ← Sim.run_eq, hrun, Steps.andThen_ok, ← Sim.run_eq]
  exact run_shift_sim h.dep hs n he (fun e he' => h.nonneg e he')

/-- CAPSTONE (shift, ANY `max_recompute`, anchored).  With `max_recompute = m` the periodic
    invocations before the first event are anchored at period 0, so the shifted run consults the
    scheduler during its idle prefix (`SchedIdle`: it answers `{}` there) and reaches the first event
    with a different `_last_schedule_update`.  If something happens in period 0 of the original
    scenario (`hanchor`: the events of period 0 set `_resolve`), that difference is erased in that very
    period: every run that completes on the original scenario completes on the shifted one, and the
    final states are `ShEquiv k V pre` where `V` are the idle invocations of the prefix. -/
theorem run_shift_anchored (k : Nat) (cfg : Cfg K) (h : ShiftOK cfg)
    {sched sched' : View K → Except EventCore.Err (Schedule K)} (hs : SchedShiftInvariant k sched sched')
    (hsi : SchedIdle k sched')
    (hanchor : (Sim.eventsStage cfg (Sim.init cfg)).1.core.resolve = true)
    (n : Nat) (r : State K) (hr : Sim.run cfg sched (n + 1) (Sim.init cfg) = (r, none)) :
    ∃ r' V, Sim.run (shiftCfgS k cfg) sched' (k + (n + 1)) (Sim.init (shiftCfgS k cfg)) = (r', none) ∧
      ShEquiv k V (List.replicate k (noneRow cfg)) r r' :=
  run_shift_aligned_ok h hs (fun _ => hsi.toZ cfg) (aligned_of_anchor k hanchor) n r hr

/-- the anchor of `run_shift_anchored` from the data: an event with timestamp 0 and a period 0 whose
    events raise nothing -/
theorem anchor_of_event (cfg : Cfg K) {e : Event} (he : e ∈ EventCore.initPending cfg.core) (h0 : e.ts = 0)
    (hok : (Sim.eventsStage cfg (Sim.init cfg)).2 = none) :
    (Sim.eventsStage cfg (Sim.init cfg)).1.core.resolve = true := by
  refine Sim.eventsStage_sets_resolve cfg _ hok fun hnil => ?_
  have hm : e ∈ (popCurrent (Sim.init cfg).core.iter (Sim.init cfg).core.pending).1 :=
    mem_popCurrent_fst.2 ⟨he, by rw [h0]; exact le_refl _⟩
  rw [hnil] at hm
  cases hm

/-- CAPSTONE (shift, `max_recompute = m`, ALIGNED, no event needed in period 0).  The original run
    consults the scheduler in period 0 whatever happens (`_last_schedule_update is None`); when
    `m ∣ k` (or `m = 0`: every period) the idle invocations of the shifted run fall on 0, m, 2m, …, so it
    consults the scheduler in period `k` too, and that invocation erases the only difference the idle
    prefix left behind.  Every run that completes on the original scenario completes on the shifted
    one, and the final states are `ShEquiv k V pre` where `V` are the idle invocations. -/
theorem run_shift_aligned (k : Nat) (cfg : Cfg K) (h : ShiftOK cfg)
    {sched sched' : View K → Except EventCore.Err (Schedule K)} (hs : SchedShiftInvariant k sched sched')
    (hsi : SchedIdle k sched') {m : Nat} (hm : cfg.maxRecompute = some m) (hdiv : m = 0 ∨ m ∣ k)
    (n : Nat) (r : State K) (hr : Sim.run cfg sched (n + 1) (Sim.init cfg) = (r, none)) :
    ∃ r' V, Sim.run (shiftCfgS k cfg) sched' (k + (n + 1)) (Sim.init (shiftCfgS k cfg)) = (r', none) ∧
      ShEquiv k V (List.replicate k (noneRow cfg)) r r' :=
  run_shift_aligned_ok h hs (fun _ => hsi.toZ cfg) (Or.inr (Or.inr ⟨m, hm, hdiv⟩)) n r hr

/-- a scheduler that follows a script in RELATIVE time (and answers `{}` before the origin `k`) -/
def scriptedRel (k : Nat) (script : List (Nat × Option (Schedule K))) (dflt : Schedule K) :
    View K → Except EventCore.Err (Schedule K) := fun v =>
  if v.iter < k then .ok [] else scripted script dflt { v with iter := v.iter - k }

/-- the scripted (relative-time) scheduler and the empty scheduler are shift-invariant and idle -/
theorem scripted_schedShiftInvariant (k : Nat) (script : List (Nat × Option (Schedule K))) (dflt : Schedule K) :
    SchedShiftInvariant k (scripted script dflt) (scriptedRel k script dflt) ∧
    SchedIdle k (scriptedRel k script dflt) ∧
    SchedShiftInvariant k (emptySched (K := K)) emptySched ∧ SchedIdle k (emptySched (K := K)) := by
  refine ⟨?_, ?_, fun _ _ _ => rfl, fun _ _ _ => rfl⟩
  · intro v v' hv
    have h1 : ¬ v.iter + k < k := by omega
    simp only [scriptedRel, scripted, hv.iter, Nat.add_sub_cancel, h1, if_false]
  · intro v _ hk
    simp only [scriptedRel, hk, if_true]

/-- `ShiftOK` is satisfiable -/
example (cfg : Cfg K) (x : Evse.Ev K) (hx : cfg.evs = [x]) (hr : cfg.recomputes = []) (ha : 0 ≤ x.arrival)
    (hdp : 0 ≤ x.departure) (hst : cfg.stations = []) : ShiftOK cfg :=
  ⟨by simp [EventCore.initPending, Cfg.core, hx],
   by
    intro e he
    simp only [EventCore.initPending, Cfg.core, hx, hr, List.map_cons, List.map_nil, List.append_nil,
      List.mem_singleton] at he
    subst he
    exact ha,
   by
    intro y hy
    simp only [Cfg.core, hx, List.map_cons, List.map_nil, List.mem_singleton] at hy
    subst hy
    exact hdp,
   by intro st hs'; rw [hst] at hs'; simp at hs'⟩

end shift

section shift_example
open Acn.Sim Acn.SimShift

local instance : HasExp ℚ := ⟨fun x => x⟩

/-- stations A (0–32 A, 208 V) and B (levels 0/8/16 A, 240 V); session x on A in [1,4), y on B in [2,6),
    both asking for more than they can get, ideal batteries, 5-minute periods; NOTHING due in period 0;
    `max_recompute = 2` -/
def exSimLate : Sim.Cfg ℚ :=
  { stations := [⟨"A", .cont 0 (some 32), 208⟩, ⟨"B", .finite [0, 8, 16], 240⟩],
    evs := [{ session := "x", station := "A", arrival := 1, departure := 4, estDeparture := 4, requested := 10,
              delivered := 0, rate := 0,
              batt := { capacity := 40, charge := 5, init := 5, maxPower := 7, power := 0, twoStage := false,
                        noiseLevel := 0, ts := 0, cmode := .continuous } },
            { session := "y", station := "B", arrival := 2, departure := 6, estDeparture := 5, requested := 10,
              delivered := 0, rate := 0,
              batt := { capacity := 40, charge := 5, init := 5, maxPower := 7, power := 0, twoStage := false,
                        noiseLevel := 0, ts := 0, cmode := .continuous } }],
    recomputes := [], maxRecompute := some 2, period := 5, atolCont := 1 / 1000, atolDeadband := 1 / 1000,
    atolFinite := 1 / 1000, fullEps := 1 / 1000, noise := [] }

/-- a schedule that depends on (relative) time -/
def exScript : List (Nat × Option (Schedule ℚ)) :=
  [(1, some [("A", [16, 12])]), (2, some [("A", [10, 6]), ("B", [8, 16])]), (4, some [("B", [16, 8])])]

theorem exSimLate_ok : ShiftOK exSimLate :=
  ⟨by decide, by decide,
   by show ∀ x ∈ exSimLate.core.sessions, 0 ≤ x.departure; decide,
   by show ∀ st ∈ exSimLate.stations, Evse.validRate (atolOf exSimLate st.kind) exSimLate.atolFinite st.kind 0 = true
      decide +kernel⟩

/-- the hypotheses of `run_shift_aligned` are satisfiable with nothing due in period 0 (so that
    `run_shift_anchored` does not apply) and a time-dependent schedule: `k = 4`, `m = 2` -/
example : (∀ e ∈ initPending exSimLate.core, 0 < e.ts) ∧
    (Sim.run exSimLate (scripted exScript []) 9 (Sim.init exSimLate)).2 = none ∧
    ∃ r' V, Sim.run (shiftCfgS 4 exSimLate) (scriptedRel 4 exScript []) (4 + 9) (Sim.init (shiftCfgS 4 exSimLate))
        = (r', none) ∧
      ShEquiv 4 V (List.replicate 4 (noneRow exSimLate)) (Sim.run exSimLate (scripted exScript []) 9 (Sim.init exSimLate)).1 r' := by
  have hrun : (Sim.run exSimLate (scripted exScript []) 9 (Sim.init exSimLate)).2 = none := by decide +kernel
  refine ⟨by decide, hrun, ?_⟩
  exact run_shift_aligned 4 exSimLate exSimLate_ok (scripted_schedShiftInvariant 4 exScript []).1
    (scripted_schedShiftInvariant 4 exScript []).2.1 rfl (Or.inr ⟨2, rfl⟩) 8 _ (eq_pair_of_snd hrun)

/-- … and what the two runs look like: invocations `[0, 2]` of the idle prefix in front, four zero
    columns in front of the pilots, same energies -/
example :
    (Sim.run exSimLate (scripted exScript []) 9 (Sim.init exSimLate)).1.core.invoked = [0, 1, 2, 4, 6] ∧
    (Sim.run (shiftCfgS 4 exSimLate) (scriptedRel 4 exScript []) 13 (Sim.init (shiftCfgS 4 exSimLate))).1.core.invoked
      = [0, 2] ++ [0, 1, 2, 4, 6].map (· + 4) ∧
    (Sim.run (shiftCfgS 4 exSimLate) (scriptedRel 4 exScript []) 13 (Sim.init (shiftCfgS 4 exSimLate))).1.pilots.rows
      = (Sim.run exSimLate (scripted exScript []) 9 (Sim.init exSimLate)).1.pilots.rows.map ([0, 0, 0, 0] ++ ·) ∧
    (Sim.run exSimLate (scripted exScript []) 9 (Sim.init exSimLate)).1.pilots.rows
      = [[0, 16, 10, 6, 0, 0, 0], [0, 0, 8, 16, 16, 8, 0]] ∧
    (Sim.run (shiftCfgS 4 exSimLate) (scriptedRel 4 exScript []) 13 (Sim.init (shiftCfgS 4 exSimLate))).1.evs.map (·.delivered)
      = (Sim.run exSimLate (scripted exScript []) 9 (Sim.init exSimLate)).1.evs.map (·.delivered) := by
  decide +kernel

end shift_example

section constraints_sim
open Acn.Sim Acn.SimSorted Acn.Sorted
variable {K : Type} [Field K] [LinearOrder K] [IsStrictOrderedRing K] [HasExp K] [HasCeilNat K]

/-- CAPSTONE (constraint order).  `Acn.Sim` itself holds no constraint table: the rows of
    `constraint_matrix` / `magnitudes` reach a run only through the scheduler's feasibility check
    (`infrastructure_constraints_feasible`, `SimSorted.feasOf`).  Two network descriptions whose
    (row, limit) pairs are a permutation of each other (`RowsPerm`: same phasors and tolerances) give
    the SAME scheduler, hence runs of the full simulator with the modelled sorted algorithms (greedy /
    round robin, every sort, every option) that are literally equal: every output, every fuel, from
    every state, errors included. -/
theorem run_perm_constraints {net net' : NetInfo K} (hp : RowsPerm net net') (inf : K) (cfg : Cfg K)
    (scfg : Config K) (n : Nat) (s : State K) :
    Sim.run cfg (sortedSched net' inf cfg scfg) n s = Sim.run cfg (sortedSched net inf cfg scfg) n s := by
  rw [sortedSched_rowsPerm hp]

/-- two constraints added in the other order: `RowsPerm` holds, every sort / algorithm / scenario -/
example (a b c s : List K) (l1 l2 vt rt inf : K) (cfg : Cfg K) (scfg : Config K) (n : Nat) :
    Sim.run cfg (sortedSched ⟨[b, a], [l2, l1], c, s, vt, rt⟩ inf cfg scfg) n (Sim.init cfg) =
      Sim.run cfg (sortedSched ⟨[a, b], [l1, l2], c, s, vt, rt⟩ inf cfg scfg) n (Sim.init cfg) :=
  run_perm_constraints (net := ⟨[a, b], [l1, l2], c, s, vt, rt⟩) (net' := ⟨[b, a], [l2, l1], c, s, vt, rt⟩)
    ⟨List.Perm.swap _ _ [], rfl, rfl, rfl, rfl⟩ inf cfg scfg n _

end constraints_sim

section sessions_sim
open Acn.Sim
variable {K : Type} [Field K] [LinearOrder K] [IsStrictOrderedRing K] [HasExp K]

/-- Sim-level statement for permuted session / recompute / station listings, CORE PART of the
    observable: whenever the two runs of the full simulator complete (ANY two scheduler parameters —
    not even the same one), their cores are `CoreEquiv`: same iteration, occupancy keyed by station,
    `_resolve`, `_last_schedule_update`, invocation periods; queue, event history and `ev_history`
    equal as multisets.
    (For a single scheduler that does not read `EVSE.current_pilot` the full statement —
    matrices, peak, EV records — is `run_perm_sessions` below.) -/
theorem run_perm_sessions_core {cfg cfg' : Cfg K} (hv : Valid cfg.core) (hp : CfgPerm cfg.core cfg'.core)
    (sched sched' : View K → Except EventCore.Err (Schedule K)) (n : Nat)
    (h : (Sim.run cfg sched n (Sim.init cfg)).2 = none)
    (h' : (Sim.run cfg' sched' n (Sim.init cfg')).2 = none) :
    CoreEquiv (Sim.run cfg sched n (Sim.init cfg)).1.core (Sim.run cfg' sched' n (Sim.init cfg')).1.core := by
  obtain ⟨d, d', hr, hr', he⟩ := run_perm_sessions_partial hv hp (sched := noFail) (apply := noFail)
    (fun _ => rfl) (fun _ => rfl) n
  have e1 := Sim.run_core cfg sched n (Sim.init cfg) h
  have e2 := Sim.run_core cfg' sched' n (Sim.init cfg') h'
  rw [Sim.init_core, hr] at e1
  rw [Sim.init_core, hr'] at e2
  cases e1
  cases e2
  exact he

end sessions_sim

section sessions_full
open Acn.Sim Acn.SimPerm
variable {K : Type} [Field K] [LinearOrder K] [IsStrictOrderedRing K] [HasExp K]

/-- CAPSTONE (sessions).  List the sessions (the EVs of the plug-in events) and the recompute events
    in ANY other order.  For every Valid scenario, every fuel and every scheduler that does not read
    `EVSE.current_pilot` through its view (`SchedIgnoresEvsePilot`: scripted, empty, uncontrolled,
    the sorted algorithms), every run of the FULL simulator that completes on the original listing
    completes on the permuted one, and the final states agree: pilot matrix, rate matrix, peak,
    `EVSE.current_pilot`, number of random draws, occupancy log EQUAL; the EV records equal up to the
    listing permutation (`EvsPerm`: energies, rates, batteries per session id); the cores `CoreEquiv`
    (iteration, occupancy, flags, invocation periods equal; queue and histories equal as multisets).
    How `EVSE.current_pilot` is handled: mid-period it may differ between the two runs only in the
    order in which unplugs zero it (same set of stations — but that is not needed), it is visible to a
    scheduler only through `View.evsePilot`, and `update_pilots` overwrites every entry with the
    pilot column (`updatePilots_evse`), so it is equal again at every loop head. -/
theorem run_perm_sessions (cfg : Cfg K) (evs' : List (Evse.Ev K)) (recs' : List (Int × String))
    (hv : Valid cfg.core) (he : evs'.Perm cfg.evs) (hrc : recs'.Perm cfg.recomputes)
    {sched : View K → Except EventCore.Err (Schedule K)} (hsch : SchedIgnoresEvsePilot sched)
    (n : Nat) (r : State K) (hrun : Sim.run cfg sched n (Sim.init cfg) = (r, none)) :
    ∃ r', Sim.run { cfg with evs := evs', recomputes := recs' } sched n
        (Sim.init { cfg with evs := evs', recomputes := recs' }) = (r', none) ∧
      CoreEquiv r.core r'.core ∧ NC r r' := by
  obtain ⟨r', hr', _, hrel, hnc, _⟩ := (run_listing cfg evs' recs' hv he hrc hsch n).ok_of hrun
  exact ⟨r', hr', hrel.equiv, hnc⟩

/-- the scripted and the empty scheduler do not read `EVSE.current_pilot` -/
theorem scripted_ignoresEvsePilot (script : List (Nat × Option (Schedule K))) (dflt : Schedule K) :
    SchedIgnoresEvsePilot (scripted script dflt) ∧ SchedIgnoresEvsePilot (emptySched (K := K)) :=
  ⟨fun _ _ => rfl, fun _ _ => rfl⟩

example : Valid exCfg ∧ ([⟨"z", "A", 2, 3⟩, ⟨"y", "B", 0, 2⟩, ⟨"x", "A", 0, 2⟩] : List Session).Perm exCfg.sessions :=
  ⟨exCfg_valid, by decide⟩

open Acn.SimSorted Acn.Sorted in
/-- CAPSTONE (sessions, the modelled algorithms).  `run_perm_sessions` with the sorting-based algorithms
    (`SimSorted.sortedSched`: greedy and round robin, all five sort keys, uninterrupted on/off,
    `estimate_max_rate = False`) or uncontrolled charging as the scheduler — the scheduler of the
    permuted listing is the adapter built from the PERMUTED configuration.  No hypothesis on ties: the
    listing order of the sessions never reaches these algorithms (`network.active_evs` is in station
    order; `Sorted.sortBy` is stable), so ties are broken the same way in both runs. -/
theorem run_perm_sessions_sorted [HasCeilNat K] (cfg : Cfg K) (evs' : List (Evse.Ev K)) (recs' : List (Int × String))
    (hv : Valid cfg.core) (he : evs'.Perm cfg.evs) (hrc : recs'.Perm cfg.recomputes)
    (mk : Cfg K → View K → Except EventCore.Err (Schedule K))
    (hmk : (∃ net inf scfg, mk = fun c => sortedSched net inf c scfg) ∨ (∃ inf, mk = fun c => uncontrolledSched inf c))
    (n : Nat) (r : State K) (hrun : Sim.run cfg (mk cfg) n (Sim.init cfg) = (r, none)) :
    ∃ r', Sim.run { cfg with evs := evs', recomputes := recs' } (mk { cfg with evs := evs', recomputes := recs' }) n
        (Sim.init { cfg with evs := evs', recomputes := recs' }) = (r', none) ∧
      CoreEquiv r.core r'.core ∧ NC r r' := by
  rcases hmk with ⟨net, inf, scfg, rfl⟩ | ⟨inf, rfl⟩
  · exact run_perm_sessions cfg evs' recs' hv he hrc (sortedSched_ignoresEvsePilot net inf cfg scfg) n r hrun
  · exact run_perm_sessions cfg evs' recs' hv he hrc (uncontrolledSched_ignoresEvsePilot inf cfg) n r hrun

end sessions_full

section sessions_sorted_example
open Acn.Sim Acn.SimPerm Acn.SimSorted Acn.Sorted

local instance : HasExp ℚ := ⟨fun x => x⟩
local instance : HasCeilNat ℚ := ⟨fun x => (Rat.ceil x).toNat⟩

/-- A + B ≤ 30 A, B ≤ 16 A, one phase -/
def exNet : NetInfo ℚ := ⟨[[1, 1], [0, 1]], [30, 16], [1, 1], [0, 0], 1 / 10000, 1 / 10000000⟩

def exGreedy : Config ℚ :=
  { algo := .greedy, sort := .edf, uninterrupted := false, estimate := false, inc := 1, eps := 1 / 100, fuel := 12 }

def exRR : Config ℚ := { exGreedy with algo := .roundRobin, sort := .fcfs }

theorem exSimLate_valid : Valid exSimLate.core := by decide

/-- the test run of `exSimLate` under EDF greedy, evaluated once: it completes, its pilot table, and no
    view handed out has a tie in the sort key -/
theorem exGreedy_run :
    (Sim.run exSimLate (sortedSched exNet 1000000 exSimLate exGreedy) 9 (Sim.init exSimLate)).2 = none ∧
    (Sim.run exSimLate (sortedSched exNet 1000000 exSimLate exGreedy) 9 (Sim.init exSimLate)).1.pilots.rows
      = [[0, 30, 30, 0, 0, 0, 0], [0, 0, 0, 0, 16, 0, 0]] ∧
    ∀ v ∈ runViews exSimLate (sortedSched exNet 1000000 exSimLate exGreedy) 9 (Sim.init exSimLate),
      (preOf (infraOf 1000000 exSimLate) exSimLate.period (v.active.map (sessionOfEv 1000000 v.iter))).Pairwise
        (fun a b => Acn.C08.sameKey exGreedy.sort (infraOf 1000000 exSimLate) exSimLate.period (v.iter : Int) a b = false) := by
  decide +kernel

/-- … and under first-come-first-served round robin -/
theorem exRR_run :
    (Sim.run exSimLate (sortedSched exNet 1000000 exSimLate exRR) 9 (Sim.init exSimLate)).2 = none ∧
    (Sim.run exSimLate (sortedSched exNet 1000000 exSimLate exRR) 9 (Sim.init exSimLate)).1.pilots.rows
      = [[0, 30, 14, 0, 0, 0, 0], [0, 0, 16, 0, 16, 0, 0]] ∧
    ∀ v ∈ runViews exSimLate (sortedSched exNet 1000000 exSimLate exRR) 9 (Sim.init exSimLate),
      (preOf (infraOf 1000000 exSimLate) exSimLate.period (v.active.map (sessionOfEv 1000000 v.iter))).Pairwise
        (fun a b => Acn.C08.sameKey exRR.sort (infraOf 1000000 exSimLate) exSimLate.period (v.iter : Int) a b = false) := by
  decide +kernel

/-- the hypotheses of `run_perm_sessions_sorted` are satisfiable: the two sessions listed the other
    way round, earliest-deadline-first greedy and first-come-first-served round robin under two
    constraints that bind (x is throttled to 30 − 16 = 14 A by round robin in period 2, y gets nothing
    from greedy EDF in periods 2–3), and the runs complete -/
example :
    (Sim.run exSimLate (sortedSched exNet 1000000 exSimLate exGreedy) 9 (Sim.init exSimLate)).1.pilots.rows
      = [[0, 30, 30, 0, 0, 0, 0], [0, 0, 0, 0, 16, 0, 0]] ∧
    (Sim.run exSimLate (sortedSched exNet 1000000 exSimLate exRR) 9 (Sim.init exSimLate)).1.pilots.rows
      = [[0, 30, 14, 0, 0, 0, 0], [0, 0, 16, 0, 16, 0, 0]] ∧
    (∀ scfg ∈ [exGreedy, exRR], ∃ r', Sim.run { exSimLate with evs := exSimLate.evs.reverse, recomputes := [] }
        (sortedSched exNet 1000000 { exSimLate with evs := exSimLate.evs.reverse, recomputes := [] } scfg) 9
        (Sim.init { exSimLate with evs := exSimLate.evs.reverse, recomputes := [] }) = (r', none) ∧
      CoreEquiv (Sim.run exSimLate (sortedSched exNet 1000000 exSimLate scfg) 9 (Sim.init exSimLate)).1.core r'.core ∧
      NC (Sim.run exSimLate (sortedSched exNet 1000000 exSimLate scfg) 9 (Sim.init exSimLate)).1 r') := by
  refine ⟨exGreedy_run.2.1, exRR_run.2.1, ?_⟩
  intro scfg hs
  have hrun : (Sim.run exSimLate (sortedSched exNet 1000000 exSimLate scfg) 9 (Sim.init exSimLate)).2 = none := by
    simp only [List.mem_cons, List.mem_nil_iff, or_false] at hs
    rcases hs with rfl | rfl
    · exact exGreedy_run.1
    · exact exRR_run.1
  exact run_perm_sessions_sorted exSimLate exSimLate.evs.reverse [] exSimLate_valid (List.reverse_perm _) (List.Perm.refl _)
    (fun c => sortedSched exNet 1000000 c scfg) (Or.inl ⟨exNet, 1000000, scfg, rfl⟩) 9 _ (eq_pair_of_snd hrun)

end sessions_sorted_example

section stations_sorted
open Acn.Sim Acn.SimEquiv Acn.SimSorted Acn.Sorted
variable {K : Type} [Field K] [LinearOrder K] [IsStrictOrderedRing K] [HasExp K]

/-- CAPSTONE (stations, schedulers that answer with a dict).  `run_equivariant_stations` for the
    weaker, one-sided requirement `SchedEquivariantD σ sched sched'`: whenever `sched` answers a view,
    `sched'` answers every station-permuted view with the SAME DICT — the same `{station id ↦ pilots}`
    entries, listed in any order (`_update_schedules` reads a schedule through membership, lookup and
    the set of row lengths only: `updateSchedules_dictEq`).  Same conclusion: the permuted run
    completes and the final states are `StEquiv σ`. -/
theorem run_equivariant_stations_dict (σ : List Nat) (d : Station K) (cfg : Cfg K) (h : PermOK σ cfg)
    {sched sched' : View K → Except EventCore.Err (Schedule K)} (hs : SchedEquivariantD σ sched sched')
    (n : Nat) (r : State K) (hr : Sim.run cfg sched n (Sim.init cfg) = (r, none)) :
    ∃ r', Sim.run (permCfg σ d cfg) sched' n (Sim.init (permCfg σ d cfg)) = (r', none) ∧ StEquiv σ r r' := by
  obtain ⟨he, hsh, ho⟩ := init_equiv (d := d) h
  exact run_equiv_ok h hs.toE.toSt n he hsh ho (run_answered n _ _ hr) hr

/-- CAPSTONE (stations × the sorting-based algorithms).  Register the stations in the order `σ` and
    build the algorithm from the permuted configuration and the network description with permuted
    columns (`reNet`).  If no view handed out during the original run contains two sessions with the
    same sort key (`TieFree`, on the sessions left by `remove_finished_sessions`; decidable form:
    `tieFree_of_pairwise`), every run of the FULL simulator with `SortedSchedulingAlgo` or `RoundRobin`
    (all five sort keys, continuous and finite-rate EVSEs, bisection / level scan / round-robin
    increments, any network constraints with one coefficient / phasor per station; interruptible,
    `estimate_max_rate = False`) that completes on the original registration order completes on the
    permuted one, with `StEquiv σ` final states: pilots, rates, `EVSE.current_pilot` equal keyed by
    station id; energies, peak, event core equal.
    The tie hypothesis is necessary: `sorted` is stable and `network.active_evs` is in station order,
    so with a tie the registration order decides who is served first. -/
theorem run_equivariant_stations_sorted [HasCeilNat K] (σ : List Nat) (d : Station K) (cfg : Cfg K)
    (h : PermOK σ cfg) {net : NetInfo K} (hnet : NetOK cfg.stations.length net) (inf : K) (scfg : Config K)
    (hu : scfg.uninterrupted = false) (n : Nat) (r : State K)
    (hties : ∀ v ∈ runViews cfg (sortedSched net inf cfg scfg) n (Sim.init cfg), TieFree inf cfg scfg.sort v)
    (hr : Sim.run cfg (sortedSched net inf cfg scfg) n (Sim.init cfg) = (r, none)) :
    ∃ r', Sim.run (permCfg σ d cfg) (sortedSched (reNet σ net) inf (permCfg σ d cfg) scfg) n
        (Sim.init (permCfg σ d cfg)) = (r', none) ∧ StEquiv σ r r' := by
  obtain ⟨he, hsh, ho⟩ := init_equiv (d := d) h
  refine run_equiv_ok h (sortedSched_equivariantE h hnet inf scfg).toSt n he hsh ho (fun v hv => ?_) hr
  unfold TieOK
  simp only [hu, Bool.false_eq_true, if_false]
  exact hties v hv

/-- CAPSTONE (stations × uncontrolled charging).  `OnePerStation`: the view lists at most one active
    session per station (the simulator never hands out anything else; it is what makes
    `{station: …}` independent of the order in which the dict is filled). -/
theorem run_equivariant_stations_uncontrolled (σ : List Nat) (d : Station K) (cfg : Cfg K) (h : PermOK σ cfg)
    (inf : K) (n : Nat) (r : State K)
    (hone : ∀ v ∈ runViews cfg (uncontrolledSched inf cfg) n (Sim.init cfg), OnePerStation v)
    (hr : Sim.run cfg (uncontrolledSched inf cfg) n (Sim.init cfg) = (r, none)) :
    ∃ r', Sim.run (permCfg σ d cfg) (uncontrolledSched inf (permCfg σ d cfg)) n
        (Sim.init (permCfg σ d cfg)) = (r', none) ∧ StEquiv σ r r' := by
  obtain ⟨he, hsh, ho⟩ := init_equiv (d := d) h
  exact run_equiv_ok h (uncontrolledSched_equivariantE h inf).toSt n he hsh ho hone hr

end stations_sorted

section stations_sorted_example
open Acn.Sim Acn.SimEquiv Acn.SimSorted Acn.Sorted

local instance : HasExp ℚ := ⟨fun x => x⟩
local instance : HasCeilNat ℚ := ⟨fun x => (Rat.ceil x).toNat⟩

theorem exSimLate_permOK : PermOK [1, 0] exSimLate :=
  ⟨by decide, by show (exSimLate.stations.map (·.id)).Nodup; decide, constNoise_of_short (by simp [exSimLate])⟩

theorem exNet_ok : NetOK exSimLate.stations.length exNet :=
  ⟨by intro row hr; simp only [exNet, List.mem_cons, List.mem_nil_iff, or_false] at hr; rcases hr with rfl | rfl <;> rfl,
   rfl, rfl⟩

/-- the hypotheses of `run_equivariant_stations_sorted` are satisfiable: stations B, A instead of A, B,
    earliest-deadline-first greedy and first-come-first-served round robin under two binding
    constraints; every view of the run is tie-free (estimated departures 4 and 5, arrivals 1 and 2);
    the runs complete; and the permuted runs have the rows swapped -/
example :
    (∀ scfg ∈ [exGreedy, exRR], ∃ r', Sim.run (permCfg [1, 0] ⟨"", .cont 0 none, 0⟩ exSimLate)
        (sortedSched (reNet [1, 0] exNet) 1000000 (permCfg [1, 0] ⟨"", .cont 0 none, 0⟩ exSimLate) scfg) 9
        (Sim.init (permCfg [1, 0] ⟨"", .cont 0 none, 0⟩ exSimLate)) = (r', none) ∧
      StEquiv [1, 0] (Sim.run exSimLate (sortedSched exNet 1000000 exSimLate scfg) 9 (Sim.init exSimLate)).1 r') ∧
    (Sim.run (permCfg [1, 0] ⟨"", .cont 0 none, 0⟩ exSimLate)
        (sortedSched (reNet [1, 0] exNet) 1000000 (permCfg [1, 0] ⟨"", .cont 0 none, 0⟩ exSimLate) exGreedy) 9
        (Sim.init (permCfg [1, 0] ⟨"", .cont 0 none, 0⟩ exSimLate))).1.pilots.rows
      = [[0, 0, 0, 0, 16, 0, 0], [0, 30, 30, 0, 0, 0, 0]] ∧
    (Sim.run (permCfg [1, 0] ⟨"", .cont 0 none, 0⟩ exSimLate)
        (sortedSched (reNet [1, 0] exNet) 1000000 (permCfg [1, 0] ⟨"", .cont 0 none, 0⟩ exSimLate) exRR) 9
        (Sim.init (permCfg [1, 0] ⟨"", .cont 0 none, 0⟩ exSimLate))).1.pilots.rows
      = [[0, 0, 16, 0, 16, 0, 0], [0, 30, 14, 0, 0, 0, 0]] := by
  have key : ∀ scfg ∈ [exGreedy, exRR], ∃ r', Sim.run (permCfg [1, 0] ⟨"", .cont 0 none, 0⟩ exSimLate)
        (sortedSched (reNet [1, 0] exNet) 1000000 (permCfg [1, 0] ⟨"", .cont 0 none, 0⟩ exSimLate) scfg) 9
        (Sim.init (permCfg [1, 0] ⟨"", .cont 0 none, 0⟩ exSimLate)) = (r', none) ∧
      StEquiv [1, 0] (Sim.run exSimLate (sortedSched exNet 1000000 exSimLate scfg) 9 (Sim.init exSimLate)).1 r' := by
    intro scfg hs
    simp only [List.mem_cons, List.mem_nil_iff, or_false] at hs
    have hfacts : (Sim.run exSimLate (sortedSched exNet 1000000 exSimLate scfg) 9 (Sim.init exSimLate)).2 = none ∧
        ∀ v ∈ runViews exSimLate (sortedSched exNet 1000000 exSimLate scfg) 9 (Sim.init exSimLate),
          (preOf (infraOf 1000000 exSimLate) exSimLate.period (v.active.map (sessionOfEv 1000000 v.iter))).Pairwise
            (fun a b => Acn.C08.sameKey scfg.sort (infraOf 1000000 exSimLate) exSimLate.period (v.iter : Int) a b = false) := by
      rcases hs with rfl | rfl
      · exact ⟨exGreedy_run.1, exGreedy_run.2.2⟩
      · exact ⟨exRR_run.1, exRR_run.2.2⟩
    exact run_equivariant_stations_sorted [1, 0] _ exSimLate exSimLate_permOK exNet_ok 1000000 scfg
      (by rcases hs with rfl | rfl <;> rfl) 9 _
      (fun v hv => tieFree_of_pairwise _ _ _ v (hfacts.2 v hv)) (eq_pair_of_snd hfacts.1)
  -- the pilot table of the permuted run is the original one read in the order `[1, 0]`
  refine ⟨key, ?_, ?_⟩
  · obtain ⟨r', hr', he⟩ := key exGreedy List.mem_cons_self
    rw [hr', he.pilots]
    exact congrArg (reidx [1, 0] · []) exGreedy_run.2.1
  · obtain ⟨r', hr', he⟩ := key exRR (List.mem_cons_of_mem _ List.mem_cons_self)
    rw [hr', he.pilots]
    exact congrArg (reidx [1, 0] · []) exRR_run.2.1

/-- the test run of `exSimLate` under uncontrolled charging completes, and every view of it lists at most
    one session per station -/
theorem exUncontrolled_run :
    (Sim.run exSimLate (uncontrolledSched 1000000 exSimLate) 9 (Sim.init exSimLate)).2 = none ∧
    ∀ v ∈ runViews exSimLate (uncontrolledSched 1000000 exSimLate) 9 (Sim.init exSimLate),
      (v.active.map (·.station)).Nodup := by decide +kernel

/-- … and for uncontrolled charging (every view of a run lists at most one session per station) -/
example : ∃ r', Sim.run (permCfg [1, 0] ⟨"", .cont 0 none, 0⟩ exSimLate)
      (uncontrolledSched 1000000 (permCfg [1, 0] ⟨"", .cont 0 none, 0⟩ exSimLate)) 9
      (Sim.init (permCfg [1, 0] ⟨"", .cont 0 none, 0⟩ exSimLate)) = (r', none) ∧
    StEquiv [1, 0] (Sim.run exSimLate (uncontrolledSched 1000000 exSimLate) 9 (Sim.init exSimLate)).1 r' := by
  exact run_equivariant_stations_uncontrolled [1, 0] _ exSimLate exSimLate_permOK 1000000 9 _ exUncontrolled_run.2
    (eq_pair_of_snd exUncontrolled_run.1)

end stations_sorted_example

section shift_sorted
open Acn.Sim Acn.SimShift Acn.SimSorted Acn.Sorted
variable {K : Type} [Field K] [LinearOrder K] [IsStrictOrderedRing K] [HasExp K]

/-- CAPSTONE (shift × the modelled algorithms, `max_recompute = None`).  The sorting-based algorithms
    (greedy and round robin, all five sorts — LLF reads `estimated_departure − now` —, interruptible, no
    estimator) and uncontrolled charging see time only through arrival / estimated departure of the
    sessions and the current period (`sortedSched_shiftInvariant_any`, `uncontrolledSched_shiftInvariant`):
    `run_shift` applies to them as they are, the shifted scheduler being the adapter built from the
    SHIFTED configuration.  Errors included, every fuel.  (With `max_recompute = m` these algorithms are
    consulted in the idle prefix and answer all-zero rows instead of `{}`: `SchedIdle` fails for them
    as stated and `run_shift_anchored` / `run_shift_aligned` do not apply — `AcnProofs/C10Shift.lean` has the
    versions for `SchedIdleZ` that do, and `uninterrupted_charging`.) -/
theorem run_shift_sorted [HasCeilNat K] (k : Nat) (cfg : Cfg K) (h : ShiftOK cfg)
    (mk : Cfg K → View K → Except EventCore.Err (Schedule K))
    (hmk : (∃ net inf scfg, scfg.uninterrupted = false ∧ mk = fun c => sortedSched net inf c scfg) ∨
      (∃ inf, mk = fun c => uncontrolledSched inf c))
    (hmr : cfg.maxRecompute = none) (n : Nat) :
    (Sim.run (shiftCfgS k cfg) (mk (shiftCfgS k cfg)) (k + n) (Sim.init (shiftCfgS k cfg))).2 =
      (Sim.run cfg (mk cfg) n (Sim.init cfg)).2 ∧
    ShEquiv k [] (List.replicate k (noneRow cfg)) (Sim.run cfg (mk cfg) n (Sim.init cfg)).1
      (Sim.run (shiftCfgS k cfg) (mk (shiftCfgS k cfg)) (k + n) (Sim.init (shiftCfgS k cfg))).1 := by
  rcases hmk with ⟨net, inf, scfg, _, rfl⟩ | ⟨inf, rfl⟩
  · exact run_shift k cfg h (sortedSched_shiftInvariant_any k net inf cfg scfg) hmr n
  · exact run_shift k cfg h (uncontrolledSched_shiftInvariant k inf cfg) hmr n

end shift_sorted

section shift_sorted_example
open Acn.Sim Acn.SimShift Acn.SimSorted Acn.Sorted

local instance : HasExp ℚ := ⟨fun x => x⟩
local instance : HasCeilNat ℚ := ⟨fun x => (Rat.ceil x).toNat⟩

def exSimNone : Sim.Cfg ℚ := { exSimLate with maxRecompute := none }

theorem exSimNone_ok : ShiftOK exSimNone :=
  ⟨by decide, by decide,
   by show ∀ x ∈ exSimNone.core.sessions, 0 ≤ x.departure; decide,
   by show ∀ st ∈ exSimNone.stations, Evse.validRate (atolOf exSimNone st.kind) exSimNone.atolFinite st.kind 0 = true
      decide +kernel⟩

/-- the hypotheses of `run_shift_sorted` are satisfiable (least-laxity-first round robin under two
    binding constraints, shift by 3), and what the two runs look like -/
example :
    ShEquiv 3 [] (List.replicate 3 (noneRow exSimNone))
      (Sim.run exSimNone (sortedSched exNet 1000000 exSimNone { exRR with sort := .llf }) 9 (Sim.init exSimNone)).1
      (Sim.run (shiftCfgS 3 exSimNone) (sortedSched exNet 1000000 (shiftCfgS 3 exSimNone) { exRR with sort := .llf })
        (3 + 9) (Sim.init (shiftCfgS 3 exSimNone))).1 ∧
    (Sim.run exSimNone (sortedSched exNet 1000000 exSimNone { exRR with sort := .llf }) 9 (Sim.init exSimNone)).2 = none ∧
    (Sim.run (shiftCfgS 3 exSimNone) (sortedSched exNet 1000000 (shiftCfgS 3 exSimNone) { exRR with sort := .llf })
        12 (Sim.init (shiftCfgS 3 exSimNone))).1.pilots.rows
      = (Sim.run exSimNone (sortedSched exNet 1000000 exSimNone { exRR with sort := .llf }) 9
          (Sim.init exSimNone)).1.pilots.rows.map ([0, 0, 0] ++ ·) ∧
    (Sim.run exSimNone (sortedSched exNet 1000000 exSimNone { exRR with sort := .llf }) 9
          (Sim.init exSimNone)).1.pilots.rows ≠ [[0, 0, 0, 0, 0, 0, 0], [0, 0, 0, 0, 0, 0, 0]] := by
  have hsh := (run_shift_sorted 3 exSimNone exSimNone_ok (fun c => sortedSched exNet 1000000 c { exRR with sort := .llf })
    (Or.inl ⟨exNet, 1000000, { exRR with sort := .llf }, rfl, rfl⟩) rfl 9).2
  have hrun : (Sim.run exSimNone (sortedSched exNet 1000000 exSimNone { exRR with sort := .llf }) 9 (Sim.init exSimNone)).2 = none ∧
      (Sim.run exSimNone (sortedSched exNet 1000000 exSimNone { exRR with sort := .llf }) 9
          (Sim.init exSimNone)).1.pilots.rows ≠ [[0, 0, 0, 0, 0, 0, 0], [0, 0, 0, 0, 0, 0, 0]] := by decide +kernel
  -- the third claim is `ShEquiv.pilots` read row by row
  exact ⟨hsh, hrun.1, congrArg Pilots.Mat.rows hsh.pilots, hrun.2⟩

end shift_sorted_example

section ties
open Acn.Sorted
variable {K : Type} [Field K] [LinearOrder K] [IsStrictOrderedRing K]

/-- What happens with ties, precisely: the sorted queue of the sorting-based algorithms depends on
    the listing order of the sessions ONLY through ties.  If no two different sessions of the input
    share a sort key, every permutation of the input gives the same queue (all five keys).
    (With ties the order among equal keys is the input order, `Acn.C08.sorted_by_key` (iii) — and the
    input order is the station order, which is why C10's station-permutation relation is claimed
    for distinct keys: `run_equivariant_stations_sorted` composes this theorem with the equivariance
    of the greedy / round-robin allocation.  The session-LISTING order never reaches the algorithms,
    so `run_perm_sessions_sorted` needs no such hypothesis.) -/
theorem sort_perm_of_distinct_keys (kind : SortKind) (infra : Infra K) (period : K) (time : Int)
    (l l' : List (Session K)) (hp : l'.Perm l)
    (hd : ∀ a ∈ l, ∀ b ∈ l, Acn.C08.sameKey kind infra period time a b = true → a = b) :
    sortSessions kind infra period time l' = sortSessions kind infra period time l :=
  sortSessions_perm_of_distinct infra kind period time l l' hp hd

example (kind : SortKind) (infra : Infra K) (period : K) (time : Int) (a : Session K) :
    sortSessions kind infra period time [a] = [a] := rfl

end ties
end Acn.C10
