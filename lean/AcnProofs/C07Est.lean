/-
  C07 — sorting-based algorithms only emit safe schedules: the clause "when an estimator is used …
  the estimator's bound for that session" for an ARBITRARY upper-bound estimator.

  The property quantifies over max-rate ESTIMATION in general; the code accepts any
  `UpperBoundEstimatorBase` subclass, whose `get_maximum_rates` may return any dict
  `session_id → bound`: bounds above the EVSE's maximum pilot, zero or negative bounds, bounds between
  the levels of a finite-rate EVSE or below the uninterrupted-charging minimum, keys missing for some
  sessions (`.get(session_id, inf)`), keys of sessions that are not active.  The model is
  `AcnModel/SortedEst.lean` (`preprocessEst`, `scheduleCallEst`: `run_preprocessing` composing
  `enforce_pilot_limit` FIRST and `apply_upper_bound_estimate` — a `min`, by session id, absent = no
  bound — SECOND, exactly as sorted_algorithms.py:109-116 / preprocessing.py:77-103 do); the
  estimator is a parameter `est : List Session → Session → Option bound` and every theorem below is
  for EVERY such function — no hypothesis that a bound is `≤` the EVSE maximum, `≥ 0`, or present.
  `Sorted.preprocess` / `Sorted.scheduleCall` (the `SimpleRampdown` model the theorems of
  `AcnProofs/C07.lean` are about) are the instance `rampdown_is_an_estimator`.

  Helpers: `Lemmas/SortedEst.lean`, `SortedLink.lean`, `SortedSchedSafe.lean`.
-/
import AcnProofs.C07

set_option linter.unusedSectionVars false

namespace Acn.C07
open Acn Acn.Sorted

variable {K : Type} [Field K] [LinearOrder K] [IsStrictOrderedRing K]

/-- the rampdown model of `AcnModel/Sorted.lean` IS the general model instantiated with "the dict of
    the `SimpleRampdown` object after its update on the sessions it was handed, looked up by session
    id": same preprocessed sessions, and the same result, order, round-robin trace and leftover queue
    of the whole `schedule()` call.  Every theorem below therefore also speaks about the model the
    driver executes for `SimpleRampdown`. -/
theorem rampdown_is_an_estimator [HasCeilNat K] (feas : List K → Bool) (cfg : Config K) (infra : Infra K)
    (period : K) (time : Int) (prev : String → Option (K × K)) (rd : Rampdown K)
    (l raw : List (Session K)) :
    (preprocess feas cfg infra period prev rd l).1 =
      preprocessEst feas cfg infra period (fun l1 => estOfDict (rampdownCall infra prev rd l1).bounds) l ∧
    (scheduleCall feas cfg infra period time prev rd raw).result =
      (scheduleCallEst feas cfg infra period time
        (fun l1 => estOfDict (rampdownCall infra prev rd l1).bounds) raw).result ∧
    (scheduleCall feas cfg infra period time prev rd raw).order =
      (scheduleCallEst feas cfg infra period time
        (fun l1 => estOfDict (rampdownCall infra prev rd l1).bounds) raw).order := by
  obtain ⟨h1, _, h3, _⟩ := scheduleCall_eq_scheduleCallEst feas cfg infra period time prev rd raw
  exact ⟨preprocess_eq_preprocessEst feas cfg infra period prev rd l, h1, h3⟩

/-- `enforce_pilot_limit` comes BEFORE the estimator: every session `get_maximum_rates` is handed —
    the sessions whose `max_rates` the answer is then `min`-ed into — is an unfinished input session
    with `max_rates = min(max_rates, max_pilot of its EVSE)`; in particular `max_rates ≤ max_pilot`. -/
theorem estimate_after_pilot_limit (infra : Infra K) (period : K) (l : List (Session K)) :
    ∀ s ∈ estInput infra period l,
      s.maxRate ≤ infra.maxPilot.getD s.idx 0 ∧
      ∃ s0 ∈ l, s = { s0 with maxRate := pyMin s0.maxRate (infra.maxPilot.getD s0.idx 0) } :=
  fun s hs => ⟨estInput_le_maxPilot infra period l s hs, estInput_spec infra period l s hs⟩

/-- `le_estimator_bound` for an ARBITRARY estimator: after `run_preprocessing` with
    `estimate_max_rate`, every surviving session derives from a session `s1` the estimator was handed
    (same session id, same station) and its max rate is at most the bound the estimator gave for
    `s1`, unless the session's lower bound (0, or the uninterrupted-charging minimum pilot) is larger.
    For every estimator function, every bound (negative, above the EVSE maximum, …); a session
    without a bound (`none`) is not constrained. -/
theorem le_estimator_bound_any_estimator (feas : List K → Bool) (cfg : Config K) (infra : Infra K)
    (period : K) (est : List (Session K) → Session K → Option K) (l : List (Session K))
    (hest : cfg.estimate = true) :
    ∀ s ∈ preprocessEst feas cfg infra period est l, ∃ s1 ∈ estInput infra period l,
      s.session = s1.session ∧ s.idx = s1.idx ∧
      ∀ b, est (estInput infra period l) s1 = some b → s.maxRate ≤ max b (lbOf s) :=
  preprocessEst_bound feas cfg infra period est l hest

/-- `schedule_feasible` for an ARBITRARY estimator: the whole `schedule()` call of either algorithm,
    any sort order, any option combination, whatever the estimator answers — if it returns a schedule,
    that schedule passes the (arbitrary) feasibility predicate.  Hypotheses as in `schedule_feasible`,
    stated on the resolved session list: `min_rates ≤ 0`, distinct stations, well-formed infrastructure. -/
theorem schedule_feasible_any_estimator [HasCeilNat K] (feas : List K → Bool) (cfg : Config K)
    (infra : Infra K) (period : K) (time : Int) (est : List (Session K) → Session K → Option K)
    (raw l : List (Session K)) (sch : List K)
    (hres : resolve infra raw = .ok l)
    (hinf : InfraOk infra) (hlen : infra.allow.length = infra.ids.length)
    (hmin : ∀ s ∈ l, s.minRate ≤ 0) (hndl : (l.map (·.idx)).Nodup)
    (h : (scheduleCallEst feas cfg infra period time est raw).result = .ok sch) :
    feas sch = true :=
  (scheduleCallEst_spec feas cfg infra period time est raw l sch hres hlen hndl h).2.1 hinf hmin

/-- `pilot_le_evse_max_any_estimator`: whatever the estimator answers, NO entry of a returned schedule
    exceeds the maximum pilot of its EVSE — both algorithms, every sort, every option combination,
    every station (a station without a queued session gets 0).  Hypotheses: resolved sessions with
    `min_rates ≤ 0` on distinct stations, and `0 ≤ min_pilot ≤ max_pilot` for every EVSE.  There is
    NO hypothesis on the estimator: the bound is `min`-ed into a `max_rates` that
    `enforce_pilot_limit` has already limited, so it can only lower it, and `reconcile_max_and_min` /
    `apply_minimum_charging_rate` lift it at most to the EVSE's own minimum pilot. -/
theorem pilot_le_evse_max_any_estimator [HasCeilNat K] (feas : List K → Bool) (cfg : Config K)
    (heps : 0 ≤ cfg.eps) (infra : Infra K) (period : K) (time : Int)
    (est : List (Session K) → Session K → Option K) (raw l : List (Session K)) (sch : List K)
    (hres : resolve infra raw = .ok l) (hlen : infra.allow.length = infra.ids.length)
    (hevse : ∀ i, 0 ≤ infra.minPilot.getD i 0 ∧ infra.minPilot.getD i 0 ≤ infra.maxPilot.getD i 0)
    (hmin : ∀ s ∈ l, s.minRate ≤ 0) (hndl : (l.map (·.idx)).Nodup)
    (h : (scheduleCallEst feas cfg infra period time est raw).result = .ok sch) :
    sch.length = infra.ids.length ∧
    ∀ j, j < infra.ids.length → ∃ r, sch[j]? = some r ∧ r ≤ infra.maxPilot.getD j 0 := by
  obtain ⟨hl, _, hst⟩ := scheduleCallEst_spec feas cfg infra period time est raw l sch hres hlen hndl h
  refine ⟨hl, fun j hj => ?_⟩
  rcases hst heps j hj with h0 | ⟨s, _, rfl, ⟨s0, hs0, hd⟩, r, hget, _, _, hr⟩
  · exact ⟨0, h0, le_trans (hevse j).1 (hevse j).2⟩
  · obtain ⟨h1, h2⟩ := derivedW_le_maxPilot infra period s0 s hd (hmin s0 hs0)
      (le_trans (hevse s0.idx).1 (hevse s0.idx).2) (hevse s0.idx).2
    exact ⟨r, hget, le_trans hr (max_le h1 (le_trans (min_le_left _ _) h2))⟩

/-- `pilot_le_estimator_bound_any_estimator`: the pilot-level form of the estimator clause, for an
    ARBITRARY estimator.  In a returned schedule every queued session `s` (with `estimate_max_rate`)
    derives from a session `s1` the estimator was handed — same session id, same station — and its
    pilot `r` satisfies `r ≤ max b lb` for the bound `b` the estimator gave for `s1` (nothing is
    claimed when it gave none), where `lb` is 0 or — only with `uninterrupted_charging` — the EVSE's
    minimum pilot; and always `r ≤ max lb (remaining amp-periods)`. -/
theorem pilot_le_estimator_bound_any_estimator [HasCeilNat K] (feas : List K → Bool) (cfg : Config K)
    (heps : 0 ≤ cfg.eps) (infra : Infra K) (period : K) (time : Int)
    (est : List (Session K) → Session K → Option K) (raw l : List (Session K)) (sch : List K)
    (hres : resolve infra raw = .ok l) (hlen : infra.allow.length = infra.ids.length)
    (hmp : ∀ i, 0 ≤ infra.minPilot.getD i 0)
    (hmin : ∀ s ∈ l, s.minRate ≤ 0) (hndl : (l.map (·.idx)).Nodup)
    (hest : cfg.estimate = true)
    (h : (scheduleCallEst feas cfg infra period time est raw).result = .ok sch) :
    ∀ s ∈ (scheduleCallEst feas cfg infra period time est raw).order, ∃ r, sch[s.idx]? = some r ∧
      r ≤ max (lbOf s) (rap infra period s) ∧
      (lbOf s = 0 ∨ (cfg.uninterrupted = true ∧ lbOf s = infra.minPilot.getD s.idx 0)) ∧
      ∃ s1 ∈ (scheduleCallEst feas cfg infra period time est raw).estIn,
        s.session = s1.session ∧ s.idx = s1.idx ∧
        ∀ b, est (scheduleCallEst feas cfg infra period time est raw).estIn s1 = some b →
          r ≤ max b (lbOf s) := by
  obtain ⟨hnd, hidx, hmem⟩ := scheduleCallEst_queue feas cfg infra period time est raw l hres hndl
  have hg := (scheduleCallEst_allocOk feas cfg infra period time est raw sch hlen hnd hidx h).grant heps
  obtain ⟨_, hin⟩ := scheduleCallEst_order feas cfg infra period time est raw l hres
  intro s hs
  obtain ⟨r, hget, _, _, hr⟩ := hg s hs
  obtain ⟨hpre, _⟩ := hmem s hs
  obtain ⟨s1, hs1, e1, e2, hb⟩ := preprocessEst_bound feas cfg infra period est l hest s hpre
  refine ⟨r, hget, le_trans hr (max_le_max (le_refl _) (min_le_right _ _)),
    preprocessEst_lb feas cfg infra period est l hmp hmin s hpre, s1, by rw [hin]; exact hs1, e1, e2, ?_⟩
  intro b hbb
  rw [hin] at hbb
  exact le_trans hr (max_le (le_max_right _ _) (le_trans (min_le_left _ _) (hb b hbb)))

/-- bounds at or above the EVSE's maximum pilot — and `inf`, and absent keys — are all the same to
    the algorithm: an estimator all of whose answers for the sessions it is handed are `≥` the
    station's maximum pilot yields exactly the `schedule()` outcome of the estimator that answers
    with the empty dict. -/
theorem estimator_bounds_above_evse_max_inert [HasCeilNat K] (feas : List K → Bool) (cfg : Config K)
    (infra : Infra K) (period : K) (time : Int) (est : List (Session K) → Session K → Option K)
    (raw : List (Session K))
    (habove : ∀ l1 s b, est l1 s = some b → infra.maxPilot.getD s.idx 0 ≤ b) :
    scheduleCallEst feas cfg infra period time est raw =
      scheduleCallEst feas cfg infra period time (fun _ _ => none) raw := by
  unfold scheduleCallEst
  cases resolve infra raw with
  | error e => rfl
  | ok l =>
    simp only
    rw [preprocessEst_inert feas cfg infra period est l (fun s _ b hb => habove _ s b hb)]

/-- `sim_consequences_any_estimator` — `sim_consequences` / `sim_consequences_rampdown` for an
    ARBITRARY STATEFUL upper-bound estimator: any state type `σ`, any transition / answer function
    `E : σ → View → sessions handed over → (session ↦ optional bound) × σ` (the answer may depend on
    the estimator's own state, on everything the interface shows — time, last pilots, last actual
    rates — and on the sessions), any initial state.  For the modelled sorted algorithms (greedy and
    round robin, every sort order, uninterrupted on/off, estimator on/off, any increment, any
    `eps ≥ 0`, any constraint matrix) as a stateful scheduler of the simulator loop
    (`SimSortedRd.runSt` with `SimSortedEst.sortedSchedEst`), on every well-formed configuration and
    for EVERY fuel `n` — i.e. at every loop head of `Simulator.run`:
      * the run has raised no `InvalidRate`,
      * if it has not aborted, every EV record has `delivered ≤ requested` and the battery invariant,
      * and every column of the pilot matrix applied so far passes the network's feasibility
        predicate or is all zero.
    No hypothesis on the estimator. -/
theorem sim_consequences_any_estimator [HasCeilNat ℝ] {σ : Type} (net : SimSorted.NetInfo ℝ) (inf : ℝ)
    (cfg : Sim.Cfg ℝ) (scfg : Config ℝ) (hc : CfgOk cfg inf) (heps : 0 ≤ scfg.eps)
    (hb : ∀ e ∈ cfg.evs, BattAlg.Inv e.batt ∧ e.delivered ≤ e.requested)
    (E : SimSortedEst.Estimator σ ℝ) (st0 : σ) (n : Nat) :
    (SimSortedRd.runSt cfg (SimSortedEst.sortedSchedEst net inf cfg scfg E) n st0 (Sim.init cfg)).1.2
      ≠ some .invalidRate ∧
    ((SimSortedRd.runSt cfg (SimSortedEst.sortedSchedEst net inf cfg scfg E) n st0 (Sim.init cfg)).1.2 = none →
      (∀ e ∈ (SimSortedRd.runSt cfg (SimSortedEst.sortedSchedEst net inf cfg scfg E) n st0
            (Sim.init cfg)).1.1.evs,
        e.delivered ≤ e.requested ∧ BattAlg.Inv e.batt) ∧
      (∀ τ, τ < (SimSortedRd.runSt cfg (SimSortedEst.sortedSchedEst net inf cfg scfg E) n st0
            (Sim.init cfg)).1.1.core.iter →
        ColOk (SimSorted.feasOf net)
          (SimSortedRd.runSt cfg (SimSortedEst.sortedSchedEst net inf cfg scfg E) n st0
            (Sim.init cfg)).1.1.pilots
          cfg.stations.length τ)) := by
  obtain ⟨h1, h2, _⟩ := sim_consequences_of_schedSafe_st (SimSorted.feasOf net) cfg inf hc
    (SimSortedEst.sortedSchedEst net inf cfg scfg E) (fun _ => True) (fun _ _ _ _ _ _ => trivial)
    (fun st _ => sortedSchedEst_schedSafe net inf cfg scfg hc heps E st) hb st0 trivial n
  exact ⟨h1, h2⟩

/-! ### non-vacuity: hostile estimator answers on concrete instances over ℚ -/

section estex
local instance : HasExp ℚ := ⟨fun x => x⟩
local instance : HasCeilNat ℚ := ⟨fun x => (Rat.ceil x).toNat⟩

/-- two stations with plenty of headroom (`x₀ + x₁ ≤ 100`): A continuous `[0, 32]`, B finite-rate
    `{0, 8, 16, 24, 32}`; both sessions still need far more than 32 A for one period -/
def esFeas : List ℚ → Bool := fun x => decide (x.getD 0 0 + x.getD 1 0 ≤ 100)

def esInfra : Infra ℚ :=
  ⟨["A", "B"], [32, 32], [0, 8], [208, 208], [true, false], [[0, 32], [0, 8, 16, 24, 32]]⟩

def esRaw : List (Session ℚ) :=
  [⟨"A", "x", 0, 0, 9, 9, 50, 0, 0, 1000⟩, ⟨"B", "y", 0, 1, 8, 8, 50, 0, 0, 1000⟩]

def esCfg (algo : Algo) (unint : Bool) : Config ℚ :=
  { algo := algo, sort := .fcfs, uninterrupted := unint, estimate := true, inc := 1, eps := 1 / 100,
    fuel := 60 }

/-- the hypotheses of the theorems above hold on this instance: the sessions resolve to distinct valid
    stations, enter with `min_rates = 0`, and `0 ≤ min_pilot ≤ max_pilot` for both EVSEs -/
example :
    (match resolve esInfra esRaw with
     | .ok l => decide (l.map (·.idx) = [0, 1]) && l.all (fun s => decide (s.minRate ≤ 0))
     | .error _ => false) = true ∧
    esInfra.allow.length = esInfra.ids.length ∧
    (∀ i ∈ [0, 1], 0 ≤ esInfra.minPilot.getD i 0 ∧ esInfra.minPilot.getD i 0 ≤ esInfra.maxPilot.getD i 0) := by
  decide +kernel

def esL : List (Session ℚ) :=
  [⟨"A", "x", 0, 0, 9, 9, 50, 0, 0, 1000⟩, ⟨"B", "y", 1, 1, 8, 8, 50, 0, 0, 1000⟩]

/-- `pilot_le_evse_max_any_estimator` instantiated on this instance: for EVERY estimator function
    `est` (no condition at all) a schedule the greedy algorithm returns gives both stations at most
    their EVSE's 32 A — all hypotheses of the theorem are discharged -/
example (est : List (Session ℚ) → Session ℚ → Option ℚ) (sch : List ℚ)
    (h : (scheduleCallEst esFeas (esCfg .greedy true) esInfra 5 3 est esRaw).result = .ok sch) :
    ∀ j, j < 2 → ∃ r, sch[j]? = some r ∧ r ≤ 32 := by
  have hres : resolve esInfra esRaw = .ok esL := by rfl
  have hevse : ∀ i, 0 ≤ esInfra.minPilot.getD i 0 ∧
      esInfra.minPilot.getD i 0 ≤ esInfra.maxPilot.getD i 0 := by
    intro i
    rcases i with _ | _ | i
    · decide +kernel
    · decide +kernel
    · exact ⟨le_refl (0 : ℚ), le_refl (0 : ℚ)⟩
  have hmin : ∀ s ∈ esL, s.minRate ≤ 0 := by decide +kernel
  have key := (pilot_le_evse_max_any_estimator esFeas (esCfg .greedy true) (by decide +kernel) esInfra 5 3
    est esRaw esL sch hres rfl hevse hmin (by decide) h).2
  intro j hj
  obtain ⟨r, h1, h2⟩ := key j hj
  refine ⟨r, h1, le_trans h2 ?_⟩
  rcases j with _ | _ | j
  · decide +kernel
  · decide +kernel
  · omega

/-- bounds ABOVE the EVSE maximum (100 A for `x`), a MISSING key (`y`) and a key of a session that is
    not active (`ghost`): both sessions get exactly the EVSE maximum 32 A — never more — from greedy
    and from round robin, although headroom (100 A) and remaining demand are far above 32 A -/
example :
    (scheduleCallEst esFeas (esCfg .greedy false) esInfra 5 3
      (fun _ => estOfDict [("x", 100), ("ghost", 1)]) esRaw).result = .ok [32, 32] ∧
    (scheduleCallEst esFeas (esCfg .roundRobin false) esInfra 5 3
      (fun _ => estOfDict [("x", 100), ("ghost", 1)]) esRaw).result = .ok [32, 32] := by
  decide +kernel

/-- a bound BETWEEN the levels of the finite-rate EVSE (`y`: 10 A → level 8), a ZERO bound (`x` → 0) -/
example :
    (scheduleCallEst esFeas (esCfg .greedy false) esInfra 5 3
      (fun _ => estOfDict [("x", 0), ("y", 10)]) esRaw).result = .ok [0, 8] ∧
    (scheduleCallEst esFeas (esCfg .roundRobin false) esInfra 5 3
      (fun _ => estOfDict [("x", 0), ("y", 10)]) esRaw).result = .ok [0, 8] := by
  decide +kernel

/-- a bound BELOW the uninterrupted-charging minimum (`y`: 3 A < min pilot 8 A → held at 8 A, the one
    case in which the pilot exceeds the estimator's bound) and a NEGATIVE bound (`x`: −5 → 0) -/
example :
    (scheduleCallEst esFeas (esCfg .greedy true) esInfra 5 3
      (fun _ => estOfDict [("x", -5), ("y", 3)]) esRaw).result = .ok [0, 8] ∧
    (scheduleCallEst esFeas (esCfg .roundRobin true) esInfra 5 3
      (fun _ => estOfDict [("x", -5), ("y", 3)]) esRaw).result = .ok [0, 8] := by
  decide +kernel

/-- an estimator that is NOT a dict keyed by session id is covered too (here: by station index) -/
example :
    (scheduleCallEst esFeas (esCfg .greedy false) esInfra 5 3
      (fun _ s => if s.idx = 0 then some 7 else none) esRaw).result = .ok [7, 32] := by
  decide +kernel

/-- `sim_consequences_any_estimator` on a run in which the estimator acts: the table estimator
    (`SimSortedEst.tableEstimator`: a dict chosen by the period) on the configuration of
    `sim_consequences_rampdown`'s example (`rdCfg`: A continuous, B finite-rate, `x_A + x_B ≤ 40`,
    `x` takes at most 7 A, `y` 40 A).  `x`: 100 A (above its EVSE's 32), then 10 A, then no key;
    `y`: 20 A (between levels → 16), then 0; `ghost` is no session.  Every column respects the limit
    40, no pilot exceeds 32, the run ends without an error. -/
example :
    (SimSortedRd.runSt (rdCfg ℚ) (SimSortedEst.sortedSchedEst rdNet 1000 (rdCfg ℚ) (rdAlgo true false)
        (SimSortedEst.tableEstimator
          [("x", [some 100, some 10, none]), ("y", [some 20, some 0]), ("ghost", [some 1])])) 10
        () (Sim.init (rdCfg ℚ))).1.2 = none ∧
    (SimSortedRd.runSt (rdCfg ℚ) (SimSortedEst.sortedSchedEst rdNet 1000 (rdCfg ℚ) (rdAlgo true false)
        (SimSortedEst.tableEstimator
          [("x", [some 100, some 10, none]), ("y", [some 20, some 0]), ("ghost", [some 1])])) 10
        () (Sim.init (rdCfg ℚ))).1.1.pilots.rows = [[32, 10, 32, 32, 10, 0], [8, 0, 8, 0, 16, 0]] := by
  decide +kernel

end estex

end Acn.C07
