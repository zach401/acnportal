/-
  T1c (DESIGN §17), stateful methods — contrib `StochasticNetwork.post_charging_update` refines the hand model
  `Stoch.Net.post` (group StochOps; property C19).

  The translated method builds `fully_charged_evs` (the comprehension over `_EVSEs.values()`, `EV.fully_charged`
  inlined from models/ev.py) and then runs the translated `for` loop, whose body calls the translated `unplug` with
  the `station_id` / `session_id` of the list element.  The model folds `Net.earlyStep` over `Net.fullyCharged
  full`, reading the station from its per-session store.  From related states (`Abs`), on a state satisfying C19's
  invariant `Inv` (every reachable state does: `C19.reached_inv`), with the occupants filed under the station they
  name (`PyHome`) and `full` the value of `EV.fully_charged` on the occupants: neither raises, the final states are
  related, and the representation invariants still hold.  The `AttributeError` paths of the translation (`ev` None
  in the list) are unreachable.
-/
import AcnProofs.Lemmas.CodeTieStochOps
import AcnProofs.Lemmas.StochasticRun

set_option linter.unusedSectionVars false

namespace Acn.CodeTie.St
open Acn Acn.Gen.Code Acn.Stoch

section
variable {K : Type} [Add K] [Sub K] [Mul K] [Div K] [Neg K] [LT K] [LE K]
  [DecidableLT K] [DecidableLE K] [OfNat K 0] [OfNat K 1] [NatCast K] [HasExp K]

/-- every occupant names the station it sits on (`ev.station_id` is what `ChargingNetwork.plugin` files it under) -/
def PyHome (p : PyStNet K) : Prop :=
  ∀ st evse e, dictGet? p.evses st = some evse → evse.ev = some e → e.station = some st

/-- `EV.fully_charged` as translated (models/ev.py: `not (remaining_demand > 1e-3)`) -/
def fullOf (e : PyStEv K) : Bool := !decide ((((1 : Nat) : K) / ((1000 : Nat) : K)) < (e.requested - e.delivered))

/-- the list `fully_charged_evs` -/
def fullList (d : List (String × PyStEvse K)) : List (Option (PyStEv K)) :=
  (dictValues d).filterMap (fun evse =>
    match evse.ev with
    | some e => if fullOf e then some (some e) else none
    | none => none)

/-- one element of `fully_charged_evs` against one element of the model's `fullyCharged`: the same session, sitting
    (in the model's CURRENT state) on the station the element names -/
def Sits (s : Net) (o : Option (PyStEv K)) (x : Sess) : Prop :=
  ∃ e st, o = some e ∧ e.session = x ∧ e.station = some st ∧ s.occ st = some x

theorem full_lists (d : List (String × PyStEvse K)) (hn : (keys d).Nodup) (s : Net) (full : Sess → Bool)
    (hocc : ∀ st ∈ keys d, s.occ st = occE d st)
    (hhome : ∀ st evse e, (st, evse) ∈ d → evse.ev = some e → e.station = some st)
    (hfull : ∀ st evse e, (st, evse) ∈ d → evse.ev = some e → full e.session = fullOf e) :
    List.Forall₂ (Sits s) (fullList d)
      ((keys d).filterMap (fun st => match s.occ st with
        | some x => if full x then some x else none
        | none => none)) := by
  induction d with
  | nil => exact List.Forall₂.nil
  | cons p r ih =>
    obtain ⟨k0, v0⟩ := p
    simp only [keys, List.map_cons, List.nodup_cons] at hn
    have hr := ih hn.2
      (fun st hst => by
        have hne : ¬ k0 = st := fun e => hn.1 (e ▸ hst)
        have := hocc st (List.mem_cons_of_mem _ hst)
        simpa [occE, dictGet?, hne] using this)
      (fun st evse e hm => hhome st evse e (List.mem_cons_of_mem _ hm))
      (fun st evse e hm => hfull st evse e (List.mem_cons_of_mem _ hm))
    have h0 : s.occ k0 = v0.ev.map (·.session) := by
      have := hocc k0 (by simp [keys])
      simpa [occE, dictGet?] using this
    simp only [fullList, dictValues, List.map_cons, List.filterMap_cons, keys] at hr ⊢
    cases hv : v0.ev with
    | none =>
      rw [hv] at h0
      simp only [h0, Option.map_none]
      exact hr
    | some e =>
      rw [hv] at h0
      have hf := hfull k0 v0 e List.mem_cons_self hv
      have hh := hhome k0 v0 e List.mem_cons_self hv
      simp only [h0, Option.map_some, hf]
      cases hfe : fullOf e with
      | false => simpa using hr
      | true =>
        simp only [if_true]
        exact List.Forall₂.cons ⟨e, k0, rfl, rfl, hh, h0⟩ hr

/-- the translated `for ev in fully_charged_evs` loop against the model's fold of `earlyStep` -/
theorem post_loop : ∀ (L : List (Option (PyStEv K))) (M : List Sess) (p : PyStNet K) (s : Net),
    Abs p s → PyWf p → Inv s → M.Nodup → List.Forall₂ (Sits s) L M →
    ∃ s', M.foldlM Net.earlyStep s = .ok s' ∧ (stnet_post_charging_update_loop L p).2 = .ok () ∧
      Abs (stnet_post_charging_update_loop L p).1 s' ∧ PyWf (stnet_post_charging_update_loop L p).1 := by
  intro L
  induction L with
  | nil => intro M p s ha hw hi hn hf; cases hf; exact ⟨s, rfl, rfl, ha, hw⟩
  | cons o L ih =>
    intro M0 p s ha hw hi hn hf
    cases hf with
    | @cons _ x _ M hox hrest =>
    obtain ⟨e, st, ho, hes, hest, hocc⟩ := hox
    subst ho
    rw [List.nodup_cons] at hn
    obtain ⟨s2, h2, hi2, hk2⟩ := hi.earlyStep hocc
    have hstx : (s.ev x).station = some st := ((hi.occ_iff st x).1 hocc).2.1
    have hrest2 : List.Forall₂ (Sits s2) L M := by
      refine List.Forall₂.imp ?_ (List.forall₂_iff_zip.2 ⟨hrest.length_eq, fun h => ?_⟩ : List.Forall₂
        (fun o z => Sits s o z ∧ z ∈ M) L M)
      · rintro o z ⟨⟨e', st', h1, h3, h4, h5⟩, hz⟩
        exact ⟨e', st', h1, h3, h4, hk2 st' z (fun eq => hn.1 (eq ▸ hz)) h5⟩
      · exact ⟨(List.forall₂_iff_zip.1 hrest).2 h, (List.of_mem_zip h).2⟩
    have hlen : p.waiting.length = s.waiting.length := by rw [ha.waiting]; simp [stWaiting, keys]
    rw [List.foldlM_cons, h2]
    cases hwq : s.waiting with
    | nil =>
      -- nobody waits: both skip
      rw [earlyStep_nil x hwq] at h2
      obtain rfl := Except.ok.inj h2
      have hc : stnet_post_charging_update_loop (some e :: L) p = stnet_post_charging_update_loop L p := by
        rw [stnet_post_charging_update_loop]
        simp [hlen, hwq]
      rw [hc]
      exact ih M p s ha hw hi hn.2 hrest2
    | cons y w =>
      have hpos : 0 < p.waiting.length := by rw [hlen, hwq]; exact Nat.succ_pos _
      obtain ⟨hout, habs, _, hwf⟩ := stnet_unplug_tie p s (some st) x ha hw
      -- the model's unplug hands the station to the head of the queue; `earlyStep` then marks `x`
      obtain ⟨s1, hu, h2'⟩ : ∃ s1, s.unplug (some st) x = .ok s1 ∧
          s2 = ({ s1 with earlyUnplug := s1.earlyUnplug + 1 } : Net).modEv x (fun r => { r with early := true }) := by
        refine ⟨s.seat st y w, ?_, ?_⟩
        · have := hi.unplug_occ hocc
          rwa [hstx, hwq] at this
        · rw [hi.earlyStep_cons hocc hwq] at h2
          exact (Except.ok.inj h2).symm
      rw [hu] at hout
      have ha1 := habs s1 hu
      cases hc : stnet_unplug p (some st) (some x) with
      | mk p1 r1 =>
        rw [hc] at hout ha1 hwf
        simp only [outcome] at hout
        have hstep : stnet_post_charging_update_loop (some e :: L) p =
            stnet_post_charging_update_loop L { p1 with earlyUnplug := p1.earlyUnplug + 1 } := by
          rw [stnet_post_charging_update_loop]
          simp only [hpos, decide_true, if_true, hest, hes, hc, hout]
        rw [hstep]
        have ha2 : Abs ({ p1 with earlyUnplug := p1.earlyUnplug + 1 } : PyStNet K) s2 := by
          rw [h2']
          exact ⟨ha1.stations, ha1.early, ha1.occ, ha1.waiting, ha1.swaps, ha1.never,
            by show s1.earlyUnplug + 1 = p1.earlyUnplug + 1; rw [ha1.earlyU]⟩
        have hw2 : PyWf ({ p1 with earlyUnplug := p1.earlyUnplug + 1 } : PyStNet K) := hwf.of_eq rfl (fun _ h => h)
        exact ih M _ s2 ha2 hw2 hi2 hn.2 hrest2

/-- `StochasticNetwork.post_charging_update()` refines `Net.post full`, for `full` = `EV.fully_charged` of the
    occupants -/
theorem stnet_post_charging_update_tie (p : PyStNet K) (s : Net) (full : Sess → Bool) (ha : Abs p s) (hw : PyWf p)
    (hh : PyHome p) (hi : Inv s)
    (hfull : ∀ st evse e, dictGet? p.evses st = some evse → evse.ev = some e → full e.session = fullOf e) :
    ∃ s', s.post full = .ok s' ∧ (stnet_post_charging_update p).2 = .ok () ∧
      Abs (stnet_post_charging_update p).1 s' ∧ PyWf (stnet_post_charging_update p).1 := by
  unfold stnet_post_charging_update Net.post
  rw [← ha.early]
  cases hed : s.earlyDeparture with
  | false => exact ⟨s, rfl, rfl, ha, hw⟩
  | true =>
    simp only [if_true]
    have hcomp : ∀ (f : PyStEvse K → Except PyErr (Option (Option (PyStEv K)))),
        (∀ evse, f evse = .ok (match evse.ev with
          | some e => if fullOf e then some (some e) else none
          | none => none)) → pyComp f (dictValues p.evses) = .ok (fullList p.evses) :=
      fun f hf => Dict.pyComp_total f _ _ hf
    rw [hcomp]
    · have hl := full_lists p.evses hw.keys_nodup s full
        (fun st _ => by rw [ha.occ]; rfl)
        (fun st evse e hm => hh st evse e (get_of_mem _ hw.keys_nodup _ _ hm))
        (fun st evse e hm => hfull st evse e (get_of_mem _ hw.keys_nodup _ _ hm))
      have hfc : s.fullyCharged full = (keys p.evses).filterMap (fun st => match s.occ st with
          | some x => if full x then some x else none
          | none => none) := by
        unfold Net.fullyCharged
        rw [ha.stations]; rfl
      rw [← hfc] at hl
      obtain ⟨s', h1, h2, h3, h4⟩ := post_loop _ _ p s ha hw hi (hi.fullyCharged_nodup full) hl
      cases hc : stnet_post_charging_update_loop (fullList p.evses) p with
      | mk p1 r1 =>
        rw [hc] at h2 h3 h4
        simp only at h2 h3 h4
        subst h2
        exact ⟨s', h1, by simp only [hc], by simp only [hc]; exact h3, by simp only [hc]; exact h4⟩
    · intro evse
      cases hv : evse.ev with
      | none => rfl
      | some e =>
        show (match fullOf e with
              | true => (Except.ok (some (some e)) : Except PyErr _)
              | false => Except.ok none) = Except.ok (if fullOf e then some (some e) else none)
        cases fullOf e <;> rfl

end
end Acn.CodeTie.St
