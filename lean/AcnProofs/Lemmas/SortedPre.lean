/-
  Preprocessing (`run_preprocessing`): what `apply_minimum_charging_rate` (`MinRel`) and `reconcile_max_and_min` do
  to a session's bounds, and `InfraOk`.  `remove_finished_sessions`, `enforce_pilot_limit` and
  `apply_upper_bound_estimate` are in `Lemmas/SortedEst` (`estInput_spec`, `capS`).
-/
import AcnProofs.Lemmas.SortedGreedy

set_option linter.unusedSectionVars false

namespace Acn.Sorted
open Acn

variable {K : Type} [Field K] [LinearOrder K] [IsStrictOrderedRing K]

/-- what `apply_minimum_charging_rate` does to one session: refuse (both bounds 0) or apply the
    EVSE minimum (only if it fits into the remaining demand) and reconcile -/
def MinRel (infra : Infra K) (period : K) (s s' : Session K) : Prop :=
  s' = { s with minRate := 0, maxRate := 0 } ∨
  (infra.minPilot.getD s.idx 0 ≤ rap infra period s ∧
    s' = reconcile { s with minRate := pyMax (infra.minPilot.getD s.idx 0) s.minRate })

theorem minRate_fold (feas : List K → Bool) (infra : Infra K) (period : K) :
    ∀ (q : List (Session K)) (acc : List K × List (Session K)),
      ∃ out, (q.foldl (minRateStep feas infra period) acc).2 = acc.2 ++ out ∧
        List.Forall₂ (MinRel infra period) q out := by
  intro q
  induction q with
  | nil => intro acc; exact ⟨[], by simp, List.Forall₂.nil⟩
  | cons s t ih =>
    intro acc
    simp only [List.foldl_cons]
    have hstep : ∃ r s', minRateStep feas infra period acc s = (r, acc.2 ++ [s']) ∧
        MinRel infra period s s' := by
      unfold minRateStep
      simp only
      split
      · rename_i hc
        simp only [Bool.and_eq_true, decide_eq_true_eq] at hc
        exact ⟨_, _, rfl, Or.inr ⟨hc.1, rfl⟩⟩
      · exact ⟨_, _, rfl, Or.inl rfl⟩
    obtain ⟨r, s', hs, hrel⟩ := hstep
    obtain ⟨out, ho, hf⟩ := ih (r, acc.2 ++ [s'])
    rw [hs]
    exact ⟨s' :: out, by rw [ho]; simp, List.Forall₂.cons hrel hf⟩

theorem applyMinimumRate_rel (feas : List K → Bool) (infra : Infra K) (period : K)
    (l : List (Session K)) :
    List.Forall₂ (MinRel infra period)
      (sortBy (fun a b => decide (a.remainingTime < b.remainingTime)) l)
      (applyMinimumRate feas infra period l) := by
  obtain ⟨out, ho, hf⟩ := minRate_fold feas infra period
    (sortBy (fun a b => decide (a.remainingTime < b.remainingTime)) l)
    (List.replicate infra.ids.length 0, [])
  unfold applyMinimumRate
  simp only at ho ⊢
  rw [ho]; simpa using hf

theorem reconcile_fields (s : Session K) :
    (reconcile s).idx = s.idx ∧ (reconcile s).session = s.session ∧
    (reconcile s).minRate = s.minRate ∧ (reconcile s).requested = s.requested ∧
    (reconcile s).delivered = s.delivered ∧ (reconcile s).maxRate = max s.maxRate s.minRate := by
  unfold reconcile
  split
  · rename_i h; exact ⟨rfl, rfl, rfl, rfl, rfl, (max_eq_right (le_of_lt h)).symm⟩
  · rename_i h; exact ⟨rfl, rfl, rfl, rfl, rfl, (max_eq_left (not_lt.mp h)).symm⟩

theorem MinRel.fields {infra : Infra K} {period : K} {s s' : Session K} (h : MinRel infra period s s') :
    s'.idx = s.idx ∧ s'.session = s.session ∧ s'.station = s.station ∧ s'.requested = s.requested ∧
    s'.delivered = s.delivered ∧
    ((s'.minRate = 0 ∧ s'.maxRate = 0) ∨
     (infra.minPilot.getD s.idx 0 ≤ rap infra period s ∧
      s'.minRate = max (infra.minPilot.getD s.idx 0) s.minRate ∧ s'.maxRate = max s.maxRate s'.minRate)) := by
  rcases h with rfl | ⟨hrap, rfl⟩
  · exact ⟨rfl, rfl, rfl, rfl, rfl, Or.inl ⟨rfl, rfl⟩⟩
  · obtain ⟨g1, g2, g3, g4, g5, g6⟩ := reconcile_fields
      ({ s with minRate := pyMax (infra.minPilot.getD s.idx 0) s.minRate } : Session K)
    refine ⟨g1, g2, ?_, g4, g5, Or.inr ⟨hrap, g3.trans (pyMax_eq_max _ _), g6.trans (by rw [g3])⟩⟩
    unfold reconcile
    split <;> rfl

theorem minRel_map_idx (infra : Infra K) (period : K) (q out : List (Session K))
    (h : List.Forall₂ (MinRel infra period) q out) : out.map (·.idx) = q.map (·.idx) := by
  induction h with
  | nil => rfl
  | cons hr _ ih => simp only [List.map_cons, ih, hr.fields.1]

set_option linter.unusedVariables false in
theorem minRel_le (infra : Infra K) (period : K) (s s' : Session K) (b : K)
    (h : MinRel infra period s s') (hb : s.maxRate ≤ max b s.minRate) (hb0 : 0 ≤ b) :
    s'.session = s.session ∧ s'.maxRate ≤ max b s'.minRate := by
  obtain ⟨_, h2, _, _, _, hc⟩ := h.fields
  refine ⟨h2, ?_⟩
  rcases hc with ⟨h3, h4⟩ | ⟨_, h3, h6⟩
  · rw [h4, h3]; exact le_max_right _ _
  · rw [h6]
    refine max_le (le_trans hb (max_le (le_max_left _ _) ?_)) (le_max_right _ _)
    rw [h3]
    exact le_trans (le_max_right _ _) (le_max_right _ _)

/-- the infrastructure fact behind `preprocessEst_lbOk`: a finite-rate station's minimum pilot is
    non-negative and is one of its levels (network: `min_rate` = smallest positive level) -/
def InfraOk (infra : Infra K) : Prop :=
  ∀ i, 0 ≤ infra.minPilot.getD i 0 ∧
    (infra.cont.getD i true = false → infra.minPilot.getD i 0 ∈ infra.allow.getD i [])

theorem rap_congr (infra : Infra K) (period : K) (s s' : Session K) (h1 : s'.idx = s.idx)
    (h2 : s'.requested = s.requested) (h3 : s'.delivered = s.delivered) :
    rap infra period s' = rap infra period s := by
  unfold rap remainingDemand; rw [h1, h2, h3]

end Acn.Sorted
