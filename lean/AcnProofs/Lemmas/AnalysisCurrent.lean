/-
  For C18: closed form of `ChargingNetwork.constraint_current` (rows by position, columns by the selected time
  indices).
-/
import AcnProofs.Lemmas.AnalysisSums
import AcnProofs.Lemmas.AnalysisLookup
import AcnProofs.Lemmas.FeasSums

namespace Acn.Analysis
open Finset

set_option linter.unusedSectionVars false
variable {K : Type} [Field K] [LinearOrder K] [IsStrictOrderedRing K]

/-- one real component of the aggregate phasor current of a constraint row `a` in period `t`:
    `Σ_j a_j · (r_j(t) · cos φ_j)` (resp. `sin`) -/
def phasorSum (row c : List K) (R : Matrix K) (t : Nat) : K :=
  ∑ j ∈ range R.length, row.getD j 0 * (ent R j t * c.getD j 0)

/-- the periods a `time_indices` argument selects (numpy wrap-around); `none` = out of range -/
def colsOf (T : Nat) : Option (List Int) → Option (List Nat)
  | none => some (List.range T)
  | some l => l.mapM (normIdx T)

theorem current_rows_core (M : Matrix K) (c s : List K) (R S : Matrix K) (T' : Nat)
    (cols idxs : List Nat) (hc : c.length = R.length) (hs : s.length = R.length)
    (hSl : S.length = R.length) (hSr : ∀ row ∈ S, row.length = T') (hT : cols.length = T')
    (hent : ∀ j u, u < T' → ent S j u = ent R j (cols.getD u 0)) :
    List.zipWith List.zip (matMul T' (idxs.map (fun i => M.getD i [])) (phasorPart S c))
        (matMul T' (idxs.map (fun i => M.getD i [])) (phasorPart S s))
      = idxs.map fun k => cols.map fun t =>
          (phasorSum (M.getD k []) c R t, phasorSum (M.getD k []) s R t) := by
  have key : ∀ (cc : List K), cc.length = R.length → ∀ row : List K,
      vecMat T' row (phasorPart S cc) = cols.map (fun t => phasorSum row cc R t) := by
    intro cc hcc row
    rw [vecMat_eq T' row _ (rect_phasorPart T' S hSr cc),
      length_phasorPart S cc (by rw [hcc, hSl]), hSl,
      ← map_range_getD (fun t => phasorSum row cc R t) cols, hT]
    apply List.map_congr_left
    intro u hu
    have hu' : u < T' := by simpa using hu
    unfold phasorSum
    apply Finset.sum_congr rfl
    intro j _
    rw [ent_phasorPart S cc (by rw [hcc, hSl]), hent j u hu']
  simp only [matMul, List.map_map]
  rw [zipWith_map_same]
  apply List.map_congr_left
  intro k _
  simp only [Function.comp]
  rw [key c hc, key s hs, List.zip_map']

theorem selectRows_ok (names : List String) (M : Matrix K) (hM : M.length = names.length)
    (req : Option (List String)) :
    selectRows M (constraintIndices names req) =
      .ok ((constraintIndices names req).map (fun i => M.getD i [])) := by
  unfold selectRows
  rw [if_pos]
  rw [List.all_eq_true]
  intro i hi
  have : i < names.length := by
    cases req with
    | none => simpa [constraintIndices] using hi
    | some r => exact ((mem_constraintIndices names r i).mp hi).1
  simpa [hM] using this

theorem isZero_iff (x : K) : isZero x = true ↔ x = 0 := by
  simp only [isZero, Bool.and_eq_true, Bool.not_eq_true', decide_eq_false_iff_not, not_lt]
  constructor
  · rintro ⟨h1, h2⟩; exact le_antisymm h2 h1
  · rintro rfl; exact ⟨le_refl _, le_refl _⟩

end Acn.Analysis
