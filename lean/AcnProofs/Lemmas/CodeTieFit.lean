/-
  T1c (DESIGN §17), group Fit (property C15) — `batt_cap_fn` (acnportal/acnsim/models/battery.py): the inner
  `_get_init_cap`, its own inner functions `delta_soc_from_init_soc` and `binsearch`, and the loop over the ladder of
  candidate capacities, as translated into `AcnModel/Gen/CodeFit.lean` (an inner function is its own definition whose
  closure variables are parameters; Python's recursion in `binsearch` is recursion on a `fuel : Nat` that reports
  `.recursion` at 0), equal the functions of `AcnModel/Sessions.lean` that the C15 fit theorems (`init_le_capacity`,
  `fit_exact`, `fit_capacity_minimal`, `fit_init_maximal`, `bisection_terminates`, …) are about, for every input and at
  every carrier `K`: comparisons, operands, constants, the bracket handed to the bisection, the branch taken after each
  comparison.

  Not translated (trusted base): Python's `ZeroDivisionError` on float division (`battery_cap = 0`,
  `period = 0`, `max_dsoc = 0`, `transition_soc = 1`): neither the model nor the translation reports it,
  both compute with the carrier's `/`; the C15 theorems are stated on `FitDomain`, which excludes these.
-/
import AcnModel.Gen.CodeFit
import AcnModel.Sessions

set_option linter.unusedSectionVars false

namespace Acn.CodeTie
open Acn Acn.Sessions

/-- the tolerance literal of the source (`tol=1e-9`) is the regenerated constant `Gen.fitTol` -/
theorem fit_tol_is_gen : Gen.fitTol.num = 1 ∧ Gen.fitTol.den = 1000000000 := by decide +kernel

section
variable {K : Type} [Add K] [Sub K] [Mul K] [Div K] [Neg K] [LT K] [LE K]
  [DecidableLT K] [DecidableLE K] [OfNat K 0] [OfNat K 1] [NatCast K] [HasExp K]

/-- the inner `delta_soc_from_init_soc(init_soc_guess)` with its closure variables
    (`stay_dur`, `transition_soc`, `max_dsoc`) is `Sessions.deltaSocFrom`. -/
theorem fit_delta_soc_tie (m T ts g : K) :
    Gen.Code.fit_delta_soc T ts m g = deltaSocFrom m T ts g := rfl

/-- the same as functions of the guess (what `binsearch` is handed) -/
theorem fit_delta_soc_fun_tie (m T ts : K) :
    Gen.Code.fit_delta_soc T ts m = deltaSocFrom m T ts := rfl

/-- the inner `binsearch(f, lb, ub, target, tol)` is `Sessions.binsearch` -/
theorem fit_binsearch_tie (f : K → K) (target tol : K) (fuel : Nat) (lb ub : K) :
    Gen.Code.fit_binsearch fuel f lb ub target tol = binsearch f target tol fuel lb ub := by
  induction fuel generalizing lb ub with
  | zero => rfl
  | succ n ih =>
    unfold Gen.Code.fit_binsearch binsearch
    simp only [ih]

/-- the closed-form prefix of `_get_init_cap` is `Sessions.closedInitSoc`: the translation returns the
    three locals in the order in which the rest of the function reads them (`init_soc`, `max_dsoc`,
    `delta_soc`), `closedInitSoc` returns `(δ, m, init_soc)`. -/
theorem fit_closed_init_soc_tie (maxRate ts E T V P cap : K) :
    Gen.Code.fit_closed_init_soc E T V P cap maxRate ts
      = ((closedInitSoc maxRate ts E T V P cap).2.2, (closedInitSoc maxRate ts E T V P cap).2.1,
         (closedInitSoc maxRate ts E T V P cap).1) := rfl

/-- `_get_init_cap(battery_cap, max_rate, transition_soc)` inside `batt_cap_fn(requested_energy,
    stay_dur, voltage, period)` is `Sessions.getInitCap` at the literal tolerance of `binsearch`'s
    default argument (`tol=1e-9`), including which of the three exits is taken and the bracket
    `[transition_soc - max_dsoc * stay_dur, 1]` handed to the bisection. -/
theorem fit_get_init_cap_tie (maxRate ts : K) (fuel : Nat) (E T V P cap : K) :
    Gen.Code.fit_get_init_cap fuel E T V P cap maxRate ts
      = getInitCap maxRate ts (((1 : Nat) : K) / ((1000000000 : Nat) : K)) fuel E T V P cap := by
  unfold Gen.Code.fit_get_init_cap getInitCap closedInitSoc
  simp only [fit_binsearch_tie, fit_delta_soc_fun_tie, fit_delta_soc_tie]
  rfl

/-- `_get_init_cap` is `Sessions.getInitCap` at the tolerance `Sessions.battCapFnGen` uses (`fit_tol_is_gen`) -/
theorem fit_get_init_cap_gen_tie (maxRate ts : K) (fuel : Nat) (E T V P cap : K) :
    Gen.Code.fit_get_init_cap fuel E T V P cap maxRate ts
      = getInitCap maxRate ts (ratK Gen.fitTol) fuel E T V P cap := by
  rw [fit_get_init_cap_tie]
  unfold ratK
  rw [fit_tol_is_gen.1, fit_tol_is_gen.2]
  rfl

/-- the `for cap in potential_caps` loop of `batt_cap_fn` (skip a capacity below the request, fit the
    initial charge, accept the first non-negative one, "No feasible battery size found." at the end) is
    `Sessions.battCapFn` on every list of candidates, with the defaults `max_rate=32`,
    `transition_soc=0.8`, `tol=1e-9` that `_get_init_cap(cap)` is called with -/
theorem fit_batt_cap_fn_loop_tie (fuel : Nat) (E T V P : K) (caps : List K) :
    Gen.Code.fit_batt_cap_fn_loop fuel E T V P caps
      = battCapFn caps ((32 : Nat) : K) (((4 : Nat) : K) / ((5 : Nat) : K))
          (((1 : Nat) : K) / ((1000000000 : Nat) : K)) fuel E T V P := by
  induction caps with
  | nil => rfl
  | cons cap rest ih =>
    unfold Gen.Code.fit_batt_cap_fn_loop battCapFn
    simp only [ih, fit_get_init_cap_tie]
    rfl

/-- `batt_cap_fn(requested_energy, stay_dur, voltage, period)` is `Sessions.battCapFn` on the ladder of
    capacities written in the source -/
theorem fit_batt_cap_fn_tie (fuel : Nat) (E T V P : K) :
    Gen.Code.fit_batt_cap_fn fuel E T V P
      = battCapFn [((8 : Nat) : K), ((24 : Nat) : K), ((40 : Nat) : K), ((60 : Nat) : K), ((85 : Nat) : K),
                   ((100 : Nat) : K)]
          ((32 : Nat) : K) (((4 : Nat) : K) / ((5 : Nat) : K))
          (((1 : Nat) : K) / ((1000000000 : Nat) : K)) fuel E T V P := by
  unfold Gen.Code.fit_batt_cap_fn
  exact fit_batt_cap_fn_loop_tie ..

end

/-- the ladder, `max_rate` and `transition_soc` of the source are the regenerated constants that
    `Sessions.battCapFnGen` instantiates the model with (`C15.gen_fit_consts` states their values) -/
theorem fit_consts_are_gen :
    Gen.fitCaps = [8, 24, 40, 60, 85, 100] ∧ Gen.fitMaxRate = 32 ∧ Gen.fitTransitionSoc = 4 / 5 := by
  decide +kernel

/-- every target of this group was translated in this run -/
theorem all_translated_fit : Gen.Code.translatedFit
    = ["fit_delta_soc", "fit_binsearch", "fit_closed_init_soc", "fit_get_init_cap", "fit_batt_cap_fn"] := rfl

end Acn.CodeTie
