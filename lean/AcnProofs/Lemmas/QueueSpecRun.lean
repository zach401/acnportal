/-
  Helper lemmas for C11, runs of the specification: the executable instance (`QSpec.step`, which picks the first
  inserted among the key-minimal events) produces one (`QSpec.step_sound`), and along any run in which every inserted
  key is ≥ the last retrieved key the retrieved events are non-decreasing (`run_sorted`).
-/
import AcnProofs.Lemmas.QueueSpec

namespace Acn.QSpec

theorem curLoop_sound (t : Int) : ∀ (fuel : Nat) (q acc : List Event), q.length ≤ fuel →
    ∃ es, Cur t q es (getCurrentLoop t fuel q acc).1 ∧ (getCurrentLoop t fuel q acc).2 = acc ++ es := by
  intro fuel
  induction fuel with
  | zero =>
    intro q acc hf
    have : q = [] := List.length_eq_zero_iff.mp (by omega)
    subst this
    exact ⟨[], Cur.stopEmpty, by simp [getCurrentLoop]⟩
  | succ fuel ih =>
    intro q acc hf
    cases q with
    | nil => exact ⟨[], Cur.stopEmpty, by simp [getCurrentLoop]⟩
    | cons x xs =>
      have hmin := pickFirst_isMin x xs
      simp only [getCurrentLoop]
      by_cases hle : (pickFirst x xs).ts ≤ t
      · rw [if_pos hle]
        have hlen : ((x :: xs).erase (pickFirst x xs)).length ≤ fuel := by
          rw [List.length_erase_of_mem hmin.1]; simp at hf ⊢; omega
        obtain ⟨es, h1, h2⟩ := ih _ (acc ++ [pickFirst x xs]) hlen
        exact ⟨pickFirst x xs :: es, Cur.pop hmin hle h1, by rw [h2]; simp⟩
      · rw [if_neg hle]
        exact ⟨[], Cur.stopLater hmin (by omega), by simp⟩

theorem step_sound (s : State) (op : QOp) : Step s op (step s op).2 (step s op).1 := by
  cases op with
  | add e => exact Step.add s e
  | addAll es => exact Step.addAll s es
  | getEvent =>
    cases hp : s.pending with
    | nil =>
      have : step s .getEvent = (s, .err .indexError) := by simp [step, getEvent, hp]
      rw [this]; exact Step.getEmpty s hp
    | cons x xs =>
      have : step s .getEvent =
          ({ s with pending := s.pending.erase (pickFirst x xs) }, .event (pickFirst x xs)) := by
        simp [step, getEvent, hp]
      rw [this]
      exact Step.get s _ (by rw [hp]; exact pickFirst_isMin x xs)
  | getCurrent t =>
    obtain ⟨es, h1, h2⟩ := curLoop_sound t s.pending.length s.pending [] le_rfl
    simp only [step, getCurrent]
    simp only [List.nil_append] at h2
    rw [h2]
    exact Step.cur s t es _ h1
  | len => exact Step.len s
  | empty => exact Step.empty s
  | last => exact Step.last s
  | roundtrip =>
    simp only [step, fromWire_toWire]
    exact Step.roundtrip s _ (by rw [fromWire_toWire]) (toWire_ts _)

end Acn.QSpec

namespace Acn
open QSpec

theorem pairwise_le_getLast {es : List Event} (h : es.Pairwise KeyLe) {l : Event}
    (hl : es.getLast? = some l) : ∀ a ∈ es, KeyLe a l := by
  -- `es` is `es.dropLast ++ [l]`: what stands before `l` is below it, and `l` is not above itself
  have he := List.dropLast_append_getLast? l hl
  rw [← he, List.pairwise_append] at h
  intro a ha
  rw [← he, List.mem_append, List.mem_singleton] at ha
  rcases ha with ha | rfl
  · exact h.2.2 a ha l List.mem_cons_self
  · exact keyLt_irrefl _

/-- generalised over the most recent retrieval `last` before the trace: all pending events
    are ≥ `last`; then the retrievals are sorted and all ≥ `last`. -/
theorem run_sorted {s s' : State} {tr : List (QOp × QOut)} (h : Run s tr s') :
    ∀ last : Option Event, (∀ l, last = some l → ∀ x ∈ s.pending, KeyLe l x) →
      wellTimed last tr →
      (retrieved tr).Pairwise KeyLe ∧ ∀ l, last = some l → ∀ r ∈ retrieved tr, KeyLe l r := by
  induction h with
  | nil s => intro last _ _; simp [retrieved]
  | @cons s op out s1 tr s2 hstep _ ih =>
    intro last hb hwt
    cases hstep with
    | add e =>
      apply ih last _ hwt.2
      intro l hl x hx
      rcases List.mem_append.mp hx with hx | hx
      · exact hb l hl x hx
      · obtain rfl : x = e := by simpa using hx
        exact hwt.1 l hl
    | addAll es =>
      apply ih last _ hwt.2
      intro l hl x hx
      rcases List.mem_append.mp hx with hx | hx
      · exact hb l hl x hx
      · exact hwt.1 l hl x hx
    | getEmpty hs => exact ih last hb hwt
    | get e hmin =>
      have := ih (some e) (by
        rintro l ⟨rfl⟩ x hx
        exact hmin.2 x (List.mem_of_mem_erase hx)) hwt
      refine ⟨List.pairwise_cons.mpr ⟨fun r hr => this.2 e rfl r hr, this.1⟩, ?_⟩
      intro l hl r hr
      have hle : KeyLe l e := hb l hl e hmin.1
      rcases List.mem_cons.mp hr with rfl | hr
      · exact hle
      · exact keyLe_trans l e r hle (this.2 e rfl r hr)
    | cur t es q' hcur =>
      simp only [wellTimed] at hwt
      simp only [retrieved]
      obtain ⟨hperm, hsorted, _⟩ := hcur.spec
      cases hgl : es.getLast? with
      | none =>
        have hes : es = [] := List.getLast?_eq_none_iff.mp hgl
        subst hes
        apply ih last _ hwt
        intro l hl x hx
        exact hb l hl x (hcur.rest x hx).1
      | some g =>
        rw [hgl] at hwt
        have hg : g ∈ es := List.mem_of_getLast? hgl
        have := ih (some g) (by
          rintro l ⟨rfl⟩ x hx
          have hx' := hcur.rest x hx
          have hgt := hcur.ts_le g hg
          exact keyLe_of_ts_lt (by omega)) hwt
        refine ⟨?_, ?_⟩
        · rw [List.pairwise_append]
          refine ⟨hsorted, this.1, ?_⟩
          intro a ha b hb'
          exact keyLe_trans a g b (pairwise_le_getLast hsorted hgl a ha) (this.2 g rfl b hb')
        · intro l hl r hr
          rcases List.mem_append.mp hr with hr | hr
          · exact hb l hl r (hcur.subset_left r hr)
          · exact keyLe_trans l g r (hb l hl g (hcur.subset_left g hg)) (this.2 g rfl r hr)
    | len => exact ih last hb hwt
    | empty => exact ih last hb hwt
    | last => exact ih last hb hwt
    | roundtrip w h1 h2 => exact ih last hb hwt

end Acn
