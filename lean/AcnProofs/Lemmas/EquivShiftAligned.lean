/-
  Helper lemmas for C10 (time shift, EVERY `max_recompute`, event core).
  With `max_recompute = m` the scheduler is consulted during the `k` idle periods in front of a
  shifted scenario (period 0 always, then every `max(m,1)` periods).  The state reached after the
  idle prefix is the shift of the original initial state up to (i) the record `V` of those idle
  invocations and (ii) `_last_schedule_update`.  (ii) is erased in the first period with an event —
  or at once when `m ∣ k`, because then both runs consult the scheduler in their (relative) period 0
  (`Erases`: when a period forgets the field; `erases_of_aligned`: after the prefix of an `Aligned` shift it does).
-/
import AcnProofs.Lemmas.EquivShift

set_option linter.unusedSectionVars false

namespace Acn.SimShift
open Acn.EventCore Acn.Steps

def setLUc (L : Option Int) (c : Core) : Core := { c with lastUpd := L }

theorem setLUc_self (c : Core) : setLUc c.lastUpd c = c := rfl

/-! ### `_last_schedule_update` is forgotten in a period in which the scheduler is consulted -/

theorem step_setLUc (cfg : EventCore.Cfg) (e : Event) (L : Option Int) (c : Core) :
    ∃ L', EventCore.step cfg e (setLUc L c) = (setLUc L' (EventCore.step cfg e c).1, (EventCore.step cfg e c).2) := by
  unfold EventCore.step process setLUc
  cases hk : e.kind with
  | recompute => exact ⟨L, rfl⟩
  | plugin =>
    simp only
    cases hf : findSession cfg e.sess with
    | none => exact ⟨L, rfl⟩
    | some x =>
      simp only
      by_cases hc : cfg.stations.contains x.station = true
      · simp only [hc, if_true]
        cases ho : c.occ x.station with
        | some y => exact ⟨L, rfl⟩
        | none => exact ⟨some e.ts, rfl⟩
      · simp only [hc, Bool.false_eq_true, if_false]
        exact ⟨L, rfl⟩
  | unplug =>
    simp only
    cases hf : findSession cfg e.sess with
    | none => exact ⟨L, rfl⟩
    | some x =>
      simp only
      by_cases hc : cfg.stations.contains x.station = true
      · simp only [hc, if_true]
        exact ⟨some e.ts, rfl⟩
      · simp only [hc, Bool.false_eq_true, if_false]
        exact ⟨L, rfl⟩

def LUEqc (c c' : Core) : Prop := ∃ L, c' = setLUc L c

theorem eventsStage_setLUc (cfg : EventCore.Cfg) (L : Option Int) (c : Core) :
    Out LUEqc (sep LUEqc Eq) (EventCore.eventsStage cfg c) (EventCore.eventsStage cfg (setLUc L c)) := by
  unfold EventCore.eventsStage
  rw [EventCore.processAll_eq, EventCore.processAll_eq]
  refine foldE_out (List.forall₂_same.2 fun e _ a b ⟨L1, hb⟩ => ?_) _ _ ⟨L, rfl⟩
  obtain ⟨L', h⟩ := step_setLUc cfg e L1 a
  rw [hb, h]
  exact .of_eq rfl ⟨L', rfl⟩

/-- if the scheduler would be consulted in this period even if nothing happened, it is consulted
    whatever happens (events only ever set `_resolve`) -/
theorem needsSched_after_events (cfg : EventCore.Cfg) (mr : Option Nat) {c c1 : Core}
    (hn : needsSched mr c = true) (he : EventCore.eventsStage cfg c = (c1, none)) : needsSched mr c1 = true := by
  unfold EventCore.eventsStage at he
  by_cases hpop : (popCurrent c.iter c.pending).1 = []
  · rw [hpop] at he
    simp only [EventCore.processAll, Prod.mk.injEq, and_true] at he
    rw [← he]
    exact hn
  · have := processAll_resolve cfg _ _ c1 he hpop
    simp [needsSched, this]

/-- The period that starts in `c` erases the difference between `_last_schedule_update = L` and the real value:
    there is none, or the scheduler is consulted either way (and overwrites the field) — because an event is due,
    or because both values make `max_recompute` fire. -/
def Erases (cfg : EventCore.Cfg) (L : Option Int) (c : Core) : Prop :=
  L = c.lastUpd ∨ (popCurrent c.iter c.pending).1 ≠ [] ∨
    (needsSched cfg.maxRecompute c = true ∧ needsSched cfg.maxRecompute (setLUc L c) = true)

theorem Erases.after_events {cfg : EventCore.Cfg} {L L' : Option Int} {c c1 : Core} (h : Erases cfg L c)
    (hL : L ≠ c.lastUpd)
    (he : EventCore.eventsStage cfg c = (c1, none))
    (he' : EventCore.eventsStage cfg (setLUc L c) = (setLUc L' c1, none)) :
    needsSched cfg.maxRecompute c1 = true ∧ needsSched cfg.maxRecompute (setLUc L' c1) = true := by
  rcases h with h | hpop | ⟨hn1, hn2⟩
  · exact absurd h hL
  · have r1 : c1.resolve = true := by
      unfold EventCore.eventsStage at he
      exact processAll_resolve cfg _ _ c1 he hpop
    have r2 : (setLUc L' c1).resolve = true := r1
    exact ⟨by simp [needsSched, r1], by simp [needsSched, r2]⟩
  · exact ⟨needsSched_after_events cfg _ hn1 he, needsSched_after_events cfg _ hn2 he'⟩

/-- a period that erases the difference ends alike whatever `_last_schedule_update` was, and in the same state if
    it returns: `scheduler.run()` overwrites the field -/
theorem body_setLUc (cfg : EventCore.Cfg) {sched apply : Core → Option Err}
    (hsL : ∀ L c, sched (setLUc L c) = sched c) (L : Option Int) (c : Core) (hn : Erases cfg L c) :
    Out Eq (sep LUEqc Eq) (EventCore.body cfg sched apply c) (EventCore.body cfg sched apply (setLUc L c)) := by
  by_cases hL : L = c.lastUpd
  · subst hL
    exact Out.refl (fun a => ⟨a.lastUpd, rfl⟩) (fun _ => rfl) _
  rw [EventCore.body_chain, EventCore.body_chain]
  refine (eventsStage_setLUc cfg L c).andThen_eq fun c1 c1' he he' ⟨L', h1⟩ => ?_
  subst h1
  obtain ⟨hm1, hm2⟩ := hn.after_events hL he he'
  rw [if_pos hm1, if_pos hm2]
  have hs : Out Eq (sep LUEqc Eq) (EventCore.consult sched c1) (EventCore.consult sched (setLUc L' c1)) := by
    unfold EventCore.consult
    rw [show markInvoked (setLUc L' c1) = setLUc L' (markInvoked c1) from rfl, hsL]
    cases sched (markInvoked c1) with
    | some e => exact .err ⟨rfl, L', rfl⟩
    | none => exact .ok rfl
  exact hs.andThen fun a b hab => hab ▸ Out.refl (fun a => ⟨a.lastUpd, rfl⟩) (fun _ => rfl) _

theorem run_setLUc (cfg : EventCore.Cfg) {sched apply : Core → Option Err}
    (hsL : ∀ L c, sched (setLUc L c) = sched c) (L : Option Int) (c : Core) (h : Erases cfg L c) (hg : guard c = true)
    (n : Nat) :
    (∃ L', EventCore.run cfg sched apply (n + 1) (setLUc L c) =
      (setLUc L' (EventCore.run cfg sched apply (n + 1) c).1, (EventCore.run cfg sched apply (n + 1) c).2)) ∧
    ((EventCore.body cfg sched apply c).2 = none →
      EventCore.run cfg sched apply (n + 1) (setLUc L c) = EventCore.run cfg sched apply (n + 1) c) := by
  have hb := body_setLUc cfg (apply := apply) hsL L c h
  rw [EventCore.run_eq, EventCore.run_eq, loopE_succ _ hg, loopE_succ (a := setLUc L c) _ hg]
  rcases hx : EventCore.body cfg sched apply c with ⟨b1, _ | err⟩
  · obtain ⟨_, hy, rfl⟩ := hb.ok_of hx
    rw [hy]
    exact ⟨⟨_, rfl⟩, fun _ => rfl⟩
  · rw [hx] at hb
    obtain ⟨b, e', hy⟩ : ∃ b e', EventCore.body cfg sched apply (setLUc L c) = (b, e') := ⟨_, _, rfl⟩
    rw [hy] at hb ⊢
    cases hb with
    | err h =>
      obtain ⟨rfl, L', rfl⟩ := h
      exact ⟨⟨L', rfl⟩, fun h => by simp at h⟩

/-- a period in which nothing is due and nobody raises: only the clock moves, and the scheduler is
    consulted when `max_recompute` says so -/
def idleStep (mr : Option Nat) (c : Core) : Core :=
  advance (if needsSched mr c then markScheduled (markInvoked c) else c)

def idleIter (mr : Option Nat) : Nat → Core → Core := iter (idleStep mr)

structure IdleFrame (c d : Core) : Prop where
  pending : d.pending = c.pending
  occ : d.occ = c.occ
  resolve : d.resolve = false
  eventHist : d.eventHist = c.eventHist
  evHist : d.evHist = c.evHist

theorem idleStep_frame (mr : Option Nat) (c : Core) (hres : c.resolve = false) :
    IdleFrame c (idleStep mr c) ∧ (idleStep mr c).iter = c.iter + 1 := by
  unfold idleStep
  by_cases hn : needsSched mr c = true
  · simp only [hn, if_true]
    exact ⟨⟨rfl, rfl, rfl, rfl, rfl⟩, rfl⟩
  · simp only [hn, Bool.false_eq_true, if_false]
    exact ⟨⟨rfl, rfl, hres, rfl, rfl⟩, rfl⟩

theorem idleIter_frame (mr : Option Nat) : ∀ (j : Nat) (c : Core), c.resolve = false →
    IdleFrame c (idleIter mr j c) ∧ (idleIter mr j c).iter = c.iter + j := by
  intro j
  induction j with
  | zero => intro c h; exact ⟨⟨rfl, rfl, h, rfl, rfl⟩, rfl⟩
  | succ j ih =>
    intro c h
    obtain ⟨f1, i1⟩ := idleStep_frame mr c h
    obtain ⟨f2, i2⟩ := ih (idleStep mr c) f1.resolve
    refine ⟨⟨f2.pending.trans f1.pending, f2.occ.trans f1.occ, f2.resolve, f2.eventHist.trans f1.eventHist,
      f2.evHist.trans f1.evHist⟩, ?_⟩
    show (idleIter mr j (idleStep mr c)).iter = _
    rw [i2, i1]; omega

theorem idleIter_none : ∀ (j : Nat) (c : Core), c.resolve = false →
    idleIter none j c = { c with iter := c.iter + j } := by
  intro j
  induction j with
  | zero => intro c _; rfl
  | succ j ih =>
    intro c h
    have hn : needsSched none c = false := by simp [needsSched, h]
    have hs : idleStep none c = advance c := by simp [idleStep, hn]
    show idleIter none j (idleStep none c) = _
    rw [hs, ih (advance c) h]
    show ({ c with iter := c.iter + 1 + j } : Core) = { c with iter := c.iter + (j + 1) }
    rw [Nat.add_assoc, Nat.add_comm 1 j]

theorem idle_body_gen (cfg : EventCore.Cfg) {sched apply : Core → Option Err} (c : Core)
    (hres : c.resolve = false) (hp : ∀ e ∈ c.pending, (c.iter : Int) < e.ts)
    (hq : ∀ d : Core, d.resolve = false → d.iter = c.iter → d.pending = c.pending →
      (needsSched cfg.maxRecompute d = true → sched d = none) ∧ apply d = none) :
    EventCore.body cfg sched apply c = (idleStep cfg.maxRecompute c, none) := by
  rw [EventCore.body_chain, eventsStage_nothing_due cfg c hp, andThen_ok, idleStep]
  split
  · rw [EventCore.consult, (hq (markInvoked c) hres rfl rfl).1 ‹_›, andThen_ok, finish,
      (hq (markScheduled (markInvoked c)) rfl rfl rfl).2]
  · rw [finish, (hq c hres rfl rfl).2]

/-- `j` periods in which nothing is due are ahead of `c`, all before period `K` -/
def IdleAhead (K j : Nat) (c : Core) : Prop :=
  c.resolve = false ∧ c.pending ≠ [] ∧ c.iter + j ≤ K ∧ ∀ e ∈ c.pending, ((c.iter + j : Nat) : Int) ≤ e.ts

theorem IdleAhead.step {K j : Nat} {c : Core} (mr : Option Nat) (h : IdleAhead K (j + 1) c) :
    IdleAhead K j (idleStep mr c) := by
  obtain ⟨hres, hne, hK, hp⟩ := h
  obtain ⟨f1, i1⟩ := idleStep_frame mr c hres
  refine ⟨f1.resolve, by rw [f1.pending]; exact hne, by rw [i1]; omega, fun e he => ?_⟩
  rw [f1.pending] at he
  have := hp e he
  rw [i1]
  push_cast at this ⊢
  omega

theorem IdleAhead.nothing_due {K j : Nat} {c : Core} (h : IdleAhead K (j + 1) c) :
    ∀ e ∈ c.pending, (c.iter : Int) < e.ts := by
  intro e he
  have := h.2.2.2 e he
  push_cast at this
  omega

theorem idle_run_gen (cfg : EventCore.Cfg) {sched apply : Core → Option Err} (K : Nat)
    (hq : ∀ d : Core, d.resolve = false → d.iter < K → (∀ e ∈ d.pending, (d.iter : Int) < e.ts) →
      (needsSched cfg.maxRecompute d = true → sched d = none) ∧ apply d = none)
    (j n : Nat) (c : Core) (h : IdleAhead K j c) :
    EventCore.run cfg sched apply (j + n) c = EventCore.run cfg sched apply n (idleIter cfg.maxRecompute j c) := by
  rw [EventCore.run_eq, EventCore.run_eq, loopE_add, idleIter,
    loopE_iterate (f := idleStep cfg.maxRecompute) (I := IdleAhead K) (fun j c h => ?_) j c h, andThen_ok]
  refine ⟨(guard_iff_pending h.1).2 h.2.1, ?_, h.step _⟩
  exact idle_body_gen cfg c h.1 h.nothing_due fun d hd hi hpd =>
    hq d hd (by rw [hi]; have := h.2.2.1; omega) (by rw [hi, hpd]; exact h.nothing_due)

/-- the invariant of `_last_schedule_update` along the idle prefix when `max_recompute = m`: nothing yet in period 0;
    afterwards the last invocation `u` is a multiple of `m` (or `m = 0`) not more than `max m 1` periods back -/
def IdleLU (m : Nat) (c : Core) : Prop :=
  (c.iter = 0 ∧ c.lastUpd = none) ∨
    ∃ u : Nat, c.lastUpd = some (u : Int) ∧ u < c.iter ∧ c.iter ≤ u + max m 1 ∧ (m = 0 ∨ u % m = 0)

theorem idleStep_LU (m : Nat) (c : Core) (hres : c.resolve = false) (h : IdleLU m c) :
    IdleLU m (idleStep (some m) c) := by
  unfold idleStep
  rcases h with ⟨h0, hL⟩ | ⟨u, hL, h1, h2, h3⟩
  · have hn : needsSched (some m) c = true := by simp [needsSched, hL]
    simp only [hn, if_true]
    refine Or.inr ⟨c.iter, rfl, ?_, ?_, ?_⟩
    · show c.iter < c.iter + 1
      omega
    · show c.iter + 1 ≤ c.iter + max m 1
      omega
    · rw [h0]
      by_cases hm : m = 0
      · exact Or.inl hm
      · exact Or.inr (Nat.zero_mod m)
  · by_cases hn : needsSched (some m) c = true
    · simp only [hn, if_true]
      have hle : (m : Int) ≤ (c.iter : Int) - (u : Int) := by
        simpa [needsSched, hres, hL] using hn
      refine Or.inr ⟨c.iter, rfl, ?_, ?_, ?_⟩
      · show c.iter < c.iter + 1
        omega
      · show c.iter + 1 ≤ c.iter + max m 1
        omega
      · rcases h3 with h3 | h3
        · exact Or.inl h3
        · by_cases hm : m = 0
          · exact Or.inl hm
          · right
            have hcu : c.iter = u + m := by
                have : max m 1 = m := by omega
                omega
            rw [hcu, Nat.add_mod, h3]
            simp
    · simp only [hn, Bool.false_eq_true, if_false]
      have hlt : ¬ (m : Int) ≤ (c.iter : Int) - (u : Int) := by
        simpa [needsSched, hres, hL] using hn
      refine Or.inr ⟨u, hL, ?_, ?_, h3⟩
      · show u < c.iter + 1
        omega
      · show c.iter + 1 ≤ u + max m 1
        omega

theorem idleIter_LU (m : Nat) : ∀ (j : Nat) (c : Core), c.resolve = false → IdleLU m c →
    IdleLU m (idleIter (some m) j c) := by
  intro j
  induction j with
  | zero => intro c _ h; exact h
  | succ j ih =>
    intro c hres h
    exact ih (idleStep (some m) c) (idleStep_frame (some m) c hres).1.resolve (idleStep_LU m c hres h)

theorem needsSched_of_aligned (m : Nat) (c : Core) (h : IdleLU m c) (hal : m = 0 ∨ m ∣ c.iter) :
    needsSched (some m) c = true := by
  rcases h with ⟨_, hL⟩ | ⟨u, hL, h1, h2, h3⟩
  · simp [needsSched, hL]
  · -- `m` divides `u` and `c.iter`, hence their positive difference
    have : (m : Int) ≤ (c.iter : Int) - (u : Int) := by
      rcases hal with rfl | hd
      · omega
      · rcases h3 with rfl | h3
        · omega
        · have := Nat.le_of_dvd (Nat.sub_pos_of_lt h1) (Nat.dvd_sub hd (Nat.dvd_of_mod_eq_zero h3))
          omega
    simp [needsSched, hL, this]

theorem idle_prefix_core (k : Nat) (cfg : EventCore.Cfg) :
    idleIter cfg.maxRecompute k (EventCore.init (shiftCfg k cfg)) =
      setLUc (idleIter cfg.maxRecompute k (EventCore.init (shiftCfg k cfg))).lastUpd
        (sh k (idleIter cfg.maxRecompute k (EventCore.init (shiftCfg k cfg))).invoked (EventCore.init cfg)) := by
  obtain ⟨f, hi⟩ := idleIter_frame cfg.maxRecompute k (EventCore.init (shiftCfg k cfg)) rfl
  apply core_ext
  · rw [hi]; simp [setLUc, sh, addInv, shiftCore, EventCore.init]
  · rw [f.pending]
    show initPending (shiftCfg k cfg) = _
    rw [initPending_shift]
    rfl
  · rw [f.occ]; rfl
  · rw [f.resolve]; rfl
  · rfl
  · rw [f.eventHist]; rfl
  · rw [f.evHist]; rfl
  · simp [setLUc, sh, addInv, shiftCore, EventCore.init]

/-- when the shifted run consults the scheduler in the same RELATIVE periods as the original one -/
def Aligned (k : Nat) (cfg : EventCore.Cfg) : Prop :=
  cfg.maxRecompute = none ∨ (∃ e ∈ initPending cfg, e.ts ≤ 0) ∨
    ∃ m, cfg.maxRecompute = some m ∧ (m = 0 ∨ m ∣ k)

theorem idleAhead_init (k : Nat) {cfg : EventCore.Cfg} (hne : initPending cfg ≠ [])
    (hnn : ∀ e ∈ initPending cfg, 0 ≤ e.ts) : IdleAhead k k (EventCore.init (shiftCfg k cfg)) := by
  have hP : (EventCore.init (shiftCfg k cfg)).pending = (initPending cfg).map (shiftEv k) := initPending_shift k cfg
  refine ⟨rfl, by rw [hP]; simpa using hne, by simp [EventCore.init], fun e he => ?_⟩
  rw [hP] at he
  obtain ⟨d, hd, rfl⟩ := List.mem_map.1 he
  have := hnn d hd
  simp only [EventCore.init, shiftEv]
  push_cast
  omega

theorem erases_of_aligned (k : Nat) (cfg : EventCore.Cfg) (hal : Aligned k cfg) {ck : Core}
    (hck : idleIter cfg.maxRecompute k (EventCore.init (shiftCfg k cfg)) = ck) :
    Erases (shiftCfg k cfg) ck.lastUpd (sh k ck.invoked (EventCore.init cfg)) := by
  subst hck
  rcases hal with hnone | ⟨e, he, h0⟩ | ⟨m, hm, hdiv⟩
  · -- with `max_recompute = None` the prefix only moves the clock
    rw [hnone, idleIter_none k (EventCore.init (shiftCfg k cfg)) rfl]
    exact Or.inl rfl
  · refine Or.inr (Or.inl ?_)
    rw [sh_iter, sh_pending, popCurrent_shift]
    simp only [ne_eq, List.map_eq_nil_iff]
    intro hnil
    have hmem : e ∈ (popCurrent (EventCore.init cfg).iter (EventCore.init cfg).pending).1 := by
      simp only [popCurrent, mem_sortByKey, List.mem_filter, decide_eq_true_eq]
      exact ⟨he, by simpa [EventCore.init] using h0⟩
    rw [hnil] at hmem
    simp at hmem
  · refine Or.inr (Or.inr ⟨?_, ?_⟩)
    · show needsSched cfg.maxRecompute _ = true
      rw [hm, needsSched_sh]; simp [needsSched, EventCore.init]
    · -- `IdleLU` along the prefix: the last idle invocation is a multiple of `m`, so period `k` is due
      show needsSched cfg.maxRecompute _ = true
      rw [← idle_prefix_core k cfg, hm]
      refine needsSched_of_aligned m _ (idleIter_LU m k (EventCore.init (shiftCfg k cfg)) rfl (Or.inl ⟨rfl, rfl⟩)) ?_
      rw [(idleIter_frame (some m) k (EventCore.init (shiftCfg k cfg)) rfl).2]
      simpa [EventCore.init] using hdiv

/-- stated in acnportal's terms, hypothesis by hypothesis, as `C10.run_shift_core` -/
theorem run_shift_core' (k : Nat) (cfg : EventCore.Cfg) {sched sched' apply apply' : Core → Option Err}
    (hs : ∀ V c, sched' (sh k V c) = sched c) (ha : ∀ V c, apply' (sh k V c) = apply c)
    (hsL : ∀ L c, sched' (setLUc L c) = sched' c)
    (hidle : ∀ d : Core, d.resolve = false → d.iter < k → (∀ e ∈ d.pending, (d.iter : Int) < e.ts) →
      sched' d = none ∧ apply' d = none)
    (hne : initPending cfg ≠ []) (hnn : ∀ e ∈ initPending cfg, 0 ≤ e.ts) (hal : Aligned k cfg) (n : Nat) :
    ∃ V,
      (∃ L, EventCore.run (shiftCfg k cfg) sched' apply' (k + (n + 1)) (EventCore.init (shiftCfg k cfg)) =
        (setLUc L (sh k V (EventCore.run cfg sched apply (n + 1) (EventCore.init cfg)).1),
          (EventCore.run cfg sched apply (n + 1) (EventCore.init cfg)).2)) ∧
      ((EventCore.body cfg sched apply (EventCore.init cfg)).2 = none →
        EventCore.run (shiftCfg k cfg) sched' apply' (k + (n + 1)) (EventCore.init (shiftCfg k cfg)) =
          (sh k V (EventCore.run cfg sched apply (n + 1) (EventCore.init cfg)).1,
            (EventCore.run cfg sched apply (n + 1) (EventCore.init cfg)).2)) := by
  have hrun := idle_run_gen (shiftCfg k cfg) (sched := sched') (apply := apply') k
    (fun d h1 h2 h3 => ⟨fun _ => (hidle d h1 h2 h3).1, (hidle d h1 h2 h3).2⟩) k (n + 1) _ (idleAhead_init k hne hnn)
  have hck := idle_prefix_core k cfg
  have hmr : (shiftCfg k cfg).maxRecompute = cfg.maxRecompute := rfl
  rw [hmr] at hrun
  generalize hckd : idleIter cfg.maxRecompute k (EventCore.init (shiftCfg k cfg)) = ck at hrun hck
  have hg : guard (sh k ck.invoked (EventCore.init cfg)) = true := by
    rw [guard_sh]; exact (guard_iff_pending rfl).2 hne
  -- the run from the state the prefix left is the run from the shifted initial state; that one is the shifted run
  obtain ⟨⟨L, h1⟩, h2⟩ := run_setLUc (shiftCfg k cfg) (sched := sched') (apply := apply') hsL ck.lastUpd _
    (erases_of_aligned k cfg hal hckd) hg n
  rw [run_sh_from k ck.invoked cfg (hs _) (ha _)] at h1 h2
  rw [body_sh k ck.invoked cfg (hs _) (ha _)] at h2
  rw [hrun, hck]
  exact ⟨ck.invoked, ⟨L, h1⟩, h2⟩

end Acn.SimShift
