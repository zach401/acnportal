/-
  What the events stage of one period does to the queue (C09).  `NoOverdue`: every pending plug-in event is not
  yet due and its session departs strictly after it (true initially for well-formed sessions — `SessionsOK`, the
  premise of C09's resume theorems: distinct ids, `0 ≤ arrival < departure`; `init_noOverdue` —, preserved by every
  period).  From it: after the events of period `t` have been applied, every pending event lies strictly in the
  future (`Fresh`), so a second `get_current_events(t)` returns nothing — the heart of crash/resume.
-/
import AcnProofs.Lemmas.EventCoreInv
import AcnProofs.Lemmas.SchedTrigger

namespace Acn.EventCore
open Acn Acn.Steps

theorem step_pending (cfg : Cfg) (e : Event) (c : Core) :
    (step cfg e c).1.pending = c.pending ∨
      (e.kind = .plugin ∧ ∃ x, findSession cfg e.sess = some x ∧
        (step cfg e c).1.pending = c.pending ++ [unplugEv x]) := by
  rcases step_cases cfg e c with ⟨err, h⟩ | ⟨x, hk, hf, -, -, h⟩ | ⟨x, -, -, -, h⟩ | ⟨-, h⟩
  · rw [h]; exact Or.inl rfl
  · rw [h]; exact Or.inr ⟨hk, x, hf, rfl⟩
  · rw [h]; exact Or.inl rfl
  · rw [h]; exact Or.inl rfl

theorem processAll_iter (cfg : Cfg) (es : List Event) (c : Core) : (processAll cfg es c).1.iter = c.iter :=
  (processAll_any_facts es c _ _ rfl).1

theorem processAll_pending (cfg : Cfg) (es : List Event) (c : Core) :
    ∃ us, (processAll cfg es c).1.pending = c.pending ++ us ∧
      ∀ u ∈ us, ∃ e ∈ es, e.kind = .plugin ∧ ∃ x, findSession cfg e.sess = some x ∧ u = unplugEv x := by
  rw [processAll_eq]
  refine foldE_inv (P := fun a : Core => ∃ us, a.pending = c.pending ++ us ∧
      ∀ u ∈ us, ∃ e ∈ es, e.kind = .plugin ∧ ∃ x, findSession cfg e.sess = some x ∧ u = unplugEv x)
    (fun e he a ⟨us, hus, hmem⟩ => ?_) ⟨[], by simp, by simp⟩
  rcases step_pending cfg e a with hp | ⟨hk, x, hx, hp⟩
  · exact ⟨us, by rw [hp, hus], hmem⟩
  · refine ⟨us ++ [unplugEv x], by rw [hp, hus, List.append_assoc], fun u hu => ?_⟩
    rcases List.mem_append.1 hu with hu | hu
    · exact hmem u hu
    · exact ⟨e, he, hk, x, hx, List.mem_singleton.1 hu⟩

def NoOverdue (cfg : Cfg) (c : Core) : Prop :=
  ∀ e ∈ c.pending, e.kind = .plugin →
    (c.iter : Int) ≤ e.ts ∧ ∀ x, findSession cfg e.sess = some x → e.ts < x.departure

def Fresh (c : Core) : Prop := ∀ e ∈ c.pending, (c.iter : Int) < e.ts

theorem mem_popCurrent_fst {t : Nat} {p : List Event} {e : Event} :
    e ∈ (popCurrent t p).1 ↔ e ∈ p ∧ e.ts ≤ (t : Int) := by
  unfold popCurrent
  simp only [mem_sortByKey]
  simp

theorem mem_popCurrent_snd {t : Nat} {p : List Event} {e : Event} :
    e ∈ (popCurrent t p).2 ↔ e ∈ p ∧ (t : Int) < e.ts := by
  unfold popCurrent
  simp

theorem mem_popCurrent {t : Nat} {p : List Event} {e : Event} :
    e ∈ (popCurrent t p).1 ∨ e ∈ (popCurrent t p).2 ↔ e ∈ p := by
  rw [mem_popCurrent_fst, mem_popCurrent_snd, ← and_or_left]
  exact and_iff_left (le_or_gt _ _)

theorem eventsStage_iter (cfg : Cfg) (c : Core) : (eventsStage cfg c).1.iter = c.iter :=
  (eventsStage_any_facts rfl).1

theorem eventsStage_pending (cfg : Cfg) (c : Core) :
    ∃ us, (eventsStage cfg c).1.pending = (popCurrent c.iter c.pending).2 ++ us ∧
      ∀ u ∈ us, ∃ e ∈ c.pending, e.ts ≤ (c.iter : Int) ∧ e.kind = .plugin ∧
        ∃ x, findSession cfg e.sess = some x ∧ u = unplugEv x := by
  unfold eventsStage
  obtain ⟨us, h1, h2⟩ := processAll_pending cfg (popCurrent c.iter c.pending).1
    { c with pending := (popCurrent c.iter c.pending).2 }
  refine ⟨us, h1, ?_⟩
  intro u hu
  obtain ⟨e, he, hk, x, hx, rfl⟩ := h2 u hu
  rw [mem_popCurrent_fst] at he
  exact ⟨e, he.1, he.2, hk, x, hx, rfl⟩

theorem eventsStage_fresh {cfg : Cfg} {c : Core} (h : NoOverdue cfg c) : Fresh (eventsStage cfg c).1 := by
  obtain ⟨us, h1, h2⟩ := eventsStage_pending cfg c
  intro e he
  rw [eventsStage_iter]
  rw [h1, List.mem_append] at he
  rcases he with he | he
  · exact (mem_popCurrent_snd.1 he).2
  · obtain ⟨p, hp, hts, hk, x, hx, rfl⟩ := h2 e he
    have := h p hp hk
    have h3 := this.2 x hx
    show (c.iter : Int) < x.departure
    omega

theorem eventsStage_noOverdue {cfg : Cfg} {c : Core} (h : NoOverdue cfg c) :
    ∀ e ∈ (eventsStage cfg c).1.pending, e.kind = .plugin →
      ((c.iter + 1 : Nat) : Int) ≤ e.ts ∧ ∀ x, findSession cfg e.sess = some x → e.ts < x.departure := by
  obtain ⟨us, h1, h2⟩ := eventsStage_pending cfg c
  intro e he hk
  rw [h1, List.mem_append] at he
  rcases he with he | he
  · have hm := mem_popCurrent_snd.1 he
    refine ⟨by push_cast; omega, (h e hm.1 hk).2⟩
  · obtain ⟨p, _, _, _, x, _, rfl⟩ := h2 e he
    simp [unplugEv] at hk

theorem eventsStage_guard {cfg : Cfg} {c : Core} (hg : guard c = true) (hok : (eventsStage cfg c).2 = none) :
    guard (eventsStage cfg c).1 = true := by
  by_cases hpop : (popCurrent c.iter c.pending).1 = []
  · -- nothing was due: queue and flag untouched
    have hnone : ∀ e ∈ c.pending, (c.iter : Int) < e.ts := by
      intro e he
      by_contra hlt
      have : e ∈ (popCurrent c.iter c.pending).1 := mem_popCurrent_fst.2 ⟨he, by omega⟩
      rw [hpop] at this
      simp at this
    rw [eventsStage_nothing_due cfg c hnone]
    exact hg
  · have : (eventsStage cfg c).1.resolve = true := by
      unfold eventsStage at hok ⊢
      exact processAll_resolve cfg _ _ _ (Prod.ext rfl hok) hpop
    simp [guard, this]

end Acn.EventCore

namespace Acn.Sim
open Acn Acn.EventCore

/-- well-formed sessions: what crash/resume needs of `Valid` (no overlap condition) -/
structure SessionsOK (cfg : EventCore.Cfg) : Prop where
  ids : (cfg.sessions.map (·.id)).Nodup
  times : ∀ x ∈ cfg.sessions, 0 ≤ x.arrival ∧ x.arrival < x.departure

theorem sessionsOK_of_valid {cfg : EventCore.Cfg} (hv : EventCore.Valid cfg) : SessionsOK cfg :=
  ⟨hv.ids_nodup, fun x hx => ⟨hv.arr_nonneg x hx, hv.arr_lt_dep x hx⟩⟩

theorem init_noOverdue {cfg : EventCore.Cfg} (h : SessionsOK cfg) : NoOverdue cfg (EventCore.init cfg) := by
  intro e he hk
  simp only [EventCore.init, initPending, List.mem_append, List.mem_map] at he
  rcases he with ⟨x, hx, rfl⟩ | ⟨r, _, rfl⟩
  · refine ⟨by show ((0 : Nat) : Int) ≤ x.arrival; have := (h.times x hx).1; omega, ?_⟩
    intro y hy
    cases (findSession_of_nodup h.ids hx).symm.trans hy
    exact (h.times x hx).2
  · simp [recEv] at hk

end Acn.Sim
