/-
  C04: rows, growth, block write of the pilot matrix (no schedules yet), for an arbitrary carrier with a zero.
-/
import Mathlib.Tactic
import AcnModel.Pilots

set_option linter.unusedSectionVars false

namespace Acn.Pilots
variable {K : Type} [OfNat K 0]

theorem getD_append_replicate (r : List K) (k τ : Nat) :
    (r ++ List.replicate k 0).getD τ 0 = r.getD τ 0 := by
  simp only [List.getD_eq_getElem?_getD]
  by_cases h : τ < r.length
  · rw [List.getElem?_append_left h]
  · rw [List.getElem?_append_right (by omega), List.getElem?_eq_none (l := r) (by omega)]
    by_cases h2 : τ - r.length < k
    · simp [h2]
    · simp [h2]

theorem writeRow_length (row : List K) (t : Nat) (blk : List K) (h : t + blk.length ≤ row.length) :
    (writeRow row t blk).length = row.length := by
  simp only [writeRow, List.length_append, List.length_take, List.length_drop]
  omega

theorem writeRow_getD (row : List K) (t : Nat) (blk : List K) (h : t + blk.length ≤ row.length)
    (τ : Nat) :
    (writeRow row t blk).getD τ 0 =
      if t ≤ τ ∧ τ < t + blk.length then blk.getD (τ - t) 0 else row.getD τ 0 := by
  have hlt : (row.take t).length = t := by simp [List.length_take]; omega
  simp only [writeRow, List.getD_eq_getElem?_getD]
  by_cases h1 : τ < t
  · have : ¬ (t ≤ τ ∧ τ < t + blk.length) := by omega
    rw [if_neg this, List.append_assoc, List.getElem?_append_left (by omega), List.getElem?_take_of_lt h1]
  · by_cases h2 : τ < t + blk.length
    · rw [if_pos ⟨by omega, h2⟩, List.append_assoc, List.getElem?_append_right (by omega),
        List.getElem?_append_left (by omega), hlt]
    · have : ¬ (t ≤ τ ∧ τ < t + blk.length) := by omega
      rw [if_neg this, List.getElem?_append_right (by simp [hlt]; omega)]
      simp only [List.length_append, hlt, List.getElem?_drop]
      congr 2
      omega

theorem increaseWidth_width (m : Mat K) (target : Nat) :
    (increaseWidth m target).width = max m.width target := by
  unfold increaseWidth
  split <;> simp <;> omega

theorem increaseWidth_rows_length (m : Mat K) (target : Nat) :
    (increaseWidth m target).rows.length = m.rows.length := by
  unfold increaseWidth
  split <;> simp

theorem increaseWidth_wf {n : Nat} {m : Mat K} (h : m.WF n) (target : Nat) :
    (increaseWidth m target).WF n := by
  unfold increaseWidth
  split
  · exact h
  · refine ⟨by simpa using h.1, ?_⟩
    intro r hr
    simp only [List.mem_map] at hr
    obtain ⟨r0, hr0, rfl⟩ := hr
    have := h.2 r0 hr0
    simp only [List.length_append, List.length_replicate]
    omega

theorem increaseWidth_get' (m : Mat K) (target i τ : Nat) :
    (increaseWidth m target).get i τ = m.get i τ := by
  unfold increaseWidth
  split
  · rfl
  · simp only [Mat.get, List.getD_eq_getElem?_getD, List.getElem?_map]
    cases hr : m.rows[i]? with
    | none => simp
    | some r =>
      simp only [Option.map_some, Option.getD_some]
      have := getD_append_replicate r (target - r.length) τ
      simpa [List.getD_eq_getElem?_getD] using this

theorem zeros_wf (n w : Nat) : (Mat.zeros n w : Mat K).WF n := by
  refine ⟨by simp [Mat.zeros], ?_⟩
  intro r hr
  simp only [Mat.zeros, List.mem_replicate] at hr
  simp [hr.2, Mat.zeros]

theorem zeros_get (n w i τ : Nat) : (Mat.zeros n w : Mat K).get i τ = 0 := by
  simp only [Mat.get, Mat.zeros, List.getD_eq_getElem?_getD, List.getElem?_replicate]
  by_cases h : i < n
  · by_cases h2 : τ < w <;> simp [h, h2]
  · simp [h]

theorem writeBlock_wf {n : Nat} {m : Mat K} (h : m.WF n) (t len : Nat) (dense : List (List K))
    (hd : dense.length = n) (hl : ∀ b ∈ dense, b.length = len) (hw : t + len ≤ m.width) :
    (writeBlock m t dense).WF n := by
  refine ⟨by simp [writeBlock, h.1, hd], ?_⟩
  intro r hr
  simp only [writeBlock] at hr ⊢
  rw [List.mem_iff_getElem] at hr
  obtain ⟨k, hk, rfl⟩ := hr
  simp only [List.length_zipWith] at hk
  simp only [List.getElem_zipWith]
  have h1 := h.2 m.rows[k] (List.getElem_mem _)
  have h2 := hl dense[k] (List.getElem_mem _)
  rw [writeRow_length _ _ _ (by omega)]
  exact h1

/-- the block-write lemma of DESIGN §3.5 -/
theorem writeBlock_get' {n : Nat} {m : Mat K} (h : m.WF n) (t len : Nat) (dense : List (List K))
    (hd : dense.length = n) (hl : ∀ b ∈ dense, b.length = len) (hw : t + len ≤ m.width)
    (i τ : Nat) :
    (writeBlock m t dense).get i τ =
      if t ≤ τ ∧ τ < t + len then (dense.getD i []).getD (τ - t) 0 else m.get i τ := by
  simp only [Mat.get, writeBlock]
  by_cases hi : i < n
  · have hi1 : i < m.rows.length := by rw [h.1]; exact hi
    have hi2 : i < dense.length := by rw [hd]; exact hi
    have e1 : (List.zipWith (fun row blk => writeRow row t blk) m.rows dense).getD i [] =
        writeRow m.rows[i] t dense[i] := by
      simp [List.getD_eq_getElem?_getD, hi1, hi2]
    have e2 : m.rows.getD i [] = m.rows[i] := by simp [List.getD_eq_getElem?_getD, hi1]
    have e3 : dense.getD i [] = dense[i] := by simp [List.getD_eq_getElem?_getD, hi2]
    have h1 := h.2 m.rows[i] (List.getElem_mem _)
    have h2 := hl dense[i] (List.getElem_mem _)
    rw [e1, e2, e3, writeRow_getD _ _ _ (by omega), h2]
  · have e1 : (List.zipWith (fun row blk => writeRow row t blk) m.rows dense).getD i [] = [] := by
      simp [List.getD_eq_getElem?_getD, h.1, hd, hi]
    have e2 : m.rows.getD i [] = [] := by simp [List.getD_eq_getElem?_getD, h.1, hi]
    have e3 : dense.getD i [] = [] := by simp [List.getD_eq_getElem?_getD, hd, hi]
    rw [e1, e2, e3]
    simp

end Acn.Pilots
