/-
  `round_robin` is natural in a relabelling of the stations (`Moves`), a time shift and a pair of oracles
  with `feas' (T x) = feas x`: the per-station level lists, the rate indices and the rate vector are
  relabelled by `T`, the deque holds the moved sessions, and the fuel (`rrMeasure`, a sum over the stations)
  is the same.
-/
import AcnProofs.Lemmas.EquivSortedGreedy

set_option linter.unusedSectionVars false

namespace Acn.Sorted
open Acn.SimEquiv

variable {K : Type} [Field K] [LinearOrder K] [IsStrictOrderedRing K]

def mvSt (p : Nat → Nat) (T : {α : Type} → List α → α → List α) (k : Nat) (st : RRState K) : RRState K :=
  { sched := T st.sched 0, rateIdx := T st.rateIdx 0, queue := st.queue.map (mvS p k),
    trace := st.trace.map fun t => (t.1, p t.2.1, t.2.2) }

structure RROk (n : Nat) (D : Nat → Prop) (st : RRState K) : Prop where
  sched : st.sched.length = n
  rateIdx : st.rateIdx.length = n
  queue : ∀ s ∈ st.queue, D s.idx

section
variable {n : Nat} {D : Nat → Prop} {p : Nat → Nat} {T : {α : Type} → List α → α → List α} (hM : Moves n D p T)
  (k : Nat) (infra : Infra K) (feas feas' : List K → Bool) (hf : ∀ x : List K, x.length = n → feas' (T x 0) = feas x)
include hM

theorem rrLevels_mvS [HasCeilNat K] (period inc : K) {s : Session K} (hs : D s.idx) :
    rrLevels (mapInfra T infra) period inc (mvS p k s) = rrLevels infra period inc s := by
  unfold rrLevels rrUb
  have hc : (mapInfra T infra).cont.getD (mvS p k s).idx true = infra.cont.getD s.idx true :=
    hM.getD _ _ hs
  have hal : (mapInfra T infra).allow.getD (mvS p k s).idx [] = infra.allow.getD s.idx [] :=
    hM.getD _ _ hs
  have hlb : lbOf (mvS p k s) = lbOf s := rfl
  have h1 : (mvS p k s).minRate = s.minRate := rfl
  have h2 : (mvS p k s).maxRate = s.maxRate := rfl
  simp only [hc, hal, hlb, h1, h2, maxPilot_mvS hM k infra hs, rap_mvS hM k infra period hs]

theorem rrInit_mvS (levelsOf levelsOf' : Session K → List K) (allow0 : List (List K)) (hal : allow0.length = n)
    (q : List (Session K)) (hq : ∀ s ∈ q, D s.idx) (hlv : ∀ s ∈ q, levelsOf' (mvS p k s) = levelsOf s) :
    rrInit levelsOf' n (T allow0 []) (q.map (mvS p k)) =
      (T (rrInit levelsOf n allow0 q).1 0, T (rrInit levelsOf n allow0 q).2 []) ∧
    (rrInit levelsOf n allow0 q).1.length = n ∧ (rrInit levelsOf n allow0 q).2.length = n := by
  rw [rrInit_eq, rrInit_eq, writes_map, writes_map]
  refine ⟨?_, by simp, by simp [hal]⟩
  have e1 := hM.writes (fun s : Session K => s.idx) (fun s => (mvS p k s).idx) (fun s => (levelsOf s).headD 0)
    (fun s => (levelsOf' (mvS p k s)).headD 0) 0 q (fun s hs => ⟨hq s hs, rfl, by rw [hlv s hs]⟩)
    (List.replicate n 0) (by simp)
  rw [hM.replicate] at e1
  rw [e1, hM.writes (fun s : Session K => s.idx) (fun s => (mvS p k s).idx) levelsOf _ [] q
    (fun s hs => ⟨hq s hs, rfl, hlv s hs⟩) _ hal]

include hf

theorem rrStep_mvS (levels : List (List K)) (st : RRState K) (hst : RROk n D st) :
    rrStep feas' (T levels []) (mvSt p T k st) = mvSt p T k (rrStep feas levels st) ∧
    RROk n D (rrStep feas levels st) := by
  cases hq : st.queue with
  | nil => rw [rrStep_nil _ _ hq, rrStep_nil _ _ (by simp [mvSt, hq])]; exact ⟨rfl, hst⟩
  | cons s rest =>
    have hs : D s.idx := hst.queue s (by rw [hq]; exact List.mem_cons_self)
    have hrest : ∀ x ∈ rest, D x.idx := fun x hx => hst.queue x (by rw [hq]; exact List.mem_cons_of_mem _ hx)
    have hqq : (mvSt p T k st).queue = mvS p k s :: rest.map (mvS p k) := by simp [mvSt, hq]
    have e1 : (T levels []).getD (mvS p k s).idx [] = levels.getD s.idx [] := hM.getD _ _ hs
    have e2 : (mvSt p T k st).rateIdx.getD (mvS p k s).idx 0 = st.rateIdx.getD s.idx 0 := hM.getD _ _ hs
    have e3 : ∀ v, (mvSt p T k st).sched.set (mvS p k s).idx v = T (st.sched.set s.idx v) 0 :=
      fun v => hM.set st.sched 0 v hs hst.sched
    have e4 : ∀ v, feas' ((mvSt p T k st).sched.set (mvS p k s).idx v) = feas (st.sched.set s.idx v) :=
      fun v => by rw [e3, hf _ (by simp [hst.sched])]
    have hm := rrStep_move feas levels hq
    generalize rrStep feas levels st = st' at hm
    cases hm with
    | raise hk hfe =>
      refine ⟨?_, by simp [hst.sched], by simp [hst.rateIdx], fun x hx => ?_⟩
      · rw [(RRMove.raise (by rwa [e1, e2]) (by rw [e1, e2, e4]; exact hfe)).eq hqq, e1, e2, e3]
        have e5 : (mvSt p T k st).rateIdx.set (mvS p k s).idx (st.rateIdx.getD s.idx 0 + 1) =
            T (st.rateIdx.set s.idx (st.rateIdx.getD s.idx 0 + 1)) 0 := hM.set st.rateIdx 0 _ hs hst.rateIdx
        rw [e5]
        simp [mvSt, mvS]
      · rcases List.mem_append.1 hx with hx | hx
        · exact hrest x hx
        · rw [List.mem_singleton.1 hx]; exact hs
    | blocked hk hfe =>
      refine ⟨?_, by simp [hst.sched], hst.rateIdx, hrest⟩
      rw [(RRMove.blocked (by rwa [e1, e2]) (by rw [e1, e2, e4]; exact hfe)).eq hqq]
      have e6 : levelAt (T levels []) (mvSt p T k st).rateIdx (mvS p k s).idx = levelAt levels st.rateIdx s.idx := by
        unfold levelAt; rw [e1, e2]
      rw [e6, e3]
      simp [mvSt, mvS]
    | top hk =>
      refine ⟨?_, hst.sched, hst.rateIdx, hrest⟩
      rw [(RRMove.top (by rwa [e1, e2])).eq hqq]
      simp [mvSt, mvS]

theorem rrLoop_mvS (levels : List (List K)) : ∀ (fuel : Nat) (st : RRState K), RROk n D st →
    rrLoop feas' (T levels []) fuel (mvSt p T k st) = mvSt p T k (rrLoop feas levels fuel st) ∧
    RROk n D (rrLoop feas levels fuel st) := by
  intro fuel
  induction fuel with
  | zero => intro st hst; exact ⟨rfl, hst⟩
  | succ fuel ih =>
    intro st hst
    unfold rrLoop
    cases hq : st.queue with
    | nil =>
      have : (mvSt p T k st).queue = [] := by simp [mvSt, hq]
      simp only [this]
      exact ⟨trivial, hst⟩
    | cons s rest =>
      have hqq : (mvSt p T k st).queue = mvS p k s :: rest.map (mvS p k) := by simp [mvSt, hq]
      simp only [hqq]
      obtain ⟨h1, h2⟩ := rrStep_mvS hM k feas feas' hf levels st hst
      rw [h1]
      exact ih _ h2

omit hf in
theorem rrMeasure_mvS (levels : List (List K)) (hlv : levels.length = n) (q : List (Session K)) (tr : List (String × Nat × Bool))
    (sch : List K) :
    rrMeasure (T levels []) (mvSt p T k ⟨sch, List.replicate n 0, q, tr⟩) =
      rrMeasure levels ⟨sch, List.replicate n 0, q, tr⟩ := by
  unfold rrMeasure
  have hrz : ∀ i, (List.replicate n (0 : Nat)).getD i 0 = 0 := by
    intro i
    rw [List.getD_eq_getElem?_getD, List.getElem?_replicate]
    split <;> rfl
  simp only [mvSt, hM.length _ _ hlv, hlv, hM.replicate, List.length_map, hrz, Nat.sub_zero]
  rw [hM.sum levels [] List.length]

include hf in
theorem roundRobin_mvS (hn : infra.ids.length = n) (hal : infra.allow.length = n)
    (levelsOf levelsOf' : Session K → List K) (q : List (Session K)) (hq : ∀ s ∈ q, D s.idx)
    (hlv : ∀ s ∈ q, levelsOf' (mvS p k s) = levelsOf s) :
    (roundRobin feas' levelsOf' (mapInfra T infra) (q.map (mvS p k))).map (·.sched) =
      (roundRobin feas levelsOf infra q).map (fun st => T st.sched 0) ∧
    ∀ st, roundRobin feas levelsOf infra q = .ok st → st.sched.length = n := by
  unfold roundRobin
  have hn' : (mapInfra T infra).ids.length = n := hM.length _ _ hn
  obtain ⟨hi, hl1, hl2⟩ := rrInit_mvS hM k levelsOf levelsOf' infra.allow hal q hq hlv
  have hallow : (mapInfra T infra).allow = T infra.allow [] := rfl
  simp only [hn, hn', hallow, hi]
  rw [hf _ hl1]
  by_cases hfe : feas (rrInit levelsOf n infra.allow q).1 = true
  · simp only [hfe, Bool.not_true, Bool.false_eq_true, if_false, Except.map]
    have hok : RROk n D (⟨(rrInit levelsOf n infra.allow q).1, List.replicate n 0, q, []⟩ : RRState K) :=
      ⟨hl1, by simp, hq⟩
    have hst0 : (⟨T (rrInit levelsOf n infra.allow q).1 0, List.replicate n 0, q.map (mvS p k), []⟩ : RRState K) =
        mvSt p T k ⟨(rrInit levelsOf n infra.allow q).1, List.replicate n 0, q, []⟩ := by
      simp only [mvSt, List.map_nil]
      rw [hM.replicate]
    rw [hst0, rrMeasure_mvS hM k _ hl2]
    obtain ⟨h1, h2⟩ := rrLoop_mvS hM k feas feas' hf _
      (rrMeasure (rrInit levelsOf n infra.allow q).2 ⟨(rrInit levelsOf n infra.allow q).1, List.replicate n 0, q, []⟩)
      _ hok
    rw [h1]
    refine ⟨rfl, ?_⟩
    intro st hst
    simp only [Except.ok.injEq] at hst
    rw [← hst]
    exact h2.sched
  · simp only [hfe, Bool.not_false, if_true, Except.map]
    exact ⟨trivial, fun st hst => by cases hst⟩

end
end Acn.Sorted
