/-
  `CInv`, the event-core half of the invariant behind `WF` / `AllRef`: every occupant, EV event and `ev_history` key
  belongs to a session of the static table, and every session is still referenced (by `ev_history` or by an EV event
  in the queue or in `event_history`).  Preserved by every processed event (also a raising one), hence by a whole
  period whose events stage does not raise; what a raising events stage loses (the events popped after the raising
  one) is exactly what breaks `AllRef`.
-/
import AcnProofs.Lemmas.ResumeInv
import AcnProofs.Lemmas.EventCoreMid
import AcnProofs.Lemmas.SimStages

namespace Acn.RegistrySim
open Acn Acn.EventCore

def EvOK (cfg : EventCore.Cfg) (e : Event) : Prop := e.kind ≠ .recompute → e.sess ∈ cfg.sessions.map (·.id)

/-- the events a core knows of: processed, still to do in this period, queued -/
def pool (todo : List Event) (c : Core) : List Event := c.eventHist ++ todo ++ c.pending

structure CInv (cfg : EventCore.Cfg) (todo : List Event) (c : Core) : Prop where
  occ : ∀ st x, c.occ st = some x → st ∈ cfg.stations ∧ x ∈ cfg.sessions
  ev : ∀ e, (e ∈ todo ∨ e ∈ c.pending ∨ e ∈ c.eventHist) → EvOK cfg e
  evh : ∀ sid ∈ c.evHist, sid ∈ cfg.sessions.map (·.id)
  ref : ∀ x ∈ cfg.sessions, x.id ∈ c.evHist ∨
    ∃ e, (e ∈ todo ∨ e ∈ c.pending ∨ e ∈ c.eventHist) ∧ e.kind ≠ .recompute ∧ e.sess = x.id

variable {cfg : EventCore.Cfg}

theorem mem_pool {todo : List Event} {c : Core} {e : Event} :
    e ∈ pool todo c ↔ e ∈ todo ∨ e ∈ c.pending ∨ e ∈ c.eventHist := by
  simp only [pool, List.mem_append]
  exact ⟨fun h => h.elim (fun h => h.elim (fun h => .inr (.inr h)) .inl) fun h => .inr (.inl h),
    fun h => h.elim (fun h => .inl (.inr h)) fun h => h.elim .inr fun h => .inl (.inl h)⟩

/-! The invariant reads the events only as a set; the proofs read and build it over the LIST `pool`, which a
    processed event leaves literally equal (`pool_ev`, `pool_ref`, `CInv.ofPool`). -/

theorem CInv.pool_ev {todo : List Event} {c : Core} (h : CInv cfg todo c) : ∀ e ∈ pool todo c, EvOK cfg e :=
  fun e he => h.ev e (mem_pool.1 he)

theorem CInv.pool_ref {todo : List Event} {c : Core} (h : CInv cfg todo c) :
    ∀ x ∈ cfg.sessions, x.id ∈ c.evHist ∨ ∃ e ∈ pool todo c, e.kind ≠ .recompute ∧ e.sess = x.id :=
  fun x hx => (h.ref x hx).imp_right fun ⟨e, he, hr⟩ => ⟨e, mem_pool.2 he, hr⟩

theorem CInv.ofPool {todo : List Event} {c : Core} (occ : ∀ st x, c.occ st = some x → st ∈ cfg.stations ∧ x ∈ cfg.sessions)
    (ev : ∀ e ∈ pool todo c, EvOK cfg e) (evh : ∀ sid ∈ c.evHist, sid ∈ cfg.sessions.map (·.id))
    (ref : ∀ x ∈ cfg.sessions, x.id ∈ c.evHist ∨ ∃ e ∈ pool todo c, e.kind ≠ .recompute ∧ e.sess = x.id) :
    CInv cfg todo c :=
  ⟨occ, fun e he => ev e (mem_pool.2 he), evh, fun x hx => (ref x hx).imp_right fun ⟨e, he, hr⟩ => ⟨e, mem_pool.1 he, hr⟩⟩

theorem findSession_some {id : String} {x : Session} (h : findSession cfg id = some x) : x ∈ cfg.sessions ∧ x.id = id := by
  unfold findSession at h
  exact ⟨List.mem_of_find?_eq_some h, by simpa using List.find?_some h⟩

theorem CInv.congr_pool {todo todo' : List Event} {c c' : Core} (h : CInv cfg todo c) (h1 : c'.occ = c.occ)
    (h2 : ∀ d, d ∈ pool todo' c' ↔ d ∈ pool todo c) (h4 : c'.evHist = c.evHist) : CInv cfg todo' c' :=
  .ofPool (by rw [h1]; exact h.occ) (fun d hd => h.pool_ev d ((h2 d).1 hd)) (by rw [h4]; exact h.evh) fun x hx => by
    rw [h4]; exact (h.pool_ref x hx).imp_right fun ⟨d, hd, hr⟩ => ⟨d, (h2 d).2 hd, hr⟩

theorem CInv.congr {todo : List Event} {c c' : Core} (h : CInv cfg todo c) (h1 : c'.occ = c.occ) (h2 : c'.pending = c.pending)
    (h3 : c'.eventHist = c.eventHist) (h4 : c'.evHist = c.evHist) : CInv cfg todo c' :=
  h.congr_pool h1 (fun d => by rw [pool, h2, h3]; rfl) h4

/-- what one event does to the four fields the invariant talks about -/
theorem step_shape (cfg : EventCore.Cfg) (e : Event) (c : Core) :
    (step cfg e c).1.eventHist = c.eventHist ++ [e] ∧
    (((∀ st y, (step cfg e c).1.occ st = some y → c.occ st = some y) ∧ (step cfg e c).1.evHist = c.evHist ∧
        (step cfg e c).1.pending = c.pending) ∨
     (∃ x, x ∈ cfg.sessions ∧ x.station ∈ cfg.stations ∧ e.kind = .plugin ∧ x.id = e.sess ∧
        (step cfg e c).1.occ = setOcc c.occ x.station (some x) ∧ (step cfg e c).1.evHist = c.evHist ++ [x.id] ∧
        (step cfg e c).1.pending = c.pending ++ [unplugEv x])) := by
  rcases step_cases cfg e c with ⟨err, h⟩ | ⟨x, hk, hf, hs, -, h⟩ | ⟨x, -, -, -, h⟩ | ⟨-, h⟩
  · rw [h]; exact ⟨rfl, Or.inl ⟨fun _ _ h => h, rfl, rfl⟩⟩
  · obtain ⟨hx, hid⟩ := findSession_some hf
    rw [h]; exact ⟨rfl, Or.inr ⟨x, hx, hs, hk, hid, rfl, rfl, rfl⟩⟩
  · rw [h]
    refine ⟨rfl, Or.inl ⟨fun st y hy => ?_, rfl, rfl⟩⟩
    simp only [] at hy
    split at hy
    · unfold setOcc at hy
      split at hy
      · cases hy
      · exact hy
    · exact hy
  · rw [h]; exact ⟨rfl, Or.inl ⟨fun _ _ h => h, rfl, rfl⟩⟩

theorem step_cinv {e : Event} {todo : List Event} {c : Core} (h : CInv cfg (e :: todo) c) :
    CInv cfg todo (step cfg e c).1 := by
  obtain ⟨hh, hshape⟩ := step_shape cfg e c
  rcases hshape with ⟨ho, he, hp⟩ | ⟨x, hx, hs, hk, hid, ho, he, hp⟩
  · -- the processed event moves from `todo` to the end of `event_history`: the pool is the same list
    have hpool : pool todo (step cfg e c).1 = pool (e :: todo) c := by simp [pool, hh, hp]
    exact .ofPool (fun st y hy => h.occ st y (ho st y hy)) (hpool ▸ h.pool_ev) (he ▸ h.evh) (by rw [hpool, he]; exact h.pool_ref)
  · -- a plug-in also seats `x`, enters its id in `ev_history` and queues `unplugEv x`
    have hpool : pool todo (step cfg e c).1 = pool (e :: todo) c ++ [unplugEv x] := by simp [pool, hh, hp]
    have hxid : x.id ∈ cfg.sessions.map (·.id) := List.mem_map.2 ⟨x, hx, rfl⟩
    refine .ofPool ?_ ?_ ?_ ?_
    · intro st y hy
      rw [ho] at hy
      unfold setOcc at hy
      split at hy
      · rename_i hst
        cases hy
        exact ⟨hst ▸ hs, hx⟩
      · exact h.occ st y hy
    · rw [hpool]
      intro d hd
      rcases List.mem_append.1 hd with hd | hd
      · exact h.pool_ev d hd
      · rw [List.mem_singleton.1 hd]; exact fun _ => hxid
    · rw [he]
      intro sid hsid
      rcases List.mem_append.1 hsid with hsid | hsid
      · exact h.evh sid hsid
      · rw [List.mem_singleton.1 hsid]; exact hxid
    · rw [hpool, he]
      exact fun y hy => (h.pool_ref y hy).imp (List.mem_append_left _) fun ⟨d, hd, hr⟩ => ⟨d, List.mem_append_left _ hd, hr⟩

theorem processAll_cinv (todo : List Event) (c : Core) (h : CInv cfg todo c) (hok : (processAll cfg todo c).2 = none) :
    CInv cfg [] (processAll cfg todo c).1 := by
  rw [processAll_eq] at hok ⊢
  exact (Steps.foldE_ends (P := CInv cfg) (Q := fun _ _ => True)
    (fun _ _ _ h => (Steps.ends_any.2 (step_cinv h)).mono (fun _ h => h) fun _ _ _ => trivial) todo c h).ok_of
    (Prod.ext rfl hok)

theorem eventsStage_cinv {c : Core} (h : CInv cfg [] c) (hok : (eventsStage cfg c).2 = none) :
    CInv cfg [] (eventsStage cfg c).1 := by
  unfold eventsStage at hok ⊢
  refine processAll_cinv _ _ (h.congr_pool rfl (fun d => ?_) rfl) hok
  simp only [pool, List.mem_append, List.not_mem_nil, or_false]
  rw [or_assoc, mem_popCurrent]

theorem body_cinv {c : Core} (sched apply : Core → Option Err) (h : CInv cfg [] c)
    (hok : (eventsStage cfg c).2 = none) : CInv cfg [] (EventCore.body cfg sched apply c).1 := by
  have hr := body_rest cfg sched apply (c := c) (Prod.ext rfl hok)
  exact (eventsStage_cinv h hok).congr hr.occ hr.pending hr.eventHist hr.evHist

theorem init_cinv (cfg : EventCore.Cfg) : CInv cfg [] (EventCore.init cfg) := by
  have hpool : pool [] (EventCore.init cfg) = cfg.sessions.map plugEv ++ cfg.recomputes.map recEv := by
    simp [pool, EventCore.init, initPending]
  refine .ofPool (fun st x h => by simp [EventCore.init] at h) ?_ (fun sid h => by simp [EventCore.init] at h) ?_
  · rw [hpool]
    intro e he
    rcases List.mem_append.1 he with he | he
    · obtain ⟨x, hx, rfl⟩ := List.mem_map.1 he
      exact fun _ => List.mem_map.2 ⟨x, hx, rfl⟩
    · obtain ⟨r, _, rfl⟩ := List.mem_map.1 he
      exact fun hk => absurd rfl hk
  · rw [hpool]
    exact fun x hx => Or.inr ⟨plugEv x, List.mem_append_left _ (List.mem_map.2 ⟨x, hx, rfl⟩), by simp [plugEv], rfl⟩

end Acn.RegistrySim
