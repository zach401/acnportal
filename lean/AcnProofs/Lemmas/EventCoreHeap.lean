/-
  CPython's array heap as the event queue of the run loop: `heapQ` meets the queue specification
  (`QOps.Ok`) by the refinement theorems of C11, so everything proved for a conforming queue holds
  for the real heap's tie order.
-/
import AcnProofs.Lemmas.EventCoreQueue
import AcnProofs.Lemmas.QueueRefine

namespace Acn.EventCore
open Acn

/-- the representation invariant of the heap queue: the list is a binary heap in array order -/
def heapGood (q : List Event) : Prop := Heap.Inv Event.keyLt q.toArray

theorem heapQ_ok : heapQ.Ok heapGood where
  build := fun es => by
    have r := Refines.addAll Refines.empty0 es
    refine ⟨?_, ?_⟩
    · simpa [heapQ, QSpec.empty0] using r.perm
    · simpa [heapQ, heapGood] using r.inv
  pop := fun t q hg => by
    have r : Refines { heap := q.toArray, timestep := 0 } { pending := q, timestep := 0 } :=
      ⟨hg, by simp, rfl⟩
    obtain ⟨s', hstep, r'⟩ := r.step (.getCurrent (t : Int))
    simp only [Queue.step] at hstep r'
    cases hstep with
    | cur _ _ q' hcur =>
      exact ⟨q', hcur, by simpa [heapQ] using r'.perm, by simpa [heapQ, heapGood] using r'.inv⟩
  push := fun q e hg => by
    obtain ⟨i1, i2⟩ := Heap.heappush_spec keyLt_swo q.toArray e hg
    refine ⟨?_, by simpa [heapQ, heapGood] using i1⟩
    have := Array.perm_iff_toList_perm.mp i2
    simpa [heapQ] using this

end Acn.EventCore
