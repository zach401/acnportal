/-
  Helper lemmas for C11: the array-heap queue (`Acn.Queue`) refines the specification
  (`Acn.QSpec.Step`) — simulation relation `Refines`, one step, whole runs.
-/
import AcnProofs.Lemmas.QueueSpec

namespace Acn
open QSpec

structure Refines (h : Queue.State) (s : QSpec.State) : Prop where
  inv : Heap.Inv Event.keyLt h.heap
  perm : h.heap.toList.Perm s.pending
  ts : h.timestep = s.timestep

theorem Refines.empty0 : Refines Queue.empty0 QSpec.empty0 :=
  ⟨Heap.Inv.empty, by simp [Queue.empty0, QSpec.empty0], rfl⟩

theorem Refines.add {h s} (r : Refines h s) (e : Event) :
    Refines (Queue.addEvent h e) { s with pending := s.pending ++ [e] } := by
  obtain ⟨i1, i2⟩ := Heap.heappush_spec keyLt_swo h.heap e r.inv
  refine ⟨i1, ?_, r.ts⟩
  have := Array.perm_iff_toList_perm.mp i2
  simp only [Queue.addEvent]
  refine this.trans ?_
  simp only [Array.toList_push]
  exact List.Perm.append_right _ r.perm

theorem Refines.addAll {h s} (r : Refines h s) (es : List Event) :
    Refines (Queue.addEvents h es) { s with pending := s.pending ++ es } := by
  induction es generalizing h s with
  | nil => simpa [Queue.addEvents] using r
  | cons e es ih =>
    have := ih (r.add e)
    simpa [Queue.addEvents, List.append_assoc] using this

theorem Refines.size {h s} (r : Refines h s) : h.heap.size = s.pending.length := by
  rw [← r.perm.length_eq]; simp

theorem Refines.empty_eq {h s} (r : Refines h s) : Queue.empty h = s.pending.isEmpty := by
  simp only [Queue.empty, r.size]
  cases s.pending <;> simp

theorem Refines.get {h s} (r : Refines h s) (hne : 0 < h.heap.size) :
    ∃ e h', Queue.getEvent h = .ok (e, h') ∧ h.heap[0]? = some e ∧ IsMin s.pending e ∧
      Refines h' { s with pending := s.pending.erase e } ∧ h'.heap.size + 1 = h.heap.size := by
  obtain ⟨a', hpop, hinv, hperm⟩ := Heap.heappop_spec keyLt_swo h.heap r.inv hne
  refine ⟨h.heap[0], { h with heap := a' }, by simp [Queue.getEvent, hpop],
    Array.getElem?_eq_getElem hne, ⟨?_, fun x hx => ?_⟩, ⟨hinv, ?_, r.ts⟩, ?_⟩
  · exact r.perm.subset (hperm.symm.subset (by simp))
  · exact r.inv.root_min keyLt_swo hne x (r.perm.symm.subset hx)
  · simpa using ((r.perm.symm.trans hperm).erase h.heap[0]).symm
  · simpa using hperm.length_eq.symm

theorem Refines.get_empty {h s} (r : Refines h s) (h0 : h.heap.size = 0) :
    Queue.getEvent h = .error .indexError ∧ s.pending = [] := by
  refine ⟨by simp [Queue.getEvent, Heap.heappop_empty h.heap h0], ?_⟩
  have := r.size; rw [h0] at this
  exact List.length_eq_zero_iff.mp this.symm

theorem Refines.curLoop (t : Int) : ∀ (fuel : Nat) (h : Queue.State) (q : List Event) (ts : Int)
    (acc : List Event), Refines h ⟨q, ts⟩ → h.heap.size ≤ fuel →
    ∃ es q', Cur t q es q' ∧ (Queue.getCurrentLoop t fuel h acc).2 = acc ++ es ∧
      Refines (Queue.getCurrentLoop t fuel h acc).1 ⟨q', ts⟩ := by
  intro fuel
  induction fuel with
  | zero =>
    intro h q ts acc r hf
    obtain rfl : q = [] := (r.get_empty (Nat.le_zero.mp hf)).2
    exact ⟨[], [], Cur.stopEmpty, (List.append_nil _).symm, r⟩
  | succ fuel ih =>
    intro h q ts acc r hf
    unfold Queue.getCurrentLoop
    by_cases h0 : h.heap.size = 0
    · obtain rfl : q = [] := (r.get_empty h0).2
      have hn : h.heap[0]? = none := Array.getElem?_eq_none (Nat.le_of_eq h0)
      simp only [hn]
      exact ⟨[], [], Cur.stopEmpty, (List.append_nil _).symm, r⟩
    · obtain ⟨e, h', hget, hroot, hmin, r', hsz⟩ := r.get (Nat.pos_of_ne_zero h0)
      simp only [hroot]
      by_cases hle : e.ts ≤ t
      · simp only [if_pos hle, hget]
        obtain ⟨es, q', hcur, hacc, hr⟩ := ih h' _ ts (acc ++ [e]) r' (by omega)
        exact ⟨e :: es, q', Cur.pop hmin hle hcur, by rw [hacc, List.append_assoc]; rfl, hr⟩
      · simp only [if_neg hle]
        exact ⟨[], q, Cur.stopLater hmin (lt_of_not_ge hle), (List.append_nil _).symm, r⟩

theorem Refines.step {h s} (r : Refines h s) (op : QOp) :
    ∃ s', Step s op (Queue.step h op).2 s' ∧ Refines (Queue.step h op).1 s' := by
  cases op with
  | add e => exact ⟨_, Step.add s e, r.add e⟩
  | addAll es => exact ⟨_, Step.addAll s es, r.addAll es⟩
  | getEvent =>
    by_cases h0 : h.heap.size = 0
    · obtain ⟨h1, h2⟩ := r.get_empty h0
      simp only [Queue.step, h1]
      exact ⟨s, Step.getEmpty s h2, r⟩
    · obtain ⟨e, h', hget, _, hmin, r', _⟩ := r.get (by omega)
      simp only [Queue.step, hget]
      exact ⟨_, Step.get s e hmin, r'⟩
  | getCurrent t =>
    obtain ⟨es, q', hcur, hacc, hr⟩ := Refines.curLoop t h.heap.size { h with timestep := t }
      s.pending t [] ⟨r.inv, r.perm, rfl⟩ le_rfl
    simp only [Queue.step, Queue.getCurrent]
    simp only [List.nil_append] at hacc
    rw [hacc]
    exact ⟨_, Step.cur s t es q' hcur, hr⟩
  | len =>
    simp only [Queue.step, Queue.len, r.size]
    exact ⟨s, Step.len s, r⟩
  | empty =>
    simp only [Queue.step, r.empty_eq]
    exact ⟨s, Step.empty s, r⟩
  | last =>
    simp only [Queue.step, Queue.lastTimestamp, lastTsList_perm r.perm]
    exact ⟨s, Step.last s, r⟩
  | roundtrip =>
    simp only [Queue.step, Queue.toJson, Queue.fromJson, fromWire_toWire, r.ts]
    exact ⟨s, Step.roundtrip s _ (by rw [fromWire_toWire]; exact r.perm) (toWire_ts _),
      r.inv, r.perm, r.ts.symm ▸ rfl⟩

theorem Refines.run {h s} (r : Refines h s) (ops : List QOp) :
    ∃ s', Run s (Queue.run h ops).2 s' ∧ Refines (Queue.run h ops).1 s' := by
  induction ops generalizing h s with
  | nil => exact ⟨s, Run.nil s, r⟩
  | cons op ops ih =>
    obtain ⟨s1, hstep, r1⟩ := r.step op
    obtain ⟨s2, hrun, r2⟩ := ih r1
    exact ⟨s2, Run.cons hstep hrun, r2⟩

theorem Queue.run_ops (h : Queue.State) (ops : List QOp) :
    (Queue.run h ops).2.map Prod.fst = ops := by
  induction ops generalizing h with
  | nil => rfl
  | cons op ops ih => simp [Queue.run, ih]

end Acn
