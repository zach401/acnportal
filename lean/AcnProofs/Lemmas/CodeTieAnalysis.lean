/-
  T1c — the hand-written numeric kernels ARE the code, by proof (Analysis group, property C18).

  `AcnModel/Gen/CodeAnalysis.lean` is regenerated on every run from the Python ASTs of /repo's working
  tree (harness/translate_code.py).  Translated: the four energy metrics of
  `acnportal/acnsim/analysis/__init__.py` — `total_energy_delivered`, `total_energy_requested`,
  `proportion_of_energy_delivered`, `proportion_of_demands_met` — with `sim.ev_history.values()` read as
  the list `evs` of (requested, delivered) pairs of `AcnModel/Analysis.lean`: `sum(e for ev in …)` is
  `sumK` of the mapped list, `sum(1 for ev in … if c)` and `len(…)` are the `Nat` lengths (cast exactly
  into the carrier where Python converts the `int`), `ev.remaining_demand` is inlined from the property
  in `models/ev.py`, a call of another translated function of the module is a call of its translation.

  Each equals the function `C18.energy_metrics_def` is about.  Python raises `ZeroDivisionError` where
  the two proportions divide by a zero total / an empty history; the model reports `.zeroDivision` there,
  so those two ties carry the model's own non-error condition as a hypothesis.
-/
import AcnModel.Gen.CodeAnalysis
import AcnModel.Analysis

set_option linter.unusedSectionVars false

namespace Acn.CodeTie
open Acn Acn.Analysis

section
variable {K : Type} [Add K] [Sub K] [Mul K] [Div K] [Neg K] [LT K] [LE K]
  [DecidableLT K] [DecidableLE K] [OfNat K 0] [OfNat K 1] [NatCast K] [HasExp K]

/-- `total_energy_delivered(sim)` is `Analysis.totalDelivered` -/
theorem an_total_delivered_tie (evs : List (Ev K)) :
    Gen.Code.an_total_delivered evs = totalDelivered evs := rfl

/-- `total_energy_requested(sim)` is `Analysis.totalRequested` -/
theorem an_total_requested_tie (evs : List (Ev K)) :
    Gen.Code.an_total_requested evs = totalRequested evs := rfl

/-- `proportion_of_energy_delivered(sim)` is `Analysis.proportionDelivered` wherever the model does not
    report the division by a zero total -/
theorem an_proportion_delivered_tie (evs : List (Ev K)) (h : isZero (totalRequested evs) = false) :
    proportionDelivered evs = .ok (Gen.Code.an_proportion_delivered evs) := by
  unfold proportionDelivered
  rw [h]
  rfl

/-- … and the model reports `.zeroDivision` exactly when the translated divisor is zero -/
theorem an_proportion_delivered_error (evs : List (Ev K)) (h : isZero (Gen.Code.an_total_requested evs) = true) :
    proportionDelivered evs = .error .zeroDivision := by
  unfold proportionDelivered
  rw [← an_total_requested_tie, h]
  rfl

/-- `proportion_of_demands_met(sim, threshold)` is `Analysis.demandsMet` for a non-empty history
    (strict `<` on `requested − delivered`, counted, over the number of sessions) -/
theorem an_demands_met_tie (evs : List (Ev K)) (thr : K) (h : evs.isEmpty = false) :
    demandsMet evs thr = .ok (Gen.Code.an_demands_met evs thr) := by
  unfold demandsMet
  rw [h]
  rfl

end

/-- every target of this group was translated in this run -/
theorem all_translated_analysis : Gen.Code.translatedAnalysis
    = ["an_total_delivered", "an_total_requested", "an_proportion_delivered", "an_demands_met"] := rfl

end Acn.CodeTie
