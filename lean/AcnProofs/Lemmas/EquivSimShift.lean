/-
  Helper lemmas for C10 (Sim level, shift): the stages of the simulator under a time shift of `k` periods,
  from any pair of related states (one trip round the loop and whole runs: EquivSimShiftRun).  `ShEquiv k V pre s s'`: the core of `s'` is the core of `s` with
  every timestamp moved by `k` (and a prefix `V` of earlier scheduler invocations), the pilot / rate
  matrices have `k` extra columns in front, the EV records carry shifted arrival / departure, the
  occupancy log has the `pre` rows of the idle prefix in front; everything else is equal.
-/
import AcnProofs.Lemmas.EquivSimPilots
import AcnProofs.Lemmas.EquivShift
import AcnProofs.Lemmas.SimStages2

set_option linter.unusedSectionVars false

namespace Acn.SimShift
open Acn.Sim Acn.EventCore Acn.Evse Acn.SimEquiv Acn.Pilots Acn.Steps

theorem foldl_max_shift (k : Nat) (es : List Event) (a : Int) :
    (es.map (shiftEv k)).foldl (fun m d => max m d.ts) (a + k) = es.foldl (fun m d => max m d.ts) a + k := by
  rw [List.foldl_map]
  exact List.foldl_hom (· + (k : Int)) fun m d => by simp only [shiftEv]; omega

theorem lastTs_shift (k : Nat) (p : List Event) : lastTs (p.map (shiftEv k)) = (lastTs p).map (· + (k : Int)) := by
  cases p with
  | nil => rfl
  | cons e es =>
    simp only [lastTs, List.map_cons, Option.map_some]
    exact congrArg some (foldl_max_shift k es e.ts)

def PendNonneg (c : Core) : Prop := ∀ e ∈ c.pending, 0 ≤ e.ts

theorem lastTsNat_shift (k : Nat) {p : List Event} (h : ∀ e ∈ p, 0 ≤ e.ts) :
    (lastTs (p.map (shiftEv k))).map Int.toNat = ((lastTs p).map Int.toNat).map (· + k) := by
  rw [lastTs_shift]
  cases hl : lastTs p with
  | none => rfl
  | some l =>
    have := lastTs_nonneg h hl
    simp only [Option.map_some]
    congr 1
    omega

variable {K : Type} [Field K] [LinearOrder K] [IsStrictOrderedRing K] [HasExp K]

def shiftEvK (k : Nat) (e : Ev K) : Ev K :=
  { e with arrival := e.arrival + k, departure := e.departure + k, estDeparture := e.estDeparture + k }

def shiftCfgS (k : Nat) (cfg : Cfg K) : Cfg K :=
  { cfg with evs := cfg.evs.map (shiftEvK k),
             recomputes := cfg.recomputes.map (fun r => (r.1 + (k : Int), r.2)) }

theorem shiftCfgS_core (k : Nat) (cfg : Cfg K) : (shiftCfgS k cfg).core = shiftCfg k cfg.core := by
  simp only [Cfg.core, shiftCfgS, shiftCfg, List.map_map]
  rfl

structure ShEquiv (k : Nat) (V : List Nat) (pre : List (List (Option String))) (s s' : State K) : Prop where
  core : s'.core = sh k V s.core
  pilots : s'.pilots = shiftMat k s.pilots
  rates : s'.rates = shiftMat k s.rates
  peak : s'.peak = s.peak
  evs : s'.evs = s.evs.map (shiftEvK k)
  evsePilot : s'.evsePilot = s.evsePilot
  noiseIdx : s'.noiseIdx = s.noiseIdx
  occLog : s'.occLog = pre ++ s.occLog

section
variable {k : Nat} {V : List Nat} {pre : List (List (Option String))} {cfg : Cfg K}

theorem stepEv_shift (e : Event) {s s' : State K} (he : ShEquiv k V pre s s') :
    Out (ShEquiv k V pre) (sep (ShEquiv k V pre) Eq) (stepEv cfg e s) (stepEv (shiftCfgS k cfg) (shiftEv k e) s') := by
  unfold stepEv
  simp only [shiftCfgS_core, he.core, step_sh, findSession_shift]
  refine .of_eq rfl ⟨rfl, he.pilots, he.rates, he.peak, he.evs, ?_, he.noiseIdx, he.occLog⟩
  simp only
  have hk : (shiftEv k e).kind = e.kind := rfl
  have hs : (shiftEv k e).sess = e.sess := rfl
  rw [hk, hs, he.evsePilot]
  cases e.kind with
  | plugin => rfl
  | recompute => rfl
  | unplug =>
    cases (EventCore.step cfg.core e s.core).2 with
    | some err => rfl
    | none =>
      cases findSession cfg.core e.sess with
      | none => rfl
      | some x =>
        simp only [Option.map_some, unplugHits_sh]
        rfl

theorem eventsStage_shift_sim {s s' : State K} (he : ShEquiv k V pre s s') :
    Out (ShEquiv k V pre) (sep (ShEquiv k V pre) Eq) (Sim.eventsStage cfg s) (Sim.eventsStage (shiftCfgS k cfg) s') := by
  unfold Sim.eventsStage
  rw [he.core, sh_iter, sh_pending, popCurrent_shift]
  exact processAll_out (shiftEv k) (fun e _ _ hm => stepEv_shift e hm) _ _ _
    ⟨rfl, he.pilots, he.rates, he.peak, he.evs, he.evsePilot, he.noiseIdx, he.occLog⟩

theorem occ_sh (c : Core) (st : String) : (sh k V c).occ st = (c.occ st).map (shiftSession k) := rfl

theorem evOf_shift {s s' : State K} (he : ShEquiv k V pre s s') (id : String) :
    evOf s' id = (evOf s id).map (shiftEvK k) := by
  unfold evOf
  rw [he.evs, List.find?_map]
  rfl

theorem occupantEv_shift {s s' : State K} (he : ShEquiv k V pre s s') (st : String) :
    occupantEv s' st = (occupantEv s st).map (shiftEvK k) := by
  unfold occupantEv
  rw [he.core, occ_sh]
  cases s.core.occ st with
  | none => rfl
  | some x => exact evOf_shift he x.id

theorem activeEvs_shift {s s' : State K} (he : ShEquiv k V pre s s') :
    activeEvs (shiftCfgS k cfg) s' = (activeEvs cfg s).map (shiftEvK k) := by
  unfold activeEvs
  rw [List.map_filterMap]
  apply List.filterMap_congr
  intro st _
  rw [occupantEv_shift he]
  cases occupantEv s st.id with
  | none => rfl
  | some e =>
    simp only [Option.map_some]
    have : isActive (shiftCfgS k cfg) (shiftEvK k e) = isActive cfg e := rfl
    rw [this]
    split <;> rfl

/-- two views of the same situation `k` periods apart.  `lastPilots` is NOT related: the interface
    hands out no applied pilots while `iteration - 1 ≤ 0` (DESIGN §8), so the relation is for
    schedulers that do not read `last_applied_pilot_signals`. -/
structure ViewShift (k : Nat) (v v' : View K) : Prop where
  iter : v'.iter = v.iter + k
  active : v'.active = v.active.map (shiftEvK k)
  peak : v'.peak = v.peak
  evsePilot : v'.evsePilot = v.evsePilot
  connected : v'.connected = v.connected

/-- a pair of scheduler parameters that depend on the view through RELATIVE time only -/
def SchedShiftInvariant (k : Nat) (sched sched' : View K → Except EventCore.Err (Schedule K)) : Prop :=
  ∀ v v', ViewShift k v v' → sched' v' = sched v

theorem view_shift {s s' : State K} (he : ShEquiv k V pre s s') :
    ViewShift k (view cfg s) (view (shiftCfgS k cfg) s') := by
  refine ⟨?_, activeEvs_shift he, he.peak, he.evsePilot, ?_⟩
  · simp only [view, he.core, sh_iter]
  · simp only [view, he.core, occ_sh, shiftCfgS]
    apply List.map_congr_left
    intro st _
    cases s.core.occ st.id <;> rfl

theorem schedStage_shift {sched sched' : View K → Except EventCore.Err (Schedule K)}
    (hsch : SchedShiftInvariant k sched sched') {s s' : State K} (he : ShEquiv k V pre s s')
    (hp : PendNonneg s.core) :
    schedStage (shiftCfgS k cfg) sched' s' = (schedStage cfg sched s).map (shiftMat k) := by
  unfold schedStage
  rw [activeEvs_shift he, hsch _ _ (view_shift (cfg := cfg) he), he.pilots, he.core, sh_iter, sh_pending,
    lastTsNat_shift k hp]
  have hany : ((activeEvs cfg s).map (shiftEvK k)).any (fun e => !sessionInfoOk e) =
      (activeEvs cfg s).any (fun e => !sessionInfoOk e) := by
    rw [List.any_map]
    congr 1
    funext e
    simp [sessionInfoOk, shiftEvK]
  rw [hany]
  have hst : (shiftCfgS k cfg).stations = cfg.stations := rfl
  rw [hst]
  by_cases ha : (activeEvs cfg s).any (fun e => !sessionInfoOk e) = true
  · simp [ha, Except.map]
  · simp only [ha, Bool.false_eq_true, if_false]
    cases sched (view cfg s) with
    | error e => rfl
    | ok sch =>
      simp only
      rw [updateSchedules_shift']
      cases updateSchedules (cfg.stations.map (·.id)) s.pilots s.core.iter ((lastTs s.core.pending).map Int.toNat) sch with
      | error e => rfl
      | ok m => rfl

theorem get_shiftMat (m : Mat K) (i t : Nat) : (shiftMat k m).get i (t + k) = m.get i t := by
  unfold Mat.get shiftMat
  simp only [List.getD_eq_getElem?_getD, List.getElem?_map]
  cases m.rows[i]? with
  | none => simp
  | some row =>
    simp only [Option.map_some, Option.getD_some]
    rw [List.getElem?_append_right (by simp)]
    simp

theorem charge_shift (e : Ev K) (p V' T ν : K) :
    (shiftEvK k e).charge p V' T ν = (e.charge p V' T ν).map (shiftEvK k) := by
  unfold Ev.charge
  have : (shiftEvK k e).batt = e.batt := rfl
  rw [this]
  cases Battery.charge e.batt p V' T ν with
  | error x => rfl
  | ok br => rfl

def shU (k : Nat) (u : Option (Ev K × Bool)) : Option (Ev K × Bool) := u.map (fun q => (shiftEvK k q.1, q.2))

theorem plan_shift (st : Station K) (p : K) (o : Option (Ev K)) (ν : K) :
    plan (shiftCfgS k cfg) st p (o.map (shiftEvK k)) ν = (plan cfg st p o ν).map (shU k) := by
  have hpl : ∀ o', plan (shiftCfgS k cfg) st p o' ν = plan cfg st p o' ν := fun _ => rfl
  rw [hpl]
  unfold plan
  split
  · cases o with
    | none => rfl
    | some e =>
      simp only [Option.map_some, charge_shift]
      cases e.charge p st.voltage cfg.period ν with
      | error x => rfl
      | ok e' => rfl
  · rfl

theorem replaceEv_shift (evs : List (Ev K)) (e : Ev K) :
    replaceEv (evs.map (shiftEvK k)) (shiftEvK k e) = (replaceEv evs e).map (shiftEvK k) := by
  unfold replaceEv
  rw [List.map_map, List.map_map]
  apply List.map_congr_left
  intro d _
  simp only [Function.comp]
  have h1 : (shiftEvK k d).session = d.session := rfl
  have h2 : (shiftEvK k e).session = e.session := rfl
  rw [h1, h2]
  split <;> rfl

theorem eff_shift {s s' : State K} (he : ShEquiv k V pre s s') (i : Nat) (p : K) (u : Option (Ev K × Bool)) :
    ShEquiv k V pre (eff s i p u) (eff s' i p (shU k u)) := by
  refine ⟨he.core, he.pilots, he.rates, he.peak, ?_, ?_, ?_, he.occLog⟩
  · simp only [eff, he.evs]
    cases u with
    | none => rfl
    | some q => obtain ⟨e', b⟩ := q; exact replaceEv_shift s.evs e'
  · simp only [eff, he.evsePilot]
  · simp only [eff, he.noiseIdx]
    cases u with
    | none => rfl
    | some q => obtain ⟨e', b⟩ := q; rfl

theorem setPilotAt_shift {s s' : State K} (he : ShEquiv k V pre s s') (i : Nat) (st : Station K) :
    Out (ShEquiv k V pre) (sep (ShEquiv k V pre) Eq) (setPilotAt cfg s i st) (setPilotAt (shiftCfgS k cfg) s' i st) := by
  rw [setPilotAt_plan, setPilotAt_plan]
  have hnz : ∀ j, noiseAt (shiftCfgS k cfg) j = noiseAt cfg j := fun _ => rfl
  rw [hnz, he.pilots, he.core, sh_iter, get_shiftMat, occupantEv_shift he, he.noiseIdx, plan_shift]
  cases plan cfg st (s.pilots.get i s.core.iter) (occupantEv s st.id) (noiseAt cfg s.noiseIdx) with
  | error e => exact .err ⟨rfl, he⟩
  | ok u => exact .ok (eff_shift he i _ u)

theorem writeCol_shift (m : Mat K) (t : Nat) (col : List K) :
    writeCol (shiftMat k m) (t + k) col = shiftMat k (writeCol m t col) := by
  rw [Ledger.writeCol_eq, Ledger.writeCol_eq, writeBlock_shift]

theorem currentRates_shift {s s' : State K} (he : ShEquiv k V pre s s') :
    currentRates (shiftCfgS k cfg) s' = currentRates cfg s := by
  unfold currentRates
  apply List.map_congr_left
  intro st _
  rw [occupantEv_shift he]
  cases occupantEv s st.id <;> rfl

theorem storeRates_shift (w : Nat) {s s' : State K} (he : ShEquiv k V pre s s') :
    Out (ShEquiv k V pre) (sep (ShEquiv k V pre) Eq) (storeRates cfg w s) (storeRates (shiftCfgS k cfg) (w + k) s') := by
  have hi : s'.core.iter = s.core.iter + k := by rw [he.core, sh_iter]
  have hr : ratesFor (w + k) s' = shiftMat k (ratesFor w s) := by
    unfold ratesFor
    rw [hi, he.rates, increaseWidth_shift, show (shiftMat k s.rates).width = s.rates.width + k from rfl]
    by_cases h1 : s.core.iter < s.rates.width
    · rw [if_pos h1, if_pos (by omega)]
    · rw [if_neg h1, if_neg (by omega)]
  have hw' : s'.core.iter < (ratesFor (w + k) s').width ↔ s.core.iter < (ratesFor w s).width := by
    rw [hr, hi, show (shiftMat k (ratesFor w s)).width = (ratesFor w s).width + k from rfl]
    omega
  by_cases hw : s.core.iter < (ratesFor w s).width
  · rw [storeRates_stored hw, storeRates_stored (hw'.2 hw), currentRates_shift he, hr, hi, he.peak]
    exact .ok ⟨he.core, he.pilots, writeCol_shift _ _ _, rfl, he.evs, he.evsePilot, he.noiseIdx, he.occLog⟩
  · rw [storeRates_noColumn hw, storeRates_noColumn (mt hw'.1 hw), hr]
    exact .err ⟨rfl, he.core, he.pilots, rfl, he.peak, he.evs, he.evsePilot, he.noiseIdx, he.occLog⟩

theorem widthInc_shift {s s' : State K} (he : ShEquiv k V pre s s') (hp : PendNonneg s.core) :
    widthInc s' = widthInc s + k := by
  unfold widthInc
  rw [he.core, sh_pending, sh_iter, lastTs_shift]
  cases hl : lastTs s.core.pending with
  | none => simp only [Option.map_none]; omega
  | some l =>
    have := lastTs_nonneg hp hl
    simp only [Option.map_some]
    omega

end
end Acn.SimShift
