/-
  C04: schedules (validation, densify), the step lemma of `_update_schedules` (`submit_get`), and the overlay
  induction (`foldl_submit_get`).
-/
import AcnProofs.Lemmas.Pilots
import AcnProofs.Lemmas.Basic
import AcnProofs.Lemmas.Assoc

set_option linter.unusedSectionVars false

namespace Acn.Pilots
variable {K : Type} [OfNat K 0]

theorem ragged_false_iff (sched : Sched K) :
    ragged sched = false ↔ ∀ p ∈ sched, p.2.length = schedLen sched := by
  cases sched with
  | nil => simp [ragged]
  | cons p rest =>
    obtain ⟨k, r⟩ := p
    simp only [ragged, schedLen, List.any_eq_false, List.mem_cons, forall_eq_or_imp, true_and]
    constructor
    · intro h q hq; simpa using h q hq
    · intro h q hq; simpa using h q hq

theorem unknownStation_false_iff (stations : List String) (sched : Sched K) :
    unknownStation stations sched = false ↔ ∀ p ∈ sched, p.1 ∈ stations := by
  simp [unknownStation, List.any_eq_false]

theorem accepted_iff (stations : List String) (sched : Sched K) :
    accepted stations sched = true ↔
      sched ≠ [] ∧ (∀ p ∈ sched, p.1 ∈ stations) ∧ ∀ p ∈ sched, p.2.length = schedLen sched := by
  rw [← ragged_false_iff, ← unknownStation_false_iff]
  cases sched <;> simp [accepted]

/-- the matrix `_update_schedules` writes the block into: the old one, grown first if the block does not fit -/
def grown (m : Mat K) (t : Nat) (lastTs : Option Nat) (len : Nat) : Mat K :=
  if t + len ≤ m.width then m else increaseWidth m (growTarget t lastTs len)

theorem updateSchedules_cons (stations : List String) (m : Mat K) (t : Nat) (lastTs : Option Nat)
    (sched : Sched K) (hne : sched ≠ []) :
    updateSchedules stations m t lastTs sched =
      if unknownStation stations sched then .error .keyError
      else if ragged sched then .error .invalidSchedule
      else .ok (writeBlock (grown m t lastTs (schedLen sched)) t (densify stations sched (schedLen sched))) := by
  cases sched with
  | nil => exact absurd rfl hne
  | cons p rest => rfl

theorem updateSchedules_accepted (stations : List String) (m : Mat K) (t : Nat) (lastTs : Option Nat)
    (sched : Sched K) (h : accepted stations sched = true) :
    updateSchedules stations m t lastTs sched =
      .ok (writeBlock (grown m t lastTs (schedLen sched)) t (densify stations sched (schedLen sched))) := by
  have hne : sched ≠ [] := ((accepted_iff _ _).1 h).1
  rw [updateSchedules_cons _ _ _ _ _ hne]
  have h1 : unknownStation stations sched = false :=
    (unknownStation_false_iff _ _).2 ((accepted_iff _ _).1 h).2.1
  have h2 : ragged sched = false := (ragged_false_iff _).2 ((accepted_iff _ _).1 h).2.2
  simp [h1, h2]

theorem submit_not_accepted (stations : List String) (m : Mat K) (s : Submission K)
    (h : accepted stations s.sched = false) : submit stations m s = m := by
  unfold submit
  by_cases hne : s.sched = []
  · rw [hne]; rfl
  · rw [updateSchedules_cons _ _ _ _ _ hne]
    by_cases h1 : unknownStation stations s.sched = true
    · simp [h1]
    · by_cases h2 : ragged s.sched = true
      · simp [h1, h2]
      · exfalso
        have : accepted stations s.sched = true := by
          cases hs : s.sched with
          | nil => exact absurd hs hne
          | cons p rest => rw [hs] at h1 h2; simp [accepted, h1, h2]
        rw [this] at h; cases h

theorem le_growTarget (t : Nat) (lastTs : Option Nat) (len : Nat) :
    t + len ≤ growTarget t lastTs len := Nat.le_max_right _ _

theorem grown_rows_length (m : Mat K) (t : Nat) (lastTs : Option Nat) (len : Nat) :
    (grown m t lastTs len).rows.length = m.rows.length := by
  unfold grown
  split
  · rfl
  · exact increaseWidth_rows_length _ _

theorem grown_spec {n : Nat} {m : Mat K} (h : m.WF n) (t : Nat) (lastTs : Option Nat) (len : Nat) :
    (grown m t lastTs len).WF n ∧ t + len ≤ (grown m t lastTs len).width ∧ m.width ≤ (grown m t lastTs len).width ∧
      ∀ i τ, (grown m t lastTs len).get i τ = m.get i τ := by
  unfold grown
  split
  · exact ⟨h, by assumption, le_refl _, fun _ _ => rfl⟩
  · refine ⟨increaseWidth_wf h _, ?_, ?_, fun i τ => increaseWidth_get' _ _ _ _⟩
    · rw [increaseWidth_width]
      exact le_trans (le_growTarget _ _ _) (le_max_right _ _)
    · rw [increaseWidth_width]
      exact le_max_left _ _

theorem densify_length (stations : List String) (sched : Sched K) (len : Nat) :
    (densify stations sched len).length = stations.length := by
  simp [densify]

theorem densify_rows_len (stations : List String) (sched : Sched K)
    (h : ragged sched = false) :
    ∀ b ∈ densify stations sched (schedLen sched), b.length = schedLen sched := by
  intro b hb
  simp only [densify, List.mem_map] at hb
  obtain ⟨st, -, rfl⟩ := hb
  cases hl : sched.lookup st with
  | none => simp
  | some row => exact (ragged_false_iff sched).1 h _ (Assoc.mem_of_lookup hl)

theorem densify_getD (stations : List String) (sched : Sched K) (len : Nat) (st : String) (k : Nat) :
    ((densify stations sched len).getD (stations.idxOf st) []).getD k 0 =
      if st ∈ stations then
        (match sched.lookup st with
         | some row => row.getD k 0
         | none => 0)
      else 0 := by
  by_cases hs : st ∈ stations
  · have hi : stations.idxOf st < stations.length := List.idxOf_lt_length_iff.2 hs
    have e : (densify stations sched len).getD (stations.idxOf st) [] =
        (match sched.lookup st with | some row => row | none => List.replicate len 0) := by
      simp only [densify, List.getD_eq_getElem?_getD, List.getElem?_map,
        List.getElem?_eq_getElem hi, List.getElem_idxOf hi, Option.map_some, Option.getD_some]
      rfl
    rw [e, if_pos hs]
    cases sched.lookup st with
    | none =>
      simp only [List.getD_eq_getElem?_getD, List.getElem?_replicate]
      by_cases hk : k < len <;> simp [hk]
    | some row => rfl
  · have hi : stations.idxOf st = stations.length := List.idxOf_eq_length_iff.2 hs
    have e : (densify stations sched len).getD (stations.idxOf st) [] = [] := by
      simp [densify, List.getD_eq_getElem?_getD, hi]
    rw [e, if_neg hs]
    simp

theorem submit_wf {stations : List String} {m : Mat K} (h : m.WF stations.length)
    (s : Submission K) : (submit stations m s).WF stations.length := by
  by_cases ha : accepted stations s.sched = true
  · unfold submit
    rw [updateSchedules_accepted _ _ _ _ _ ha]
    have hr : ragged s.sched = false := (ragged_false_iff _).2 ((accepted_iff _ _).1 ha).2.2
    obtain ⟨hwf, hwid, -, -⟩ := grown_spec h s.t s.lastTs (schedLen s.sched)
    exact writeBlock_wf hwf _ (schedLen s.sched) _ (densify_length _ _ _) (densify_rows_len _ _ hr) hwid
  · rw [submit_not_accepted _ _ _ (by simpa using ha)]
    exact h

theorem updateSchedules_wf {stations : List String} {m m' : Mat K} (h : m.WF stations.length)
    (t : Nat) (lastTs : Option Nat) (sched : Sched K)
    (hu : updateSchedules stations m t lastTs sched = .ok m') : m'.WF stations.length := by
  have := submit_wf h ⟨t, lastTs, sched⟩
  simpa [submit, hu] using this

theorem submit_get_row {stations : List String} {m : Mat K} (h : m.WF stations.length)
    (s : Submission K) (i τ : Nat) :
    (submit stations m s).get i τ =
      if covers stations s τ then ((densify stations s.sched (schedLen s.sched)).getD i []).getD (τ - s.t) 0
      else m.get i τ := by
  by_cases ha : accepted stations s.sched = true
  · have hr : ragged s.sched = false := (ragged_false_iff _).2 ((accepted_iff _ _).1 ha).2.2
    unfold submit
    rw [updateSchedules_accepted _ _ _ _ _ ha]
    obtain ⟨hwf, hwid, -, hget⟩ := grown_spec h s.t s.lastTs (schedLen s.sched)
    rw [writeBlock_get' hwf _ (schedLen s.sched) _ (densify_length _ _ _) (densify_rows_len _ _ hr) hwid, hget]
    simp [covers, ha]
  · have ha' : accepted stations s.sched = false := by simpa using ha
    rw [submit_not_accepted _ _ _ ha']
    simp [covers, ha']

theorem submit_get {stations : List String} {m : Mat K} (h : m.WF stations.length)
    (s : Submission K) (st : String) (τ : Nat) :
    (submit stations m s).get (stations.idxOf st) τ =
      if covers stations s τ then valueOf s st τ else m.get (stations.idxOf st) τ := by
  rw [submit_get_row h, densify_getD]
  split
  · rename_i hc
    -- an accepted schedule names registered stations only
    have hacc := (accepted_iff stations s.sched).1 (by simp only [covers, Bool.and_eq_true] at hc; exact hc.1.1)
    unfold valueOf
    by_cases hs : st ∈ stations
    · rw [if_pos hs]; rfl
    · rw [if_neg hs, (Assoc.lookup_eq_none s.sched st).2]
      intro hm
      obtain ⟨p, hp, e⟩ := List.mem_map.1 hm
      exact hs (e ▸ hacc.2.1 p hp)
  · rfl

theorem pilotFrom_nil (stations : List String) (base : K) (st : String) (τ : Nat) :
    pilotFrom stations base [] st τ = base := rfl

theorem pilotFrom_cons (stations : List String) (base : K) (s : Submission K)
    (rest : List (Submission K)) (st : String) (τ : Nat) :
    pilotFrom stations base (s :: rest) st τ =
      pilotFrom stations (if covers stations s τ then valueOf s st τ else base) rest st τ := by
  unfold pilotFrom
  rw [List.reverse_cons, List.find?_append]
  cases rest.reverse.find? (fun s => covers stations s τ) with
  | some x => rfl
  | none =>
    by_cases hc : covers stations s τ = true
    · simp [hc]
    · simp [hc]

theorem pilotFrom_append (stations : List String) (base : K) (a b : List (Submission K))
    (st : String) (τ : Nat) :
    pilotFrom stations base (a ++ b) st τ = pilotFrom stations (pilotFrom stations base a st τ) b st τ := by
  induction a generalizing base with
  | nil => rfl
  | cons s rest ih => rw [List.cons_append, pilotFrom_cons, pilotFrom_cons, ih]

theorem pilotFrom_uncovered (stations : List String) (base : K) (subs : List (Submission K)) (st : String) (τ : Nat)
    (ha : ∀ x ∈ subs, covers stations x τ = false) : pilotFrom stations base subs st τ = base := by
  induction subs with
  | nil => rfl
  | cons x rest ih =>
    rw [pilotFrom_cons, ha x (List.mem_cons_self ..)]
    exact ih fun y hy => ha y (List.mem_cons_of_mem _ hy)

theorem pilotFrom_append_singleton (stations : List String) (base : K) (s : Submission K)
    (subs : List (Submission K)) (st : String) (τ : Nat) :
    pilotFrom stations base (subs ++ [s]) st τ =
      if covers stations s τ then valueOf s st τ else pilotFrom stations base subs st τ := by
  rw [pilotFrom_append, pilotFrom_cons]
  rfl

theorem foldl_submit_wf {stations : List String} (subs : List (Submission K)) {m : Mat K}
    (h : m.WF stations.length) : (subs.foldl (submit stations) m).WF stations.length := by
  induction subs generalizing m with
  | nil => exact h
  | cons s rest ih => exact ih (submit_wf h s)

theorem foldl_submit_get {stations : List String} (subs : List (Submission K)) {m : Mat K}
    (h : m.WF stations.length) (st : String) (τ : Nat) :
    (subs.foldl (submit stations) m).get (stations.idxOf st) τ =
      pilotFrom stations (m.get (stations.idxOf st) τ) subs st τ := by
  induction subs generalizing m with
  | nil => rfl
  | cons s rest ih =>
    rw [List.foldl_cons, ih (submit_wf h s), pilotFrom_cons, submit_get h]

end Acn.Pilots
