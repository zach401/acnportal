/-
  Helper lemmas for C10: the pilot matrix under a permutation of the station order
  (`_update_schedules` densifies in station order and writes row `i` for station number `i`) and
  under a time shift (`k` zero columns in front).
-/
import AcnModel.Pilots
import AcnProofs.Lemmas.EquivPerm
import AcnProofs.Lemmas.PilotsSched

namespace Acn.Pilots

set_option linter.unusedSectionVars false

variable {K : Type} [OfNat K 0]

def Mat.reidx (σ : List Nat) (m : Mat K) : Mat K := ⟨Acn.reidx σ m.rows [], m.width⟩

theorem densify_reidx (σ : List Nat) (stations : List String) (sched : Sched K) (len : Nat)
    (h : ∀ i ∈ σ, i < stations.length) :
    densify (Acn.reidx σ stations "") sched len = Acn.reidx σ (densify stations sched len) [] :=
  (SimEquiv.reidx_map _ σ stations "" [] h).symm

theorem increaseWidth_reidx (σ : List Nat) (m : Mat K) (target : Nat) (h : ∀ i ∈ σ, i < m.rows.length) :
    increaseWidth (m.reidx σ) target = (increaseWidth m target).reidx σ := by
  unfold increaseWidth
  by_cases hw : target ≤ m.width
  · simp [Mat.reidx, hw]
  · simp only [Mat.reidx, hw, if_false]
    rw [SimEquiv.reidx_map _ σ m.rows [] [] h]

theorem writeBlock_reidx (σ : List Nat) (m : Mat K) (t : Nat) (dense : List (List K))
    (h : ∀ i ∈ σ, i < m.rows.length) (hd : ∀ i ∈ σ, i < dense.length) :
    writeBlock (m.reidx σ) t (Acn.reidx σ dense []) = (writeBlock m t dense).reidx σ := by
  unfold writeBlock Mat.reidx
  rw [SimEquiv.reidx_zipWith _ σ m.rows dense [] [] [] h hd]

theorem unknownStation_stations_perm {stations stations' : List String} (hp : stations'.Perm stations) (sched : Sched K) :
    unknownStation stations' sched = unknownStation stations sched := by
  unfold unknownStation
  congr 1
  funext p
  congr 1
  rw [Bool.eq_iff_iff]
  simp only [List.contains_iff_mem]
  exact hp.mem_iff

theorem grown_reidx (σ : List Nat) (m : Mat K) (t : Nat) (lastTs : Option Nat) (len : Nat)
    (h : ∀ i ∈ σ, i < m.rows.length) : grown (m.reidx σ) t lastTs len = (grown m t lastTs len).reidx σ := by
  unfold grown
  rw [increaseWidth_reidx σ m _ h]
  exact (apply_ite (Mat.reidx σ) _ _ _).symm

theorem updateSchedules_reidx (σ : List Nat) (stations : List String) (hσ : σ.Perm (List.range stations.length))
    (m : Mat K) (hm : m.rows.length = stations.length) (t : Nat) (lastTs : Option Nat) (sched : Sched K) :
    updateSchedules (Acn.reidx σ stations "") (m.reidx σ) t lastTs sched
      = (updateSchedules stations m t lastTs sched).map (Mat.reidx σ) := by
  have hlt : ∀ i ∈ σ, i < stations.length := fun i hi => List.mem_range.1 (hσ.mem_iff.1 hi)
  have hlt' : ∀ i ∈ σ, i < m.rows.length := fun i hi => hm ▸ hlt i hi
  by_cases hne : sched = []
  · subst hne; rfl
  rw [updateSchedules_cons _ _ _ _ _ hne, updateSchedules_cons _ _ _ _ _ hne,
    unknownStation_stations_perm (reidx_perm "" hσ), densify_reidx σ stations _ _ hlt]
  rw [grown_reidx σ m _ _ _ hlt', writeBlock_reidx σ _ t _ (by rw [grown_rows_length]; exact hlt')
    (by rw [densify_length]; exact hlt)]
  rw [apply_ite (Except.map (Mat.reidx σ)), apply_ite (Except.map (Mat.reidx σ))]
  rfl

def shiftMat (k : Nat) (m : Mat K) : Mat K := ⟨m.rows.map (fun r => List.replicate k 0 ++ r), m.width + k⟩

theorem writeRow_shift (k : Nat) (row : List K) (t : Nat) (blk : List K) :
    writeRow (List.replicate k 0 ++ row) (t + k) blk = List.replicate k 0 ++ writeRow row t blk := by
  unfold writeRow
  have h1 : List.take (t + k) (List.replicate k (0 : K) ++ row) = List.replicate k 0 ++ List.take t row := by
    rw [List.take_append]
    simp
  have h2 : List.drop (t + k + blk.length) (List.replicate k (0 : K) ++ row) = List.drop (t + blk.length) row := by
    rw [List.drop_append]
    have : t + k + blk.length - k = t + blk.length := by omega
    simp [this]
    omega
  rw [h1, h2]
  simp [List.append_assoc]

theorem increaseWidth_shift (k : Nat) (m : Mat K) (target : Nat) :
    increaseWidth (shiftMat k m) (target + k) = shiftMat k (increaseWidth m target) := by
  unfold increaseWidth shiftMat
  by_cases hw : target ≤ m.width
  · simp [hw]
  · have : ¬ target + k ≤ m.width + k := by omega
    simp only [hw, this, if_false, List.map_map]
    congr 1
    apply List.map_congr_left
    intro r _
    simp only [Function.comp, List.length_append, List.length_replicate, List.append_assoc]
    congr 2
    have : target + k - (k + r.length) = target - r.length := by omega
    rw [this]

theorem writeBlock_shift (k : Nat) (m : Mat K) (t : Nat) (dense : List (List K)) :
    writeBlock (shiftMat k m) (t + k) dense = shiftMat k (writeBlock m t dense) := by
  unfold writeBlock shiftMat
  simp only
  congr 1
  rw [List.zipWith_map_left, List.map_zipWith]
  congr 1
  funext row blk
  exact writeRow_shift k row t blk

theorem growTarget_shift (k t : Nat) (lastTs : Option Nat) (len : Nat) :
    growTarget (t + k) (lastTs.map (· + k)) len = growTarget t lastTs len + k := by
  unfold growTarget
  cases lastTs with
  | none => simp; omega
  | some l => simp only [Option.map_some, Nat.max_def]; split <;> split <;> omega

theorem grown_shift (k : Nat) (m : Mat K) (t : Nat) (lastTs : Option Nat) (len : Nat) :
    grown (shiftMat k m) (t + k) (lastTs.map (· + k)) len = shiftMat k (grown m t lastTs len) := by
  unfold grown
  rw [growTarget_shift, increaseWidth_shift, apply_ite (shiftMat k)]
  exact if_congr (by show _ + _ + _ ≤ m.width + k ↔ _; omega) rfl rfl

theorem updateSchedules_shift' (k : Nat) (stations : List String) (m : Mat K) (t : Nat) (lastTs : Option Nat)
    (sched : Sched K) :
    updateSchedules stations (shiftMat k m) (t + k) (lastTs.map (· + k)) sched
      = (updateSchedules stations m t lastTs sched).map (shiftMat k) := by
  by_cases hne : sched = []
  · subst hne; rfl
  rw [updateSchedules_cons _ _ _ _ _ hne, updateSchedules_cons _ _ _ _ _ hne]
  rw [grown_shift, writeBlock_shift, apply_ite (Except.map (shiftMat k)), apply_ite (Except.map (shiftMat k))]
  rfl

end Acn.Pilots
