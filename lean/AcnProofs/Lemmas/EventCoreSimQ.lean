/-
  Projection of the full simulator model over an arbitrary queue (`Sim.bodyQ` / `Sim.runQ`,
  `AcnModel/SimQ.lean`) onto `EventCore.bodyQ` / `EventCore.runQ` — what the C01 driver executes
  with `"queue": "heap"`.
-/
import AcnModel.SimQ
import AcnProofs.Lemmas.EventCoreSim
import AcnProofs.Lemmas.EventCoreQueue

set_option linter.unusedSectionVars false

namespace Acn.Sim
open Acn Acn.EventCore

variable {K : Type} [Add K] [Sub K] [Mul K] [Div K] [Neg K] [LT K] [LE K]
  [DecidableLT K] [DecidableLE K] [OfNat K 0] [OfNat K 1] [NatCast K] [HasExp K]

theorem stepEvQ_core (ops : QOps) (cfg : Cfg K) (e : Event) (s : State K) :
    ((stepEvQ ops cfg e s).1.core, (stepEvQ ops cfg e s).2) = EventCore.stepQ ops cfg.core e s.core := rfl

theorem processAllQ_eq (ops : QOps) (cfg : Cfg K) : ∀ (l : List Event) (s : State K),
    processAllQ ops cfg l s = Steps.foldE (stepEvQ ops cfg) l s :=
  Steps.foldE_unique (fun _ => rfl) fun e es s => by
    rw [processAllQ]
    rcases stepEvQ ops cfg e s with ⟨s2, _ | err⟩ <;> rfl

theorem processAllQ_core (ops : QOps) (cfg : Cfg K) (l : List Event) (s : State K) :
    ((processAllQ ops cfg l s).1.core, (processAllQ ops cfg l s).2) =
      EventCore.processAllQ ops cfg.core l s.core := by
  rw [processAllQ_eq, EventCore.processAllQ_eq]
  exact Steps.foldE_comm (·.core) (stepEvQ_core ops cfg) l s

theorem eventsStageQ_core (ops : QOps) (cfg : Cfg K) (s : State K) :
    ((eventsStageQ ops cfg s).1.core, (eventsStageQ ops cfg s).2) = EventCore.eventsStageQ ops cfg.core s.core :=
  processAllQ_core ops cfg _ _

theorem bodyQ_core (ops : QOps) (cfg : Cfg K) (sched : View K → Except Err (Schedule K)) (s : State K)
    (h : (bodyQ ops cfg sched s).2 = none) :
    EventCore.bodyQ ops cfg.core noFail noFail s.core = ((bodyQ ops cfg sched s).1.core, none) := by
  have he := eventsStageQ_core ops cfg s
  unfold bodyQ at h ⊢
  unfold EventCore.bodyQ
  rw [← he]
  rcases hes : eventsStageQ ops cfg s with ⟨s1, _ | e⟩
  · simp only [hes] at h ⊢
    show (if needsSched cfg.maxRecompute s1.core = true then _ else _) = _
    by_cases hn : needsSched cfg.maxRecompute s1.core = true
    · simp only [hn, if_true, noFail, finish] at h ⊢
      rcases hsch : schedStage cfg sched { s1 with core := markInvoked s1.core } with e | m
      · simp [hsch] at h
      · simp only [hsch] at h ⊢
        rw [applyStage_core cfg _ h]
    · simp only [hn, noFail, finish] at h ⊢
      simp only [Bool.false_eq_true, if_false] at h ⊢
      rw [applyStage_core cfg _ h]
  · simp [hes] at h

theorem runQ_eq (ops : QOps) (cfg : Cfg K) (sched : View K → Except Err (Schedule K)) : ∀ (n : Nat) (s : State K),
    runQ ops cfg sched n s = Steps.loopE (fun s => guard s.core) (bodyQ ops cfg sched) n s :=
  Steps.loopE_unique (fun _ => rfl) fun n s => by
    rw [runQ]
    rcases bodyQ ops cfg sched s with ⟨s', _ | e⟩ <;> rfl

theorem runQ_core (ops : QOps) (cfg : Cfg K) (sched : View K → Except Err (Schedule K)) (n : Nat) (s : State K)
    (h : (runQ ops cfg sched n s).2 = none) :
    EventCore.runQ ops cfg.core noFail noFail n s.core = ((runQ ops cfg sched n s).1.core, none) := by
  rw [runQ_eq] at h ⊢
  rw [EventCore.runQ_eq]
  exact Steps.loopE_proj (·.core) (fun _ => rfl)
    (fun a a1 _ hb => by have := bodyQ_core ops cfg sched a (by rw [hb]); rwa [hb] at this) n s h

theorem initQ_core (ops : QOps) (cfg : Cfg K) : (initQ ops cfg).core = EventCore.initQ ops cfg.core := rfl

end Acn.Sim
