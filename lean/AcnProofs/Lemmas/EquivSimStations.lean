/-
  Helper lemmas for C10 (Sim level, stations): the stages of the simulator under a permutation `σ` of the station
  table (one trip round the loop and whole runs: EquivSimStationsRaise, EquivSimStationsRaiseRun).  `StEquiv σ s s'`: `s'` is `s` with every per-station array read in the order `σ`
  (pilot / rate matrix rows, `evsePilot`, occupancy snapshots); core, EV records, peak and draw
  counter are equal.
-/
import AcnProofs.Lemmas.EquivSimPilots
import AcnProofs.Lemmas.EquivEvents

set_option linter.unusedSectionVars false

namespace Acn.SimEquiv
open Acn.Sim Acn.EventCore Acn.Evse Acn.Ledger Acn.Steps

variable {K : Type} [Field K] [LinearOrder K] [IsStrictOrderedRing K] [HasExp K]

/-- the same scenario with the stations registered in the order `σ` -/
def permCfg (σ : List Nat) (d : Station K) (cfg : Cfg K) : Cfg K :=
  { cfg with stations := reidx σ cfg.stations d }

structure StEquiv (σ : List Nat) (s s' : State K) : Prop where
  core : s'.core = s.core
  pilots : s'.pilots = s.pilots.reidx σ
  rates : s'.rates = s.rates.reidx σ
  peak : s'.peak = s.peak
  evs : s'.evs = s.evs
  evsePilot : s'.evsePilot = reidx σ s.evsePilot 0
  noiseIdx : s'.noiseIdx = s.noiseIdx
  occLog : s'.occLog = s.occLog.map (fun row => reidx σ row none)

structure Shape (n : Nat) (s : State K) : Prop where
  pilots : s.pilots.rows.length = n
  rates : s.rates.rows.length = n
  evsePilot : s.evsePilot.length = n

structure PermOK (σ : List Nat) (cfg : Cfg K) : Prop where
  perm : σ.Perm (List.range cfg.stations.length)
  nodup : StationsNodup cfg
  noise : ConstNoise cfg

section
variable {σ : List Nat} {d : Station K} {cfg : Cfg K}

theorem permCfg_ids (h : PermOK σ cfg) :
    (permCfg σ d cfg).stations.map (·.id) = reidx σ (cfg.stations.map (·.id)) "" :=
  (reidx_map (·.id) σ cfg.stations d "" (perm_lt h.perm)).symm

theorem permCfg_stations_perm (h : PermOK σ cfg) : (permCfg σ d cfg).stations.Perm cfg.stations :=
  reidx_perm d h.perm

theorem mem_ids_iff (h : PermOK σ cfg) (st : String) :
    st ∈ (permCfg σ d cfg).core.stations ↔ st ∈ cfg.core.stations :=
  ((permCfg_stations_perm (d := d) h).map (·.id)).mem_iff

/-- the number a name has in the permuted table is, read in `σ`, the number it has in the original table (past the
    end of both for a name that is not registered) -/
theorem stationIndex_permCfg (h : PermOK σ cfg) (st : String) :
    σ.getD (stationIndex (permCfg σ d cfg) st) cfg.stations.length = stationIndex cfg st := by
  have hσ : σ.Perm (List.range (cfg.stations.map (·.id)).length) := by rw [List.length_map]; exact h.perm
  have e := idxOf_reidx "" hσ h.nodup st
  rwa [List.length_map, ← permCfg_ids (d := d) h, ← stationIndex_eq_idxOf, ← stationIndex_eq_idxOf] at e

theorem stationIndex_perm (h : PermOK σ cfg) {st : String} (hst : st ∈ cfg.stations.map (·.id)) :
    stationIndex (permCfg σ d cfg) st < σ.length ∧
    σ.getD (stationIndex (permCfg σ d cfg) st) 0 = stationIndex cfg st := by
  have hi : stationIndex cfg st < cfg.stations.length := by
    rw [stationIndex_eq_idxOf, ← List.length_map (·.id)]
    exact List.idxOf_lt_length_iff.2 hst
  have e := stationIndex_permCfg (d := d) h st
  have hj : stationIndex (permCfg σ d cfg) st < σ.length := by
    by_contra hj
    rw [List.getD_eq_default _ _ (Nat.not_lt.1 hj)] at e
    omega
  exact ⟨hj, by rw [← e, List.getD_eq_getElem _ _ hj, List.getD_eq_getElem _ _ hj]⟩

theorem shape_stepEv {n : Nat} {s : State K} (hs : Shape n s) (cfg : Cfg K) (e : Event) : Shape n (stepEv cfg e s).1 :=
  ⟨hs.pilots, hs.rates, (Sim.stepEv_evseLen cfg e s).trans hs.evsePilot⟩

theorem shape_setPilotAt {n : Nat} {s : State K} (hs : Shape n s) (cfg : Cfg K) (i : Nat) (st : Station K) :
    Shape n (setPilotAt cfg s i st).1 := by
  obtain ⟨-, f2, f3, -, -, f6⟩ := Sim.setPilotAt_frame cfg s i st
  exact ⟨by rw [f2]; exact hs.pilots, by rw [f3]; exact hs.rates, f6.trans hs.evsePilot⟩

theorem shape_widen {n : Nat} {s : State K} (hs : Shape n s) : Shape n (widen s) :=
  ⟨by simp only [widen, Pilots.increaseWidth_rows_length]; exact hs.pilots,
   by simp only [widen, Pilots.increaseWidth_rows_length]; exact hs.rates, hs.evsePilot⟩

theorem ratesFor_rows {n : Nat} {s : State K} (hs : Shape n s) (w : Nat) : (ratesFor w s).rows.length = n := by
  unfold ratesFor
  split
  · exact hs.rates
  · rw [Pilots.increaseWidth_rows_length]; exact hs.rates

theorem shape_storeRates {s : State K} (hs : Shape cfg.stations.length s) (w : Nat) :
    Shape cfg.stations.length (storeRates cfg w s).1 := by
  have hcl : (currentRates cfg s).length = cfg.stations.length := by simp [currentRates]
  rcases hr : storeRates cfg w s with ⟨s', err⟩
  cases StoreRates.of_eq hr with
  | noColumn _ => exact ⟨hs.pilots, ratesFor_rows hs w, hs.evsePilot⟩
  | stored _ =>
    exact ⟨hs.pilots, by simp only [writeCol, List.length_zipWith, ratesFor_rows hs w, hcl, Nat.min_self], hs.evsePilot⟩

/-- `StEquiv` together with the two invariants of the original run that the stage lemmas need -/
def StI (σ : List Nat) (cfg : Cfg K) (s s' : State K) : Prop :=
  StEquiv σ s s' ∧ Shape cfg.stations.length s ∧ OccSound cfg.core s.core.occ

theorem step_stations (h : PermOK σ cfg) (e : Event) (c : Core) :
    EventCore.step (permCfg σ d cfg).core e c = EventCore.step cfg.core e c := by
  unfold EventCore.step
  exact process_congr (cfg := cfg.core) (cfg' := (permCfg σ d cfg).core) (fun _ => rfl) (mem_ids_iff h) e _

theorem unplug_ok_registered {c0 : EventCore.Cfg} {e : Event} {c : Core} {x : Session}
    (hk : e.kind = .unplug) (hf : findSession c0 e.sess = some x) (hr : (EventCore.step c0 e c).2 = none) :
    x.station ∈ c0.stations := by
  unfold EventCore.step process at hr
  simp only [hk, hf] at hr
  by_contra hne
  simp [hne] at hr

theorem stepEv_equiv (h : PermOK σ cfg) (e : Event) {s s' : State K} (he : StEquiv σ s s')
    (hs : Shape cfg.stations.length s) :
    Out (StEquiv σ) (sep (StEquiv σ) Eq) (stepEv cfg e s) (stepEv (permCfg σ d cfg) e s') := by
  have hfs : ∀ id, findSession (permCfg σ d cfg).core id = findSession cfg.core id := fun _ => rfl
  unfold stepEv
  simp only [he.core, step_stations h, hfs]
  refine .of_eq rfl ⟨rfl, he.pilots, he.rates, he.peak, he.evs, ?_, he.noiseIdx, he.occLog⟩
  simp only
  cases hk : e.kind with
  | plugin => simpa using he.evsePilot
  | recompute => simpa using he.evsePilot
  | unplug =>
    cases hr : (EventCore.step cfg.core e s.core).2 with
    | some err => simpa using he.evsePilot
    | none =>
      cases hf : findSession cfg.core e.sess with
      | none => simpa using he.evsePilot
      | some x =>
        simp only
        by_cases hu : unplugHits s.core x = true
        · simp only [hu, if_true]
          have hreg : x.station ∈ cfg.stations.map (·.id) := unplug_ok_registered hk hf hr
          obtain ⟨hj, hσ⟩ := stationIndex_perm (d := d) h hreg
          rw [he.evsePilot, ← hσ]
          refine (reidx_set σ s.evsePilot 0 0 _ _ (perm_nodup h.perm) hj rfl ?_).symm
          rw [hs.evsePilot]
          exact perm_lt h.perm _ (getD_mem _ _ hj)
        · simp only [hu, Bool.false_eq_true, if_false]
          exact he.evsePilot

theorem eventsStage_equiv_st (h : PermOK σ cfg) {s s' : State K} (hi : StI σ cfg s s') :
    Out (StI σ cfg) (sep (StEquiv σ) Eq) (Sim.eventsStage cfg s) (Sim.eventsStage (permCfg σ d cfg) s') := by
  obtain ⟨he, hs, ho⟩ := hi
  unfold Sim.eventsStage
  rw [he.core, Sim.processAll_eq, Sim.processAll_eq]
  refine foldE_out (List.forall₂_same.2 fun e _ a b ⟨he, hs, ho⟩ => ?_) _ _
    ⟨⟨rfl, he.pilots, he.rates, he.peak, he.evs, he.evsePilot, he.noiseIdx, he.occLog⟩,
      ⟨hs.pilots, hs.rates, hs.evsePilot⟩, ho⟩
  exact (stepEv_equiv h e he hs).inv fun _ => ⟨shape_stepEv hs cfg e, (step_occSound e a.core ho).1⟩

theorem get_reidx (m : Pilots.Mat K) (j t : Nat) (hj : j < σ.length) :
    (m.reidx σ).get j t = m.get (σ.getD j 0) t := by
  unfold Pilots.Mat.get Pilots.Mat.reidx
  simp only
  rw [getD_reidx σ m.rows [] j hj]

theorem occupantEv_equiv {s s' : State K} (he : StEquiv σ s s') (st : String) :
    occupantEv s' st = occupantEv s st := by
  simp only [occupantEv, evOf, he.core, he.evs]

/-- one `set_pilot`: station number `j` of the permuted table is station number `σ[j]` of the original -/
theorem setPilotAt_sim (h : PermOK σ cfg) {s s' : State K} (he : StEquiv σ s s')
    (hs : Shape cfg.stations.length s) (j : Nat) (hj : j < σ.length) (st : Station K) :
    Out (StEquiv σ) (sep (StEquiv σ) Eq) (setPilotAt cfg s (σ.getD j 0) st) (setPilotAt (permCfg σ d cfg) s' j st) := by
  rw [setPilotAt_plan, setPilotAt_plan]
  have hp : ∀ p o ν, plan (permCfg σ d cfg) st p o ν = plan cfg st p o ν := fun _ _ _ => rfl
  have hnz : ∀ k, noiseAt (permCfg σ d cfg) k = noiseAt cfg k := fun _ => rfl
  rw [hp, hnz, he.pilots, he.core, get_reidx _ _ _ hj, occupantEv_equiv he, he.noiseIdx]
  cases plan cfg st (s.pilots.get (σ.getD j 0) s.core.iter) (occupantEv s st.id) (noiseAt cfg s.noiseIdx) with
  | error e => exact .err ⟨rfl, he⟩
  | ok u =>
    have hi : σ.getD j 0 < s.evsePilot.length := by
      rw [hs.evsePilot]; exact perm_lt h.perm _ (getD_mem _ _ hj)
    refine .ok ⟨he.core, he.pilots, he.rates, he.peak, ?_, ?_, ?_, he.occLog⟩
    · simp only [eff, he.evs]
    · simp only [eff, he.evsePilot]
      exact (reidx_set σ s.evsePilot 0 _ j _ (perm_nodup h.perm) hj rfl hi).symm
    · simp only [eff, he.noiseIdx]

/-- the station loop of the permuted scenario against the loop of the original scenario over its stations in
    the order `σ` -/
theorem updList_sim (h : PermOK σ cfg) {s s' : State K} (he : StEquiv σ s s') (hs : Shape cfg.stations.length s) :
    Out (fun a b => StEquiv σ a b ∧ Shape cfg.stations.length a) (sep (StEquiv σ) Eq)
      (updList cfg ((List.range σ.length).map fun j => (σ.getD j 0, cfg.stations.getD (σ.getD j 0) d)) s)
      (updList (permCfg σ d cfg) ((List.range σ.length).map fun j => (j, cfg.stations.getD (σ.getD j 0) d)) s') := by
  rw [updList_eq, updList_eq, foldE_map, foldE_map]
  refine foldE_out (List.forall₂_same.2 fun j hj a b ⟨he, hs⟩ => ?_) _ _ ⟨he, hs⟩
  exact (setPilotAt_sim h he hs j (List.mem_range.1 hj) _).inv fun _ => shape_setPilotAt hs cfg _ _

/-- occupants of different stations are different sessions -/
theorem apart_of_occSound (h : PermOK σ cfg) {occ : String → Option Session} (ho : OccSound cfg.core occ)
    {k k' : Nat} (hk : k < cfg.stations.length) (hk' : k' < cfg.stations.length) (hne : k ≠ k') :
    Apart occ (k, cfg.stations.getD k d) (k', cfg.stations.getD k' d) := by
  refine ⟨hne, fun x y hx hy hid => hne ?_⟩
  have hnd : (cfg.stations.map (·.id)).Nodup := h.nodup
  refine (hnd.getElem_inj_iff (hi := by simpa using hk) (hj := by simpa using hk')).1 ?_
  simpa [List.getD_eq_getElem?_getD, hk, hk'] using ho.inj hx hy hid

theorem updatePilots_permCfg (s' : State K) :
    updatePilots (permCfg σ d cfg) s' =
      updList (permCfg σ d cfg) ((List.range σ.length).map fun j => (j, cfg.stations.getD (σ.getD j 0) d)) s' := by
  unfold updatePilots
  rw [updatePilotsFrom_eq (permCfg σ d cfg) d]
  have hlen : (permCfg σ d cfg).stations.length = σ.length := by simp [permCfg, reidx]
  rw [hlen]
  congr 1
  apply List.map_congr_left
  intro j hj
  simp only [Nat.zero_add, Prod.mk.injEq, true_and]
  exact getD_reidx σ cfg.stations d j (List.mem_range.1 hj)

/-- the registration order against the order `σ`, as two listings of the same (number, station) pairs, `Apart`
    because different stations are occupied by different sessions: what `updList_reorder` asks for -/
theorem sigma_listing (h : PermOK σ cfg) {s : State K} (ho : OccSound cfg.core s.core.occ) :
    ((List.range cfg.stations.length).map fun k => (0 + k, cfg.stations.getD k d)).Perm
      ((List.range σ.length).map fun j => (σ.getD j 0, cfg.stations.getD (σ.getD j 0) d)) ∧
    ((List.range cfg.stations.length).map fun k => (0 + k, cfg.stations.getD k d)).Pairwise (Apart s.core.occ) := by
  have hσl : ((List.range σ.length).map fun j => (σ.getD j 0, cfg.stations.getD (σ.getD j 0) d)) =
      (σ.map fun k => (k, cfg.stations.getD k d)) := by
    conv_rhs => rw [← range_map_getD σ 0]
    rw [List.map_map]
    rfl
  simp only [Nat.zero_add, hσl]
  refine ⟨h.perm.symm.map _, ?_⟩
  rw [List.pairwise_map]
  refine List.Pairwise.imp_of_mem ?_ (List.nodup_range (n := cfg.stations.length))
  intro a b ha hb hab
  exact apart_of_occSound (d := d) h ho (List.mem_range.1 ha) (List.mem_range.1 hb) hab

theorem writeCol_reidx (m : Pilots.Mat K) (t : Nat) (col : List K)
    (hm : ∀ i ∈ σ, i < m.rows.length) (hc : ∀ i ∈ σ, i < col.length) :
    writeCol (m.reidx σ) t (reidx σ col 0) = (writeCol m t col).reidx σ := by
  unfold writeCol Pilots.Mat.reidx
  rw [reidx_zipWith _ σ m.rows col [] 0 [] hm hc]

theorem currentRates_equiv (h : PermOK σ cfg) {s s' : State K} (he : StEquiv σ s s') :
    currentRates (permCfg σ d cfg) s' = reidx σ (currentRates cfg s) 0 := by
  unfold currentRates
  refine Eq.trans (List.map_congr_left (fun st _ => ?_)) (reidx_map _ σ cfg.stations d 0 (perm_lt h.perm)).symm
  rw [occupantEv_equiv he]

theorem sumK_reidx (h : PermOK σ cfg) (l : List K) (hl : l.length = cfg.stations.length) :
    sumK (reidx σ l 0) = sumK l := by
  rw [sumK_eq_sum, sumK_eq_sum]
  exact (reidx_perm 0 (by rw [hl]; exact h.perm)).sum_eq

theorem storeRates_equiv (h : PermOK σ cfg) (w : Nat) {s s' : State K} (he : StEquiv σ s s')
    (hs : Shape cfg.stations.length s) :
    Out (StEquiv σ) (sep (StEquiv σ) Eq) (storeRates cfg w s) (storeRates (permCfg σ d cfg) w s') := by
  have hlt := perm_lt h.perm
  have hcl : (currentRates cfg s).length = cfg.stations.length := by simp [currentRates]
  have hr : ratesFor w s' = (ratesFor w s).reidx σ := by
    unfold ratesFor
    rw [he.core, he.rates, Pilots.increaseWidth_reidx σ s.rates w (fun i hi => hs.rates ▸ hlt i hi)]
    exact (apply_ite (Pilots.Mat.reidx σ) _ _ _).symm
  by_cases hw : s.core.iter < (ratesFor w s).width
  · rw [storeRates_stored hw, storeRates_stored (s := s') (by rw [hr, he.core]; exact hw), currentRates_equiv h he,
      sumK_reidx h _ hcl, hr, he.core, he.peak]
    exact .ok ⟨rfl, he.pilots, writeCol_reidx _ _ _ (fun i hi => ratesFor_rows hs w ▸ hlt i hi)
      (fun i hi => hcl ▸ hlt i hi), rfl, he.evs, he.evsePilot, he.noiseIdx, he.occLog⟩
  · rw [storeRates_noColumn hw, storeRates_noColumn (s := s') (by rw [hr, he.core]; exact hw), hr]
    exact .err ⟨rfl, he.core, he.pilots, rfl, he.peak, he.evs, he.evsePilot, he.noiseIdx, he.occLog⟩

end
end Acn.SimEquiv
