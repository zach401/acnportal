/-
  `invoked` (the list of periods in which the scheduler was called) is a ghost field — no stage of `Sim.body`
  reads it.  A failed scheduler call leaves exactly one extra entry there, so "the resumed run equals the
  uninterrupted run" (C09) is stated modulo that field: `ObsEq s t` = equal in everything except `core.invoked`.
-/
import AcnProofs.Lemmas.SimStages

namespace Acn.EventCore

def setInv (l : List Nat) (c : Core) : Core := { c with invoked := l }

theorem process_setInv (cfg : Cfg) (e : Event) (l : List Nat) (c : Core) :
    process cfg e (setInv l c) = (setInv l (process cfg e c).1, (process cfg e c).2) := by
  unfold process
  cases e.kind <;> simp only []
  · cases findSession cfg e.sess with
    | none => rfl
    | some x =>
      by_cases h : cfg.stations.contains x.station = true <;> simp only [h, if_true] <;> rfl
  · cases findSession cfg e.sess with
    | none => rfl
    | some x =>
      by_cases h : cfg.stations.contains x.station = true <;> simp only [h, if_true]
      · show (match c.occ x.station with | some _ => _ | none => _) = _
        cases h : c.occ x.station <;> rfl
      · rfl
  · rfl

theorem step_setInv (cfg : Cfg) (e : Event) (l : List Nat) (c : Core) :
    step cfg e (setInv l c) = (setInv l (step cfg e c).1, (step cfg e c).2) :=
  process_setInv cfg e l { c with eventHist := c.eventHist ++ [e] }

theorem processAll_setInv (cfg : Cfg) (l : List Nat) (es : List Event) (c : Core) :
    processAll cfg es (setInv l c) = (setInv l (processAll cfg es c).1, (processAll cfg es c).2) := by
  rw [processAll_eq, processAll_eq]
  exact (Steps.foldE_comm (setInv l) (fun e c => (step_setInv cfg e l c).symm) es c).symm

theorem eventsStage_setInv (cfg : Cfg) (l : List Nat) (c : Core) :
    eventsStage cfg (setInv l c) = (setInv l (eventsStage cfg c).1, (eventsStage cfg c).2) := by
  unfold eventsStage
  exact processAll_setInv cfg l _ { c with pending := (popCurrent c.iter c.pending).2 }

end Acn.EventCore

set_option linter.unusedSectionVars false

namespace Acn.Sim
open Acn Acn.EventCore Acn.Steps

variable {K : Type} [Add K] [Sub K] [Mul K] [Div K] [Neg K] [LT K] [LE K]
  [DecidableLT K] [DecidableLE K] [OfNat K 0] [OfNat K 1] [NatCast K] [HasExp K]

def withInv (l : List Nat) (s : State K) : State K := { s with core := setInv l s.core }

def ObsEq (s t : State K) : Prop := withInv [] s = withInv [] t

theorem ObsEq.rfl' (s : State K) : ObsEq s s := rfl
theorem ObsEq.symm {s t : State K} (h : ObsEq s t) : ObsEq t s := Eq.symm h
theorem ObsEq.trans {s t u : State K} (h : ObsEq s t) (h' : ObsEq t u) : ObsEq s u := Eq.trans h h'

@[simp] theorem withInv_withInv (l l' : List Nat) (s : State K) : withInv l (withInv l' s) = withInv l s := rfl
@[simp] theorem withInv_self (s : State K) : withInv s.core.invoked s = s := rfl

theorem obsEq_withInv (l : List Nat) (s : State K) : ObsEq (withInv l s) s := rfl

theorem ObsEq.eq_withInv {s t : State K} (h : ObsEq s t) : t = withInv t.core.invoked s := by
  have : withInv t.core.invoked (withInv [] t) = withInv t.core.invoked (withInv [] s) := by rw [h]
  simpa using this

def ObsEqR (r r' : State K × Option Err) : Prop := ObsEq r.1 r'.1 ∧ r.2 = r'.2

theorem ObsEqR.trans {a b c : State K × Option Err} (h : ObsEqR a b) (h' : ObsEqR b c) : ObsEqR a c :=
  ⟨h.1.trans h'.1, h.2.trans h'.2⟩
theorem ObsEqR.symm {a b : State K × Option Err} (h : ObsEqR a b) : ObsEqR b a := ⟨h.1.symm, h.2.symm⟩

/-! ### every stage commutes with overwriting the ghost field -/

theorem stepEv_withInv (cfg : Cfg K) (e : Event) (l : List Nat) (s : State K) :
    stepEv cfg e (withInv l s) = (withInv l (stepEv cfg e s).1, (stepEv cfg e s).2) := by
  unfold stepEv
  show (_ : State K × Option Err) = _
  have h : EventCore.step cfg.core e (withInv l s).core
      = (setInv l (EventCore.step cfg.core e s.core).1, (EventCore.step cfg.core e s.core).2) :=
    step_setInv cfg.core e l s.core
  simp only [h]
  rfl

theorem processAll_withInv (cfg : Cfg K) (l : List Nat) (es : List Event) (s : State K) :
    processAll cfg es (withInv l s) = (withInv l (processAll cfg es s).1, (processAll cfg es s).2) := by
  rw [processAll_eq, processAll_eq]
  exact (foldE_comm (withInv l) (fun e s => (stepEv_withInv cfg e l s).symm) es s).symm

theorem eventsStage_withInv (cfg : Cfg K) (l : List Nat) (s : State K) :
    eventsStage cfg (withInv l s) = (withInv l (eventsStage cfg s).1, (eventsStage cfg s).2) :=
  processAll_withInv cfg l (popCurrent s.core.iter s.core.pending).1
    { s with core := { s.core with pending := (popCurrent s.core.iter s.core.pending).2 } }

@[simp] theorem withInv_pilots (l : List Nat) (s : State K) : (withInv l s).pilots = s.pilots := rfl
@[simp] theorem withInv_rates (l : List Nat) (s : State K) : (withInv l s).rates = s.rates := rfl
@[simp] theorem withInv_peak (l : List Nat) (s : State K) : (withInv l s).peak = s.peak := rfl
@[simp] theorem withInv_evs (l : List Nat) (s : State K) : (withInv l s).evs = s.evs := rfl
@[simp] theorem withInv_evsePilot (l : List Nat) (s : State K) : (withInv l s).evsePilot = s.evsePilot := rfl
@[simp] theorem withInv_noiseIdx (l : List Nat) (s : State K) : (withInv l s).noiseIdx = s.noiseIdx := rfl
@[simp] theorem withInv_occLog (l : List Nat) (s : State K) : (withInv l s).occLog = s.occLog := rfl
@[simp] theorem withInv_iter (l : List Nat) (s : State K) : (withInv l s).core.iter = s.core.iter := rfl
@[simp] theorem withInv_pending (l : List Nat) (s : State K) : (withInv l s).core.pending = s.core.pending := rfl
@[simp] theorem withInv_occ (l : List Nat) (s : State K) : (withInv l s).core.occ = s.core.occ := rfl
@[simp] theorem withInv_occupantEv (l : List Nat) (s : State K) (st : String) :
    occupantEv (withInv l s) st = occupantEv s st := rfl

theorem setPilotAt_withInv (cfg : Cfg K) (l : List Nat) (s : State K) (i : Nat) (st : Station K) :
    setPilotAt cfg (withInv l s) i st = (withInv l (setPilotAt cfg s i st).1, (setPilotAt cfg s i st).2) := by
  unfold setPilotAt
  simp only [withInv_pilots, withInv_iter, withInv_evsePilot, withInv_noiseIdx, withInv_occupantEv]
  split
  · rfl
  · rfl
  · rfl

theorem updatePilotsFrom_withInv (cfg : Cfg K) (l : List Nat) (i : Nat) (sts : List (Station K)) (s : State K) :
    updatePilotsFrom cfg i sts (withInv l s)
      = (withInv l (updatePilotsFrom cfg i sts s).1, (updatePilotsFrom cfg i sts s).2) := by
  rw [updatePilotsFrom_foldE, updatePilotsFrom_foldE]
  exact (foldE_comm (withInv l) (fun p s => (setPilotAt_withInv cfg l s p.2 p.1).symm) _ s).symm

theorem storeRates_withInv (cfg : Cfg K) (l : List Nat) (w : Nat) (s : State K) :
    storeRates cfg w (withInv l s) = (withInv l (storeRates cfg w s).1, (storeRates cfg w s).2) := by
  by_cases hw : s.core.iter < (ratesFor w s).width
  · rw [storeRates_stored hw, storeRates_stored (s := withInv l s) hw]
    rfl
  · rw [storeRates_noColumn hw, storeRates_noColumn (s := withInv l s) hw]
    rfl

theorem widen_withInv (l : List Nat) (s : State K) : widen (withInv l s) = withInv l (widen s) := rfl
theorem widthInc_withInv (l : List Nat) (s : State K) : widthInc (withInv l s) = widthInc s := rfl

theorem widenStage_withInv (l : List Nat) (s : State K) :
    widenStage (withInv l s) = (withInv l (widenStage s).1, (widenStage s).2) := rfl

theorem applyStage_withInv (cfg : Cfg K) (l : List Nat) (s : State K) :
    applyStage cfg (withInv l s) = (withInv l (applyStage cfg s).1, (applyStage cfg s).2) := by
  rw [applyStage_eq, applyStage_eq]
  refine (andThen_comm (withInv l) (widenStage_withInv l s).symm fun s1 => ?_).symm
  refine andThen_comm (withInv l) (updatePilotsFrom_withInv cfg l 0 cfg.stations s1).symm fun s2 => ?_
  exact andThen_comm (withInv l) (storeRates_withInv cfg l _ s2).symm fun _ => rfl

end Acn.Sim
