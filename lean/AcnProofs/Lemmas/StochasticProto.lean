/-
  C19: the simulator's protocol (sessions with distinct ids, arrival < departure, events in a
  key-sorted order) yields a well-formed history in the sense of `WFHist`; the steps generated
  by `simSteps` contain the history's events in order.  At the end, C01's scenario read as a list
  of C19 sessions.
-/
import AcnProofs.Lemmas.StochasticRun
import AcnModel.EventCore

namespace Acn.Stoch

theorem mem_expected {ss : List Session} {e : Event} :
    e ∈ expected ss ↔ ∃ s ∈ ss, e = s.plugEv ∨ e = s.unplugEv := by
  simp only [expected, List.mem_flatMap, List.mem_cons, List.not_mem_nil, or_false]

theorem expected_pairwise : ∀ ss : List Session, (ss.map (·.id)).Nodup →
    (expected ss).Pairwise (fun a b => a.kind ≠ b.kind ∨ a.sess ≠ b.sess) := by
  intro ss
  induction ss with
  | nil => intro _; simp [expected]
  | cons s r ih =>
    intro hn
    simp only [List.map_cons, List.nodup_cons] at hn
    have : expected (s :: r) = [s.plugEv, s.unplugEv] ++ expected r := by simp [expected]
    rw [this, List.pairwise_append]
    refine ⟨by simp [Session.plugEv, Session.unplugEv], ih hn.2, ?_⟩
    intro a ha b hb
    obtain ⟨s', hs', hb'⟩ := mem_expected.1 hb
    have hne : s.id ≠ s'.id := fun e => hn.1 (by rw [e]; exact List.mem_map.2 ⟨s', hs', rfl⟩)
    right
    simp only [List.mem_cons, List.not_mem_nil, or_false] at ha
    rcases ha with rfl | rfl <;> rcases hb' with rfl | rfl <;>
      simpa [Session.plugEv, Session.unplugEv] using hne

theorem WFHist_of_sorted_perm (ss : List Session) (extra h : List Event)
    (hextra : ∀ e ∈ extra, e.kind = .recompute) (hn : (ss.map (·.id)).Nodup)
    (had : ∀ s ∈ ss, s.arrival < s.departure)
    (hsorted : h.Pairwise (fun a b => a.keyLe b = true))
    (hperm : h.Perm (expected ss ++ extra)) : WFHist h := by
  constructor
  · -- the clause is symmetric (a recompute event differs in kind from every event that is none),
    -- so it may be checked on the permutation
    have hsymm : ∀ a b : Event, (a.kind = .recompute ∨ a.kind ≠ b.kind ∨ a.sess ≠ b.sess) →
        (b.kind = .recompute ∨ b.kind ≠ a.kind ∨ b.sess ≠ a.sess) := by
      rintro a b (hab | hab | hab)
      · by_cases hb : b.kind = .recompute
        · exact Or.inl hb
        · exact Or.inr (Or.inl fun e => hb (e.trans hab))
      · exact Or.inr (Or.inl (Ne.symm hab))
      · exact Or.inr (Or.inr (Ne.symm hab))
    refine (hperm.pairwise_iff (fun {a b} => hsymm a b)).2 ?_
    rw [List.pairwise_append]
    refine ⟨(expected_pairwise ss hn).imp Or.inr, ?_, fun a _ b hb => hsymm b a (Or.inl (hextra b hb))⟩
    rw [List.Pairwise.imp_mem]  -- every element of `extra` is a recompute event
    exact List.pairwise_of_forall (fun a b ha _ => Or.inl (hextra a ha))
  · intro pre e post he hk
    have hmem : e ∈ h := by rw [he]; simp
    have hmem' := hperm.mem_iff.1 hmem
    rcases List.mem_append.1 hmem' with hm | hm
    · obtain ⟨s, hs, hes⟩ := mem_expected.1 hm
      have heu : e = s.unplugEv := by
        rcases hes with rfl | rfl
        · simp [Session.plugEv] at hk
        · rfl
      have hp : s.plugEv ∈ h :=
        hperm.mem_iff.2 (List.mem_append_left _ (mem_expected.2 ⟨s, hs, Or.inl rfl⟩))
      rw [he] at hp
      rcases List.mem_append.1 hp with hp | hp
      · exact ⟨s.plugEv, hp, rfl, by rw [heu]; rfl⟩
      · rcases List.mem_cons.1 hp with hp | hp
        · rw [heu] at hp; simp [Session.plugEv, Session.unplugEv] at hp
        · exfalso
          rw [he] at hsorted
          have h3 := (List.pairwise_append.1 hsorted).2.1
          have h4 := (List.pairwise_cons.1 h3).1 _ hp
          have hlt := had s hs
          rw [heu] at h4
          simp [Event.keyLe, Event.keyLt, Session.plugEv, Session.unplugEv, hlt] at h4
    · have := hextra e hm; rw [hk] at this; cases this

theorem wellFormedB_WFHist {ss : List Session} {h : List Event} (hw : wellFormedB ss h = true) :
    WFHist h := by
  simp only [wellFormedB, Bool.and_eq_true, decide_eq_true_eq, List.all_eq_true] at hw
  obtain ⟨⟨⟨hn, had⟩, hsorted⟩, hperm⟩ := hw
  exact WFHist_of_sorted_perm ss [] h (fun _ he => by cases he) hn had hsorted
    (by simpa using List.isPerm_iff.1 hperm)

theorem WFHist.of_append {a b : List Event} (h : WFHist (a ++ b)) : WFHist a := by
  refine ⟨(List.pairwise_append.1 h.1).1, ?_⟩
  intro pre e post he hk
  exact h.2 pre e (post ++ b) (by rw [he]; simp) hk

theorem evProj_map_append (l : List Event) (r : List Step) :
    evProj (l.map Step.ev ++ r) = l ++ evProj r := by
  induction l with
  | nil => simp
  | cons a l ihl => simp [evProj, ihl]

theorem evProj_simSteps_prefix (full : Nat → Sess → Bool) : ∀ (n t : Nat) (evs : List Event),
    ∃ rest, evs = evProj (simSteps full t n evs) ++ rest := by
  intro n
  induction n with
  | zero => intro t evs; exact ⟨evs, by simp [simSteps, evProj]⟩
  | succ n ih =>
    intro t evs
    obtain ⟨rest, hr⟩ := ih (t + 1) (evs.dropWhile (fun e => decide (e.ts ≤ (t : Int))))
    refine ⟨rest, ?_⟩
    simp only [simSteps]
    rw [evProj_map_append]
    simp only [evProj]
    rw [List.append_assoc, ← hr, List.takeWhile_append_dropWhile]

theorem dropWhile_all {α : Type} (p : α → Bool) : ∀ l : List α, (∀ e ∈ l, p e = true) →
    l.dropWhile p = []
  | [], _ => rfl
  | a :: l, h => by
    rw [List.dropWhile_cons, if_pos (h a List.mem_cons_self)]
    exact dropWhile_all p l (fun e he => h e (List.mem_cons_of_mem _ he))

theorem evProj_simSteps (full : Nat → Sess → Bool) : ∀ (n t : Nat) (evs : List Event),
    (evs = [] ∨ 0 < n) → (∀ e ∈ evs, e.ts < (t : Int) + n) →
    evProj (simSteps full t n evs) = evs := by
  intro n
  induction n with
  | zero =>
    intro t evs h0 _
    rcases h0 with rfl | h0
    · simp [simSteps, evProj]
    · omega
  | succ n ih =>
    intro t evs _ hts
    simp only [simSteps]
    rw [evProj_map_append]
    simp only [evProj]
    rw [ih (t + 1)]
    · exact List.takeWhile_append_dropWhile
    · by_cases hn : 0 < n
      · exact Or.inr hn
      · left
        have hn0 : n = 0 := by omega
        subst hn0
        apply dropWhile_all
        intro e he
        have := hts e he
        simp only [decide_eq_true_eq]; omega
    · intro e he
      have := hts e ((List.dropWhile_sublist _).subset he)
      push_cast; omega

theorem wellFormedB_complete {ss : List Session} {h : List Event} (hw : wellFormedB ss h = true) :
    ∀ e ∈ h, e.kind = .plugin → ∃ u ∈ h, u.kind = .unplug ∧ u.sess = e.sess := by
  simp only [wellFormedB, Bool.and_eq_true, decide_eq_true_eq, List.all_eq_true] at hw
  have hperm : h.Perm (expected ss) := List.isPerm_iff.1 hw.2
  intro e he hk
  obtain ⟨s, hs, hes⟩ := mem_expected.1 (hperm.mem_iff.1 he)
  have hep : e = s.plugEv := by
    rcases hes with rfl | rfl
    · rfl
    · simp [Session.unplugEv] at hk
  exact ⟨s.unplugEv, hperm.mem_iff.2 (mem_expected.2 ⟨s, hs, Or.inr rfl⟩), rfl, by rw [hep]; rfl⟩

/-- every timestamp lies below the horizon (the loop runs through the period of the last event) -/
theorem ts_lt_horizon (h : List Event) : ∀ e ∈ h, e.ts < (horizon h : Int) := by
  intro e he
  have := (foldl_max_spec (fun e : Event => e.ts + 1) h 0).2.2 e he
  unfold horizon
  have h2 := Int.self_le_toNat (h.foldl (fun (m : Int) (e : Event) => max m (e.ts + 1)) 0)
  omega

/-! C19 ↔ C01, for `Acn.C19.eventCore_history_wellFormed`: C01's scenario as a list of C19 sessions,
  its plug-in / unplug events a permutation of `expected`, so that `WFHist_of_sorted_perm` applies. -/

/-- a session of C01's `EventCore` model, forgetting its (pre-assigned) station -/
def ofCore (x : EventCore.Session) : Session := ⟨x.id, x.arrival, x.departure⟩

theorem expected_perm_core : ∀ xs : List EventCore.Session,
    (xs.map EventCore.plugEv ++ xs.map EventCore.unplugEv).Perm (expected (xs.map ofCore)) := by
  intro xs
  induction xs with
  | nil => simp [expected]
  | cons a l ih =>
    have : expected ((a :: l).map ofCore) =
        EventCore.plugEv a :: EventCore.unplugEv a :: expected (l.map ofCore) := by
      simp [expected, ofCore, Session.plugEv, Session.unplugEv, EventCore.plugEv, EventCore.unplugEv]
    rw [this]
    simp only [List.map_cons, List.cons_append]
    refine List.Perm.cons _ ?_
    exact (List.perm_middle).trans (List.Perm.cons _ ih)

end Acn.Stoch
