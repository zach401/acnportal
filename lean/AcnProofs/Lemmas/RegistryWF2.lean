/-
  `SInv`, the invariant of the full simulator model behind `WF` / `AllRef` (static EV data fixed, one pilot per EVSE,
  `CInv` on the core); what no stage of a period changes of it is `Frame` (`SimStatics`).  `SInv` is preserved by EVERY
  period whose events stage does not raise — whatever the scheduler and the pilot application do, raising or not: the
  core of the period is a period of the event core (`body_core_any`) — holds initially, and implies `WF` and `AllRef`
  when session ids are distinct.  (Under C01's `Valid` the events stage never raises: `RegistryCalls.run_sinv`.)
-/
import AcnProofs.Lemmas.RegistryWF1
import AcnProofs.Lemmas.RegistryReach
import AcnProofs.Lemmas.ResumeRun
import AcnProofs.Lemmas.EventCoreRun
import AcnProofs.Lemmas.SimStatics

set_option linter.unusedSectionVars false

namespace Acn.RegistrySim
open Acn Acn.EventCore Acn.Sim

variable {K : Type} [Add K] [Sub K] [Mul K] [Div K] [Neg K] [LT K] [LE K]
  [DecidableLT K] [DecidableLE K] [OfNat K 0] [OfNat K 1] [NatCast K] [HasExp K]

structure SInv (cfg : Cfg K) (s : State K) : Prop where
  statics : s.evs.map sessionOf = cfg.evs.map sessionOf
  pilotLen : s.evsePilot.length = cfg.stations.length
  core : CInv cfg.core [] s.core

theorem SInv.nodup {cfg : Cfg K} {s : State K} (h : SInv cfg s) (hid : (cfg.core.sessions.map (·.id)).Nodup) :
    (s.evs.map (·.session)).Nodup := by
  rw [sessions_eq, h.statics]; exact hid

theorem SInv.mem_sessions {cfg : Cfg K} {s : State K} (h : SInv cfg s) {x : Session} :
    x ∈ cfg.core.sessions ↔ ∃ e ∈ s.evs, sessionOf e = x := by
  show x ∈ cfg.evs.map sessionOf ↔ _
  rw [← h.statics, List.mem_map]

theorem init_sinv (cfg : Cfg K) : SInv cfg (Sim.init cfg) :=
  ⟨rfl, by simp [Sim.init], init_cinv cfg.core⟩

theorem body_sinv (cfg : Cfg K) (sched : View K → Except Err (Schedule K)) {s : State K} (h : SInv cfg s)
    (hid : (cfg.core.sessions.map (·.id)).Nodup) (hok : (EventCore.eventsStage cfg.core s.core).2 = none) :
    SInv cfg (Sim.body cfg sched s).1 := by
  have hf := body_statics cfg sched s (h.nodup hid)
  refine ⟨hf.1.trans h.statics, hf.2.trans h.pilotLen, ?_⟩
  have hc : (EventCore.body cfg.core _ _ s.core).1 = (Sim.body cfg sched s).1.core :=
    congrArg Prod.fst (body_core_any cfg sched s)
  exact hc ▸ body_cinv _ _ h.core hok

theorem SInv.wf {cfg : Cfg K} {s : State K} (h : SInv cfg s) (hid : (cfg.core.sessions.map (·.id)).Nodup) : WF cfg s := by
  -- a configured session has its EV object, found under its id
  have hres : ∀ x ∈ cfg.core.sessions, ∃ e, evOf s x.id = some e ∧ sessionOf e = x := fun x hx => by
    obtain ⟨e, he, rfl⟩ := h.mem_sessions.1 hx
    exact ⟨e, evOf_of_mem (h.nodup hid) he, rfl⟩
  have hsome : ∀ sid ∈ cfg.core.sessions.map (·.id), (evOf s sid).isSome = true := fun sid hsid => by
    obtain ⟨x, hx, rfl⟩ := List.mem_map.1 hsid
    obtain ⟨e, he, -⟩ := hres x hx
    rw [he]; rfl
  refine ⟨by simpa using congrArg List.length h.statics, h.pilotLen,
    fun st x ho => List.mem_map.1 (h.core.occ st x ho).1, fun st x ho => ?_, ?_, ?_, ?_⟩
  · obtain ⟨e, he, rfl⟩ := hres x (h.core.occ st x ho).2
    rw [he]; rfl
  · exact fun e he hk => hsome _ (h.core.pool_ev e (List.mem_append_right _ he) hk)
  · exact fun e he hk => hsome _ (h.core.pool_ev e (List.mem_append_left _ (List.mem_append_left _ he)) hk)
  · exact fun sid hsid => hsome _ (h.core.evh sid hsid)

theorem SInv.allRef {cfg : Cfg K} {s : State K} (h : SInv cfg s) (hid : (cfg.core.sessions.map (·.id)).Nodup) :
    AllRef cfg s := by
  refine allRef_of_nodup (h.nodup hid) (fun e he => ?_)
  unfold refSessions
  rcases h.core.pool_ref _ (h.mem_sessions.2 ⟨e, he, rfl⟩) with hr | ⟨d, hd, hk, hds⟩
  · exact List.mem_append_left _ (List.mem_append_left _ hr)
  · refine List.mem_append_left _ (List.mem_append_right _ (List.mem_map.2 ⟨d, List.mem_filter.2 ⟨?_, by simpa using hk⟩, hds⟩))
    simp only [pool, List.append_nil, List.mem_append] at hd
    exact List.mem_append.2 hd.symm

end Acn.RegistrySim
