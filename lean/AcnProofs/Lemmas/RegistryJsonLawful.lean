/-
  The CONCRETE scalar codec `jsonShow d` / `jsonRead d` (`AcnModel/RegistryJson.lean`: every leaf is written and read
  as CPython's `json` module does) is `Lawful` (`jsonLawful`), from the one assumption about doubles `d.RoundTrip`:
  floats and the matrices (nested lists of floats inside a dict) by it, integers (negative ones too), naturals,
  strings and `None` outright.
-/
import AcnProofs.Lemmas.JsonTextRoundtrip
import AcnProofs.Lemmas.RegistryDecode
import AcnModel.RegistryJson
namespace Acn.RegistryJson
open Acn Acn.Registry Acn.RegistrySim Acn.JsonText

variable {K : Type}

theorem toList_tag (a b : Char) (s : String) : (String.ofList [a, b] ++ s).toList = a :: b :: s.toList := by
  simp [String.toList_append]

theorem tag_f : "f:" = String.ofList ['f', ':'] := by decide
theorem tag_m : "m:" = String.ofList ['m', ':'] := by decide
theorem tag_i : "i:" = String.ofList ['i', ':'] := by decide
theorem tag_s : "s:" = String.ofList ['s', ':'] := by decide
theorem tag_b : "b:" = String.ofList ['b', ':'] := by decide

theorem untag_tag (a b : Char) (s : String) : untag a b (String.ofList [a, b] ++ s) = some s.toList := by
  simp [untag]

theorem untag_null (a b : Char) (h : a ≠ 'n') : untag a b "null" = none := by
  have : "null".toList = ['n', 'u', 'l', 'l'] := by decide
  simp [untag, this, Ne.symm h]

theorem toString_natCast (n : Nat) : toString n = toString (n : Int) := by
  show n.repr = Int.repr (n : Int)
  rw [Int.repr_eq_if]; simp

theorem parse_renderInt (n : Int) : parse (toString n).toList = some (.int n) :=
  parse_render (.int n) rfl

theorem sequence_map_some {α β : Type} (f : α → β) (g : β → Option α) (h : ∀ a, g (f a) = some a) (l : List α) :
    RegistrySim.sequence ((l.map f).map g) = some l := by
  exact RegistrySim.sequence_eq_some.2 (by rw [List.map_map]; exact List.map_congr_left fun a _ => h a)

theorem matJ_wf (d : DoubleText K) (hd : d.RoundTrip) (m : Pilots.Mat K) : (matJ d m).wf = true := by
  have hrow : ∀ r : List K, wfList (r.map fun x => JVal.num (d.repr x)) = true := by
    intro r
    induction r with
    | nil => rfl
    | cons x r ih => simp [wfList, JVal.wf, hd.float_tok, ih]
  have hrows : ∀ rs : List (List K), wfList (rs.map fun r => JVal.arr (r.map fun x => JVal.num (d.repr x))) = true := by
    intro rs
    induction rs with
    | nil => rfl
    | cons r rs ih => simp [wfList, JVal.wf, hrow, ih]
  simp [matJ, JVal.wf, wfMembers, hrows]

theorem matOfJ_matJ (d : DoubleText K) (hd : d.RoundTrip) (m : Pilots.Mat K) : matOfJ d (matJ d m) = some m := by
  have hrow : ∀ r : List K, rowOfJ d (JVal.arr (r.map fun x => JVal.num (d.repr x))) = some r := by
    intro r
    simp only [rowOfJ]
    exact sequence_map_some (fun x => JVal.num (d.repr x)) (numOfJ d) (fun x => by simp [numOfJ, hd.read_repr]) r
  have hrows := sequence_map_some (fun r : List K => JVal.arr (r.map fun x => JVal.num (d.repr x))) (rowOfJ d) hrow m.rows
  simp only [matJ, matOfJ]
  simp only [true_and, Int.natCast_nonneg, if_true, hrows]
  cases m
  simp

theorem jsonLawful (d : DoubleText K) (hd : d.RoundTrip) : Lawful (jsonShow d) (jsonRead d) where
  num x := by
    simp only [jsonRead, jsonShow]
    rw [tag_f, untag_tag]
    simp [hd.read_repr]
  mat m := by
    simp only [jsonRead, jsonShow]
    rw [tag_m, untag_tag]
    simp [parse_render _ (matJ_wf d hd m), matOfJ_matJ d hd m]
  int n := by
    simp only [jsonRead]
    rw [tag_i, untag_tag, Option.bind_some, parse_renderInt]
    rfl
  nat n := by
    simp only [jsonRead]
    rw [tag_i, untag_tag]
    rw [Option.bind_some, toString_natCast, parse_renderInt]
    simp [intOfJ]
  str x := by
    simp only [jsonRead]
    rw [tag_s, untag_tag]
    simp
  int_null := by
    simp only [jsonRead]
    rw [untag_null _ _ (by decide)]
    rfl

end Acn.RegistryJson
