/-
  The VIEWS handed to the scheduler (`Sim.runViews`, AcnModel/SchedView.lean) across an abort and the resumption
  (C05): a view does not read the ghost record, the state an abort leaves hands out the view of the failed call
  again, and so (`resume_views`) the second `run()` sees the views of the uninterrupted run from period `k` on.
  The views are what `handedView` gives at the loop heads of the run (`runViews_eq`), so those handed out before the
  crash are read off the heads the failing and the plain run have in common (`StepsCrash.loop_crash`).
-/
import AcnProofs.Lemmas.ResumeSt
import AcnProofs.Lemmas.SchedView

set_option linter.unusedSectionVars false

namespace Acn.Sim
open Acn Acn.EventCore Acn.Steps

variable {K : Type} [Add K] [Sub K] [Mul K] [Div K] [Neg K] [LT K] [LE K]
  [DecidableLT K] [DecidableLE K] [OfNat K 0] [OfNat K 1] [NatCast K] [HasExp K]

theorem handedView_withInv (cfg : Cfg K) (l : List Nat) (s : State K) :
    handedView cfg (withInv l s) = handedView cfg s := by
  rcases hes : eventsStage cfg s with ⟨s1, _ | err⟩
  · have hes' : eventsStage cfg (withInv l s) = (withInv l s1, none) := by rw [eventsStage_withInv, hes]
    rw [handedView_of_events hes, handedView_of_events hes']
    rfl
  · unfold handedView consulted
    rw [eventsStage_withInv, hes]

theorem handedView_obs (cfg : Cfg K) {s t : State K} (h : ObsEq s t) : handedView cfg t = handedView cfg s := by
  rw [h.eq_withInv, handedView_withInv]

theorem runViews_obs (cfg : Cfg K) (sched : View K → Except Err (Schedule K)) (n : Nat) {s t : State K}
    (h : ObsEq s t) : runViews cfg sched n t = runViews cfg sched n s := by
  rw [runViews_eq, runViews_eq]
  exact heads_out (R := fun s t => ObsEq s t) (X := sep (fun s t => ObsEq s t) Eq) (fun _ _ h => guard_obs h)
    (fun a b h _ => Out.of_eq (body_obs cfg sched h).2 (body_obs cfg sched h).1.symm)
    (fun a b h => congrArg Option.toList (handedView_obs cfg h)) n s t h

theorem handedView_retry (cfg : Cfg K) {s s1 : State K} (hI : NoOverdue cfg.core s.core)
    (he : eventsStage cfg s = (s1, none)) :
    handedView cfg ({ s1 with core := markInvoked s1.core } : State K) = handedView cfg s := by
  have hf' : Fresh ({ s1 with core := markInvoked s1.core } : State K).core := (eventsStage_mid hI he).1
  rw [handedView_of_events he, handedView_of_events (eventsStage_of_fresh cfg hf')]
  rfl

theorem failsAt (cfg : Cfg K) (sched : View K → Except Err (Schedule K)) (k : Nat) :
    FailsAt (fun s => guard s.core) (body cfg sched) (body cfg (failAt k sched)) (fun s => s.core.iter) k
      (fun s => NoOverdue cfg.core s.core) := by
  refine ⟨fun s hs => body_failAt_ne cfg sched hs, fun s hs hd => ?_,
    fun s s' hI _ _ hb => ⟨EventCore.body_noOverdue hI (body_core_ok hb), (body_ok_next (body_core_ok hb)).1⟩⟩
  rcases body_failAt_eq cfg sched k s with hb | ⟨s1, _, _, _, hb⟩
  · exact absurd hb hd
  · simp [hb]

theorem runViews_retry (cfg : Cfg K) (sched : View K → Except Err (Schedule K)) {h s1 : State K}
    (hI : NoOverdue cfg.core h.core) (hg : guard h.core = true) (he : eventsStage cfg h = (s1, none)) (m : Nat) :
    runViews cfg sched (m + 1) { s1 with core := markInvoked s1.core } = runViews cfg sched (m + 1) h := by
  obtain ⟨_, _, hg', hobs⟩ := body_retry cfg sched hI he
  simp only [runViews, hg' hg, hg, if_true, handedView_retry cfg hI he]
  rcases h1 : body cfg sched { s1 with core := markInvoked s1.core } with ⟨a, _ | e⟩ <;>
    rcases h2 : body cfg sched h with ⟨b, _ | e'⟩ <;> rw [h1, h2] at hobs <;> simp only []
  · rw [runViews_obs cfg sched m hobs.1.symm]
  · exact absurd hobs.2 (by simp)
  · exact absurd hobs.2 (by simp)

/-- from the constructor's state, and in acnportal's terms: `C05.resume_views_true` -/
theorem resume_views (cfg : Cfg K) (sched : View K → Except Err (Schedule K)) (k : Nat)
    (n : Nat) {s : State K} (hI : NoOverdue cfg.core s.core) (hk : s.core.iter ≤ k) :
      (run cfg (failAt k sched) n s = run cfg sched n s ∧ runViews cfg (failAt k sched) n s = runViews cfg sched n s) ∨
      ((run cfg (failAt k sched) n s).2 = some .schedulerFailed ∧ (run cfg (failAt k sched) n s).1.core.iter = k ∧
        ∃ A v B, runViews cfg sched n s = A ++ v :: B ∧ runViews cfg (failAt k sched) n s = A ++ [v] ∧
          runViews cfg sched (n - (k - s.core.iter)) (run cfg (failAt k sched) n s).1 = v :: B ∧
          v.iter = k ∧ ∀ a ∈ A, a.iter < k) := by
  simp only [runViews_eq, Sim.run_eq]
  rcases loop_crash (failsAt cfg sched k) n s hI hk with
    hsame | ⟨h, m, pre, hIh, hkh, hgh, hd, hm, h6, h7, h8, h9, h10⟩
  · obtain ⟨h1, h2⟩ := loopE_congr_heads n s hsame
    exact Or.inl ⟨h1, by rw [h2]⟩
  · right
    rcases body_failAt_eq cfg sched k h with hb | ⟨s1, he, hn, hg, hb⟩
    · exact absurd hb hd
    · -- the crash head `h`: the views so far are those of `pre`; the injected failure is reached only past the
      -- `SessionInfo` guard, so the failed call was handed `v = view (the state it left)`
      have hv : handedView cfg h = some (view cfg { s1 with core := markInvoked s1.core }) := by
        rw [handedView_of_events he, if_pos hn, hg]; rfl
      have hi := (eventsStage_mid hIh he).2.1
      obtain ⟨B, hB⟩ : ∃ B, (heads (fun s => guard s.core) (body cfg sched) (m + 1) h).flatMap
          (fun s => (handedView cfg s).toList) = view cfg { s1 with core := markInvoked s1.core } :: B := by
        rw [heads, if_pos hgh]
        rcases body cfg sched h with ⟨b, _ | e⟩ <;> rw [List.flatMap_cons, hv] <;> exact ⟨_, rfl⟩
      have hr := runViews_retry cfg sched hIh hgh he m
      rw [runViews_eq, runViews_eq, hB] at hr
      refine ⟨by rw [h6, hb], by rw [h6, hb]; exact hi.trans hkh, pre.flatMap fun s => (handedView cfg s).toList, _, B,
        by rw [h9, List.flatMap_append, hB], by rw [h8, List.flatMap_append, List.flatMap_singleton, hv]; rfl, ?_,
        hi.trans hkh, fun a ha => ?_⟩
      · rw [h6, hb, ← hm]
        exact hr
      · obtain ⟨x, hx, hxa⟩ := List.mem_flatMap.1 ha
        rw [handedView_iter cfg x (Option.mem_toList.1 hxa)]
        exact h10 x hx

end Acn.Sim
