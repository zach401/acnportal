/-
  Every clause of C01 about a COMPLETED simulation, bundled as one predicate `Completed cfg c` on the event core and
  derived from the loop invariant at the horizon (`completed_of_inv`; `completed_of_head` for any network); the
  theorems `plugged_once` … `ev_history_keys` of AcnProofs/C01.lean are its fields.  `Completed` does not mention the
  ghost field `invoked`.
  Last section: the same for the full model — the event core of a `Sim.run` from the constructor's state that raises
  nothing stands at a loop head of C01's invariant (`Sim.run_inv`).
-/
import AcnProofs.Lemmas.EventCoreRun
import AcnProofs.Lemmas.EventCoreSim

namespace Acn.EventCore
open Acn

/-- what C01 says about the state in which `run()` returns -/
structure Completed (cfg : Cfg) (c : Core) : Prop where
  queue_empty : c.pending = []
  /-- no recompute request is left over -/
  resolve : c.resolve = false
  /-- one period after the last event -/
  final_iteration : c.iter = horizon cfg
  vacant : ∀ st, c.occ st = none
  /-- exactly one plug-in entry per session, at its arrival -/
  plugged_once : ∀ x ∈ cfg.sessions,
    c.eventHist.filter (fun e => e.kind == .plugin && e.sess == x.id) = [plugEv x]
  /-- exactly one unplug entry per session, at its departure -/
  unplugged_once : ∀ x ∈ cfg.sessions,
    c.eventHist.filter (fun e => e.kind == .unplug && e.sess == x.id) = [unplugEv x]
  /-- `event_history` is ordered by (timestamp, precedence) -/
  sorted : c.eventHist.Pairwise (fun a b => a.keyLe b = true)
  /-- `event_history` holds every event of the scenario exactly once and nothing else -/
  complete : c.eventHist.Perm (cfg.sessions.map plugEv ++ cfg.sessions.map unplugEv ++ cfg.recomputes.map recEv)
  /-- the keys of `ev_history` are the plugged-in sessions in plug-in order -/
  evh : c.evHist = (c.eventHist.filter (fun e => e.kind == .plugin)).map (·.sess)
  /-- … every session once -/
  evh_perm : c.evHist.Perm (cfg.sessions.map (·.id))

theorem vacant_at_horizon {cfg : Cfg} {c : Core} (hI : Inv cfg (horizon cfg) c) (st : String) : c.occ st = none := by
  rcases h : c.occ st with _ | x
  · rfl
  · obtain ⟨hx, _, _, hd⟩ := (hI.occ st x).1 h
    have := dep_lt_horizon hx
    omega

theorem sessions_filter_id {cfg : Cfg} (hv : ValidQ cfg) {x : Session} (hx : x ∈ cfg.sessions) :
    cfg.sessions.filter (fun y => y.id == x.id) = [x] :=
  eq_singleton_of_nodup ((List.Nodup.of_map _ hv.ids_nodup).filter _)
    (fun y hy => id_inj hv (List.mem_filter.1 hy).1 hx (by simpa using (List.mem_filter.1 hy).2))
    (List.mem_filter.2 ⟨hx, by simp⟩)

/-- the queue/history half of the loop invariant at the horizon gives every clause but vacancy (any network).
    The history is a permutation of the scenario's events; the clauses about single sessions are that permutation
    filtered. -/
theorem completed_of_head {cfg : Cfg} (hv : ValidQ cfg) {c : Core} (hI : InvG cfg (horizon cfg) c)
    (hocc : ∀ st, c.occ st = none) : Completed cfg c := by
  have hp : c.pending = [] := by
    by_contra h
    exact absurd ((pendingG_ne_nil_iff hv hI).1 h) (lt_irrefl _)
  have hcomplete : c.eventHist.Perm
      (cfg.sessions.map plugEv ++ cfg.sessions.map unplugEv ++ cfg.recomputes.map recEv) :=
    (List.perm_ext_iff_of_nodup hI.hist_nodup (events_nodup hv)).2 fun e => (hI.hist_iff e).trans (done_horizon hv e)
  have hplug : ∀ x ∈ cfg.sessions,
      c.eventHist.filter (fun e => e.kind == .plugin && e.sess == x.id) = [plugEv x] := by
    intro x hx
    refine List.perm_singleton.1 ((hcomplete.filter _).trans (.of_eq ?_))
    simp [List.filter_append, List.filter_map, Function.comp_def, plugEv, unplugEv, recEv, sessions_filter_id hv hx]
  have hunplug : ∀ x ∈ cfg.sessions,
      c.eventHist.filter (fun e => e.kind == .unplug && e.sess == x.id) = [unplugEv x] := by
    intro x hx
    refine List.perm_singleton.1 ((hcomplete.filter _).trans (.of_eq ?_))
    simp [List.filter_append, List.filter_map, Function.comp_def, plugEv, unplugEv, recEv, sessions_filter_id hv hx,
      List.append_eq_singleton_iff]
  have hevh : c.evHist.Perm (cfg.sessions.map (·.id)) := by
    rw [hI.evh]
    refine ((hcomplete.filter _).map _).trans (.of_eq ?_)
    simp [List.filter_append, List.filter_map, Function.comp_def, plugEv, unplugEv, recEv]
  exact ⟨hp, hI.resolve, hI.iter, hocc, hplug, hunplug, hI.hist_sorted, hcomplete, hI.evh, hevh⟩

theorem completed_of_inv {cfg : Cfg} (hv : Valid cfg) {c : Core} (hI : Inv cfg (horizon cfg) c) : Completed cfg c :=
  completed_of_head hv.toQ ((inv_iff hv.toQ).1 hI).1 (vacant_at_horizon hI)

theorem run_completed {cfg : Cfg} (hv : Valid cfg) (n : Nat) (hn : horizon cfg ≤ n) :
    ∃ c, run cfg noFail noFail n (init cfg) = (c, none) ∧ Completed cfg c := by
  obtain ⟨c, hr, hI⟩ := run_spec hv (sched := noFail) (apply := noFail) (fun _ => rfl) (fun _ => rfl) n 0
    (init cfg) (init_inv hv) (Nat.zero_le _)
  rw [Nat.min_eq_right (by omega)] at hI
  exact ⟨c, hr, completed_of_inv hv hI⟩

end Acn.EventCore

namespace Acn.Sim
open Acn Acn.EventCore

variable {K : Type} [Add K] [Sub K] [Mul K] [Div K] [Neg K] [LT K] [LE K]
  [DecidableLT K] [DecidableLE K] [OfNat K 0] [OfNat K 1] [NatCast K] [HasExp K]

theorem run_inv (cfg : Cfg K) (sched : View K → Except Err (Schedule K)) (hv : Valid cfg.core) (n : Nat)
    (hok : (run cfg sched n (init cfg)).2 = none) :
    Inv cfg.core (min n (horizon cfg.core)) (run cfg sched n (init cfg)).1.core := by
  obtain ⟨c, hr, hI⟩ := run_spec hv (sched := noFail) (apply := noFail) (fun _ => rfl) (fun _ => rfl) n 0
    (EventCore.init cfg.core) (init_inv hv) (Nat.zero_le _)
  have hp := run_core cfg sched n (init cfg) hok
  rw [init_core, hr] at hp
  obtain rfl : c = (run cfg sched n (init cfg)).1.core := congrArg Prod.fst hp
  rwa [Nat.zero_add] at hI

theorem run_inv_horizon (cfg : Cfg K) (sched : View K → Except Err (Schedule K)) (hv : Valid cfg.core) {n : Nat}
    (hn : horizon cfg.core ≤ n) (hok : (run cfg sched n (init cfg)).2 = none) :
    Inv cfg.core (horizon cfg.core) (run cfg sched n (init cfg)).1.core :=
  Nat.min_eq_right hn ▸ run_inv cfg sched hv n hok

end Acn.Sim
