/-
  Helper lemmas for C11: the tuple order on queue entries is a strict weak order, read off the lexicographic
  order on `(timestamp, precedence)`.
-/
import AcnProofs.Lemmas.QueueHeap

namespace Acn

/-- the key of a queue entry in the lexicographic order in which Python compares the tuples -/
def lexKey (a : Event) : ℤ ×ₗ ℚ := toLex (a.ts, a.kind.prec)

theorem keyLt_iff_lex (a b : Event) : a.keyLt b = true ↔ lexKey a < lexKey b := by
  simp [Event.keyLt, lexKey, Prod.Lex.lt_iff]

theorem keyLt_iff (a b : Event) :
    a.keyLt b = true ↔ a.ts < b.ts ∨ (a.ts = b.ts ∧ a.kind.prec < b.kind.prec) := by
  simp [Event.keyLt]

theorem keyLt_false_iff (a b : Event) : a.keyLt b = false ↔ lexKey b ≤ lexKey a := by
  rw [← Bool.not_eq_true, keyLt_iff_lex, not_lt]

/-- `a ≤ b` on keys: `b` is not before `a` -/
abbrev KeyLe (a b : Event) : Prop := b.keyLt a = false

theorem keyLt_irrefl (a : Event) : a.keyLt a = false := (keyLt_false_iff a a).mpr le_rfl

theorem keyLt_trans (a b c : Event) (h1 : a.keyLt b = true) (h2 : b.keyLt c = true) :
    a.keyLt c = true :=
  (keyLt_iff_lex a c).mpr (lt_trans ((keyLt_iff_lex a b).mp h1) ((keyLt_iff_lex b c).mp h2))

theorem keyLe_trans (a b c : Event) (h1 : KeyLe a b) (h2 : KeyLe b c) : KeyLe a c :=
  (keyLt_false_iff c a).mpr (le_trans ((keyLt_false_iff b a).mp h1) ((keyLt_false_iff c b).mp h2))

theorem keyLt_incomp_trans (a b c : Event) (h1 : a.keyLt b = false) (h2 : b.keyLt a = false)
    (h3 : b.keyLt c = false) (h4 : c.keyLt b = false) :
    a.keyLt c = false ∧ c.keyLt a = false :=
  ⟨keyLe_trans c b a h3 h1, keyLe_trans a b c h2 h4⟩

theorem keyLt_swo : Heap.SWO Event.keyLt :=
  ⟨keyLt_irrefl, keyLt_trans, keyLt_incomp_trans⟩

theorem keyLt_total (a b : Event) : a.keyLt b = true ∨ b.keyLt a = true ∨
    (a.ts = b.ts ∧ a.kind.prec = b.kind.prec) := by
  rw [keyLt_iff_lex, keyLt_iff_lex]
  refine (lt_trichotomy (lexKey a) (lexKey b)).imp_right (Or.symm ∘ Or.imp_left fun h => ?_)
  simpa [lexKey] using h

theorem ts_le_of_keyLe {a b : Event} (h : KeyLe a b) : a.ts ≤ b.ts := by
  rcases Prod.Lex.le_iff.mp ((keyLt_false_iff b a).mp h) with h | ⟨h, _⟩ <;> exact h.le

theorem keyLe_of_ts_lt {a b : Event} (h : a.ts < b.ts) : KeyLe a b :=
  (keyLt_false_iff b a).mpr (Prod.Lex.le_iff.mpr (.inl h))

end Acn
