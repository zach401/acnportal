/-
  Helper lemmas for C10 (Sim level, the modelled sorting-based algorithms as scheduler parameter):
  * the constraint rows reach `Acn.Sim` ONLY through the scheduler parameter (`SimSorted.feasOf net`,
    the algorithm-side feasibility check); permuting the (row, limit) pairs leaves that check, hence the
    scheduler, hence the whole run, literally unchanged;
  * `sortedSched` / `uncontrolledSched` read `View.active` and `View.iter` only — in particular not
    `EVSE.current_pilot`, so the session-permutation capstone applies to them as they are (no
    distinct-keys hypothesis: `network.active_evs` is in STATION order, whatever the listing order).
-/
import AcnModel.SimSorted
import AcnProofs.Lemmas.EquivSimSessions

set_option linter.unusedSectionVars false

namespace Acn.SimSorted
open Acn.Sim Acn.Sorted Acn.Feas Acn.SimPerm

variable {K : Type} [Field K] [LinearOrder K] [IsStrictOrderedRing K] [HasExp K] [HasCeilNat K]

theorem algFeasible_perm_constraints (M M' : List (List K)) (lims lims' c s : List K) (vt rt : K) (x : List K)
    (h : (List.zip M' lims').Perm (List.zip M lims)) :
    algFeasible M' lims' c s vt rt x = algFeasible M lims c s vt rt x := by
  unfold algFeasible
  exact h.all_eq

/-- two descriptions of the same network whose constraints were added in a different order -/
structure RowsPerm (net net' : NetInfo K) : Prop where
  rows : (List.zip net'.M net'.lims).Perm (List.zip net.M net.lims)
  cos : net'.cos = net.cos
  sin : net'.sin = net.sin
  vt : net'.vt = net.vt
  rt : net'.rt = net.rt

theorem feasOf_rowsPerm {net net' : NetInfo K} (h : RowsPerm net net') : feasOf net' = feasOf net := by
  funext x
  unfold feasOf
  rw [h.cos, h.sin, h.vt, h.rt]
  exact algFeasible_perm_constraints _ _ _ _ _ _ _ _ x h.rows

theorem sortedSched_rowsPerm {net net' : NetInfo K} (h : RowsPerm net net') (inf : K) (cfg : Sim.Cfg K)
    (scfg : Config K) : sortedSched net' inf cfg scfg = sortedSched net inf cfg scfg := by
  unfold sortedSched
  rw [feasOf_rowsPerm h]

theorem sortedSched_ignoresEvsePilot (net : NetInfo K) (inf : K) (cfg : Sim.Cfg K) (scfg : Config K) :
    SchedIgnoresEvsePilot (sortedSched net inf cfg scfg) := fun _ _ => rfl

theorem uncontrolledSched_ignoresEvsePilot (inf : K) (cfg : Sim.Cfg K) :
    SchedIgnoresEvsePilot (uncontrolledSched inf cfg) := fun _ _ => rfl

/-- the adapters read the station table and the period of the configuration only -/
theorem sortedSched_cfg_evs (net : NetInfo K) (inf : K) (cfg : Sim.Cfg K) (scfg : Config K)
    (evs' : List (Evse.Ev K)) (recs' : List (Int × String)) :
    sortedSched net inf { cfg with evs := evs', recomputes := recs' } scfg = sortedSched net inf cfg scfg ∧
    uncontrolledSched inf { cfg with evs := evs', recomputes := recs' } = uncontrolledSched inf cfg :=
  ⟨rfl, rfl⟩

end Acn.SimSorted
