/-
  `runG`, the loop over any queue and any network (`AcnModel/EventCoreGRun.lean`), with stages that never raise:
  the counted loop over `bodyG`.  A module of its own because `runG` cannot be imported next to
  `AcnModel/Ignored.lean`, which `EventCoreRun.lean`'s users need.
-/
import AcnModel.EventCoreGRun
import AcnProofs.Lemmas.EventCoreGM

namespace Acn.EventCore
open Acn Acn.Steps

variable {σ : Type} {cfg : Cfg} {ops : QOps} {good : List Event → Prop} {net : NetOps σ}
  {post : Nat → σ → σ × Option Err} {P : List Event → σ → Prop}

theorem runG_eq (sched apply : CoreG σ → Option Err) : ∀ (n : Nat) (g : CoreG σ),
    runG ops net cfg sched apply n g = loopE (fun g => guard g.core) (bodyG ops net cfg sched apply) n g :=
  loopE_unique (fun _ => rfl) fun n g => by
    rw [runG]
    rcases bodyG ops net cfg sched apply g with ⟨g', _ | e⟩ <;> rfl

theorem runG_spec (hq : ValidQ cfg) (hops : ops.Ok good) (hnet : NetInv net post cfg P)
    {sched apply : CoreG σ → Option Err} (hs : ∀ g, sched g = none) (ha : ∀ g, apply g = none) :
    ∀ (n t : Nat) (g : CoreG σ), InvG cfg t g.core → good g.core.pending → P g.core.eventHist g.net →
    t ≤ horizon cfg →
    ∃ g', runG ops net cfg sched apply n g = (g', none) ∧
      InvG cfg (min (t + n) (horizon cfg)) g'.core ∧ P g'.core.eventHist g'.net := by
  intro n t g hI hG hN ht
  obtain ⟨g', hr, h⟩ := loopE_counted_ok (body := bodyG ops net cfg sched apply)
    (I := fun t g => InvG cfg t g.core ∧ good g.core.pending ∧ P g.core.eventHist g.net) (horizon cfg)
    (fun _ _ h => h.1.guard_iff hq) (fun _ _ h _ => bodyG_ok hq hops hnet hs ha h.1 h.2.1 h.2.2)
    n t g ⟨hI, hG, hN⟩ ht
  exact ⟨g', (runG_eq sched apply n g).trans hr, h.1, h.2.2⟩

end Acn.EventCore
