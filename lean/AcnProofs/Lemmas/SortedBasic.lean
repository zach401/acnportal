/-
  Helper lemmas for C07 / C08: list updates and loops of them (`writes`), `dictSet` / `uncontrolled` as the
  assignment / comprehension of `Lemmas/Assoc`, the bisection and the discrete walk for an ARBITRARY feasibility
  predicate.  (The insertion sort: `Lemmas/InsertSort`; its stability: `Lemmas/SortedOpt`.)
-/
import AcnModel.Sorted
import AcnProofs.Lemmas.Basic
import AcnProofs.Lemmas.Assoc
import AcnProofs.Lemmas.InsertSort
import Mathlib.Tactic

namespace Acn.Sorted
open Acn

theorem set_idem {α : Type} (l : List α) (i : Nat) (a : α) : (l.set i a).set i a = l.set i a := by
  simp

theorem set_noop_of_comm {α : Type} (l : List α) (i j : Nat) (a b : α) (hij : i ≠ j)
    (h : l.set j b = l) : (l.set i a).set j b = l.set i a := by
  rw [List.set_comm _ _ hij, h]

theorem getElem?_of_set_noop {α : Type} (l : List α) (i : Nat) (a : α) (h : l.set i a = l)
    (hi : i < l.length) : l[i]? = some a := by
  have : (l.set i a)[i]? = some a := by simp [hi]
  rwa [h] at this

/-! ### a `for` loop of point updates `a[key s] = val s`
  "Start each EV at its lower bound" and the first loop of `round_robin` (two arrays at once) are such loops. -/

section writes
variable {ι α : Type} (key : ι → Nat) (val : ι → α)

def writes (q : List ι) (acc : List α) : List α := q.foldl (fun a s => a.set (key s) (val s)) acc

theorem writes_snoc (q : List ι) (u : ι) (acc : List α) :
    writes key val (q ++ [u]) acc = (writes key val q acc).set (key u) (val u) := by
  simp [writes]

theorem writes_map {κ : Type} (m : κ → ι) (q : List κ) (acc : List α) :
    writes key val (q.map m) acc = writes (fun s => key (m s)) (fun s => val (m s)) q acc :=
  List.foldl_map ..

@[simp] theorem length_writes (q : List ι) : ∀ acc : List α, (writes key val q acc).length = acc.length := by
  induction q with
  | nil => exact fun _ => rfl
  | cons s t ih => exact fun acc => (ih _).trans (List.length_set ..)

theorem getElem?_writes_of_ne (q : List ι) {j : Nat} : ∀ acc : List α, (∀ s ∈ q, key s ≠ j) →
    (writes key val q acc)[j]? = acc[j]? := by
  induction q with
  | nil => exact fun _ _ => rfl
  | cons s t ih =>
    intro acc h
    exact (ih _ fun u hu => h u (List.mem_cons_of_mem _ hu)).trans
      (List.getElem?_set_ne (h s List.mem_cons_self))

/-- The last writer wins, and WHO that is depends on the keys only: two arrays written in one loop hold, at the
    position of any `s`, the values of the same `u`.  ("Holds `v` at `i`" is `set i v = self`: no bound on `i`.) -/
theorem writes_last (q : List ι) : ∀ s ∈ q, ∃ u ∈ q, key u = key s ∧
    ∀ {α : Type} (val : ι → α) (acc : List α),
      (writes key val q acc).set (key s) (val u) = writes key val q acc := by
  induction q using List.reverseRecOn with
  | nil => exact fun s hs => absurd hs (by simp)
  | append_singleton init x ih =>
    intro s hs
    by_cases hx : key x = key s
    · exact ⟨x, by simp, hx, fun val acc => by rw [writes_snoc, ← hx, List.set_set]⟩
    · have hs' : s ∈ init := by
        rcases List.mem_append.1 hs with h | h
        · exact h
        · exact absurd (by rw [List.mem_singleton.1 h]) hx
      obtain ⟨u, hu, hk, h⟩ := ih s hs'
      exact ⟨u, List.mem_append_left _ hu, hk, fun val acc => by
        rw [writes_snoc, List.set_comm _ _ hx, h]⟩

theorem writes_own {q : List ι} (hnd : (q.map key).Nodup) {s : ι} (hs : s ∈ q) (acc : List α) :
    (writes key val q acc).set (key s) (val s) = writes key val q acc := by
  obtain ⟨u, hu, hk, h⟩ := writes_last key q s hs
  obtain rfl : u = s := List.inj_on_of_nodup_map hnd hu hs hk
  exact h val acc

theorem foldl_prod {β γ : Type} (f : β → ι → β) (g : γ → ι → γ) (q : List ι) : ∀ (b : β) (c : γ),
    q.foldl (fun acc s => (f acc.1 s, g acc.2 s)) (b, c) = (q.foldl f b, q.foldl g c) := by
  induction q with
  | nil => exact fun _ _ => rfl
  | cons s t ih => exact fun b c => ih _ _

end writes

theorem dictSet_eq {V : Type} (d : List (String × V)) (k : String) (v : V) : dictSet d k v = Assoc.set d k v := by
  induction d with
  | nil => rfl
  | cons p r ih => simp only [dictSet, Assoc.set, beq_iff_eq, ih]

section
variable {K : Type} [Field K] [LinearOrder K] [IsStrictOrderedRing K]

omit [LinearOrder K] [IsStrictOrderedRing K] in
/-- the uncontrolled baseline is the dict comprehension `{s.station: [max_pilot(s)] for s in l}` -/
theorem uncontrolled_eq (infra : Infra K) (l : List (Session K)) :
    uncontrolled infra l = Assoc.ofPairs (l.map fun s => (s.station, [infra.maxPilot.getD s.idx 0])) := by
  simp only [uncontrolled, Assoc.ofPairs, List.foldl_map, dictSet_eq]

omit [LinearOrder K] [IsStrictOrderedRing K] in
theorem uncontrolled_eq_map (infra : Infra K) (l : List (Session K)) (h : (l.map (·.station)).Nodup) :
    uncontrolled infra l = l.map (fun s => (s.station, [infra.maxPilot.getD s.idx 0])) := by
  rw [uncontrolled_eq]
  exact Assoc.ofPairs_of_nodup (by rw [Assoc.keys, List.map_map]; exact h)

omit [Field K] [LinearOrder K] [IsStrictOrderedRing K] in
/-- the keys of the dict `format_array_schedule` builds are the station ids, in order -/
theorem map_fst_format (ids : List String) (sch : List K) (h : ids.length = sch.length) :
    (List.zipWith (fun id r => (id, [r])) ids sch).map (·.1) = ids := by
  rw [List.map_zipWith]
  simpa [List.zip_eq_zipWith, List.map_zipWith] using List.map_fst_zip (l₁ := ids) (l₂ := sch) h.le

/-- `mid_mem` for the midpoint as the bisection writes it, `(ub + lb) / 2` -/
theorem mid_props {lb ub : K} (h : lb ≤ ub) :
    lb ≤ (ub + lb) / ((2 : Nat) : K) ∧ (ub + lb) / ((2 : Nat) : K) ≤ ub ∧
    ∀ g, ub - lb ≤ 2 * g →
      ub - (ub + lb) / ((2 : Nat) : K) ≤ g ∧ (ub + lb) / ((2 : Nat) : K) - lb ≤ g := by
  rw [Nat.cast_ofNat, add_comm]
  exact mid_mem h

theorem bisect_cases (feas : List K → Bool) (sched : List K) (i : Nat) (eps : K) :
    ∀ (fuel : Nat) (lb ub : K),
      bisect feas sched i eps fuel lb ub = lb ∨
      feas (sched.set i (bisect feas sched i eps fuel lb ub)) = true := by
  intro fuel
  induction fuel with
  | zero => intro lb ub; left; rfl
  | succ n ih =>
    intro lb ub
    unfold bisect
    simp only
    split
    · left; rfl
    · split
      · rename_i hmid
        rcases ih ((ub + lb) / ((2 : Nat) : K)) ub with h | h
        · right; rw [h]; exact hmid
        · right; exact h
      · exact ih lb ((ub + lb) / ((2 : Nat) : K))

theorem bisect_range (feas : List K → Bool) (sched : List K) (i : Nat) (eps : K) (heps : 0 ≤ eps) :
    ∀ (fuel : Nat) (lb ub : K),
      lb ≤ bisect feas sched i eps fuel lb ub ∧ bisect feas sched i eps fuel lb ub ≤ max lb ub := by
  intro fuel
  induction fuel with
  | zero => intro lb ub; exact ⟨le_refl _, le_max_left _ _⟩
  | succ n ih =>
    intro lb ub
    unfold bisect
    simp only
    split
    · exact ⟨le_refl _, le_max_left _ _⟩
    · rename_i hgap
      obtain ⟨hm1, hm2, _⟩ := mid_props (sub_pos.mp (lt_of_le_of_lt heps (not_le.mp hgap))).le
      split
      · obtain ⟨h1, h3⟩ := ih ((ub + lb) / ((2 : Nat) : K)) ub
        refine ⟨le_trans hm1 h1, le_trans h3 ?_⟩
        exact max_le (le_trans hm2 (le_max_right _ _)) (le_max_right _ _)
      · obtain ⟨h1, h3⟩ := ih lb ((ub + lb) / ((2 : Nat) : K))
        refine ⟨h1, le_trans h3 ?_⟩
        exact max_le (le_max_left _ _) (le_trans hm2 (le_max_right _ _))

theorem walkDown_eq_find (feas : List K → Bool) (sched : List K) (i : Nat) (l : List K) :
    walkDown feas sched i l = (l.find? fun a => feas (sched.set i a)).getD 0 := by
  induction l with
  | nil => rfl
  | cons a rest ih => rw [walkDown, List.find?_cons, ih]; cases feas (sched.set i a) <;> rfl

theorem walkDown_cases (feas : List K → Bool) (sched : List K) (i : Nat) (l : List K) :
    (walkDown feas sched i l ∈ l ∧ feas (sched.set i (walkDown feas sched i l)) = true) ∨
    (walkDown feas sched i l = 0 ∧ ∀ a ∈ l, feas (sched.set i a) = false) := by
  rw [walkDown_eq_find]
  cases h : l.find? fun a => feas (sched.set i a) with
  | none => exact Or.inr ⟨rfl, fun a ha => by simpa using List.find?_eq_none.1 h a ha⟩
  | some w => exact Or.inl ⟨List.mem_of_find?_eq_some h, List.find?_some (p := fun a => feas (sched.set i a)) h⟩

end
end Acn.Sorted
