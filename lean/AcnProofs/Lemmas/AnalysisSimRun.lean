/-
  For C18Sim: the analysis functions on a `Sim.State` that satisfies C02's ledger invariant —
  `charging_rates` is rectangular, entry `t` of `aggregate_current(sim)` / `aggregate_power(sim)` for
  EVERY `t` (0 past the array's end), and `sim.ev_history.values()` is a permutation of the
  scenario's EV objects once every session has plugged in.
-/
import AcnProofs.Lemmas.AnalysisSim
import AcnProofs.Lemmas.LedgerTotal
import AcnModel.AnalysisSim

set_option linter.unusedSectionVars false

namespace Acn.AnalysisSim
open Acn.Analysis Acn.Sim Acn.Ledger Finset

variable {K : Type} [Field K] [LinearOrder K] [IsStrictOrderedRing K] [HasExp K]

theorem ent_simR (s : State K) (i t : Nat) : ent (simR s) i t = s.rates.get i t := rfl

theorem simV_getD (cfg : Cfg K) (i : Nat) : (simV cfg).getD i 0 = volt cfg i := rfl

theorem rect_of_inv {cfg : Cfg K} {s : State K} (hL : Ledger.Inv cfg s) :
    (∀ row ∈ simR s, row.length = simT s) ∧ (simR s).length = cfg.stations.length :=
  ⟨hL.rates_wf.2, hL.rates_wf.1⟩

theorem get_of_width_le {cfg : Cfg K} {s : State K} (hL : Ledger.Inv cfg s) (i t : Nat) (ht : simT s ≤ t) :
    s.rates.get i t = 0 := by
  show ((s.rates.rows.getD i []).getD t 0) = 0
  by_cases hi : i < s.rates.rows.length
  · have hmem : s.rates.rows.getD i [] ∈ s.rates.rows := by
      rw [List.getD_eq_getElem _ _ hi]; exact List.getElem_mem _
    exact List.getD_eq_default _ _ (by rw [hL.rates_wf.2 _ hmem]; exact ht)
  · have hnil : s.rates.rows.getD i [] = [] := List.getD_eq_default _ _ (by omega)
    rw [hnil]; rfl

theorem aggSim_getD {cfg : Cfg K} {s : State K} (hL : Ledger.Inv cfg s) (t : Nat) :
    (aggregateCurrentSim s).getD t 0 = ∑ i ∈ range cfg.stations.length, s.rates.get i t := by
  obtain ⟨hr, hl⟩ := rect_of_inv hL
  unfold aggregateCurrentSim
  rw [C18.aggregate_current_def _ _ hr, hl]
  by_cases ht : t < simT s
  · rw [getD_map_range 0 _ _ t ht]; rfl
  · rw [List.getD_eq_default _ _ (by simpa using ht)]
    exact (Finset.sum_eq_zero fun i _ => get_of_width_le hL i t (by omega)).symm

theorem powSim_getD {cfg : Cfg K} {s : State K} (hL : Ledger.Inv cfg s) (t : Nat) :
    (aggregatePowerSim cfg s).getD t 0 =
      (∑ i ∈ range cfg.stations.length, volt cfg i * s.rates.get i t) / 1000 := by
  obtain ⟨hr, hl⟩ := rect_of_inv hL
  unfold aggregatePowerSim
  rw [C18.aggregate_power_def _ _ _ hr, hl]
  by_cases ht : t < simT s
  · rw [getD_map_range 0 _ _ t ht]; rfl
  · rw [List.getD_eq_default _ _ (by simpa using ht)]
    have : ∑ i ∈ range cfg.stations.length, volt cfg i * s.rates.get i t = 0 :=
      Finset.sum_eq_zero fun i _ => by rw [get_of_width_le hL i t (by omega), mul_zero]
    rw [this, zero_div]

theorem lookup_all (evs : List (Evse.Ev K)) (hnd : (evs.map (·.session)).Nodup) (f : Evse.Ev K → Analysis.Ev K) :
    (evs.map (·.session)).filterMap (fun id => (evs.find? (fun e => e.session == id)).map f) = evs.map f := by
  rw [List.filterMap_map]
  rw [← List.filterMap_eq_map]
  apply List.filterMap_congr
  intro e he
  have := evIn_of_mem_nodup evs hnd e he
  simp only [Function.comp, evIn] at this ⊢
  rw [this]; rfl

/-- `hp` holds once every session has plugged in (C01 `ev_history_keys`) -/
theorem histEvs_perm {cfg : Cfg K} {s : State K} (hL : Ledger.Inv cfg s) (hid : (cfg.evs.map (·.session)).Nodup)
    (hp : s.core.evHist.Perm (cfg.evs.map (·.session))) : (histEvs s).Perm (allEvs s) := by
  have hnd : (s.evs.map (·.session)).Nodup := by rw [hL.ids]; exact hid
  unfold histEvs allEvs
  rw [← lookup_all s.evs hnd evOfSim, hL.ids]
  exact hp.filterMap _

theorem totalDelivered_perm {a b : List (Analysis.Ev K)} (h : a.Perm b) : totalDelivered a = totalDelivered b := by
  unfold totalDelivered
  rw [sumK_eq_sum, sumK_eq_sum]
  exact (h.map _).sum_eq

theorem totalRequested_perm {a b : List (Analysis.Ev K)} (h : a.Perm b) : totalRequested a = totalRequested b := by
  unfold totalRequested
  rw [sumK_eq_sum, sumK_eq_sum]
  exact (h.map _).sum_eq

end Acn.AnalysisSim
