/-
  What the operations of one EVSE (`AcnModel/Evse.lean`) can do, over the bare operation classes of the model: the
  record a returning `EV.charge` leaves (`Ev.charge_ok`), and the four outcomes of `set_pilot` as a relation with one
  constructor per outcome (`SetPilotOut`; `setPilot` is unfolded in `setPilot_outcome` and, for the equation form that
  two-run proofs rewrite with, in `SimEquiv.setPilotAt_plan`).  The module rests on the hand model only — on no
  translation of the source and not on Mathlib —, so that each `CodeTie*` group can use it and depend on nothing else.
-/
import AcnModel.Evse

namespace Acn.Evse
open Acn

variable {K : Type} [Add K] [Sub K] [Mul K] [Div K] [Neg K] [LT K] [LE K]
  [DecidableLT K] [DecidableLE K] [OfNat K 0] [OfNat K 1] [NatCast K] [HasExp K]

/-- a returning `EV.charge` (ev.py:130-144): the battery call returned `(b', r)`, and the record is the old one
    with that battery, that rate, and the energy of `r` added to `delivered` -/
theorem Ev.charge_ok {e e' : Ev K} {pilot V T ν : K} (h : e.charge pilot V T ν = .ok e') :
    ∃ b' r, Battery.charge e.batt pilot V T ν = .ok (b', r) ∧
      e' = { e with batt := b', delivered := e.delivered + (r * V) / (1000 : Nat) * (T / (60 : Nat)), rate := r } := by
  unfold Ev.charge at h
  split at h
  · cases h
  · rename_i b' r hb
    cases h
    exact ⟨b', r, hb, rfl⟩

/-- the four outcomes of `set_pilot` (evse.py:110-136): the rate is not one the EVSE accepts, `EV.charge`
    raises, the station is vacant, the occupant is charged -/
inductive SetPilotOut (atol fa : K) (s : Evse K) (p V T ν : K) : Except Err (Evse K) → Prop
  | invalid : validRate atol fa s.kind p = false → SetPilotOut atol fa s p V T ν (.error .invalidRate)
  | chargeRaise {e : Ev K} {x : Battery.Err} : validRate atol fa s.kind p = true → s.ev = some e →
      e.charge p V T ν = .error x → SetPilotOut atol fa s p V T ν (.error .valueError)
  | vacant : validRate atol fa s.kind p = true → s.ev = none →
      SetPilotOut atol fa s p V T ν (.ok { s with pilot := p })
  | charged {e e' : Ev K} : validRate atol fa s.kind p = true → s.ev = some e → e.charge p V T ν = .ok e' →
      SetPilotOut atol fa s p V T ν (.ok { s with pilot := p, ev := some e' })

theorem setPilot_outcome (atol fa : K) (s : Evse K) (p V T ν : K) :
    SetPilotOut atol fa s p V T ν (setPilot atol fa s p V T ν) := by
  obtain ⟨st, k, pl, ev⟩ := s
  cases hv : validRate atol fa k p with
  | false => simp only [setPilot, hv, Bool.false_eq_true, if_false]; exact .invalid hv
  | true =>
    cases ev with
    | none => simp only [setPilot, hv, if_true]; exact .vacant hv rfl
    | some e =>
      cases hc : e.charge p V T ν with
      | error x => simp only [setPilot, hv, if_true, hc]; exact .chargeRaise hv rfl hc
      | ok e' => simp only [setPilot, hv, if_true, hc]; exact .charged hv rfl hc

/-- `cases` on the result needs it to be a variable -/
theorem SetPilotOut.of_eq {atol fa : K} {s : Evse K} {p V T ν : K} {r : Except Err (Evse K)}
    (h : setPilot atol fa s p V T ν = r) : SetPilotOut atol fa s p V T ν r := h ▸ setPilot_outcome ..

end Acn.Evse
