/-
  T1c (DESIGN §17), groups NetOps, SimEvent and StochOps — the `dict` of AcnModel/Gen/CodePrelude.lean (an
  insertion-ordered association list) seen as a key list (`d.map (·.1)`) plus a lookup (`dictGet?`), and any `view`
  of it: what an abstraction reads off the dict per key, e.g. who occupies a station.  The dict facts are those of
  Lemmas/Assoc.lean, read through `dictGet?_eq` and `dictSet_eq`.  The module imports the fixed prelude and that
  module, which imports nothing: no translation and no other `CodeTie*` module, so a tie group that uses it still
  compiles whenever its own translation does.
-/
import AcnModel.Gen.CodePrelude
import AcnProofs.Lemmas.Assoc

namespace Acn.CodeTie.Dict
open Acn.Gen.Code

variable {β γ : Type}

/-- what an abstraction reads off a dict: per key, something of the value stored there -/
def view (f : β → Option γ) (d : List (String × β)) : String → Option γ := fun k => (dictGet? d k).bind f

theorem dictGet?_eq (d : List (String × β)) (k : String) : dictGet? d k = d.lookup k := by
  induction d with
  | nil => rfl
  | cons p r ih => obtain ⟨k', v⟩ := p; rw [Assoc.lookup_cons, dictGet?, ih]

theorem dictSet_eq (d : List (String × β)) (k : String) (v : β) : dictSet d k v = Assoc.set d k v := by
  induction d with
  | nil => rfl
  | cons p r ih =>
    obtain ⟨k', v'⟩ := p
    by_cases h : k' = k
    · subst h; simp [dictSet, Assoc.set]
    · simp [dictSet, Assoc.set, h, ih]

theorem get_set (d : List (String × β)) (k : String) (v : β) (k' : String) :
    dictGet? (dictSet d k v) k' = if k = k' then some v else dictGet? d k' := by
  rw [dictGet?_eq, dictSet_eq, Assoc.lookup_set, dictGet?_eq]

theorem get_isSome_iff (d : List (String × β)) (k : String) :
    (dictGet? d k).isSome = true ↔ k ∈ d.map (·.1) := by
  rw [dictGet?_eq]; exact Assoc.lookup_isSome d k

theorem set_keys (d : List (String × β)) (k : String) (v : β) (h : k ∈ d.map (·.1)) :
    (dictSet d k v).map (·.1) = d.map (·.1) := by
  rw [dictSet_eq]; exact (Assoc.keys_set d k v).trans (if_pos h)

theorem set_keys_new (d : List (String × β)) (k : String) (v : β) (h : k ∉ d.map (·.1)) :
    (dictSet d k v).map (·.1) = d.map (·.1) ++ [k] := by
  rw [dictSet_eq]; exact (Assoc.keys_set d k v).trans (if_neg h)

theorem view_set (f : β → Option γ) (d : List (String × β)) (k : String) (v : β) :
    view f (dictSet d k v) = fun t => if t = k then f v else view f d t := by
  funext t
  simp only [view, get_set]
  by_cases h : k = t
  · subst h; simp
  · have : ¬ t = k := fun e => h e.symm
    simp [h, this]

theorem filterMap_congr_mem {α : Type} {f g : α → Option γ} (l : List α) (h : ∀ x ∈ l, f x = g x) :
    l.filterMap f = l.filterMap g := by
  induction l with
  | nil => rfl
  | cons x xs ih =>
    rw [List.filterMap_cons, List.filterMap_cons, h x List.mem_cons_self,
      ih fun y hy => h y (List.mem_cons_of_mem _ hy)]

theorem filterMap_items (d : List (String × β)) (hn : (d.map (·.1)).Nodup) (F : String → β → Option γ) :
    d.filterMap (fun kv => F kv.1 kv.2) = (d.map (·.1)).filterMap (fun k => (dictGet? d k).bind (F k)) := by
  rw [List.filterMap_map]
  refine filterMap_congr_mem d fun kv hkv => ?_
  rw [Function.comp_apply, dictGet?_eq, (Assoc.lookup_eq_some hn kv.1 kv.2).2 hkv]
  rfl

theorem pyComp_total {α : Type} (f : α → Except PyErr (Option β)) (g : α → Option β) (l : List α)
    (h : ∀ x, f x = .ok (g x)) : pyComp f l = .ok (l.filterMap g) := by
  induction l with
  | nil => rfl
  | cons x xs ih =>
    simp only [pyComp, h x, ih, List.filterMap_cons]
    cases g x <;> rfl

theorem mem_keys_of_get {d : List (String × β)} {k : String} {v : β} (hg : dictGet? d k = some v) :
    k ∈ d.map (·.1) :=
  (get_isSome_iff d k).1 (by rw [hg]; rfl)

theorem not_mem_keys_of_none {d : List (String × β)} {k : String} (hg : dictGet? d k = none) :
    k ∉ d.map (·.1) := fun h => by
  have := (get_isSome_iff d k).2 h
  rw [hg] at this
  cases this

theorem view_of_get {f : β → Option γ} {d : List (String × β)} {k : String} {v : β} (hg : dictGet? d k = some v) :
    view f d k = f v := by
  simp only [view, hg, Option.bind_some]

theorem set_keys_of_get {d : List (String × β)} {k : String} {v0 : β} (v : β) (hg : dictGet? d k = some v0) :
    (dictSet d k v).map (·.1) = d.map (·.1) :=
  set_keys d k v (mem_keys_of_get hg)

theorem set_same {d : List (String × β)} {k : String} {v : β} (hg : dictGet? d k = some v) : dictSet d k v = d := by
  rw [dictSet_eq]; exact Assoc.set_same (dictGet?_eq d k ▸ hg)

end Acn.CodeTie.Dict
