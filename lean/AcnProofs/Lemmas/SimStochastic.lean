/-
  C19, full simulator on the stochastic network (`AcnModel/SimStochastic.lean`): the simulator's
  state carries the stochastic network as its first component (`hosts_sim`: the network operations
  are `stochasticNet`'s, and `post_charging_update` does to the network exactly what `Net.post` does
  with `fully_charged` COMPUTED from the numeric state — same result, same exception, `postNet_fst`),
  so it never raises from the network and keeps the C19 loop invariant (`Hosts.noFail`); the
  scheduler / apply stages — `Sim`'s own — do not touch the network (`schedS_keeps`, `applyS_keeps`: instances
  of `EventCore.KeepsP`; `Hosts` is of Lemmas/StochasticLoopInst).  `ledgerPart`: the components of the numeric
  state the ledger reads (rates, peak, EV records, occupancy log); `post_charging_update` leaves them as they are
  (`postS_ledgerPart`: it resets EVSE pilots only).
  The carrier `K` is arbitrary: nothing here depends on what the numbers are.
-/
import AcnModel.SimStochastic
import AcnProofs.Lemmas.EventCoreGM
import AcnProofs.Lemmas.StochasticLoopInst

set_option linter.unusedSectionVars false

namespace Acn.SimSt
open Acn Acn.EventCore Acn.Stoch

variable {K : Type} [Add K] [Sub K] [Mul K] [Div K] [Neg K] [LT K] [LE K]
  [DecidableLT K] [DecidableLE K] [OfNat K 0] [OfNat K 1] [NatCast K] [HasExp K]

theorem earlyStepS_fst (cfg : Sim.Cfg K) (sp : St K) (x : Sess) :
    (earlyStepS cfg sp x).map Prod.fst = sp.1.earlyStep x := by
  unfold earlyStepS
  cases sp.1.earlyStep x <;> rfl

theorem postNet_fst (cfg : Sim.Cfg K) (sp : St K) :
    (postNet cfg sp).map Prod.fst = sp.1.post (fullOf cfg sp.2) := by
  unfold postNet Net.post
  split
  · exact foldlM_except_map Prod.fst _ _ (earlyStepS_fst cfg) _ sp
  · rfl

theorem hosts_sim (cs : Nat → Nat) (cfg : Sim.Cfg K) : Hosts Prod.fst cs (netOps cs cfg) (postS cfg) :=
  ⟨fun _ _ => rfl, fun _ _ => rfl, fun t sp => ⟨fullOf cfg sp.2, by
    rw [← postNet_fst, postS]
    cases postNet cfg sp <;> rfl⟩⟩

/-- the part of the numeric state the energy ledger speaks about; the hook leaves it alone -/
def ledgerPart (num : Num K) : Pilots.Mat K × K × List (Evse.Ev K) × List (List (Option String)) :=
  (num.rates, num.peak, num.evs, num.occLog)

theorem ledgerPart_resetPilot (cfg : Sim.Cfg K) (num : Num K) (o : Option Station) :
    ledgerPart (resetPilot cfg num o) = ledgerPart num := by
  cases o <;> rfl

theorem earlyStepS_ledgerPart (cfg : Sim.Cfg K) (sp : St K) (x : Sess) (sp' : St K)
    (h : earlyStepS cfg sp x = .ok sp') : ledgerPart sp'.2 = ledgerPart sp.2 := by
  unfold earlyStepS at h
  split at h
  · cases h
  · cases h
    simp only
    split
    · rfl
    · exact ledgerPart_resetPilot cfg _ _

theorem postS_ledgerPart (cfg : Sim.Cfg K) (t : Nat) (sp : St K) :
    ledgerPart (postS cfg t sp).1.2 = ledgerPart sp.2 := by
  unfold postS
  cases hp : postNet cfg sp with
  | error e => rfl
  | ok sp' =>
    simp only
    unfold postNet at hp
    split at hp
    · exact foldlM_except_frame (fun s : St K => ledgerPart s.2) _ (earlyStepS_ledgerPart cfg) _ sp sp' hp
    · have : sp = sp' := by simpa [pure, Except.pure] using hp
      rw [this]

theorem schedS_keeps (cfg : Sim.Cfg K) (sched : Sim.View K → Except EventCore.Err (Sim.Schedule K))
    (P : List Event → Net → Prop) : KeepsP (fun hist (s : St K) => P hist s.1) (schedS cfg sched) := by
  intro g h
  unfold schedS
  split <;> exact h

theorem applyS_keeps (cfg : Sim.Cfg K) (P : List Event → Net → Prop) :
    KeepsP (fun hist (s : St K) => P hist s.1) (applyS cfg) := fun _ h => h

end Acn.SimSt
