/-
  The normalised two-stage charging flow.

  With `u = κ·(1 − soc)/p` (remaining SoC measured in units of `p/κ = 1 − pts`) and
  `θ = κ·t`, the documented law `ds/dt = min p (κ (1 − s))` becomes `du/dθ = −min 1 u`.
  `W u θ` is its solution in closed form.  Everything the property files need about the
  closed form of `battery.py:260-275` (bounds, semigroup, monotonicity, derivative) is proved
  here once for `W`; `BatteryCont.lean` relates `contSoc` to `W`.
-/
import AcnModel.Battery
import AcnProofs.Lemmas.Basic
import Mathlib.Analysis.SpecialFunctions.Exp
import Mathlib.Analysis.SpecialFunctions.ExpDeriv
import Mathlib.Order.Monotone.Union
import Mathlib.Tactic

namespace Acn

/-- The ℝ carrier of the model: `HasExp.exp` is the real exponential. -/
noncomputable instance : HasExp ℝ := ⟨Real.exp⟩

namespace BattFlow
open Real Set Filter Topology

/-- closed-form solution of `u' = −min 1 u`, `u 0 = w` -/
noncomputable def W (w θ : ℝ) : ℝ :=
  if w ≤ 1 then w * exp (-θ) else if θ ≤ w - 1 then w - θ else exp (-(θ - (w - 1)))

theorem W_ramp {w : ℝ} (h : w ≤ 1) (θ : ℝ) : W w θ = w * exp (-θ) := by simp [W, h]

theorem W_lin {w θ : ℝ} (h : 1 < w) (h2 : θ ≤ w - 1) : W w θ = w - θ := by
  simp [W, not_le.mpr h, h2]

theorem W_cross {w θ : ℝ} (h : 1 < w) (h2 : w - 1 < θ) : W w θ = exp (-(θ - (w - 1))) := by
  simp [W, not_le.mpr h, not_le.mpr h2]

/-- at the crossing instant both formulas give 1 -/
theorem W_cross' {w θ : ℝ} (h : 1 < w) (h2 : w - 1 ≤ θ) : W w θ = exp (-(θ - (w - 1))) := by
  rcases eq_or_lt_of_le h2 with h3 | h3
  · rw [W_lin h (le_of_eq h3.symm), ← h3]; simp
  · exact W_cross h h3

theorem W_zero (w : ℝ) : W w 0 = w := by
  rcases le_or_gt w 1 with h | h
  · simp [W_ramp h]
  · rw [W_lin h (by linarith)]; ring

theorem exp_neg_le_one {θ : ℝ} (h : 0 ≤ θ) : exp (-θ) ≤ 1 := by
  rw [exp_le_one_iff]; linarith

theorem W_pos {w θ : ℝ} (hw : 0 < w) : 0 < W w θ := by
  unfold W; split_ifs with h1 h2
  · exact mul_pos hw (exp_pos _)
  · linarith
  · exact exp_pos _

theorem W_ramp_le_one {w θ : ℝ} (h : w ≤ 1) (hθ : 0 ≤ θ) : w * exp (-θ) ≤ 1 := by
  have h1 := exp_neg_le_one hθ
  have h2 := exp_pos (-θ)
  rcases le_or_gt w 0 with h0 | h0
  · nlinarith
  · nlinarith

theorem W_le {w θ : ℝ} (hw : 0 ≤ w) (hθ : 0 ≤ θ) : W w θ ≤ w := by
  unfold W; split_ifs with h1 h2
  · have := exp_neg_le_one hθ; nlinarith
  · linarith
  · have : exp (-(θ - (w - 1))) ≤ 1 := by rw [exp_le_one_iff]; linarith
    linarith

theorem W_ge {w θ : ℝ} (hw : 0 ≤ w) (hθ : 0 ≤ θ) : w - θ ≤ W w θ := by
  unfold W; split_ifs with h1 h2
  · have := one_sub_le_exp_neg θ; nlinarith
  · exact le_refl _
  · have := one_sub_le_exp_neg (θ - (w - 1)); linarith

theorem W_le_one_of_le {w θ : ℝ} (h : w ≤ 1) (hθ : 0 ≤ θ) : W w θ ≤ 1 := by
  rw [W_ramp h]; exact W_ramp_le_one h hθ

theorem W_semigroup (w : ℝ) {a b : ℝ} (ha : 0 ≤ a) (hb : 0 ≤ b) : W (W w a) b = W w (a + b) := by
  rcases le_or_gt w 1 with h | h
  · rw [W_ramp h, W_ramp (W_ramp_le_one h ha), W_ramp h, mul_assoc, ← exp_add]
    congr 2; ring
  · rcases le_or_gt a (w - 1) with h2 | h2
    · rw [W_lin h h2]
      rcases le_or_gt (w - a) 1 with h3 | h3
      · have ha' : a = w - 1 := by linarith
        rw [W_ramp h3, W_cross' h (by linarith)]
        have : w - a = 1 := by linarith
        rw [this, one_mul]; congr 1; rw [ha']; ring
      · rcases le_or_gt b (w - a - 1) with h4 | h4
        · rw [W_lin h3 h4, W_lin h (by linarith)]; ring
        · rw [W_cross h3 h4, W_cross h (by linarith)]; congr 1; ring
    · rw [W_cross h h2, W_cross h (by linarith)]
      have : exp (-(a - (w - 1))) ≤ 1 := by rw [exp_le_one_iff]; linarith
      rw [W_ramp this, ← exp_add]; congr 1; ring

/-! ### the share of the remaining SoC that is left grows with the remaining SoC

For fixed `θ` the three formulas of `W w θ` hold on three consecutive closed intervals of `w` that meet in
the points `1` and `1 + θ`. -/

theorem W_mid {w θ : ℝ} (h1 : 1 ≤ w) (h2 : w - 1 ≤ θ) : W w θ = exp (w - 1 - θ) := by
  rcases eq_or_lt_of_le h1 with rfl | h
  · rw [W_ramp le_rfl]; simp
  · rw [W_cross' h h2]; congr 1; ring

theorem W_top {w θ : ℝ} (hθ : 0 ≤ θ) (h2 : θ ≤ w - 1) : W w θ = w - θ := by
  rcases eq_or_lt_of_le (show 1 ≤ w by linarith) with rfl | h
  · obtain rfl : θ = 0 := by linarith
    rw [W_zero]; ring
  · exact W_lin h h2

/-- `W w θ / w` is non-decreasing in `w > 0`: it is `e^{-θ}` up to 1, `e^{w-1-θ}/w` up to `1 + θ` and
    `1 - θ/w` beyond.  This is monotonicity of the delivered energy in the pilot. -/
theorem W_ratio_monotoneOn {θ : ℝ} (hθ : 0 ≤ θ) : MonotoneOn (fun w => W w θ / w) (Ioi 0) := by
  have hR : MonotoneOn (fun w => W w θ / w) (Ioc 0 1) := fun a ha b hb _ => by
    show W a θ / a ≤ W b θ / b
    rw [W_ramp ha.2, W_ramp hb.2, mul_div_cancel_left₀ _ ha.1.ne', mul_div_cancel_left₀ _ hb.1.ne']
  have hC : MonotoneOn (fun w => W w θ / w) (Icc 1 (1 + θ)) := fun a ha b hb hab => by
    have ha0 : 0 < a := by linarith [ha.1]
    have hb0 : 0 < b := by linarith [hb.1]
    show W a θ / a ≤ W b θ / b
    rw [W_mid ha.1 (by linarith [ha.2]), W_mid hb.1 (by linarith [hb.2]), div_le_div_iff₀ ha0 hb0,
      show b - 1 - θ = (a - 1 - θ) + (b - a) by ring, exp_add, mul_assoc]
    -- `b ≤ (1 + (b - a)) a ≤ e^{b-a} a`, the first because `1 ≤ a`
    refine mul_le_mul_of_nonneg_left ?_ (exp_pos _).le
    nlinarith [add_one_le_exp (b - a), mul_nonneg (sub_nonneg.mpr hab) (sub_nonneg.mpr ha.1)]
  have hL : MonotoneOn (fun w => W w θ / w) (Ici (1 + θ)) := fun a ha b hb hab => by
    have ha' : 1 + θ ≤ a := ha
    have hb' : 1 + θ ≤ b := hb
    show W a θ / a ≤ W b θ / b
    rw [W_top hθ (by linarith : θ ≤ a - 1), W_top hθ (by linarith : θ ≤ b - 1),
      div_le_div_iff₀ (by linarith) (by linarith)]
    nlinarith
  have h1θ : (1 : ℝ) ≤ 1 + θ := by linarith
  have hRC : MonotoneOn (fun w => W w θ / w) (Ioc 0 (1 + θ)) := by
    rw [← Ioc_union_Icc_eq_Ioc one_pos h1θ]
    exact hR.union_right hC (isGreatest_Ioc one_pos) (isLeast_Icc h1θ)
  rw [← Ioc_union_Ici_eq_Ioi (one_pos.trans_le h1θ)]
  exact hRC.union_right hL (isGreatest_Ioc (one_pos.trans_le h1θ)) isLeast_Ici

theorem W_hasDerivAt (w : ℝ) {θ : ℝ} (hθ : 0 ≤ θ) : HasDerivAt (W w) (-(min 1 (W w θ))) θ := by
  rcases le_or_gt w 1 with h | h
  · have hf : W w = fun x => w * exp (-x) := by funext x; exact W_ramp h x
    have hv : min 1 (W w θ) = w * exp (-θ) := by
      rw [W_ramp h]; exact min_eq_right (W_ramp_le_one h hθ)
    rw [hv, hf]
    have := ((hasDerivAt_id θ).neg.exp).const_mul w
    simpa using this
  · -- within each closed piece the derivative is the claimed one; at the join both pieces speak
    have hL : θ ≤ w - 1 → HasDerivWithinAt (W w) (-(min 1 (W w θ))) (Iic (w - 1)) θ := fun h2 => by
      rw [W_lin h h2, min_eq_left (by linarith)]
      have hd : HasDerivAt (fun x : ℝ => w - x) (-1) θ := by simpa using (hasDerivAt_id θ).const_sub w
      exact hd.hasDerivWithinAt.congr (fun x hx => W_lin h hx) (W_lin h h2)
    have hR : w - 1 ≤ θ → HasDerivWithinAt (W w) (-(min 1 (W w θ))) (Ici (w - 1)) θ := fun h2 => by
      rw [W_cross' h h2, min_eq_right (exp_le_one_iff.mpr (by linarith))]
      have hd : HasDerivAt (fun x : ℝ => exp (-(x - (w - 1)))) (-(exp (-(θ - (w - 1))))) θ := by
        simpa using (((hasDerivAt_id θ).sub_const (w - 1)).neg).exp
      exact hd.hasDerivWithinAt.congr (fun x hx => W_cross' h hx) (W_cross' h h2)
    rcases lt_trichotomy θ (w - 1) with h2 | h2 | h2
    · exact (hL h2.le).hasDerivAt (Iic_mem_nhds h2)
    · have := (hL h2.le).union (hR h2.ge)
      rwa [Iic_union_Ici, hasDerivWithinAt_univ] at this
    · exact (hR h2.le).hasDerivAt (Ici_mem_nhds h2)

end BattFlow
end Acn
