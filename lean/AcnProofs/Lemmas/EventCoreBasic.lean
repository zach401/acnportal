/-
  The heap key `(timestamp, precedence)` as a total preorder `keyLe`, and the model's stable sort.  Then the event
  core in the form of `Steps`: the events of a period are a `foldE`, the run is a `loopE`, a period is a chain of
  stages (`body_chain`), and what one period can do is a relation with one constructor per outcome (`Pass`;
  `body_congr_sched`, `body_congr_events`: what a period looks at).
-/
import AcnModel.EventCore
import AcnProofs.Lemmas.QueueOrder
import AcnProofs.Lemmas.Steps
import AcnProofs.Lemmas.InsertSort

namespace Acn.EventCore
open Acn

theorem prec_unplug_lt_plugin : EvKind.unplug.prec < EvKind.plugin.prec := by
  simp only [EvKind.prec, Gen.precUnplug, Gen.precPlugin]; norm_num

theorem prec_plugin_lt_recompute : EvKind.plugin.prec < EvKind.recompute.prec := by
  simp only [EvKind.prec, Gen.precPlugin, Gen.precRecompute]; norm_num

theorem keyLe_eq_true_iff (a b : Event) : a.keyLe b = true ↔ b.keyLt a = false := by
  simp [Event.keyLe]

theorem keyLe_iff (a b : Event) :
    a.keyLe b = true ↔ a.ts < b.ts ∨ (a.ts = b.ts ∧ a.kind.prec ≤ b.kind.prec) := by
  rw [keyLe_eq_true_iff, keyLt_false_iff]; simp [lexKey, Prod.Lex.le_iff]

theorem keyLe_total (a b : Event) : a.keyLe b = true ∨ b.keyLe a = true := by
  simp only [keyLe_eq_true_iff, keyLt_false_iff]
  exact le_total _ _

theorem keyLe_refl (a : Event) : a.keyLe a = true :=
  (keyLe_eq_true_iff a a).2 (keyLt_irrefl a)

theorem keyLe_trans {a b c : Event} (h1 : a.keyLe b = true) (h2 : b.keyLe c = true) : a.keyLe c = true := by
  rw [keyLe_eq_true_iff] at *
  exact _root_.Acn.keyLe_trans a b c h1 h2

theorem keyLe_of_ts_lt {a b : Event} (h : a.ts < b.ts) : a.keyLe b = true := (keyLe_iff a b).2 (Or.inl h)

theorem not_keyLe_plugin_unplug {a b : Event} (hts : a.ts = b.ts) (ha : a.kind = .plugin) (hb : b.kind = .unplug) :
    ¬ a.keyLe b = true := by
  rw [keyLe_iff, ha, hb]
  rintro (h | ⟨_, h⟩)
  · omega
  · exact absurd h (not_le.mpr prec_unplug_lt_plugin)

theorem resolve_of_not_needsSched {mr : Option Nat} {c : Core} (h : ¬ needsSched mr c = true) :
    c.resolve = false := by
  simp only [needsSched, Bool.or_eq_true, not_or, Bool.not_eq_true] at h
  exact h.1

/-- `_process_event`, with the history entry written first, case by case -/
theorem step_cases (cfg : Cfg) (e : Event) (c : Core) :
    (∃ err, step cfg e c = ({ c with eventHist := c.eventHist ++ [e] }, some err)) ∨
    (∃ x, e.kind = .plugin ∧ findSession cfg e.sess = some x ∧ x.station ∈ cfg.stations ∧
      c.occ x.station = none ∧
      step cfg e c = ({ c with eventHist := c.eventHist ++ [e], occ := setOcc c.occ x.station (some x),
                                evHist := c.evHist ++ [x.id], pending := c.pending ++ [unplugEv x],
                                resolve := true, lastUpd := some e.ts }, none)) ∨
    (∃ x, e.kind = .unplug ∧ findSession cfg e.sess = some x ∧ x.station ∈ cfg.stations ∧
      step cfg e c = ({ c with eventHist := c.eventHist ++ [e],
                                occ := if unplugHits c x then setOcc c.occ x.station none else c.occ,
                                resolve := true, lastUpd := some e.ts }, none)) ∨
    (e.kind = .recompute ∧ step cfg e c = ({ c with eventHist := c.eventHist ++ [e], resolve := true }, none)) := by
  unfold step process
  cases hk : e.kind with
  | recompute => exact Or.inr (Or.inr (Or.inr ⟨rfl, rfl⟩))
  | plugin =>
    simp only
    cases hf : findSession cfg e.sess with
    | none => exact Or.inl ⟨_, rfl⟩
    | some x =>
      simp only
      by_cases hs : x.station ∈ cfg.stations
      · rw [if_pos (by simpa using hs)]
        cases ho : c.occ x.station with
        | some y => exact Or.inl ⟨_, rfl⟩
        | none => exact Or.inr (Or.inl ⟨x, trivial, rfl, hs, ho, rfl⟩)
      · rw [if_neg (by simpa using hs)]
        exact Or.inl ⟨_, rfl⟩
  | unplug =>
    simp only
    cases hf : findSession cfg e.sess with
    | none => exact Or.inl ⟨_, rfl⟩
    | some x =>
      simp only
      by_cases hs : x.station ∈ cfg.stations
      · rw [if_pos (by simpa using hs)]
        exact Or.inr (Or.inr (Or.inl ⟨x, trivial, rfl, hs, rfl⟩))
      · rw [if_neg (by simpa using hs)]
        exact Or.inl ⟨_, rfl⟩

theorem insertByKey_eq (e : Event) (l : List Event) : insertByKey e l = Sorted.insertBy Event.keyLt e l := by
  induction l with
  | nil => rfl
  | cons d ds ih =>
    simp only [insertByKey, Sorted.insertBy, ih, Event.keyLe]
    cases d.keyLt e <;> rfl

theorem sortByKey_eq (l : List Event) : sortByKey l = Sorted.sortBy Event.keyLt l := by
  unfold sortByKey Sorted.sortBy
  congr; funext e l; exact insertByKey_eq e l

theorem sortByKey_perm (l : List Event) : (sortByKey l).Perm l :=
  sortByKey_eq l ▸ Sorted.sortBy_perm _ l

theorem sortByKey_sorted (l : List Event) : (sortByKey l).Pairwise (fun a b => a.keyLe b = true) := by
  rw [sortByKey_eq]
  simpa [Event.keyLe] using Sorted.sortBy_pairwise Event.keyLt _root_.Acn.keyLe_trans
    (fun a b h => (keyLt_false_iff b a).2 ((keyLt_iff_lex a b).1 h).le) l

theorem mem_sortByKey {l : List Event} {e : Event} : e ∈ sortByKey l ↔ e ∈ l := (sortByKey_perm l).mem_iff

theorem eq_singleton_of_nodup {α : Type} {l : List α} {a : α} (hn : l.Nodup) (hall : ∀ x ∈ l, x = a) (ha : a ∈ l) :
    l = [a] := by
  rw [List.eq_replicate_of_mem hall] at hn ha ⊢
  have := List.nodup_replicate.1 hn
  have : l.length ≠ 0 := by rintro h; simp [h] at ha
  rw [show l.length = 1 by omega]; rfl

open Acn.Steps

theorem processAll_eq (cfg : Cfg) : ∀ (es : List Event) (c : Core), processAll cfg es c = foldE (step cfg) es c :=
  foldE_unique (fun _ => rfl) fun e es c => by
    rw [processAll]
    rcases step cfg e c with ⟨c2, _ | err⟩ <;> rfl

theorem run_eq (cfg : Cfg) (sched apply : Core → Option Err) : ∀ (n : Nat) (c : Core),
    run cfg sched apply n c = loopE guard (body cfg sched apply) n c :=
  loopE_unique (fun _ => rfl) fun n c => by
    rw [run]
    rcases body cfg sched apply c with ⟨c2, _ | err⟩ <;> rfl

/-- consulting the scheduler, as a stage: the call is recorded; if it returns, `_update_schedules` sets its marks -/
def consult (sched : Core → Option Err) (c : Core) : Core × Option Err :=
  match sched (markInvoked c) with
  | some e => (markInvoked c, some e)
  | none => (markScheduled (markInvoked c), none)

theorem body_chain (cfg : Cfg) (sched apply : Core → Option Err) (c : Core) :
    body cfg sched apply c =
      andThen (eventsStage cfg c) fun c1 =>
        if needsSched cfg.maxRecompute c1 then andThen (consult sched c1) (finish apply) else finish apply c1 := by
  unfold body consult
  rcases eventsStage cfg c with ⟨c1, _ | e⟩
  · rw [andThen_ok]
    dsimp only
    split
    · rcases sched (markInvoked c1) with _ | e <;> rfl
    · rfl
  · rfl

/-- the core the pilots are applied to when the events of the period left `c1`: `c1` itself when no schedule is
    due; else the scheduler was entered (the call recorded) and returned, and `_update_schedules` set its marks -/
def Applied (cfg : Cfg) (sched : Core → Option Err) (c1 a : Core) : Prop :=
  (needsSched cfg.maxRecompute c1 = false ∧ a = c1) ∨
  (needsSched cfg.maxRecompute c1 = true ∧ sched (markInvoked c1) = none ∧ a = markScheduled (markInvoked c1))

/-- the four outcomes of `body cfg sched apply c` -/
inductive Pass (cfg : Cfg) (sched apply : Core → Option Err) (c : Core) : Core → Option Err → Prop
  | eventRaise {c1 : Core} {e : Err} : eventsStage cfg c = (c1, some e) → Pass cfg sched apply c c1 (some e)
  | schedRaise {c1 : Core} {e : Err} : eventsStage cfg c = (c1, none) →
      needsSched cfg.maxRecompute c1 = true → sched (markInvoked c1) = some e →
      Pass cfg sched apply c (markInvoked c1) (some e)
  | applyRaise {c1 a : Core} {e : Err} : eventsStage cfg c = (c1, none) → Applied cfg sched c1 a →
      apply a = some e → Pass cfg sched apply c a (some e)
  | done {c1 a : Core} : eventsStage cfg c = (c1, none) → Applied cfg sched c1 a → apply a = none →
      Pass cfg sched apply c (advance a) none

theorem Pass.of_eq {cfg : Cfg} {sched apply : Core → Option Err} {c c' : Core} {err : Option Err}
    (h : body cfg sched apply c = (c', err)) : Pass cfg sched apply c c' err := by
  have hfin : ∀ {c1 a}, eventsStage cfg c = (c1, none) → Applied cfg sched c1 a → finish apply a = (c', err) →
      Pass cfg sched apply c c' err := by
    intro c1 a hes ha hf
    unfold finish at hf
    rcases hp : apply a with _ | e <;> rw [hp] at hf <;> cases hf
    · exact .done hes ha hp
    · exact .applyRaise hes ha hp
  unfold body at h
  rcases hes : eventsStage cfg c with ⟨c1, _ | e1⟩ <;> rw [hes] at h <;> dsimp only at h
  · cases hn : needsSched cfg.maxRecompute c1 with
    | false =>
      rw [hn, if_neg Bool.false_ne_true] at h
      exact hfin hes (.inl ⟨hn, rfl⟩) h
    | true =>
      rw [hn, if_pos rfl] at h
      rcases hs : sched (markInvoked c1) with _ | e <;> rw [hs] at h <;> dsimp only at h
      · exact hfin hes (.inr ⟨hn, hs, rfl⟩) h
      · cases h
        exact .schedRaise hes hn hs
  · cases h
    exact .eventRaise hes

theorem Pass.eq {cfg : Cfg} {sched apply : Core → Option Err} {c c' : Core} {err : Option Err}
    (h : Pass cfg sched apply c c' err) : body cfg sched apply c = (c', err) := by
  have hfin : ∀ {c1 a r}, eventsStage cfg c = (c1, none) → Applied cfg sched c1 a → finish apply a = r →
      body cfg sched apply c = r := by
    intro c1 a r hes ha hf
    unfold body
    rw [hes]
    dsimp only
    rcases ha with ⟨hn, rfl⟩ | ⟨hn, hs, rfl⟩
    · rw [hn, if_neg Bool.false_ne_true, hf]
    · rw [if_pos hn, hs, hf]
  cases h with
  | eventRaise hes => unfold body; rw [hes]
  | schedRaise hes hn hs => unfold body; rw [hes]; dsimp only; rw [if_pos hn, hs]
  | applyRaise hes ha hp => exact hfin hes ha (by rw [finish, hp])
  | done hes ha hp => exact hfin hes ha (by rw [finish, hp])

theorem body_returns {cfg : Cfg} {sched apply : Core → Option Err} {c c' : Core} (h : body cfg sched apply c = (c', none)) :
    ∃ c1 a, eventsStage cfg c = (c1, none) ∧ Applied cfg sched c1 a ∧ apply a = none ∧ advance a = c' := by
  cases Pass.of_eq h with
  | done hes ha hp => exact ⟨_, _, hes, ha, hp, rfl⟩

theorem body_noFail_of_ok {cfg : Cfg} {sched apply : Core → Option Err} {c c' : Core}
    (h : body cfg sched apply c = (c', none)) : body cfg noFail noFail c = (c', none) := by
  obtain ⟨c1, a, hes, ha, -, rfl⟩ := body_returns h
  exact (Pass.done hes (ha.imp id fun ⟨hn, _, e⟩ => ⟨hn, rfl, e⟩) rfl).eq

theorem body_congr_sched {cfg : Cfg} {sched sched' apply : Core → Option Err} {c : Core}
    (h : ∀ c1, eventsStage cfg c = (c1, none) → needsSched cfg.maxRecompute c1 = true →
      sched (markInvoked c1) = sched' (markInvoked c1)) :
    body cfg sched apply c = body cfg sched' apply c := by
  unfold body
  rcases hes : eventsStage cfg c with ⟨c1, _ | e⟩
  · dsimp only
    split
    · rw [h c1 hes ‹_›]
    · rfl
  · rfl

theorem body_congr_events {cfg : Cfg} {sched apply : Core → Option Err} {c c' : Core}
    (h : eventsStage cfg c = eventsStage cfg c') : body cfg sched apply c = body cfg sched apply c' := by
  unfold body
  rw [h]

theorem popCurrent_nothing_due {t : Nat} {p : List Event} (h : ∀ e ∈ p, (t : Int) < e.ts) :
    popCurrent t p = ([], p) := by
  have h1 : p.filter (fun e => decide (e.ts ≤ (t : Int))) = [] :=
    List.filter_eq_nil_iff.2 fun e he => by have := h e he; simp; omega
  have h2 : p.filter (fun e => !decide (e.ts ≤ (t : Int))) = p :=
    List.filter_eq_self.2 fun e he => by have := h e he; simp; omega
  simp only [popCurrent, h1, h2, sortByKey, List.foldr_nil]

theorem eventsStage_nothing_due (cfg : Cfg) (c : Core) (hp : ∀ e ∈ c.pending, (c.iter : Int) < e.ts) :
    eventsStage cfg c = (c, none) := by
  simp only [eventsStage, popCurrent_nothing_due hp, processAll]

theorem Applied.iter {cfg : Cfg} {sched : Core → Option Err} {c1 a : Core} (h : Applied cfg sched c1 a) :
    a.iter = c1.iter := by
  rcases h with ⟨_, rfl⟩ | ⟨_, _, rfl⟩ <;> rfl

theorem Applied.invoked {cfg : Cfg} {sched : Core → Option Err} {c1 a : Core} (h : Applied cfg sched c1 a) :
    a.invoked = c1.invoked ++ if needsSched cfg.maxRecompute c1 then [c1.iter] else [] := by
  rcases h with ⟨hn, rfl⟩ | ⟨hn, _, rfl⟩
  · rw [hn, if_neg Bool.false_ne_true, List.append_nil]
  · rw [if_pos hn]; rfl

end Acn.EventCore
