/-
  UNCONDITIONAL projection of the full simulator model onto the event core: also when a period
  raises (scheduler crash, rejected schedule, invalid pilot, StationOccupied, …) the core of the
  state the simulator is left in is what `EventCore.body` leaves, with the stage outcomes of the
  full model plugged in for the `sched` / `apply` parameters.  (For crash/resume reasoning, C09.)
-/
import AcnProofs.Lemmas.SimStages

set_option linter.unusedSectionVars false

namespace Acn.Sim
open Acn Acn.EventCore

variable {K : Type} [Add K] [Sub K] [Mul K] [Div K] [Neg K] [LT K] [LE K]
  [DecidableLT K] [DecidableLE K] [OfNat K 0] [OfNat K 1] [NatCast K] [HasExp K]

/-- what `scheduler.run()` + `_update_schedules` raised in the period started in `s` (if reached) -/
def schedOutcome (cfg : Cfg K) (sched : View K → Except Err (Schedule K)) (s : State K) : Option Err :=
  match schedStage cfg sched { (eventsStage cfg s).1 with core := markInvoked (eventsStage cfg s).1.core } with
  | .error e => some e
  | .ok _ => none

/-- what `update_pilots` / `_store_actual_charging_rates` raised in that period (if reached) -/
def applyOutcome (cfg : Cfg K) (sched : View K → Except Err (Schedule K)) (s : State K) : Option Err :=
  let s1 := (eventsStage cfg s).1
  if needsSched cfg.maxRecompute s1.core then
    match schedStage cfg sched { s1 with core := markInvoked s1.core } with
    | .ok m => (applyStage cfg { s1 with core := markScheduled (markInvoked s1.core), pilots := m }).2
    | .error _ => none
  else (applyStage cfg s1).2

theorem body_core_any (cfg : Cfg K) (sched : View K → Except Err (Schedule K)) (s : State K) :
    EventCore.body cfg.core (fun _ => schedOutcome cfg sched s) (fun _ => applyOutcome cfg sched s) s.core =
      ((body cfg sched s).1.core, (body cfg sched s).2) := by
  have he := eventsStage_core cfg s
  unfold schedOutcome applyOutcome EventCore.body
  rw [← he]
  rcases hb : body cfg sched s with ⟨s', err⟩
  cases Pass.of_eq hb with
  | eventRaise hes => rw [hes]
  | @idle s1 _ _ hes hn ha =>
    have hn' : needsSched cfg.core.maxRecompute s1.core = false := hn
    have hc := (applyStage_frame cfg s1).2.1
    rw [ha] at hc
    rw [hes]
    simp only [hn, hn', finish, Bool.false_eq_true, if_false, ha]
    cases err <;> exact Prod.ext hc.symm rfl
  | @schedRaise s1 _ hes hn hs =>
    have hn' : needsSched cfg.core.maxRecompute s1.core = true := hn
    rw [hes]
    simp only [hn', if_true, hs]
  | @scheduled s1 _ m _ hes hn hs ha =>
    have hn' : needsSched cfg.core.maxRecompute s1.core = true := hn
    have hc := (applyStage_frame cfg
      ({ s1 with core := markScheduled (markInvoked s1.core), pilots := m } : State K)).2.1
    rw [ha] at hc
    rw [hes]
    simp only [hn, hn', finish, if_true, hs, ha]
    cases err <;> exact Prod.ext hc.symm rfl

end Acn.Sim
