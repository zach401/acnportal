/-
  Helper lemmas for C10 (Sim level, stations × the sorting-based algorithms WITH the rampdown estimator):
  the stateful adapter `SimSortedRd.sortedSchedSt` (estimator object = scheduler state) built from the
  permuted configuration answers station-permuted views, from a related estimator (`RdEquiv`: same
  thresholds, same entries), with the same dict / the same error and leaves a related estimator behind.
  What the estimator reads off the interface — `last_applied_pilot_signals` and
  `last_actual_charging_rate`, two dicts keyed by session id — is the same in both runs (`prevOf_rel`).
-/
import AcnProofs.Lemmas.EquivSimSortedStations

set_option linter.unusedSectionVars false

namespace Acn.SimSorted
open Acn.Sim Acn.Sorted Acn.SimEquiv Acn.SimSortedRd

variable {K : Type} [Field K] [LinearOrder K] [IsStrictOrderedRing K] [HasExp K]

theorem dictGet_perm {V : Type} {a b : List (String × V)} (hp : a.Perm b) (hn : (b.map (·.1)).Nodup) (k : String) :
    dictGet a k = dictGet b k := by
  have hr : (Assoc.keys b.reverse).Nodup := by rw [Assoc.keys, List.map_reverse]; exact List.nodup_reverse.2 hn
  exact (Assoc.lookup_perm hr ((List.reverse_perm b).trans (hp.symm.trans (List.reverse_perm a).symm)) k).symm

theorem prevOf_rel {σ : List Nat} {v v' : View K} (hv : ViewRelL σ v v') : prevOf v' = prevOf v := by
  funext sid
  unfold prevOf
  rw [dictGet_perm hv.lastPilots hv.nodupLast sid]
  have hr : dictGet (v'.active.map fun e => (e.session, e.rate)) sid =
      dictGet (v.active.map fun e => (e.session, e.rate)) sid := by
    apply dictGet_perm (hv.rel.active.map _)
    rw [List.map_map]
    exact hv.nodupActive
  rw [hr]

/-- tie-freeness of a call with the estimator (`TieOKE`), as a predicate on (estimator, view) -/
def TieOKRd (inf : K) (cfg : Cfg K) (scfg : Config K) (rd : Rampdown K) (v : View K) : Prop :=
  TieOKE scfg (infraOf inf cfg) cfg.period (v.iter : Int) (prevOf v) rd (v.active.map (sessionOfEv inf v.iter))

section
variable {σ : List Nat} {d : Station K} {cfg : Cfg K}

theorem sortedSchedSt_equivariantSt [HasCeilNat K] (h : PermOK σ cfg) {net : NetInfo K}
    (hnet : NetOK cfg.stations.length net) (inf : K) (scfg : Config K) (he : scfg.estimate = true) :
    SchedEquivariantSt σ RdEquiv (TieOKRd inf cfg scfg) (sortedSchedSt net inf cfg scfg)
      (sortedSchedSt (reNet σ net) inf (permCfg σ d cfg) scfg) := by
  intro rd rd' v v' hR hvl htf
  obtain ⟨⟨h1, h2⟩, h3⟩ := scheduleCall_perm_view (d := d) h hnet inf scfg hvl (prevOf v) hR (tieOKEst_of_tieOKE he htf)
  have hids : (infraOf inf cfg).ids.length = cfg.stations.length := by simp [infraOf]
  unfold sortedSchedSt
  simp only
  rw [prevOf_rel hvl, h1]
  cases hres : (scheduleCall (feasOf net) scfg (infraOf inf cfg) cfg.period (v.iter : Int) (prevOf v) rd
      (v.active.map (sessionOfEv inf v.iter))).result with
  | error e =>
    simp only [Except.map]
    exact ⟨fun a st1 ha => (by cases ha), fun e' he' => (by simpa using he')⟩
  | ok out =>
    simp only [Except.map]
    refine ⟨?_, fun e' he' => by cases he'⟩
    intro a st1 ha
    simp only [Except.ok.injEq, Prod.mk.injEq] at ha
    obtain ⟨ha1, ha2⟩ := ha
    refine ⟨_, _, rfl, fun _ _ _ _ => updateSchedules_dictEq _ _ _ _ ?_, ?_⟩
    · rw [← ha1, infraOf_perm h]
      exact format_dictEq h.perm (infraOf inf cfg) hids h.nodup out (h2 out hres)
    · rw [← ha2]
      exact h3

end
end Acn.SimSorted
