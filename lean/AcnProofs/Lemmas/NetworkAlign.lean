/-
  Helper lemmas for C12: the three parallel containers of `ChargingNetwork` refine a plain list
  of constraints (`Refines`) and are a function of it (`Refines.unique`): one operation at a time (`step_refines`),
  whole histories (`run_refines`); a raising operation changes nothing, except the non-atomic update.
-/
import AcnProofs.Lemmas.NetworkOps
import Mathlib.Tactic

set_option linter.unusedSectionVars false

namespace Acn.Network
variable {K : Type} [Zero K]

structure Refines (n : Net K) (sp : Spec K) : Prop where
  stations : n.stations = sp.stations
  frozen : n.matrix.isSome = sp.frozen
  index : n.index = sp.cons.map (·.name)
  mags : n.magnitudes = sp.cons.map (·.limit)
  rows : n.matrix.getD [] = sp.cons.map (fun t => Net.row sp.stations t.cur)

theorem refines_init : Refines (Net.init : Net K) Spec.init :=
  ⟨rfl, rfl, rfl, rfl, rfl⟩

theorem Refines.cons_nil_of_not_frozen {n : Net K} {sp : Spec K} (h : Refines n sp)
    (hf : sp.frozen = false) : sp.cons = [] := by
  have h1 := h.frozen
  rw [hf] at h1
  have h2 := h.rows
  cases hm : n.matrix with
  | none => rw [hm] at h2; simpa using h2.symm
  | some r => rw [hm] at h1; cases h1

/-- the matrix, read from the specification's side: `None` until the first constraint is accepted, from then on
    one row per constraint — also after every constraint has been removed again -/
theorem Refines.matrix_eq {n : Net K} {sp : Spec K} (h : Refines n sp) :
    n.matrix = if sp.frozen then some (sp.cons.map fun t => Net.row sp.stations t.cur) else none := by
  have h1 := h.frozen
  have h2 := h.rows
  cases hm : n.matrix <;> rw [hm] at h1 h2 <;> simp_all

/-- the code's containers are a function of the specification's state -/
theorem Refines.unique {n n' : Net K} {sp : Spec K} (h : Refines n sp) (h' : Refines n' sp) : n = n' := by
  have hm := h.matrix_eq.trans h'.matrix_eq.symm
  obtain ⟨st, m, mg, ix⟩ := n
  obtain ⟨st', m', mg', ix'⟩ := n'
  simp only at hm
  rw [hm, show st = st' from h.stations.trans h'.stations.symm,
    show mg = mg' from h.mags.trans h'.mags.symm, show ix = ix' from h.index.trans h'.index.symm]

/-! ### erasing the first constraint with a given name, in all three containers -/

theorem eraseP_map (cons : List (Constraint K)) (nm : String) {β : Type} (f : Constraint K → β) :
    (cons.eraseP (fun t => decide (t.name = nm))).map f =
      (cons.map f).eraseIdx ((cons.map (·.name)).idxOf nm) := by
  induction cons with
  | nil => simp
  | cons t ts ih =>
    by_cases h : t.name = nm
    · simp [h]
    · simp [h, ih]

theorem eraseP_names (cons : List (Constraint K)) (nm : String) :
    (cons.eraseP (fun t => decide (t.name = nm))).map (·.name) = (cons.map (·.name)).erase nm := by
  rw [eraseP_map, List.erase_eq_eraseIdx_of_idxOf rfl]

theorem register_refines {n : Net K} {sp : Spec K} (h : Refines n sp) (s : String) :
    (n.register s).2 = (sp.register s).2 ∧ Refines (n.register s).1 (sp.register s).1 := by
  unfold Net.register Spec.register
  rw [h.frozen]
  cases hf : sp.frozen with
  | true => simp only [↓reduceIte]; exact ⟨trivial, h⟩
  | false =>
    have hc := h.cons_nil_of_not_frozen hf
    simp only [Bool.false_eq_true, ↓reduceIte]
    refine ⟨trivial, ⟨?_, ?_, h.index, h.mags, ?_⟩⟩
    · simp only [h.stations]
    · rw [← hf]; exact h.frozen
    · have := h.rows
      simp only [hc, List.map_nil] at this ⊢
      exact this

theorem add_refines {n : Net K} {sp : Spec K} (h : Refines n sp) (c : Current K) (limit : K)
    (name : Option String) :
    (n.addConstraint c limit name).2 = (sp.add c limit name).2 ∧
      Refines (n.addConstraint c limit name).1 (sp.add c limit name).1 := by
  have hlen : (n.matrix.getD []).length = n.index.length := by rw [h.rows, h.index]; simp
  have hnames : sp.names = n.index := by rw [h.index]; rfl
  rw [addConstraint_eq, if_pos hlen, h.stations]
  unfold Spec.add
  split
  · exact ⟨rfl, rfl, rfl, by simp [h.index, hnames], by simp [h.mags], by simp [h.rows]⟩
  · exact ⟨rfl, h⟩

theorem remove_refines {n : Net K} {sp : Spec K} (h : Refines n sp) (name : String) :
    (n.removeConstraint name).2 = (sp.remove name).2 ∧
      Refines (n.removeConstraint name).1 (sp.remove name).1 := by
  unfold Net.removeConstraint Spec.remove
  have hnames : sp.names = n.index := by rw [h.index]; rfl
  rw [hnames]
  split
  · -- a name in the index means a constraint, hence a matrix
    have hf : sp.frozen = true := by
      cases hf : sp.frozen
      · rw [h.index, h.cons_nil_of_not_frozen hf] at *; contradiction
      · rfl
    rw [h.matrix_eq, hf, if_pos rfl]
    dsimp only
    refine ⟨rfl, h.stations, rfl, ?_, ?_, ?_⟩
    · rw [h.index]
      exact (eraseP_names sp.cons name).symm
    · rw [h.mags, h.index]
      exact (eraseP_map sp.cons name (·.limit)).symm
    · rw [h.index]
      exact (eraseP_map sp.cons name (fun t => Net.row sp.stations t.cur)).symm
  · exact ⟨rfl, h⟩

theorem update_refines {n : Net K} {sp : Spec K} (h : Refines n sp) (name : String)
    (c : Current K) (limit : K) (newName : Option String) :
    (n.updateConstraint name c limit newName).2 = (sp.update name c limit newName).2 ∧
      Refines (n.updateConstraint name c limit newName).1 (sp.update name c limit newName).1 := by
  have hnames : sp.names = n.index := by rw [h.index]; rfl
  rw [updateConstraint_eq]
  unfold Spec.update
  rw [hnames]
  split
  · obtain ⟨he, hr⟩ := remove_refines h name
    -- the removal cannot fail here
    have hs : (sp.remove name).2 = none := by
      unfold Spec.remove
      rw [hnames, if_pos ‹_›]
    rw [show n.removeConstraint name = ((n.removeConstraint name).1, none) from Prod.ext rfl (he.trans hs),
      Steps.andThen_ok]
    exact add_refines hr c limit _
  · exact ⟨rfl, h⟩

theorem step_refines {n : Net K} {sp : Spec K} (h : Refines n sp) (o : Op K) :
    (n.step o).2 = (sp.step o).2 ∧ Refines (n.step o).1 (sp.step o).1 := by
  cases o with
  | register s => exact register_refines h s
  | add c l nm => exact add_refines h c l nm
  | remove nm => exact remove_refines h nm
  | update nm c l nn => exact update_refines h nm c l nn

theorem run_refines {n : Net K} {sp : Spec K} (h : Refines n sp) (ops : List (Op K)) :
    n.trace ops = sp.trace ops ∧ Refines (n.run ops) (sp.run ops) := by
  induction ops generalizing n sp with
  | nil => exact ⟨rfl, h⟩
  | cons o os ih =>
    obtain ⟨he, hr⟩ := step_refines h o
    obtain ⟨ht, hf⟩ := ih hr
    refine ⟨?_, ?_⟩
    · simp only [Net.trace, Spec.trace, he, ht]
    · simpa [Net.run, Spec.run] using hf

/-! ### a raising operation changes nothing, except the non-atomic update -/

theorem spec_step_error_unchanged (sp : Spec K) (o : Op K) (e : Err) (he : (sp.step o).2 = some e)
    (hu : ∀ nm c l nn, o = .update nm c l nn → nm ∉ sp.names) : (sp.step o).1 = sp := by
  cases o with
  | register s =>
    simp only [Spec.step, Spec.register] at he ⊢
    split at he <;> simp_all
  | add c l nm =>
    simp only [Spec.step, Spec.add] at he ⊢
    by_cases hk : ∀ k ∈ c.keys, k ∈ sp.stations
    · rw [if_pos hk] at he; cases he
    · rw [if_neg hk]
  | remove nm =>
    simp only [Spec.step, Spec.remove] at he ⊢
    split at he <;> simp_all
  | update nm c l nn =>
    have := hu nm c l nn rfl
    simp only [Spec.step, Spec.update, this, if_false]

/-- … hence so does the code on aligned containers: the specification did not move, and the containers are a
    function of it -/
theorem Refines.step_error_unchanged {n : Net K} {sp : Spec K} (h : Refines n sp) {o : Op K} {e : Err}
    (he : (n.step o).2 = some e) (hu : ∀ nm c l nn, o = .update nm c l nn → nm ∉ n.index) : (n.step o).1 = n := by
  obtain ⟨h1, h2⟩ := step_refines h o
  rw [spec_step_error_unchanged sp o e (h1 ▸ he) (fun nm c l nn ho => by
    have := hu nm c l nn ho
    rwa [h.index] at this)] at h2
  exact h2.unique h

end Acn.Network
