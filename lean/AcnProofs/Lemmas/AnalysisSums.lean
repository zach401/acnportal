/-
  For C18: numpy-style list reductions (`colSums`, `vecMat`, `dotK`,
  `phasorPart`, column selection) versus indexed sums `∑ i ∈ Finset.range n, …`.
-/
import AcnModel.Analysis
import AcnProofs.Lemmas.Basic
import Mathlib.Algebra.BigOperators.Group.Finset.Basic
import Mathlib.Algebra.BigOperators.Ring.Finset
import Mathlib.Tactic

namespace Acn.Analysis
open Finset

set_option linter.unusedSectionVars false
variable {K : Type} [Field K]

theorem sum_map_range (n : Nat) (f : Nat → K) :
    ((List.range n).map f).sum = ∑ i ∈ range n, f i := by
  induction n with
  | zero => simp
  | succ n ih => simp [List.range_succ, Finset.sum_range_succ, ih]

theorem sumK_map_range (n : Nat) (f : Nat → K) :
    sumK ((List.range n).map f) = ∑ i ∈ range n, f i := by
  rw [sumK_eq_sum, sum_map_range]

theorem ext_getD {α : Type} (d : α) (n : Nat) (l₁ l₂ : List α) (h₁ : l₁.length = n) (h₂ : l₂.length = n)
    (h : ∀ t < n, l₁.getD t d = l₂.getD t d) : l₁ = l₂ := by
  apply List.ext_getElem (by rw [h₁, h₂])
  intro i hi₁ hi₂
  have := h i (by rw [← h₁]; exact hi₁)
  rwa [List.getD_eq_getElem _ _ hi₁, List.getD_eq_getElem _ _ hi₂] at this

theorem zipWith_map_same {α β γ δ : Type} (h : β → γ → δ) (f : α → β) (g : α → γ) (l : List α) :
    List.zipWith h (l.map f) (l.map g) = l.map (fun a => h (f a) (g a)) := by
  rw [List.zipWith_map, List.zipWith_self]

theorem getD_map_range {α : Type} (d : α) (n : Nat) (f : Nat → α) (t : Nat) (ht : t < n) :
    ((List.range n).map f).getD t d = f t := by
  rw [List.getD_eq_getElem _ _ (by simpa using ht)]
  simp

theorem map_range_getD {α : Type} (F : Nat → α) (cols : List Nat) :
    (List.range cols.length).map (fun u => F (cols.getD u 0)) = cols.map F :=
  (List.map_map ..).symm.trans (congrArg _ (range_map_getD cols 0))

theorem replicate_eq_map_range (T : Nat) : (zerosV T : List K) = (List.range T).map (fun _ => 0) := by
  rw [List.map_const', List.length_range]; rfl

theorem getD_zerosV (T t : Nat) : (zerosV T : List K).getD t 0 = 0 := by
  rw [List.getD_eq_getElem?_getD]; exact List.getElem?_getD_replicate_default_eq (d := (0 : K)) T t

theorem getD_zipWith {α β γ : Type} (f : α → β → γ) (a : List α) (b : List β) (da : α) (db : β)
    (h : a.length = b.length) (t : Nat) :
    (List.zipWith f a b).getD t (f da db) = f (a.getD t da) (b.getD t db) := by
  by_cases ht : t < a.length
  · rw [List.getD_eq_getElem (l := List.zipWith f a b) _ (by simpa [← h] using ht),
      List.getD_eq_getElem _ _ ht, List.getD_eq_getElem _ _ (h ▸ ht), List.getElem_zipWith]
  · have ht := Nat.le_of_not_lt ht
    rw [List.getD_eq_default (l := List.zipWith f a b) _ (by simpa [← h] using ht),
      List.getD_eq_default _ _ ht, List.getD_eq_default _ _ (h ▸ ht)]

theorem getD_addV (a b : List K) (h : a.length = b.length) (t : Nat) :
    (addV a b).getD t 0 = a.getD t 0 + b.getD t 0 := by
  simpa only [addV, add_zero] using getD_zipWith (· + ·) a b 0 0 h t

theorem length_addV (a b : List K) : (addV a b).length = min a.length b.length := by
  simp [addV]

theorem getD_scaleV (x : K) (r : List K) (t : Nat) : (scaleV x r).getD t 0 = x * r.getD t 0 := by
  simpa only [scaleV, mul_zero] using List.getD_map (l := r) (d := 0) (n := t) (x * ·)

theorem getD_mulRight (x : K) (r : List K) (t : Nat) :
    (r.map (· * x)).getD t 0 = r.getD t 0 * x := by
  simpa only [zero_mul] using List.getD_map (l := r) (d := 0) (n := t) (· * x)

theorem ent_cons_succ (r : List K) (rs : Matrix K) (i t : Nat) : ent (r :: rs) (i + 1) t = ent rs i t := by
  simp [ent]

theorem ent_cons_zero (r : List K) (rs : Matrix K) (t : Nat) : ent (r :: rs) 0 t = r.getD t 0 := by
  simp [ent]

theorem colSums_aux (T : Nat) (A : Matrix K) (hA : ∀ row ∈ A, row.length = T) (acc : List K)
    (hacc : acc.length = T) :
    (A.foldl addV acc).length = T ∧
      ∀ t, (A.foldl addV acc).getD t 0 = acc.getD t 0 + ∑ i ∈ range A.length, ent A i t := by
  induction A generalizing acc with
  | nil => simp [hacc]
  | cons r rs ih =>
    have hr : r.length = T := hA r (by simp)
    have hrs : ∀ row ∈ rs, row.length = T := fun row h => hA row (by simp [h])
    have hacc' : (addV acc r).length = T := by rw [length_addV, hacc, hr, min_self]
    obtain ⟨hl, hg⟩ := ih hrs (addV acc r) hacc'
    refine ⟨by simpa using hl, fun t => ?_⟩
    rw [List.foldl_cons, hg t, getD_addV acc r (by rw [hacc, hr]), List.length_cons,
      Finset.sum_range_succ']
    simp only [ent_cons_succ, ent_cons_zero]
    ring

theorem colSums_eq (T : Nat) (A : Matrix K) (hA : ∀ row ∈ A, row.length = T) :
    colSums T A = (List.range T).map (fun t => ∑ i ∈ range A.length, ent A i t) := by
  obtain ⟨hl, hg⟩ := colSums_aux T A hA (zerosV T) (by simp [zerosV])
  apply ext_getD 0 T _ _ (by simpa [colSums] using hl) (by simp)
  intro t ht
  rw [colSums, hg t, getD_map_range 0 T _ t ht]
  rw [getD_zerosV, zero_add]

theorem forall_mem_zipWith {α β γ : Type} {f : α → β → γ} {P : γ → Prop} {l₁ : List α} {l₂ : List β}
    (h : ∀ a ∈ l₁, ∀ b ∈ l₂, P (f a b)) : ∀ c ∈ List.zipWith f l₁ l₂, P c := by
  intro c hc
  rw [← List.map_uncurry_zip_eq_zipWith] at hc
  obtain ⟨⟨a, b⟩, hp, rfl⟩ := List.mem_map.1 hc
  exact h a (List.of_mem_zip hp).1 b (List.of_mem_zip hp).2

/-- `v @ B` adds up the rows of `B`, row `j` scaled by `v_j` -/
theorem vecMat_eq_colSums (T : Nat) (v : List K) (B : Matrix K) :
    vecMat T v B = colSums T (List.zipWith scaleV v B) := by
  rw [vecMat, colSums, ← List.map_uncurry_zip_eq_zipWith, List.foldl_map]
  rfl

/-- no assumption on the lengths: beyond either list both sides are 0 -/
theorem ent_zipWith_scaleV (v : List K) (B : Matrix K) (j t : Nat) :
    ent (List.zipWith scaleV v B) j t = v.getD j 0 * ent B j t := by
  simp only [ent, List.getD_eq_getElem?_getD (i := j), List.getElem?_zipWith]
  cases v[j]? <;> cases B[j]? <;>
    simp only [Option.getD_none, Option.getD_some, List.getD_nil, getD_scaleV, zero_mul, mul_zero]

theorem vecMat_eq (T : Nat) (v : List K) (B : Matrix K) (hB : ∀ row ∈ B, row.length = T) :
    vecMat T v B = (List.range T).map (fun t => ∑ j ∈ range B.length, v.getD j 0 * ent B j t) := by
  rw [vecMat_eq_colSums, colSums_eq T _ (forall_mem_zipWith fun x _ r hr => by rw [scaleV, List.length_map, hB r hr])]
  refine List.map_congr_left fun t _ => ?_
  simp only [ent_zipWith_scaleV, List.length_zipWith]
  -- a `v` shorter than `B` contributes zeros from its end on
  refine Finset.sum_subset (range_subset_range.2 (min_le_right _ _)) fun j hjB hj => ?_
  rw [List.getD_eq_default _ _ (by rw [mem_range] at hj hjB; omega), zero_mul]

theorem dotK_eq (a b : List K) (n : Nat) (h : a.length ≤ n) :
    dotK a b = ∑ t ∈ range n, a.getD t 0 * b.getD t 0 := by
  rw [dotK, sumK_eq_sum, sum_eq_sum_range _ n (by simp only [List.length_zipWith]; omega)]
  simp only [getD_zipWith_mul]

theorem ent_phasorPart (S : Matrix K) (c : List K) (h : S.length = c.length) (j t : Nat) :
    ent (phasorPart S c) j t = ent S j t * c.getD j 0 := by
  have := getD_zipWith (fun (row : List K) cj => row.map (· * cj)) S c [] 0 h j
  rw [ent, phasorPart, ← List.map_nil, this]
  exact getD_mulRight _ _ _
theorem length_phasorPart (S : Matrix K) (c : List K) (hc : c.length = S.length) :
    (phasorPart S c).length = S.length := by
  simp [phasorPart, hc]

theorem rect_phasorPart (T : Nat) (S : Matrix K) (hS : ∀ row ∈ S, row.length = T) (c : List K) :
    ∀ row ∈ phasorPart S c, row.length = T :=
  forall_mem_zipWith fun r hr x _ => by rw [List.length_map, hS r hr]

/-- entries after `schedule_matrix[:, cols]` -/
theorem ent_selectCols (R : Matrix K) (cols : List Nat) (j u : Nat) (hu : u < cols.length) :
    ent (R.map (fun row => cols.map (fun t => row.getD t 0))) j u = ent R j (cols.getD u 0) := by
  unfold ent
  by_cases hj : j < R.length
  · simp [List.getD_eq_getElem?_getD, List.getElem?_eq_getElem hj, List.getElem?_eq_getElem hu]
  · have h1 : R.length ≤ j := Nat.le_of_not_lt hj
    simp [List.getD_eq_getElem?_getD, List.getElem?_eq_none h1]

end Acn.Analysis
