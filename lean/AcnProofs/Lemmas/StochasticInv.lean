/-
  The invariant of the StochasticNetwork model (C19) and its preservation by the three things
  that happen to a network: an unplug event, a plug-in event, an early departure.
  `Inv` is about the state only; `Track` (StochasticRun.lean) ties the arrived/departed flags to
  the processed events.

  On an invariant state every operation has an explicit result (StochasticFlags.lean,
  `Inv.unplug_occ`, `Inv.earlyStep_cons`); each of the four resulting transitions keeps the
  invariant: `Inv.depart` (an EV goes, from the queue, from a station nobody waits for, or from
  neither), `handOver` (it goes and the head of the queue takes its station), `enqueue`, `park`.
  Each transition rewrites one EV record (`handOver` two), so every clause is checked by
  one case split `u = x`; the five clauses about a single record travel together as `EvRec.Ok`.
-/
import AcnProofs.Lemmas.StochasticFlags
import AcnProofs.Lemmas.Basic

namespace Acn.Stoch

def Net.waits (s : Net) (x : Sess) : Bool :=
  (s.ev x).arrived && !(s.ev x).departed && (s.ev x).station.isNone

structure Inv (s : Net) : Prop where
  st_nodup : s.stations.Nodup
  occ_iff : ∀ st x, s.occ st = some x ↔
    (st ∈ s.stations ∧ (s.ev x).station = some st ∧ (s.ev x).arrived = true ∧
      (s.ev x).departed = false ∧ (s.ev x).early = false)
  fifo : s.waiting = s.arrivals.filter s.waits
  arr_nodup : s.arrivals.Nodup
  arr_iff : ∀ x, x ∈ s.arrivals ↔ (s.ev x).arrived = true
  dep_arr : ∀ x, (s.ev x).departed = true → (s.ev x).arrived = true
  no_wait_free : s.waiting ≠ [] → ∀ st ∈ s.stations, s.occ st ≠ none
  st_mem : ∀ x st, (s.ev x).arrived = true → (s.ev x).station = some st → st ∈ s.stations
  plugged_iff : ∀ x, (s.ev x).plugged = true ↔
    ((s.ev x).arrived = true ∧ (s.ev x).station.isSome = true)
  early_imp : ∀ x, (s.ev x).early = true →
    ((s.ev x).arrived = true ∧ (s.ev x).station.isSome = true)
  queued_imp : ∀ x, (s.ev x).queued = true → (s.ev x).arrived = true
  queued_none : ∀ x, (s.ev x).arrived = true → (s.ev x).station = none → (s.ev x).queued = true
  never_eq : s.neverCharged = s.arrivals.countP (fun x => (s.ev x).departed && !(s.ev x).plugged)
  swaps_eq : s.swaps = s.arrivals.countP (fun x => (s.ev x).queued && (s.ev x).plugged)
  early_eq : s.earlyUnplug = s.arrivals.countP (fun x => (s.ev x).early)
  draws_eq : s.draws = s.arrivals.countP (fun x => !(s.ev x).queued)

theorem Inv.mem_waiting {s : Net} (h : Inv s) (x : Sess) :
    x ∈ s.waiting ↔ ((s.ev x).arrived = true ∧ (s.ev x).departed = false ∧ (s.ev x).station = none) := by
  rw [h.fifo, List.mem_filter, h.arr_iff]
  simp [Net.waits]
  tauto

theorem Inv.waiting_nodup {s : Net} (h : Inv s) : s.waiting.Nodup := by
  rw [h.fifo]; exact h.arr_nodup.filter _

theorem Inv.occ_inj {s : Net} (h : Inv s) {st st' : Station} {x : Sess} (ho : s.occ st = some x)
    (ho' : s.occ st' = some x) : st = st' :=
  Option.some.inj (((h.occ_iff st x).1 ho).2.1.symm.trans ((h.occ_iff st' x).1 ho').2.1)

theorem Inv.occ_ne_of_mem_waiting {s : Net} (h : Inv s) {x : Sess} (hx : x ∈ s.waiting) (st : Station) :
    s.occ st ≠ some x := fun hc => by
  have := ((h.occ_iff st x).1 hc).2.1
  rw [((h.mem_waiting x).1 hx).2.2] at this; cases this

theorem Inv.occ_ne_of_not_arrived {s : Net} (h : Inv s) {x : Sess} (ha : (s.ev x).arrived = false)
    (st : Station) : s.occ st ≠ some x := fun hc => by
  have := ((h.occ_iff st x).1 hc).2.2.1
  rw [ha] at this; cases this

/-- the five clauses of `Inv` that speak of one EV record and of nothing else -/
def EvRec.Ok (r : EvRec) : Prop :=
  (r.departed = true → r.arrived = true) ∧
  (r.plugged = true ↔ (r.arrived = true ∧ r.station.isSome = true)) ∧
  (r.early = true → (r.arrived = true ∧ r.station.isSome = true)) ∧
  (r.queued = true → r.arrived = true) ∧
  (r.arrived = true → r.station = none → r.queued = true)

theorem Inv.ok {s : Net} (h : Inv s) (x : Sess) : (s.ev x).Ok :=
  ⟨h.dep_arr x, h.plugged_iff x, h.early_imp x, h.queued_imp x, h.queued_none x⟩

theorem EvRec.Ok.fresh {r : EvRec} (h : r.Ok) (ha : r.arrived = false) :
    r.departed = false ∧ r.plugged = false ∧ r.early = false ∧ r.queued = false := by
  obtain ⟨h1, h2, h3, h4, _⟩ := h
  simp only [ha, Bool.false_eq_true, false_and, imp_false, iff_false] at h1 h2 h3 h4
  simp only [Bool.not_eq_true] at h1 h2 h3 h4
  exact ⟨h1, h2, h3, h4⟩

theorem Inv.of_ok {s : Net} (st_nodup : s.stations.Nodup)
    (occ_iff : ∀ st x, s.occ st = some x ↔
      (st ∈ s.stations ∧ (s.ev x).station = some st ∧ (s.ev x).arrived = true ∧
        (s.ev x).departed = false ∧ (s.ev x).early = false))
    (fifo : s.waiting = s.arrivals.filter s.waits) (arr_nodup : s.arrivals.Nodup)
    (arr_iff : ∀ x, x ∈ s.arrivals ↔ (s.ev x).arrived = true)
    (no_wait_free : s.waiting ≠ [] → ∀ st ∈ s.stations, s.occ st ≠ none)
    (st_mem : ∀ x st, (s.ev x).arrived = true → (s.ev x).station = some st → st ∈ s.stations)
    (ok : ∀ x, (s.ev x).Ok)
    (never_eq : s.neverCharged = s.arrivals.countP (fun x => (s.ev x).departed && !(s.ev x).plugged))
    (swaps_eq : s.swaps = s.arrivals.countP (fun x => (s.ev x).queued && (s.ev x).plugged))
    (early_eq : s.earlyUnplug = s.arrivals.countP (fun x => (s.ev x).early))
    (draws_eq : s.draws = s.arrivals.countP (fun x => !(s.ev x).queued)) : Inv s :=
  ⟨st_nodup, occ_iff, fifo, arr_nodup, arr_iff, fun x => (ok x).1, no_wait_free, st_mem,
    fun x => (ok x).2.1, fun x => (ok x).2.2.1, fun x => (ok x).2.2.2.1, fun x => (ok x).2.2.2.2,
    never_eq, swaps_eq, early_eq, draws_eq⟩

/-- `x` departs: its record is marked, and it is taken out of the place it was in — the queue (which
    the unplug counts as never charged), a station, or neither if it left its station early.  A
    station may only come free while nobody waits (`hfree`); otherwise the head of the queue takes
    it, see `handOver`. -/
theorem Inv.depart {s : Net} (h : Inv s) {x : Sess} (ha : (s.ev x).arrived = true)
    {occ' : Station → Option Sess} {w' : List Sess} {k : Nat}
    (hocc : ∀ t, occ' t = if s.occ t = some x then none else s.occ t) (hw : w' = s.waiting.erase x)
    (hfree : w' ≠ [] → ∀ t ∈ s.stations, occ' t ≠ none) (hk : k = if x ∈ s.waiting then 1 else 0) :
    Inv ({ s with occ := occ', waiting := w', neverCharged := s.neverCharged + k }.modEv x
      (fun r => { r with departed := true })) := by
  refine Inv.of_ok h.st_nodup ?_ ?_ h.arr_nodup ?_ hfree ?_ ?_ ?_ ?_ ?_ ?_ <;> simp only [Net.modEv]
  · intro t u
    rw [hocc]
    by_cases hu : u = x
    · -- neither side holds of `x`: `occ'` has it nowhere, and it is marked departed
      subst hu; split <;> simp [*]
    · rw [if_neg hu, ← h.occ_iff t u]
      split <;> simp [*, Ne.symm hu]
  · rw [hw, h.fifo]; symm
    apply filter_update_erase _ _ _ x h.arr_nodup
    · simp [Net.waits]
    · intro y _ hne; simp [Net.waits, hne]
  · intro u; rw [h.arr_iff]; split <;> exact Iff.rfl
  · intro u t; split <;> exact h.st_mem u t
  · intro u
    by_cases hu : u = x
    · subst hu; simpa [EvRec.Ok, ha] using h.ok u
    · rw [if_neg hu]; exact h.ok u
  · rw [hk, h.never_eq]
    by_cases hxw : x ∈ s.waiting
    · obtain ⟨-, hd, hst⟩ := (h.mem_waiting x).1 hxw
      rw [if_pos hxw]; symm
      apply countP_update_inc _ _ _ x h.arr_nodup ((h.arr_iff x).2 ha)
      · simp [hd]
      · simpa [ha, hst] using (h.ok x).2.1
      · intro y _ hne; simp [hne]
    · rw [if_neg hxw]; apply countP_same; intro u _
      by_cases hu : u = x
      · -- outside the queue, `x` has departed before or has been plugged in
        subst hu
        cases hd : (s.ev u).departed with
        | true => simp
        | false =>
          have hp : (s.ev u).plugged = true := (h.ok u).2.1.2
            ⟨ha, Option.isSome_iff_ne_none.2 fun hst => hxw ((h.mem_waiting u).2 ⟨ha, hd, hst⟩)⟩
          simp [hp]
      · simp [hu]
  · rw [h.swaps_eq]; apply countP_same; intro u _; split <;> rfl
  · rw [h.early_eq]; apply countP_same; intro u _; split <;> rfl
  · rw [h.draws_eq]; apply countP_same; intro u _; split <;> rfl

/-- the occupant `x` of `st` goes away while `y` heads the queue, and `y` takes the station.  `x` is
    left with the record `rx`: marked departed (an unplug event) or marked early
    (`post_charging_update`, which also counts it) -/
theorem Inv.handOver {s : Net} (h : Inv s) {x y : Sess} {w : List Sess} {st : Station}
    (ho : s.occ st = some x) (hwq : s.waiting = y :: w) {rx : EvRec} {k : Nat}
    (hrx : (rx = { s.ev x with departed := true } ∧ k = 0) ∨
      (rx = { s.ev x with early := true } ∧ k = 1)) :
    Inv { s with
          occ := fun t => if t = st then some y else s.occ t,
          waiting := w,
          ev := fun z => if z = x then rx
            else if z = y then { s.ev y with station := some st, plugged := true } else s.ev z,
          swaps := s.swaps + 1,
          earlyUnplug := s.earlyUnplug + k } := by
  obtain ⟨hm, hst, ha, hd, hxe⟩ := (h.occ_iff st x).1 ho
  have hyw : y ∈ s.waiting := by rw [hwq]; exact List.mem_cons_self
  obtain ⟨hya, hyd, hyst⟩ := (h.mem_waiting y).1 hyw
  have hnoy := h.occ_ne_of_mem_waiting hyw
  have hxy : x ≠ y := fun e => hnoy st (e ▸ ho)
  have hyx := Ne.symm hxy
  have hoky := h.ok y
  have hye : (s.ev y).early = false := by simpa [hyst] using hoky.2.2.1
  have hyq : (s.ev y).queued = true := hoky.2.2.2.2 hya hyst
  have hyp : (s.ev y).plugged = false := by simpa [hyst] using hoky.2.1
  have hxp : (s.ev x).plugged = true := by simpa [ha, hst] using (h.ok x).2.1
  -- all that matters of `rx`: `x` is gone, and nothing else about it has changed
  obtain ⟨hrs, hra, hrp, hrq, hgone⟩ : rx.station = some st ∧ rx.arrived = true ∧ rx.plugged = true ∧
      rx.queued = (s.ev x).queued ∧ (rx.departed = true ∨ rx.early = true) := by
    rcases hrx with ⟨rfl, -⟩ | ⟨rfl, -⟩ <;> simp [hst, ha, hxp]
  refine Inv.of_ok h.st_nodup ?_ ?_ h.arr_nodup ?_ ?_ ?_ ?_ ?_ ?_ ?_ ?_ <;> simp only []
  · intro t u
    by_cases hux : u = x
    · have : (if t = st then some y else s.occ t) ≠ some x := by
        split
        · simpa using hyx
        · rename_i ht; exact fun hc => ht (h.occ_inj hc ho)
      subst hux
      rcases hgone with hg | hg <;> simp [this, hg]
    · by_cases huy : u = y
      · subst huy
        by_cases ht : t = st
        · simp [ht, hux, hm, hya, hyd, hye]
        · simp [ht, hux, hnoy t, Ne.symm ht]
      · have : (if t = st then some y else s.occ t) = some u ↔ s.occ t = some u := by
          split
          · rename_i ht; simp [ht, ho, Ne.symm hux, Ne.symm huy]
          · rfl
        rw [this, if_neg hux, if_neg huy]; exact h.occ_iff t u
  · have : w = s.waiting.erase y := by rw [hwq]; simp
    rw [this, h.fifo]; symm
    apply filter_update_erase _ _ _ y h.arr_nodup
    · simp [Net.waits, hyx]
    · intro u _ huy
      by_cases hux : u = x
      · subst hux; simp [Net.waits, hrs, hst]
      · simp [Net.waits, hux, huy]
  · intro u; rw [h.arr_iff]
    by_cases hux : u = x
    · subst hux; simp [hra, ha]
    · by_cases huy : u = y <;> simp [hux, huy, hyx]
  · intro _ t ht
    by_cases hts : t = st
    · simp [hts]
    · simpa [hts] using h.no_wait_free (by rw [hwq]; simp) t ht
  · intro u t
    by_cases hux : u = x
    · subst hux; simp only [if_true, hrs]; rintro - ⟨⟩; exact hm
    · by_cases huy : u = y
      · subst huy; simp only [if_neg hux, if_true]; rintro - ⟨⟩; exact hm
      · simpa [hux, huy] using h.st_mem u t
  · intro u
    by_cases hux : u = x
    · subst hux; simp [EvRec.Ok, hrs, hra, hrp]
    · by_cases huy : u = y
      · subst huy; simp [EvRec.Ok, hux, hya]
      · simpa [hux, huy] using h.ok u
  · rw [h.never_eq]; apply countP_same; intro u _
    by_cases hux : u = x
    · subst hux; simp [hrp, hxp]
    · by_cases huy : u = y <;> simp [hux, huy, hyx, hyd]
  · rw [h.swaps_eq]; symm
    apply countP_update_inc _ _ _ y h.arr_nodup ((h.arr_iff y).2 hya)
    · simp [hyp]
    · simp [hyx, hyq]
    · intro u _ huy
      by_cases hux : u = x
      · subst hux; simp [hrq, hrp, hxp]
      · simp [hux, huy]
  · rcases hrx with ⟨rfl, rfl⟩ | ⟨rfl, rfl⟩
    · rw [h.early_eq]; apply countP_same; intro u _
      by_cases hux : u = x
      · simp [hux]
      · by_cases huy : u = y <;> simp [hux, huy, hyx]
    · rw [h.early_eq]; symm
      apply countP_update_inc _ _ _ x h.arr_nodup ((h.arr_iff x).2 ha) hxe
      · simp
      · intro u _ hux; by_cases huy : u = y <;> simp [hux, huy, hyx]
  · rw [h.draws_eq]; apply countP_same; intro u _
    by_cases hux : u = x
    · subst hux; simp [hrq]
    · by_cases huy : u = y <;> simp [hux, huy, hyx]

/-- `handOver` on the states the operations produce: `Net.seat`, then the mark on `x` -/
theorem Inv.handOver_admit {s : Net} (h : Inv s) {x y : Sess} {w : List Sess} {st : Station}
    (ho : s.occ st = some x) (hwq : s.waiting = y :: w) :
    Inv ((s.seat st y w).modEv x (fun r => { r with departed := true })) ∧
    Inv ({ s.seat st y w with earlyUnplug := s.earlyUnplug + 1 }.modEv x
      (fun r => { r with early := true })) := by
  have hxy : x ≠ y := fun e =>
    h.occ_ne_of_mem_waiting (by rw [hwq]; exact List.mem_cons_self) st (e ▸ ho)
  -- `seat` leaves the record of `x` alone (`x ≠ y`), so a mark `f` set on it afterwards gives the state of `handOver`
  have key (k : Nat) (f : EvRec → EvRec)
      (hf : (f (s.ev x) = { s.ev x with departed := true } ∧ k = 0) ∨
        (f (s.ev x) = { s.ev x with early := true } ∧ k = 1)) :
      Inv ({ s.seat st y w with earlyUnplug := s.earlyUnplug + k }.modEv x f) := by
    refine (congrArg Inv ?_).mp (h.handOver ho hwq hf)
    simp only [Net.modEv, Net.seat]
    congr
    funext z
    split
    · rename_i hz; rw [hz, if_neg hxy]
    · rfl
  exact ⟨key 0 _ (Or.inl ⟨rfl, rfl⟩), key 1 _ (Or.inr ⟨rfl, rfl⟩)⟩

/-- a new EV arrives and finds every station taken -/
theorem Inv.enqueue {s : Net} (h : Inv s) {x : Sess} (ha : (s.ev x).arrived = false)
    (hfull : ∀ st ∈ s.stations, s.occ st ≠ none) :
    Inv { s with
          waiting := s.waiting ++ [x],
          ev := fun z => if z = x then { s.ev x with station := none, queued := true, arrived := true }
            else s.ev z,
          arrivals := s.arrivals ++ [x] } := by
  have hxa : x ∉ s.arrivals := by rw [h.arr_iff]; simp [ha]
  have hne : ∀ y ∈ s.arrivals, y ≠ x := fun y hy e => hxa (e ▸ hy)
  obtain ⟨hxd, hxp, hxe, hxq⟩ := (h.ok x).fresh ha
  refine Inv.of_ok h.st_nodup ?_ ?_ ?_ ?_ (fun _ => hfull) ?_ ?_ ?_ ?_ ?_ ?_ <;> simp only []
  · intro t u
    by_cases hu : u = x
    · simp [hu, h.occ_ne_of_not_arrived ha t]
    · rw [if_neg hu]; exact h.occ_iff t u
  · rw [filter_append_new s.arrivals s.waits _ x, ← h.fifo]
    · simp [Net.waits, hxd]
    · intro y hy; simp [Net.waits, hne y hy]
  · simpa [List.nodup_append, h.arr_nodup] using hne
  · intro u; rw [List.mem_append, h.arr_iff]; by_cases hu : u = x <;> simp [hu, ha]
  · intro u t; by_cases hu : u = x
    · simp [hu]
    · rw [if_neg hu]; exact h.st_mem u t
  · intro u
    by_cases hu : u = x
    · simp [EvRec.Ok, hu, hxd, hxp, hxe]
    · rw [if_neg hu]; exact h.ok u
  · rw [countP_append_new s.arrivals (fun u => (s.ev u).departed && !(s.ev u).plugged) _ x, ← h.never_eq]
    · simp [hxd]
    · intro y hy; simp [hne y hy]
  · rw [countP_append_new s.arrivals (fun u => (s.ev u).queued && (s.ev u).plugged) _ x, ← h.swaps_eq]
    · simp [hxp]
    · intro y hy; simp [hne y hy]
  · rw [countP_append_new s.arrivals (fun u => (s.ev u).early) _ x, ← h.early_eq]
    · simp [hxe]
    · intro y hy; simp [hne y hy]
  · rw [countP_append_new s.arrivals (fun u => !(s.ev u).queued) _ x, ← h.draws_eq]
    · simp
    · intro y hy; simp [hne y hy]

/-- a new EV arrives and is put on the free station `st` -/
theorem Inv.park {s : Net} (h : Inv s) {x : Sess} {st : Station} (ha : (s.ev x).arrived = false)
    (hst : st ∈ s.stations) (ho : s.occ st = none) :
    Inv { s with
          occ := fun t => if t = st then some x else s.occ t,
          ev := fun z => if z = x then { s.ev x with station := some st, plugged := true, arrived := true }
            else s.ev z,
          arrivals := s.arrivals ++ [x],
          draws := s.draws + 1 } := by
  have hxa : x ∉ s.arrivals := by rw [h.arr_iff]; simp [ha]
  have hne : ∀ y ∈ s.arrivals, y ≠ x := fun y hy e => hxa (e ▸ hy)
  obtain ⟨hxd, hxp, hxe, hxq⟩ := (h.ok x).fresh ha
  have hwe : s.waiting = [] := by
    by_contra hne'; exact h.no_wait_free hne' st hst ho
  refine Inv.of_ok h.st_nodup ?_ ?_ ?_ ?_ (fun hc => absurd hwe hc) ?_ ?_ ?_ ?_ ?_ ?_ <;>
    simp only []
  · intro t u
    by_cases hu : u = x
    · subst hu
      by_cases ht : t = st
      · simp [ht, hst, hxd, hxe]
      · simp [ht, Ne.symm ht, h.occ_ne_of_not_arrived ha t]
    · have : (if t = st then some x else s.occ t) = some u ↔ s.occ t = some u := by
        split
        · rename_i ht; simp [ht, ho, Ne.symm hu]
        · rfl
      rw [this]; simpa [hu] using h.occ_iff t u
  · rw [filter_append_new s.arrivals s.waits _ x, ← h.fifo]
    · simp [Net.waits]
    · intro y hy; simp [Net.waits, hne y hy]
  · simpa [List.nodup_append, h.arr_nodup] using hne
  · intro u; rw [List.mem_append, h.arr_iff]; by_cases hu : u = x <;> simp [hu, ha]
  · intro u t; by_cases hu : u = x
    · subst hu; simp only [if_true]; rintro - ⟨⟩; exact hst
    · rw [if_neg hu]; exact h.st_mem u t
  · intro u
    by_cases hu : u = x
    · simp [EvRec.Ok, hu, hxd, hxe, hxq]
    · rw [if_neg hu]; exact h.ok u
  · rw [countP_append_new s.arrivals (fun u => (s.ev u).departed && !(s.ev u).plugged) _ x, ← h.never_eq]
    · simp
    · intro y hy; simp [hne y hy]
  · rw [countP_append_new s.arrivals (fun u => (s.ev u).queued && (s.ev u).plugged) _ x, ← h.swaps_eq]
    · simp [hxq]
    · intro y hy; simp [hne y hy]
  · rw [countP_append_new s.arrivals (fun u => (s.ev u).early) _ x, ← h.early_eq]
    · simp [hxe]
    · intro y hy; simp [hne y hy]
  · rw [countP_append_new s.arrivals (fun u => !(s.ev u).queued) _ x, ← h.draws_eq]
    · simp [hxq]
    · intro y hy; simp [hne y hy]

theorem Inv.unplug_occ {s : Net} (h : Inv s) {x : Sess} {st : Station} (ho : s.occ st = some x) :
    s.unplug (s.ev x).station x = .ok (match s.waiting with
      | [] => s.setOcc st none
      | y :: w => s.seat st y w) := by
  obtain ⟨hm, hst, -⟩ := (h.occ_iff st x).1 ho
  have hxw : x ∉ s.waiting := by rw [h.mem_waiting]; simp [hst]
  rw [hst, unplug_of_occ hxw hm ho]
  cases hwq : s.waiting with
  | nil => exact admitNext_nil st hwq
  | cons y w =>
    rw [admitNext_cons (s.setOcc st none) st y w hwq hm (by simp [Net.setOcc])]
    simp only [Net.seat, Net.setOcc]
    congr 3
    funext t
    split <;> rfl

theorem Inv.unplugEvent {s : Net} (h : Inv s) (x : Sess) (ha : (s.ev x).arrived = true)
    (hd : (s.ev x).departed = false) :
    ∃ s1, s.unplug (s.ev x).station x = .ok s1 ∧
      Inv (s1.modEv x (fun r => { r with departed := true })) := by
  by_cases hxw : x ∈ s.waiting
  · exact ⟨_, unplug_of_mem _ hxw, h.depart ha (fun t => (if_neg (h.occ_ne_of_mem_waiting hxw t)).symm) rfl
      (fun hne => h.no_wait_free fun h0 => hne (by rw [h0]; rfl)) (if_pos hxw).symm⟩
  · have hw : s.waiting = s.waiting.erase x := (List.erase_of_not_mem hxw).symm
    cases hst : (s.ev x).station with
    | none => exact absurd ((h.mem_waiting x).2 ⟨ha, hd, hst⟩) hxw
    | some st =>
      have hm := h.st_mem x st ha hst
      by_cases ho : s.occ st = some x
      · rw [← hst, h.unplug_occ ho]
        cases hwq : s.waiting with
        | nil =>
          refine ⟨_, rfl, h.depart ha (fun t => ?_) hw (fun hne => absurd hwq hne) (if_neg hxw).symm⟩
          by_cases ht : t = st
          · rw [ht, if_pos rfl, if_pos ho]
          · rw [if_neg ht, if_neg fun hc => ht (h.occ_inj hc ho)]
        | cons y w => exact ⟨_, rfl, (h.handOver_admit ho hwq).1⟩
      · -- `x` left `st` early: it sits nowhere
        have hno : ∀ t, s.occ t ≠ some x := fun t hc => by
          have := ((h.occ_iff t x).1 hc).2.1; rw [hst] at this; cases this; exact ho hc
        exact ⟨s, unplug_of_ne hxw hm ho, h.depart ha (fun t => (if_neg (hno t)).symm) hw h.no_wait_free
          (if_neg hxw).symm⟩

theorem getD_mod_mem_free {s : Net} {f : Station} {fs : List Station} (hf : s.free = f :: fs) (k : Nat) :
    (f :: fs).getD (k % (fs.length + 1)) f ∈ s.stations ∧
      s.occ ((f :: fs).getD (k % (fs.length + 1)) f) = none := by
  have := Acn.getD_mem (f :: fs) f (i := k % (fs.length + 1)) (Nat.mod_lt _ (Nat.succ_pos _))
  generalize (f :: fs).getD (k % (fs.length + 1)) f = st at this ⊢
  rw [← hf] at this
  simpa [Net.free] using this

theorem Inv.pluginEvent {s : Net} (h : Inv s) (cs : Nat → Nat) (x : Sess)
    (ha : (s.ev x).arrived = false) :
    ∃ s1, s.plugin cs x = .ok s1 ∧
      Inv { s1.modEv x (fun r => { r with arrived := true }) with
            arrivals := if x ∈ s1.arrivals then s1.arrivals else s1.arrivals ++ [x] } := by
  have hxa : x ∉ s.arrivals := by rw [h.arr_iff]; simp [ha]
  have hxw : x ∉ s.waiting := by rw [h.mem_waiting]; simp [ha]
  unfold Net.plugin
  cases hf : s.free with
  | nil =>
    refine ⟨_, rfl, ?_⟩
    refine (congrArg Inv ?_).mp (h.enqueue ha (fun st hst h0 => by
      have : st ∈ s.free := by simp [Net.free, hst, h0]
      rw [hf] at this; cases this))
    simp only [Net.modEv, if_neg hxa, List.erase_of_not_mem hxw]
    congr
    funext z
    split
    · rename_i hz; rw [hz]
    · rfl
  | cons f fs =>
    obtain ⟨hst, ho⟩ := getD_mod_mem_free hf (cs s.draws)
    refine ⟨_, attach_eq _ x _ (by simp [Net.modEv]) hst ho, ?_⟩
    refine (congrArg Inv ?_).mp (h.park ha hst ho)
    simp only [Net.modEv, Net.setOcc, if_neg hxa]
    congr
    funext z
    split
    · rename_i hz; rw [hz]
    · rfl

theorem Inv.earlyStep_cons {s : Net} (h : Inv s) {x y : Sess} {w : List Sess} {st : Station}
    (ho : s.occ st = some x) (hwq : s.waiting = y :: w) :
    s.earlyStep x = .ok ({ s.seat st y w with earlyUnplug := s.earlyUnplug + 1 }.modEv x
      (fun r => { r with early := true })) := by
  simp only [Net.earlyStep, h.unplug_occ ho, hwq, List.isEmpty_cons, bind, Except.bind, pure,
    Except.pure, Bool.false_eq_true, ↓reduceIte]
  rfl

theorem admit_occ_of_ne {s : Net} {x z : Sess} (y : Sess) (w : List Sess) {st t : Station}
    (ho : s.occ st = some x) (hzx : z ≠ x) (hz : s.occ t = some z) :
    (s.seat st y w).occ t = some z := by
  have : t ≠ st := by rintro rfl; rw [ho] at hz; exact hzx (Option.some.inj hz).symm
  simpa only [Net.seat, if_neg this] using hz

theorem Inv.earlyStep {s : Net} (h : Inv s) {x : Sess} {st : Station} (ho : s.occ st = some x) :
    ∃ s1, s.earlyStep x = .ok s1 ∧ Inv s1 ∧
      (∀ t z, z ≠ x → s.occ t = some z → s1.occ t = some z) := by
  cases hwq : s.waiting with
  | nil => exact ⟨s, earlyStep_nil x hwq, h, fun _ _ _ hz => hz⟩
  | cons y w =>
    exact ⟨_, h.earlyStep_cons ho hwq, (h.handOver_admit ho hwq).2,
      fun _ _ hzx hz => admit_occ_of_ne y w ho hzx hz⟩

end Acn.Stoch
