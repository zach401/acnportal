/-
  Towards two clauses of the ledger: a session's sum over the stations collapses to its own station's row
  (`sum_term_single`; the clause is `Inv.session_single`, `Lemmas/LedgerResume`), and the total over all sessions
  (`total_of_inv`).
-/
import AcnProofs.Lemmas.LedgerStep

set_option linter.unusedSectionVars false

namespace Acn.Ledger
open Acn Acn.Sim Acn.EventCore Acn.Evse Finset

variable {K : Type} [Field K] [LinearOrder K] [IsStrictOrderedRing K] [HasExp K]

theorem findSession_core (cfg : Cfg K) (id : String) :
    findSession cfg.core id = (evIn cfg.evs id).map sessionOf := by
  unfold findSession Cfg.core evIn
  simp only [List.find?_map]
  rfl

theorem stationIndex_of {cfg : Cfg K} (hn : StationsNodup cfg) {i : Nat} {st : Station K}
    (h : cfg.stations[i]? = some st) : stationIndex cfg st.id = i := by
  obtain ⟨hi, rfl⟩ := List.getElem?_eq_some_iff.1 h
  have := List.Nodup.idxOf_getElem hn i (by simpa using hi)
  rwa [List.getElem_map, ← stationIndex_eq_idxOf] at this

theorem occAt_station {cfg : Cfg K} (hn : StationsNodup cfg) {t : Nat} {occ : String → Option Session}
    {rates : Pilots.Mat K} {peak : K} {evs : List (Ev K)} {log : List (List (Option String))}
    (hL : LedgerP cfg t occ rates peak evs log) {id : String} {e0 : Ev K} (h0 : evIn cfg.evs id = some e0)
    {τ j : Nat} (h : occAt log τ j = some id) :
    j = stationIndex cfg e0.station ∧ j < cfg.stations.length := by
  obtain ⟨x, st, hf, hst, hxs⟩ := hL.log_sound τ j id h
  rw [findSession_core, h0] at hf
  simp only [Option.map_some, Option.some.injEq] at hf
  subst hf
  have := stationIndex_of hn hst
  rw [← hxs] at this
  exact ⟨this.symm, (List.getElem?_eq_some_iff.1 hst).1⟩

theorem sum_term_single {cfg : Cfg K} (hn : StationsNodup cfg) {t : Nat} {occ : String → Option Session}
    {rates : Pilots.Mat K} {peak : K} {evs : List (Ev K)} {log : List (List (Option String))}
    (hL : LedgerP cfg t occ rates peak evs log) {id : String} {e0 : Ev K} (h0 : evIn cfg.evs id = some e0)
    (τ : Nat) :
    ∑ i ∈ range cfg.stations.length, term cfg rates log id τ i =
      term cfg rates log id τ (stationIndex cfg e0.station) := by
  -- a slot that logs the session is the slot of its station, and lies in the range
  rw [Finset.sum_eq_single (stationIndex cfg e0.station)]
  · intro j _ hjk
    exact if_neg fun h => hjk (occAt_station hn hL h0 h).1
  · intro hk
    refine if_neg fun h => hk (Finset.mem_range.2 ?_)
    obtain ⟨h1, h2⟩ := occAt_station hn hL h0 h
    exact h1 ▸ h2

theorem sum_by_ids (evs : List (Ev K)) (hnd : (evs.map (·.session)).Nodup) (f : Ev K → K) :
    (evs.map f).sum =
      ((evs.map (·.session)).map fun id => match evIn evs id with
        | some e => f e
        | none => 0).sum := by
  rw [List.map_map]
  congr 1
  apply List.map_congr_left
  intro e he
  simp only [Function.comp]
  rw [evIn_of_mem_nodup evs hnd e he]

theorem total_of_inv {cfg : Cfg K} (hid : (cfg.evs.map (·.session)).Nodup)
    {t : Nat} {occ : String → Option Session}
    {rates : Pilots.Mat K} {peak : K} {evs : List (Ev K)} {log : List (List (Option String))}
    (hL : LedgerP cfg t occ rates peak evs log) :
    (evs.map (·.delivered)).sum - (cfg.evs.map (·.delivered)).sum =
      ∑ τ ∈ range t, (∑ i ∈ range cfg.stations.length, volt cfg i * rates.get i τ / 1000) * (cfg.period / 60) := by
  have hid' : (evs.map (·.session)).Nodup := by rw [hL.ids]; exact hid
  rw [sum_by_ids evs hid' (·.delivered), sum_by_ids cfg.evs hid (·.delivered), hL.ids]
  rw [← List.sum_toFinset _ hid, ← List.sum_toFinset _ hid, ← Finset.sum_sub_distrib]
  -- per id: the session's energy
  have hper : ∀ id ∈ (cfg.evs.map (·.session)).toFinset,
      ((match evIn evs id with | some e => e.delivered | none => 0) -
       (match evIn cfg.evs id with | some e => e.delivered | none => 0) : K) =
        sessionEnergy cfg rates log id t := by
    intro id hmem
    rw [List.mem_toFinset] at hmem
    have h0 : (evIn cfg.evs id).isSome = true := (evIn_isSome_iff _ _).2 hmem
    have h1 : (evIn evs id).isSome = true := (evIn_isSome_iff _ _).2 (hL.ids ▸ hmem)
    obtain ⟨e0, he0⟩ := Option.isSome_iff_exists.1 h0
    obtain ⟨e, he⟩ := Option.isSome_iff_exists.1 h1
    simp only [he0, he]
    exact hL.sess id e0 e he0 he
  rw [Finset.sum_congr rfl hper]
  unfold sessionEnergy
  rw [Finset.sum_comm]
  apply Finset.sum_congr rfl
  intro τ hτ
  rw [Finset.sum_comm, Finset.sum_mul]
  apply Finset.sum_congr rfl
  intro i hi
  have hτ' := Finset.mem_range.1 hτ
  have hi' := Finset.mem_range.1 hi
  unfold term
  cases ho : occAt log τ i with
  | none =>
    rw [hL.vacant τ i hτ' hi' ho]
    simp
  | some j =>
    have hj : j ∈ (cfg.evs.map (·.session)).toFinset := by
      obtain ⟨x, st, hf, _, _⟩ := hL.log_sound τ i j ho
      rw [findSession_core] at hf
      rw [List.mem_toFinset, ← evIn_isSome_iff]
      cases hq : evIn cfg.evs j with
      | none => simp [hq] at hf
      | some q => rfl
    simp only [Option.some.injEq]
    rw [Finset.sum_ite_eq, if_pos hj]
    unfold energy
    ring

end Acn.Ledger
