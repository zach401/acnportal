/-
  T1c (DESIGN §17), group StochOps — facts about the association lists that stand for `_EVSEs` (dict) and
  `waiting_queue` (OrderedDict) in the translation of contrib/acnsim/network/stochastic_network.py, and the
  abstraction from the translated object `PyStNet K` to the state of the hand model `Stoch.Net`
  (AcnModel/Stochastic.lean), with what one lookup in the object says about a related model state (`Abs.of_get`, …).
  The facts about `dictGet?` / `dictSet` are those of Lemmas/CodePreludeDict.lean, said with `keys`; the OrderedDict
  operations `dictDel` / `dictMoveToEnd` (AcnModel/Gen/CodePreludeStoch.lean) are dealt with here.
  The module imports `Gen/CodeStochOps`, the hand model and that shared layer (which itself imports only the fixed
  prelude and Lemmas/Assoc.lean, which imports nothing), and no other `CodeTie*` module: the StochOps ties compile
  whenever that one translation does, whatever happens to another group's (the check reads a tie module that does
  not compile as a lost tie of its group).
-/
import AcnModel.Gen.CodeStochOps
import AcnModel.Stochastic
import AcnProofs.Lemmas.CodePreludeDict

set_option linter.unusedSectionVars false

namespace Acn.CodeTie.St
open Acn Acn.Gen.Code Acn.Stoch

/-- the keys of a dict, in insertion order -/
def keys {β : Type} (d : List (String × β)) : List String := d.map (·.1)

theorem get_set {β : Type} (d : List (String × β)) (k : String) (v : β) (k' : String) :
    dictGet? (dictSet d k v) k' = if k = k' then some v else dictGet? d k' :=
  Dict.get_set d k v k'

theorem get_isSome_iff {β : Type} (d : List (String × β)) (k : String) :
    (dictGet? d k).isSome = true ↔ k ∈ keys d :=
  Dict.get_isSome_iff d k

theorem get_none_iff {β : Type} (d : List (String × β)) (k : String) :
    dictGet? d k = none ↔ k ∉ keys d := by
  rw [← get_isSome_iff]
  cases dictGet? d k <;> simp

theorem set_keys {β : Type} (d : List (String × β)) (k : String) (v : β) (h : k ∈ keys d) :
    keys (dictSet d k v) = keys d :=
  Dict.set_keys d k v h

theorem del_keys {β : Type} (d : List (String × β)) (k : String) : keys (dictDel d k) = (keys d).erase k := by
  induction d with
  | nil => rfl
  | cons p r ih =>
    obtain ⟨k0, v0⟩ := p
    by_cases h0 : k0 = k
    · subst h0; simp [dictDel, keys]
    · have hb : (k0 == k) = false := by simpa using h0
      simp only [keys] at ih
      simp [dictDel, h0, keys, hb, ih]

/-- `d[k] = v; d.move_to_end(k)` on the keys: `k` leaves its place (if it had one) and goes to the end -/
theorem set_move_keys {β : Type} (d : List (String × β)) (k : String) (v : β) :
    keys (dictMoveToEnd (dictSet d k v) k) = (keys d).erase k ++ [k] := by
  have hg : dictGet? (dictSet d k v) k = some v := by rw [get_set]; simp
  simp only [dictMoveToEnd, hg]
  -- `d[k] = v` keeps the keys of a known `k` and appends a new `k`; `del d[k]` erases it either way
  have : keys (dictDel (dictSet d k v) k) = (keys d).erase k := by
    rw [del_keys]
    by_cases hk : k ∈ keys d
    · rw [set_keys d k v hk]
    · have hn : keys (dictSet d k v) = keys d ++ [k] := Dict.set_keys_new d k v hk
      rw [hn, List.erase_append_right _ hk, List.erase_of_not_mem hk]
      simp
  simp only [keys, List.map_append] at this ⊢
  rw [this]; rfl

theorem get_of_mem {β : Type} (d : List (String × β)) (hn : (keys d).Nodup) (k : String) (v : β)
    (h : (k, v) ∈ d) : dictGet? d k = some v := by
  rw [Dict.dictGet?_eq]; exact (Assoc.lookup_eq_some hn k v).2 h

theorem mem_of_get {β : Type} (d : List (String × β)) (k : String) (v : β) (h : dictGet? d k = some v) :
    (k, v) ∈ d :=
  Assoc.mem_of_lookup (Dict.dictGet?_eq d k ▸ h)

theorem mem_del {β : Type} (d : List (String × β)) (k : String) (kv : String × β) (h : kv ∈ dictDel d k) : kv ∈ d := by
  induction d with
  | nil => cases h
  | cons p r ih =>
    obtain ⟨k0, v0⟩ := p
    by_cases h0 : k0 = k
    · simp only [dictDel, h0, if_true] at h; exact List.mem_cons_of_mem _ h
    · simp only [dictDel, h0, if_false] at h
      rcases List.mem_cons.1 h with h | h
      · rw [h]; exact List.mem_cons_self
      · exact List.mem_cons_of_mem _ (ih h)

theorem mem_set {β : Type} (d : List (String × β)) (k : String) (v : β) (kv : String × β)
    (h : kv ∈ dictSet d k v) : kv ∈ d ∨ kv = (k, v) :=
  (Assoc.mem_set (Dict.dictSet_eq d k v ▸ h)).symm

theorem mem_move {β : Type} (d : List (String × β)) (k : String) (kv : String × β)
    (h : kv ∈ dictMoveToEnd d k) : kv ∈ d := by
  unfold dictMoveToEnd at h
  cases hg : dictGet? d k with
  | none => rw [hg] at h; exact h
  | some v =>
    rw [hg] at h
    rcases List.mem_append.1 h with h | h
    · exact mem_del d k kv h
    · rw [List.mem_singleton.1 h]; exact mem_of_get d k v hg

section
variable {K : Type}

/-- `network.station_ids` -/
def stStations (p : PyStNet K) : List String := keys p.evses

/-- which session occupies a station: the session id of `_EVSEs[st].ev` -/
def occE (d : List (String × PyStEvse K)) : String → Option String :=
  fun st => (dictGet? d st).bind (fun e => e.ev.map (·.session))

def stOcc (p : PyStNet K) : String → Option String := occE p.evses

/-- the keys of `waiting_queue`, oldest first -/
def stWaiting (p : PyStNet K) : List String := keys p.waiting

/-- the translated object `p` and the hand model's state `s` agree on every REAL component of the model
    (`stations`, `earlyDeparture`, `occ`, `waiting`, the three counters).  The model's per-session store `s.ev` and
    its ghost fields (`arrivals`, `draws`, the flags) have no counterpart in the network object. -/
structure Abs (p : PyStNet K) (s : Net) : Prop where
  stations : s.stations = stStations p
  early : s.earlyDeparture = p.earlyDeparture
  occ : s.occ = stOcc p
  waiting : s.waiting = stWaiting p
  swaps : s.swaps = p.swaps
  never : s.neverCharged = p.neverCharged
  earlyU : s.earlyUnplug = p.earlyUnplug

/-- representation invariants of the translated object: `_EVSEs` is a dict (distinct keys), and every entry of
    `waiting_queue` is filed under its own session id (`self.waiting_queue[ev.session_id] = ev` is the only
    insertion) -/
structure PyWf (p : PyStNet K) : Prop where
  keys_nodup : (stStations p).Nodup
  wait_key : ∀ k e, (k, e) ∈ p.waiting → e.session = k

theorem PyWf.of_eq {p q : PyStNet K} (h : PyWf p) (h1 : keys q.evses = keys p.evses)
    (h2 : ∀ kv, kv ∈ q.waiting → kv ∈ p.waiting) : PyWf q :=
  ⟨by show (keys q.evses).Nodup; rw [h1]; exact h.keys_nodup, fun k e hm => h.wait_key k e (h2 _ hm)⟩

/-- the model's error classes as the Python exceptions -/
def pyOfErr : Stoch.Err → PyErr
  | .keyError => .KeyError
  | .stationOccupied => .StationOccupiedError

/-- what a model operation reports, as the translated method reports it -/
def outcome : Except Stoch.Err Net → Except PyErr Unit
  | .ok _ => .ok ()
  | .error e => .error (pyOfErr e)

theorem occE_set (d : List (String × PyStEvse K)) (k : String) (v : PyStEvse K) :
    occE (dictSet d k v) = fun t => if t = k then v.ev.map (·.session) else occE d t :=
  Dict.view_set (fun e : PyStEvse K => e.ev.map (fun x : PyStEv K => x.session)) d k v

theorem mem_stations_iff (p : PyStNet K) (st : String) :
    st ∈ stStations p ↔ (dictGet? p.evses st).isSome = true := (get_isSome_iff _ _).symm

/-! ### one lookup in the translated object, carried over to the model state -/

theorem Abs.is_waiting {p : PyStNet K} {s : Net} (ha : Abs p s) {x : String} {e : PyStEv K}
    (h : dictGet? p.waiting x = some e) : x ∈ s.waiting := by
  rw [ha.waiting]; exact Dict.mem_keys_of_get h

theorem Abs.not_waiting {p : PyStNet K} {s : Net} (ha : Abs p s) {x : String} (h : dictGet? p.waiting x = none) :
    x ∉ s.waiting := by
  rw [ha.waiting]; exact Dict.not_mem_keys_of_none h

theorem Abs.no_station {p : PyStNet K} {s : Net} (ha : Abs p s) {st : String} (h : dictGet? p.evses st = none) :
    st ∉ s.stations := by
  rw [ha.stations]; exact Dict.not_mem_keys_of_none h

theorem Abs.of_get {p : PyStNet K} {s : Net} (ha : Abs p s) {st : String} {evse : PyStEvse K}
    (h : dictGet? p.evses st = some evse) : st ∈ s.stations ∧ s.occ st = evse.ev.map (·.session) := by
  rw [ha.stations, ha.occ]
  exact ⟨Dict.mem_keys_of_get h, Dict.view_of_get h⟩

end
end Acn.CodeTie.St
