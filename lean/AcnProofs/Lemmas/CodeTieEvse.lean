/-
  T1c (DESIGN §17), group Evse (property C13) — `EVSE._valid_rate`, `DeadbandEVSE._valid_rate` (finite `max_rate`) and
  `FiniteRatesEVSE._valid_rate` (acnportal/acnsim/models/evse.py), as translated into `AcnModel/Gen/CodeEvse.lean`,
  equal `Evse.validRate` on the three kinds of EVSE, for every input and at every carrier `K`; the finite class
  with the literal tolerance of the source.

  NaN/inf comparison corner cases are IEEE matters.
-/
import AcnModel.Gen.CodeEvse

set_option linter.unusedSectionVars false

namespace Acn.CodeTie
open Acn Acn.Battery Acn.Evse

section
variable {K : Type} [Add K] [Sub K] [Mul K] [Div K] [Neg K] [LT K] [LE K]
  [DecidableLT K] [DecidableLE K] [OfNat K 0] [OfNat K 1] [NatCast K] [HasExp K]

/-- `EVSE._valid_rate` (finite maximum) is `validRate … (.cont …)`. -/
theorem evse_valid_rate_tie (atol fixedAtol mn mx p : K) :
    Gen.Code.evse_valid_rate mn mx p atol = validRate atol fixedAtol (.cont mn (some mx)) p := rfl

/-- `DeadbandEVSE._valid_rate` (finite maximum) is `validRate … (.deadband …)`. -/
theorem deadband_valid_rate_tie (atol fixedAtol db mx p : K) :
    Gen.Code.deadband_valid_rate db mx p atol = validRate atol fixedAtol (.deadband db (some mx)) p := rfl

/-- `FiniteRatesEVSE._valid_rate` is `validRate … (.finite …)` with the literal tolerance of the
    source (the caller's `atol` is ignored, as in the code). -/
theorem finite_valid_rate_tie (atol : K) (rates : List K) (p : K) :
    Gen.Code.finite_valid_rate rates p atol
      = validRate atol (((1 : Nat) : K) / ((1000 : Nat) : K)) (.finite rates) p := rfl

end

/-- every target of this group was translated in this run -/
theorem all_translated_evse : Gen.Code.translatedEvse = ["evse_valid_rate", "deadband_valid_rate", "finite_valid_rate"] := rfl

end Acn.CodeTie
