/-
  Projection of the full simulator model onto the pilot matrix (ties C01/Sim to C04):
  one period of `Sim.body` that raises nothing IS `Pilots.periodStep` on the schedule the
  scheduler returned in that period (or no submission when it was not called), and a whole
  `Sim.run` IS `Pilots.runPeriods` on the list of those periods.  Hence C04's
  `applied_eq_spec` (the column handed to the EVSEs in period t = `pilotAt` of the schedules
  returned so far) holds for whole simulations of the full model.
-/
import AcnProofs.Lemmas.EventCoreSim
import AcnProofs.Lemmas.ResumeInv
import AcnProofs.Lemmas.PilotsStep

set_option linter.unusedSectionVars false

namespace Acn.Sim
open Acn Acn.EventCore

variable {K : Type} [Add K] [Sub K] [Mul K] [Div K] [Neg K] [LT K] [LE K]
  [DecidableLT K] [DecidableLE K] [OfNat K 0] [OfNat K 1] [NatCast K] [HasExp K]

theorem eventsStage_pilots (cfg : Cfg K) (s : State K) : (eventsStage cfg s).1.pilots = s.pilots :=
  (eventsStage_frame cfg s).1

theorem widthInc_eq_runWidth (s : State K) (hnn : ∀ e ∈ s.core.pending, 0 ≤ e.ts) :
    widthInc s = Pilots.runWidth s.core.iter ((lastTs s.core.pending).map Int.toNat) := by
  unfold widthInc Pilots.runWidth
  rcases hl : lastTs s.core.pending with _ | l
  · rfl
  · have := lastTs_nonneg hnn hl
    simp only [Option.map_some]
    omega

/-- the schedule the scheduler returned in the period started in state `s` (if it was called) -/
def submitted (cfg : Cfg K) (sched : View K → Except Err (Schedule K)) (s : State K) : Option (Schedule K) :=
  let s1 := (eventsStage cfg s).1
  if needsSched cfg.maxRecompute s1.core then
    match sched (view cfg { s1 with core := markInvoked s1.core }) with
    | .ok sch => some sch
    | .error _ => none
  else none

/-- the period started in state `s`, as a `Pilots.Period` -/
def periodOf (cfg : Cfg K) (sched : View K → Except Err (Schedule K)) (s : State K) : Pilots.Period K :=
  { t := s.core.iter
    lastTs := (lastTs (eventsStage cfg s).1.core.pending).map Int.toNat
    sched := submitted cfg sched s }

theorem eventsStage_iter (cfg : Cfg K) (s : State K) : (eventsStage cfg s).1.core.iter = s.core.iter :=
  (congrArg (·.1.iter) (eventsStage_core cfg s)).trans (EventCore.eventsStage_iter cfg.core s.core)

theorem applyStage_runGrow {cfg : Cfg K} {a s' : State K} {n t : Nat} {q : List Event} {m : Pilots.Mat K}
    (h : applyStage cfg a = (s', none)) (hm : a.pilots = m) (ht : a.core.iter = t) (hq : a.core.pending = q)
    (hwf : m.WF n) (hnn : ∀ e ∈ q, 0 ≤ e.ts) :
    s'.pilots = Pilots.runGrow m t ((lastTs q).map Int.toNat) ∧ s'.pilots.WF n ∧ s'.core.pending = q ∧
    ∃ col, Pilots.appliedColumn s'.pilots t = some col := by
  subst hm ht hq
  have h2 : (applyStage cfg a).2 = none := by rw [h]
  obtain ⟨hp, -, hw⟩ := applyStage_frame cfg a
  have hc := applyStage_core cfg a h2
  rw [h] at hp hc
  simp only at hp hc
  have hwf' := Pilots.increaseWidth_wf hwf (widthInc a)
  rw [hp, hc]
  exact ⟨by rw [Pilots.runGrow, widthInc_eq_runWidth a hnn], hwf', rfl, Pilots.appliedColumn_isSome hwf' _ (hw h2)⟩

theorem body_pilots (cfg : Cfg K) (sched : View K → Except Err (Schedule K)) (s : State K)
    (h : (body cfg sched s).2 = none) (hwf : s.pilots.WF cfg.stations.length)
    (hnn : ∀ e ∈ (eventsStage cfg s).1.core.pending, 0 ≤ e.ts) :
    (body cfg sched s).1.pilots.WF cfg.stations.length ∧
    (body cfg sched s).1.core.pending = (eventsStage cfg s).1.core.pending ∧
    ∃ col, Pilots.periodStep (cfg.stations.map (·.id)) s.pilots (periodOf cfg sched s) =
      .ok ((body cfg sched s).1.pilots, col) := by
  have hlen : (cfg.stations.map (·.id)).length = cfg.stations.length := by simp
  have hit := eventsStage_iter cfg s
  have hpl := eventsStage_pilots cfg s
  unfold periodOf submitted
  rcases hb : body cfg sched s with ⟨s', err⟩
  obtain rfl : err = none := by rw [hb] at h; exact h
  -- in both cases the rest of the period is `applyStage`, from the matrix `_update_schedules` left
  cases Pass.of_eq hb with
  | @idle s1 _ _ hes hn ha =>
    rw [hes] at hit hpl hnn ⊢
    simp only at hit hpl hnn
    obtain ⟨hp, hw, hc, col, hcol⟩ := applyStage_runGrow ha rfl rfl rfl (hpl ▸ hwf) hnn
    refine ⟨hw, hc, col, ?_⟩
    simp only [hn, Bool.false_eq_true, if_false, Pilots.periodStep, ← hit, ← hpl, ← hp, hcol]
  | @scheduled s1 _ m _ hes hn hs ha =>
    obtain ⟨sch, hsv, hus⟩ := schedStage_ok_invoked hs
    rw [hes] at hit hpl hnn ⊢
    simp only at hit hpl hnn
    have hwm : m.WF cfg.stations.length := by
      have := Pilots.updateSchedules_wf (stations := cfg.stations.map (·.id)) (hlen ▸ hpl ▸ hwf) _ _ _ hus
      rwa [hlen] at this
    obtain ⟨hp, hw, hc, col, hcol⟩ :=
      applyStage_runGrow (m := m) (t := s1.core.iter) (q := s1.core.pending) ha rfl rfl rfl hwm hnn
    refine ⟨hw, hc, col, ?_⟩
    simp only [hn, if_true, hsv, Pilots.periodStep, ← hit, ← hpl, hus, ← hp, hcol]

/-- timestamps stay non-negative (needed only to identify `width_increase` with C04's `runWidth`):
    what the events stage adds to the queue are unplug events of sessions of the scenario -/
theorem eventsStage_pending_nonneg (cfg : Cfg K) (hd : ∀ x ∈ cfg.core.sessions, 0 ≤ x.departure)
    (s : State K) (hp : ∀ d ∈ s.core.pending, 0 ≤ d.ts) :
    ∀ d ∈ (eventsStage cfg s).1.core.pending, 0 ≤ d.ts := by
  have hc : (eventsStage cfg s).1.core = (EventCore.eventsStage cfg.core s.core).1 :=
    congrArg Prod.fst (eventsStage_core cfg s)
  obtain ⟨us, h1, h2⟩ := EventCore.eventsStage_pending cfg.core s.core
  intro d hd'
  rw [hc, h1, List.mem_append] at hd'
  rcases hd' with hd' | hd'
  · exact hp d (List.mem_of_mem_filter hd')
  · obtain ⟨_, _, _, _, x, hx, rfl⟩ := h2 d hd'
    exact hd x (List.mem_of_find?_eq_some hx)

/-- the periods of a run started in `s` that raises nothing, as C04 sees them (the recursion goes on from the state
    a pass left whatever its outcome, so the list does not describe a run past a raising pass) -/
def periodsOf (cfg : Cfg K) (sched : View K → Except Err (Schedule K)) : Nat → State K → List (Pilots.Period K)
  | 0, _ => []
  | n + 1, s =>
    if guard s.core then periodOf cfg sched s :: periodsOf cfg sched n (body cfg sched s).1 else []

theorem run_pilots (cfg : Cfg K) (sched : View K → Except Err (Schedule K))
    (hd : ∀ x ∈ cfg.core.sessions, 0 ≤ x.departure) : ∀ (n : Nat) (s : State K),
    (run cfg sched n s).2 = none → s.pilots.WF cfg.stations.length → (∀ d ∈ s.core.pending, 0 ≤ d.ts) →
    ∃ cols, Pilots.runPeriods (cfg.stations.map (·.id)) s.pilots (periodsOf cfg sched n s) =
      .ok ((run cfg sched n s).1.pilots, cols) := by
  intro n
  induction n with
  | zero => intro s _ _ _; exact ⟨[], rfl⟩
  | succ n ih =>
    intro s h hwf hp
    unfold run at h ⊢
    unfold periodsOf
    by_cases hg : guard s.core = true
    · simp only [hg, if_true] at h ⊢
      rcases hb : body cfg sched s with ⟨s', _ | e⟩
      · have hb2 : (body cfg sched s).2 = none := by rw [hb]
        have hnn := eventsStage_pending_nonneg cfg hd s hp
        obtain ⟨hwf', hpend, col, hstep⟩ := body_pilots cfg sched s hb2 hwf hnn
        simp only [hb] at h hwf' hstep hpend ⊢
        obtain ⟨cols, hrest⟩ := ih s' h hwf' (by rw [hpend]; exact hnn)
        exact ⟨col :: cols, by simp only [Pilots.runPeriods, hstep, hrest]⟩
      · simp [hb] at h
    · simp only [hg] at h ⊢
      exact ⟨[], rfl⟩

/-- C04's `applied_eq_spec` for whole simulations of the full model: the final `pilot_signals`
    are the overlay of the schedules the scheduler returned, and the column handed to the EVSEs in
    the `k`-th period is `pilotAt` of the schedules returned up to and including that period -/
theorem run_applied_eq_spec (cfg : Cfg K) (sched : View K → Except Err (Schedule K))
    (hn : (cfg.stations.map (·.id)).Nodup)
    (ha : ∀ x ∈ cfg.core.sessions, 0 ≤ x.arrival) (hd : ∀ x ∈ cfg.core.sessions, 0 ≤ x.departure)
    (hr : ∀ r ∈ cfg.recomputes, 0 ≤ r.1) (n : Nat) (h : (run cfg sched n (init cfg)).2 = none) :
    ∃ cols, Pilots.runPeriods (cfg.stations.map (·.id)) (init cfg).pilots (periodsOf cfg sched n (init cfg)) =
        .ok ((run cfg sched n (init cfg)).1.pilots, cols) ∧
      (∀ st τ, (run cfg sched n (init cfg)).1.pilots.get ((cfg.stations.map (·.id)).idxOf st) τ =
        Pilots.pilotAt (cfg.stations.map (·.id)) (Pilots.subsOf (periodsOf cfg sched n (init cfg))) st τ) ∧
      ∀ k (hk : k < (periodsOf cfg sched n (init cfg)).length), cols[k]? =
        some ((cfg.stations.map (·.id)).map fun st =>
          Pilots.pilotAt (cfg.stations.map (·.id))
            (Pilots.subsOf ((periodsOf cfg sched n (init cfg)).take (k + 1))) st
            (periodsOf cfg sched n (init cfg))[k].t) := by
  have hlen : (cfg.stations.map (·.id)).length = cfg.stations.length := by simp
  have hp0 : ∀ d ∈ (init cfg).core.pending, 0 ≤ d.ts := by
    intro d hd'
    have : d ∈ initPending cfg.core := hd'
    unfold initPending at this
    rcases List.mem_append.1 this with h' | h'
    · obtain ⟨x, hx, rfl⟩ := List.mem_map.1 h'; exact ha x hx
    · obtain ⟨r, hr', rfl⟩ := List.mem_map.1 h'; exact hr r hr'
  obtain ⟨w, hz⟩ : ∃ w, (init cfg).pilots = Pilots.Mat.zeros (cfg.stations.map (·.id)).length w := by
    rw [hlen]; exact ⟨_, rfl⟩
  obtain ⟨cols, hrun⟩ := run_pilots cfg sched hd n (init cfg) h
    (by rw [hz, hlen]; exact Pilots.zeros_wf _ _) hp0
  refine ⟨cols, hrun, ?_⟩
  rw [hz] at hrun
  obtain ⟨_, h2, _, h4⟩ := Pilots.applied_eq_spec hn _ _ _ _ hrun
  exact ⟨h2, h4⟩

theorem eventsStage_sets_resolve (cfg : Cfg K) (s : State K) (h : (eventsStage cfg s).2 = none)
    (hne : (popCurrent s.core.iter s.core.pending).1 ≠ []) :
    (eventsStage cfg s).1.core.resolve = true := by
  have hp := eventsStage_core cfg s
  have h1 : (eventsStage cfg s).1.core = (EventCore.eventsStage cfg.core s.core).1 := congrArg Prod.fst hp
  have h2 : (eventsStage cfg s).2 = (EventCore.eventsStage cfg.core s.core).2 := congrArg Prod.snd hp
  rw [h1]
  rw [h2] at h
  exact processAll_resolve cfg.core _ _ _ (Prod.ext rfl h) hne

end Acn.Sim
