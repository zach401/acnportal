/-
  Helper lemmas for C10 (Sim level, shift): the initial state of a shifted scenario is idle;
  after `k` idle periods it is the shift of the original initial state, up to `_last_schedule_update`
  and the record of idle invocations when `max_recompute` is set (`idle_prefix`).  That difference is
  erased in the first period in which the scheduler is consulted whatever `_last_schedule_update` says
  (`body_setLU`, under the event core's condition `Erases`), which is the case when the shift is `Aligned`
  (`erases_of_aligned`): `run_shift_aligned_out`, every outcome; `run_shift_aligned_ok`, the runs that return.
-/
import AcnProofs.Lemmas.EquivSimIdle
import AcnProofs.Lemmas.EquivShiftAligned

set_option linter.unusedSectionVars false

namespace Acn.SimShift
open Acn.Sim Acn.EventCore Acn.Evse Acn.Pilots Acn.Steps

variable {K : Type} [Field K] [LinearOrder K] [IsStrictOrderedRing K] [HasExp K]

def setLU (L : Option Int) (s : State K) : State K := { s with core := { s.core with lastUpd := L } }

theorem stepEv_setLU (cfg : Cfg K) (e : Event) (L : Option Int) (s : State K) :
    ∃ L', stepEv cfg e (setLU L s) = (setLU L' (stepEv cfg e s).1, (stepEv cfg e s).2) := by
  obtain ⟨L', h⟩ := step_setLUc cfg.core e L s.core
  refine ⟨L', ?_⟩
  have hc : (setLU L s).core = setLUc L s.core := rfl
  unfold stepEv
  rw [hc, h]
  rfl

def LUEq (s s' : State K) : Prop := ∃ L, s' = setLU L s

theorem eventsStage_setLU (cfg : Cfg K) (L : Option Int) (s : State K) :
    Out LUEq (sep LUEq Eq) (Sim.eventsStage cfg s) (Sim.eventsStage cfg (setLU L s)) := by
  unfold Sim.eventsStage
  rw [Sim.processAll_eq, Sim.processAll_eq]
  refine foldE_out (List.forall₂_same.2 fun e _ a b ⟨L1, hb⟩ => ?_) _ _ ⟨L, rfl⟩
  obtain ⟨L', h⟩ := stepEv_setLU cfg e L1 a
  rw [hb, h]
  exact .of_eq rfl ⟨L', rfl⟩

theorem body_setLU (cfg : Cfg K) (sched : View K → Except EventCore.Err (Schedule K)) (L : Option Int) {s : State K}
    (hn : Erases cfg.core L s.core) :
    Out Eq (sep LUEq Eq) (Sim.body cfg sched s) (Sim.body cfg sched (setLU L s)) := by
  by_cases hL : L = s.core.lastUpd
  · subst hL
    exact Out.refl (fun a => ⟨a.core.lastUpd, rfl⟩) (fun _ => rfl) _
  rw [Sim.body_eq, Sim.body_eq]
  refine (eventsStage_setLU cfg L s).andThen_eq fun s1 s1' he he' ⟨L', h1⟩ => ?_
  subst h1
  have hc1 := Sim.eventsStage_core cfg s
  have hc2 := Sim.eventsStage_core cfg (setLU L s)
  rw [he] at hc1
  rw [he'] at hc2
  have hm : needsSched cfg.maxRecompute s1.core = true ∧ needsSched cfg.maxRecompute (setLU L' s1).core = true :=
    hn.after_events hL hc1.symm hc2.symm
  rw [if_pos hm.1, if_pos hm.2]
  have hs : Out Eq (sep LUEq Eq) (schedSet cfg sched s1) (schedSet cfg sched (setLU L' s1)) := by
    unfold schedSet
    have hss : schedStage cfg sched { setLU L' s1 with core := markInvoked (setLU L' s1).core } =
        schedStage cfg sched { s1 with core := markInvoked s1.core } := rfl
    rw [hss]
    cases schedStage cfg sched { s1 with core := markInvoked s1.core } with
    | error e => exact .err ⟨rfl, L', rfl⟩
    | ok m => exact .ok rfl
  exact hs.andThen fun a b hab => hab ▸ Out.refl (fun a => ⟨a.core.lastUpd, rfl⟩) (fun _ => rfl) _

theorem run_setLU_out (cfg : Cfg K) (sched : View K → Except EventCore.Err (Schedule K)) (L : Option Int) {s : State K}
    (hn : Erases cfg.core L s.core) (hg : guard s.core = true) (n : Nat) :
    Out Eq (sep LUEq Eq) (Sim.run cfg sched (n + 1) s) (Sim.run cfg sched (n + 1) (setLU L s)) := by
  rw [Sim.run_eq, Sim.run_eq, loopE_succ (a := s) _ hg, loopE_succ (a := setLU L s) _ hg]
  exact (body_setLU cfg sched L hn).andThen fun a b hab =>
    hab ▸ Out.refl (fun a => ⟨a.core.lastUpd, rfl⟩) (fun _ => rfl) _

section
variable {k : Nat} {cfg : Cfg K}

structure ShiftOK (cfg : Cfg K) : Prop where
  nonempty : initPending cfg.core ≠ []
  nonneg : ∀ e ∈ initPending cfg.core, 0 ≤ e.ts
  dep : DepNonneg cfg.core
  idle : IdleOK cfg

theorem init_pending' (k : Nat) (cfg : Cfg K) :
    (Sim.init (shiftCfgS k cfg)).core.pending = (initPending cfg.core).map (shiftEv k) := by
  show initPending (shiftCfgS k cfg).core = _
  rw [shiftCfgS_core, initPending_shift]

theorem init_width (h : ShiftOK cfg) :
    ∃ l, lastTs (initPending cfg.core) = some l ∧ 0 ≤ l ∧
      (Sim.init cfg).pilots = Mat.zeros cfg.stations.length (l + 1).toNat ∧
      (Sim.init cfg).rates = Mat.zeros cfg.stations.length (l + 1).toNat := by
  cases hl : lastTs (initPending cfg.core) with
  | none =>
    cases hP : initPending cfg.core with
    | nil => exact absurd hP h.nonempty
    | cons a l => rw [hP] at hl; simp [lastTs] at hl
  | some l =>
    refine ⟨l, rfl, lastTs_nonneg h.nonneg hl, ?_, ?_⟩
    · show Mat.zeros _ (match lastTs (initPending cfg.core) with | some l => (l + 1).toNat | none => 1) = _
      rw [hl]
    · show Mat.zeros _ (match lastTs (initPending cfg.core) with | some l => (l + 1).toNat | none => 1) = _
      rw [hl]

theorem shiftMat_zeros (k n w : Nat) : shiftMat k (Mat.zeros n w : Mat K) = Mat.zeros n (w + k) := by
  unfold shiftMat Mat.zeros
  simp only [List.map_replicate, List.replicate_append_replicate, Nat.add_comm k w]

theorem init_idle (h : ShiftOK cfg) : ∃ w, k < w + 1 ∧
    (∀ j', widthOf ((initPending cfg.core).map (shiftEv k)) j' = w) ∧
    (Sim.init cfg).pilots = Mat.zeros cfg.stations.length (w - k) ∧
    (Sim.init cfg).rates = Mat.zeros cfg.stations.length (w - k) ∧ k ≤ w ∧
    Idle (shiftCfgS k cfg) ((initPending cfg.core).map (shiftEv k)) w 0 (Sim.init (shiftCfgS k cfg)) := by
  obtain ⟨l, hl, hl0, hpil, hrat⟩ := init_width h
  have hP := init_pending' k cfg
  have hl' : lastTs ((initPending cfg.core).map (shiftEv k)) = some (l + k) := by rw [lastTs_shift, hl]; rfl
  have hwtn : (l + (k : Int) + 1).toNat = (l + 1).toNat + k := by omega
  have hz : ∀ n, (match lastTs (Sim.init (shiftCfgS k cfg)).core.pending with
      | some l => (l + 1).toNat | none => n) = (l + 1).toNat + k := by
    intro n; rw [hP, hl']; exact hwtn
  refine ⟨(l + 1).toNat + k, by omega, fun j' => by unfold widthOf; rw [hl']; exact hwtn,
    by rw [Nat.add_sub_cancel]; exact hpil, by rw [Nat.add_sub_cancel]; exact hrat, by omega,
    rfl, hP, rfl, rfl, rfl, rfl, ?_, ?_, rfl, rfl, rfl, rfl, rfl⟩
  · show Mat.zeros _ (match lastTs (Sim.init (shiftCfgS k cfg)).core.pending with | some l => (l + 1).toNat | none => 1) = _
    rw [hz]
  · show Mat.zeros _ (match lastTs (Sim.init (shiftCfgS k cfg)).core.pending with | some l => (l + 1).toNat | none => 1) = _
    rw [hz]

theorem idle_prefix (h : ShiftOK cfg) {sched' : View K → Except EventCore.Err (Schedule K)}
    (hsi : cfg.maxRecompute ≠ none → SchedIdleZ cfg k sched') :
    ∃ sk : State K, Sim.run (shiftCfgS k cfg) sched' k (Sim.init (shiftCfgS k cfg)) = (sk, none) ∧
      sk.core = idleIter cfg.maxRecompute k (EventCore.init (shiftCfg k cfg.core)) ∧
      ShEquiv k sk.core.invoked (List.replicate k (noneRow cfg)) (Sim.init cfg) (setLU none sk) := by
  obtain ⟨w, hkw, hw, hpil, hrat, hle, hI0⟩ := init_idle (k := k) h
  have hA := idleAhead_init k h.nonempty h.nonneg
  have hrun := run_idle (cfg := shiftCfgS k cfg) (sched := sched') h.idle hsi
    (by simpa using h.nonempty)
    (fun e he => by
      have := hA.2.2.2 e (by rw [← shiftCfgS_core, ← Sim.init_core, init_pending' k cfg]; exact he)
      simpa [EventCore.init] using this)
    hw hkw k _ (by rw [Nat.sub_self]; exact hI0) (le_refl k)
  have hcore : (Sim.init (shiftCfgS k cfg)).core = EventCore.init (shiftCfg k cfg.core) := by
    rw [Sim.init_core, shiftCfgS_core]
  have hmr : (shiftCfgS k cfg).maxRecompute = cfg.maxRecompute := rfl
  rw [hcore, hmr] at hrun
  refine ⟨_, hrun, rfl, ?_⟩
  have hst : (shiftCfgS k cfg).stations = cfg.stations := rfl
  have hck : idleIter cfg.maxRecompute k (EventCore.init (shiftCfg k cfg.core)) = _ := idle_prefix_core k cfg.core
  refine ⟨?_, ?_, ?_, rfl, rfl, rfl, rfl, by simp [Sim.init, noneRow, hst, setLU]⟩
  · show setLUc none (idleIter cfg.maxRecompute k (EventCore.init (shiftCfg k cfg.core))) = _
    conv_lhs => rw [hck]
    rfl
  · show (Sim.init (shiftCfgS k cfg)).pilots = _
    rw [hI0.pilots, hpil, shiftMat_zeros, hst, Nat.sub_add_cancel hle]
  · show (Sim.init (shiftCfgS k cfg)).rates = _
    rw [hI0.rates, hrat, shiftMat_zeros, hst, Nat.sub_add_cancel hle]

/-- Shift by `k`, every `max_recompute`, `Aligned`, EVERY outcome: the shifted run returns iff the original does,
    in `ShEquiv` states; if they raise, they raise the same error in the same relative period, in states that are
    `ShEquiv` up to `_last_schedule_update` (a raise in the first period after the prefix keeps the prefix's value). -/
theorem run_shift_aligned_out (h : ShiftOK cfg) {sched sched' : View K → Except EventCore.Err (Schedule K)}
    (hs : SchedShiftInvariant k sched sched') (hsi : cfg.maxRecompute ≠ none → SchedIdleZ cfg k sched')
    (hal : Aligned k cfg.core) (n : Nat) :
    ∃ V, Out (ShEquiv k V (List.replicate k (noneRow cfg)))
      (fun a e b e' => e' = e ∧ ∃ L, ShEquiv k V (List.replicate k (noneRow cfg)) a (setLU L b))
      (Sim.run cfg sched (n + 1) (Sim.init cfg))
      (Sim.run (shiftCfgS k cfg) sched' (k + (n + 1)) (Sim.init (shiftCfgS k cfg))) := by
  obtain ⟨sk, hrun, hcore, he⟩ := idle_prefix (k := k) (sched' := sched') h hsi
  have her : Erases (shiftCfgS k cfg).core sk.core.lastUpd (setLU none sk).core := by
    rw [he.core, shiftCfgS_core]
    exact erases_of_aligned k cfg.core hal hcore.symm
  have hg : guard (setLU none sk).core = true := by
    rw [he.core, guard_sh]; exact (guard_iff_pending rfl).2 h.nonempty
  have h1 := (sim2_shift (V := sk.core.invoked) (pre := List.replicate k (noneRow cfg)) h.dep hs).run
    (fun _ => trivial) (fun s s' h => by rw [h.1.core, guard_sh]) (n + 1)
    (⟨he, fun e he' => h.nonneg e he'⟩ : ShEquiv k _ _ _ _ ∧ PendNonneg (Sim.init cfg).core)
  have h2 := run_setLU_out (shiftCfgS k cfg) sched' sk.core.lastUpd her hg n
  refine ⟨sk.core.invoked, ?_⟩
  rw [Sim.run_eq _ _ (k + (n + 1)), loopE_add, ← Sim.run_eq, hrun, andThen_ok, ← Sim.run_eq]
  refine (h1.trans h2).mono (fun a c ⟨b, hab, hbc⟩ => hbc ▸ hab.1) fun a e c e'' ⟨b, e', ⟨hee, hab⟩, hee', L, hL⟩ => ?_
  exact ⟨(hee.trans hee').symm, b.core.lastUpd, by rw [hL]; exact hab⟩

/-- the runs that return, in the form of `C10.run_shift_anchored` / `run_shift_aligned` and their `SchedIdleZ`
    versions -/
theorem run_shift_aligned_ok (h : ShiftOK cfg) {sched sched' : View K → Except EventCore.Err (Schedule K)}
    (hs : SchedShiftInvariant k sched sched') (hsi : cfg.maxRecompute ≠ none → SchedIdleZ cfg k sched')
    (hal : Aligned k cfg.core)
    (n : Nat) (r : State K) (hr : Sim.run cfg sched (n + 1) (Sim.init cfg) = (r, none)) :
    ∃ r' V, Sim.run (shiftCfgS k cfg) sched' (k + (n + 1)) (Sim.init (shiftCfgS k cfg)) = (r', none) ∧
      ShEquiv k V (List.replicate k (noneRow cfg)) r r' := by
  obtain ⟨V, ho⟩ := run_shift_aligned_out (k := k) h hs hsi hal n
  rcases hy : Sim.run (shiftCfgS k cfg) sched' (k + (n + 1)) (Sim.init (shiftCfgS k cfg)) with ⟨r', e'⟩
  rw [hr, hy] at ho
  cases ho with
  | ok ho => exact ⟨r', V, rfl, ho⟩

/-- the anchor of `C10.run_shift_anchored` is the second case of `Aligned` -/
theorem aligned_of_anchor (k : Nat) (hanchor : (Sim.eventsStage cfg (Sim.init cfg)).1.core.resolve = true) :
    Aligned k cfg.core := by
  refine Or.inr (Or.inl ?_)
  by_contra hno
  have hp : ∀ e ∈ (Sim.init cfg).core.pending, ((Sim.init cfg).core.iter : Int) < e.ts := by
    intro e he
    by_contra hle
    exact hno ⟨e, he, by simpa [Sim.init, EventCore.init] using hle⟩
  have hc := Sim.eventsStage_core cfg (Sim.init cfg)
  rw [eventsStage_nothing_due cfg.core _ hp] at hc
  rw [(Prod.mk.inj hc).1] at hanchor
  cases hanchor

end
end Acn.SimShift
