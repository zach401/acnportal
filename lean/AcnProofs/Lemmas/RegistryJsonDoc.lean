/-
  The Python value `registryJ ctx root` that `to_json` hands to `json.dumps` is well-formed for EVERY store (so
  `json.loads(json.dumps(registry)) = registry`), and every kind of leaf the model writes is the Python value of the type
  it has in acnportal (`valJ_…`): `int`, `str`, `bool`, `None`, `float`, the float matrices.
-/
import AcnProofs.Lemmas.RegistryJsonLawful
import Mathlib.Data.Rat.Encodable

namespace Acn.RegistryJson
open Acn Acn.Registry Acn.RegistrySim Acn.JsonText

variable {K : Type}

theorem wf_ite {c : Prop} [Decidable c] {a b : JVal} (ha : c → a.wf = true) (hb : ¬c → b.wf = true) :
    (if c then a else b).wf = true :=
  iteInduction (motive := fun v : JVal => v.wf = true) ha hb

/-- every branch of `scalarJ` is a leaf without a float, or stands under the test that makes it well-formed -/
theorem scalarJ_wf (t : String) : (scalarJ t).wf = true := by
  unfold scalarJ
  generalize t.toList = cs
  refine wf_ite (fun _ => rfl) fun _ => ?_
  rcases cs with _ | ⟨a, _ | ⟨b, p⟩⟩
  · rfl
  · rfl
  refine wf_ite (fun _ => ?_) fun _ => rfl
  refine wf_ite (fun _ => rfl) fun _ => ?_
  refine wf_ite (fun _ => wf_ite (fun _ => rfl) fun _ => rfl) fun _ => ?_
  refine wf_ite (fun _ => wf_ite (fun _ => rfl) fun _ => wf_ite (fun _ => rfl) fun _ => rfl) fun _ => ?_
  refine wf_ite (fun _ => wf_ite (fun h => h) fun _ => rfl) fun _ => ?_
  refine wf_ite (fun _ => ?_) fun _ => rfl
  cases parse p with
  | none => rfl
  | some v => exact wf_ite id fun _ => rfl

theorem itemJ_wf (i : Item) : (itemJ i).wf = true := by
  cases i <;> simp [itemJ, scalarJ_wf, JVal.wf]

theorem valJ_wf (v : Val) : (valJ v).wf = true := by
  cases v with
  | scalar t => exact scalarJ_wf t
  | ref i => rfl
  | list l =>
    simp only [valJ, JVal.wf]
    induction l with
    | nil => rfl
    | cons a l ih => simp [wfList, itemJ_wf, ih]

theorem objJ_wf (o : Obj) : (objJ o).wf = true := by
  have : ∀ l : List (String × Val), wfMembers (l.map fun a => (a.1, valJ a.2)) = true := by
    intro l
    induction l with
    | nil => rfl
    | cons a l ih => simp [wfMembers, valJ_wf, ih]
  simp [objJ, JVal.wf, wfMembers, this]

theorem registryJ_wf (ctx : Store) (root : Id) : (registryJ ctx root).wf = true := by
  have : ∀ l : Store, wfMembers (l.map fun e => (toString e.1, objJ e.2)) = true := by
    intro l
    induction l with
    | nil => rfl
    | cons a l ih => simp only [List.map_cons, wfMembers, objJ_wf, ih, Bool.and_self]
  simp only [registryJ, JVal.wf, wfMembers, this, Bool.and_self]

/-- `json.loads(obj.to_json())` is the registry that `_to_registry` built — for every store, whatever strings
    (session ids, station ids, class names, attribute names) it contains -/
theorem registry_text_roundtrip (ctx : Store) (root : Id) :
    parseS (toJsonText ctx root) = some (registryJ ctx root) := by
  simp only [parseS, toJsonText, renderS, String.toList_ofList]
  exact parse_render _ (registryJ_wf ctx root)

theorem valJ_sS (x : String) : valJ (sS x) = .str x := by
  simp only [valJ, sS, tag_s, scalarJ, toList_tag]
  simp

theorem valJ_sNull : valJ sNull = .null := by
  simp [valJ, sNull, scalarJ]

theorem valJ_sI (n : Int) : valJ (sI n) = .int n := by
  have h1 : isIntTok n.repr.toList = true := isIntTok_renderInt n
  have h2 : intOfTok n.repr.toList = n := intOfTok_renderInt n
  simp only [valJ, sI, tag_i, scalarJ, toList_tag]
  simp [h1, h2, renderInt]

theorem valJ_sN (n : Nat) : valJ (sN n) = .int n := by
  have := valJ_sI (n : Int)
  simp only [sI, sN] at this ⊢
  rw [toString_natCast]; exact this

theorem valJ_sB (b : Bool) : valJ (sB b) = .bool b := by
  cases b <;> simp [valJ, sB, scalarJ]

theorem valJ_sF (d : DoubleText K) (hd : d.RoundTrip) (x : K) : valJ (sF (jsonShow d) x) = .num (d.repr x) := by
  simp only [valJ, sF, tag_f, scalarJ, toList_tag, jsonShow, String.toList_ofList]
  simp [hd.float_tok]

theorem valJ_mat (d : DoubleText K) (hd : d.RoundTrip) (m : Pilots.Mat K) :
    valJ (.scalar ("m:" ++ (jsonShow d).mat m)) = matJ d m := by
  simp only [valJ, tag_m, scalarJ, toList_tag, jsonShow, String.toList_ofList]
  simp [parse_render _ (matJ_wf d hd m), matJ_wf d hd m]

/-- a reference is written as the decimal id string (`f"{id(self)}"`) -/
theorem valJ_ref (i : Id) : valJ (.ref i) = .str (toString i) := rfl

end Acn.RegistryJson

/-!
  The assumption `DoubleText.RoundTrip` is satisfiable — a text form of ℚ (`<digits>.0`, the digits being an injective
  code of the rational) that is a float token and that its reader inverts.  (For IEEE doubles the pair is
  `float.__repr__` / `float()`; that pair is the assumption.)
-/
namespace Acn.RegistryJson
open Acn Acn.JsonText

def exDouble : DoubleText ℚ :=
  { repr := fun q => Nat.toDigits 10 (Encodable.encode q) ++ ['.', '0'],
    ofText := fun t =>
      match t.reverse with
      | '0' :: '.' :: r => Encodable.decode (natOfDigits r.reverse)
      | _ => none }

theorem exDouble_roundTrip : exDouble.RoundTrip where
  read_repr q := by
    simp only [exDouble, List.reverse_append, List.reverse_cons, List.reverse_nil, List.nil_append, List.cons_append,
      List.reverse_reverse, natOfDigits_toDigits, Encodable.encodek]
  float_tok q := by
    obtain ⟨c, t, h, hc⟩ := toDigits_cons (Encodable.encode q)
    have hall := toDigits_all_digit (Encodable.encode q)
    have hnum := all_isNumChar_of_isDigit hall
    have hdot : ('.' : Char).isDigit = false := by decide
    simp only [exDouble, isFloatTok, List.all_append, hnum, Bool.true_and, Bool.and_eq_true, Bool.not_eq_true']
    rw [h]
    refine ⟨⟨by decide, by simp [startsNum, hc]⟩, ?_⟩
    simp only [List.cons_append, isIntTok, isDigit_ne_minus c hc, if_false, List.all_cons, List.all_append, hdot,
      Bool.false_and, Bool.and_false]

end Acn.RegistryJson
