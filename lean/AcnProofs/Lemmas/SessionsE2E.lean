/-
  For the end-to-end theorem of C15 (client of C20 ∘ converter of C15):
  * `collect` on a finite page chain that ended normally: one converted item per server item,
    in server order, for ANY conversion (no totality assumed);
  * reading fields off a document converted by `parse_dates` (`DocOk` of `Lemmas/DataClient`);
  * what a successful `convRaw` means; `generate_events` as the collected trace of a valid site.
-/
import AcnModel.SessionsE2E
import AcnProofs.Lemmas.DataClient
import AcnProofs.Lemmas.Sessions
import AcnProofs.C20

set_option linter.unusedSectionVars false

namespace Acn.SessionsE2E
open Acn.HttpDate Acn.DataClient Acn.Sessions Acn.Evse

section collect
variable {α β : Type}

theorem yieldAll_none (conv : α → Except DataClient.Err β) :
    ∀ (l : List α) (bs : List β), yieldAll conv l = (bs, none) →
      List.Forall₂ (fun a b => conv a = .ok b) l bs := by
  intro l
  induction l with
  | nil => intro bs h; simp [yieldAll] at h; subst h; exact .nil
  | cons a as ih =>
    intro bs h
    unfold yieldAll at h
    split at h
    · simp at h
    · rename_i b hb
      simp only [Prod.mk.injEq] at h
      obtain ⟨h1, h2⟩ := h
      subst h1
      exact .cons hb (ih _ (Prod.ext rfl h2))

theorem collect_ok_forall₂ {base : String} {fetch : String → Resp α}
    (conv : α → Except DataClient.Err β) {u : String} {ps : List (Page α)}
    (h : Chain base fetch u ps) :
    ∀ (fuel : Nat) (tr : Trace β), collect base fetch conv fuel u = tr → tr.stop = none →
      tr.urls = runUrls base u ps ∧
      List.Forall₂ (fun a b => conv a = .ok b) (ps.flatMap (·.items)) tr.items := by
  unfold Chain at h
  generalize he : (none : Option DataClient.Err) = e at h
  induction h with
  | @last u p hf hn =>
    intro fuel tr htr hstop
    cases fuel with
    | zero => subst htr; simp [collect] at hstop
    | succ n =>
      rw [collect, hf] at htr
      simp only at htr
      split at htr
      · subst htr; simp at hstop
      · rename_i bs hy
        rw [hn] at htr
        subst htr
        refine ⟨by simp [runUrls, hn], ?_⟩
        simpa using yieldAll_none conv _ _ hy
  | broken hf hn => cases he
  | fail hf => cases he
  | @cons u hr p ps e hf hn _ ih =>
    subst he
    intro fuel tr htr hstop
    cases fuel with
    | zero => subst htr; simp [collect] at hstop
    | succ n =>
      rw [collect, hf] at htr
      simp only at htr
      split at htr
      · subst htr; simp at hstop
      · rename_i bs hy
        rw [hn] at htr
        simp only at htr
        subst htr
        simp only at hstop
        obtain ⟨h1, h2⟩ := ih rfl n _ rfl hstop
        refine ⟨by simp [runUrls, hn, h1], ?_⟩
        simp only [List.flatMap_cons]
        exact List.rel_append (yieldAll_none conv _ _ hy) h2

end collect

theorem findField_cons (f : String × PVal) (pd : PDoc) (k : String) :
    findField (f :: pd) k = if f.1 == k then some f.2 else findField pd k := by
  unfold findField
  simp only [List.find?_cons]
  cases h : (f.1 == k) <;> simp

theorem lookupStr_cons (f : String × Val) (d : DataClient.Doc) (k : String) :
    lookupStr (f :: d) k = if f.1 == k then some f.2 else lookupStr d k := by
  unfold lookupStr
  simp only [List.find?_cons]
  cases h : (f.1 == k) <;> simp

theorem fieldOk_key {off : Instant → Int} {f : String × Val} {g : String × PVal}
    (h : FieldOk off f g) : f.1 = g.1 := by
  cases h <;> rfl

theorem findField_lookup {off : Instant → Int} {d : DataClient.Doc} {pd : PDoc} (h : DocOk off d pd)
    (k : String) :
    (lookupStr d k = none ∧ findField pd k = none) ∨
      ∃ k' v pv, lookupStr d k = some v ∧ findField pd k = some pv ∧ FieldOk off (k', v) (k', pv) := by
  induction h with
  | nil => exact Or.inl ⟨rfl, rfl⟩
  | @cons f g d pd hfg _ ih =>
    obtain ⟨kf, v⟩ := f
    obtain ⟨kg, pv⟩ := g
    obtain rfl : kf = kg := fieldOk_key hfg
    rw [lookupStr_cons, findField_cons]
    by_cases hk : (kf == k) = true
    · rw [if_pos hk, if_pos hk]; exact Or.inr ⟨kf, v, pv, rfl, rfl, hfg⟩
    · rw [if_neg hk, if_neg hk]; exact ih

theorem dateField_iff {off : Instant → Int} {d : DataClient.Doc} {pd : PDoc} (h : DocOk off d pd)
    (k : String) (a : Aware) :
    dateField pd k = .ok a ↔
      ∃ s t, lookupStr d k = some (.str s) ∧ parseRfc1123 s = some t ∧ a = toZone off t := by
  unfold dateField
  rcases findField_lookup h k with ⟨h0, h1⟩ | ⟨k', v, pv, hv, hpv, hf⟩
  · rw [h0, h1]; simp
  · rw [hv, hpv]
    cases hf with
    | date hp =>
      constructor
      · rintro ⟨⟩; exact ⟨_, _, rfl, hp, rfl⟩
      · rintro ⟨s, t, hs, ht, rfl⟩; cases hs; rw [hp] at ht; cases ht; rfl
    | keep hp =>
      constructor
      · rintro ⟨⟩
      · rintro ⟨s, t, hs, ht, rfl⟩; cases hs; rw [hp] at ht; cases ht
    | stamps => simp
    | other => simp

theorem strField_iff {off : Instant → Int} {d : DataClient.Doc} {pd : PDoc} (h : DocOk off d pd)
    (k s : String) :
    strField pd k = .ok s ↔ lookupStr d k = some (.str s) ∧ parseRfc1123 s = none := by
  unfold strField
  rcases findField_lookup h k with ⟨h0, h1⟩ | ⟨k', v, pv, hv, hpv, hf⟩
  · rw [h0, h1]; simp
  · rw [hv, hpv]
    cases hf with
    | date hp =>
      constructor
      · rintro ⟨⟩
      · rintro ⟨hs, ht⟩; cases hs; rw [hp] at ht; cases ht
    | keep hp =>
      constructor
      · rintro ⟨⟩; exact ⟨rfl, hp⟩
      · rintro ⟨hs, -⟩; cases hs; rfl
    | stamps => simp
    | other => simp

variable {K : Type} [Field K] [LinearOrder K] [IsStrictOrderedRing K] [FloorRing K]

/-- what the JSON document of a session says, as far as the converter is concerned -/
structure Denotes (zones : String → Option Zone) (r : RawSession K)
    (zname : String) (z : Zone) (sc : String) (tc : Instant) (sd : String) (td : Instant)
    (sid sp : String) : Prop where
  tz : lookupStr r.fields "timezone" = some (.str zname)
  zone : zones zname = some z
  conn : lookupStr r.fields "connectionTime" = some (.str sc)
  connT : parseRfc1123 sc = some tc
  disc : lookupStr r.fields "disconnectTime" = some (.str sd)
  discT : parseRfc1123 sd = some td
  sess : lookupStr r.fields "sessionID" = some (.str sid)
  space : lookupStr r.fields "spaceID" = some (.str sp)

theorem convRaw_ok {zones : String → Option Zone} {offset : Int} {period V mp : K}
    {maxLen : Option Int} {bp : BattParams K} {ff : Bool} {r : RawSession K} {e : Ev K}
    (h : convRaw zones offset period V mp maxLen bp ff r = .ok e) :
    ∃ zname z sc tc sd td sid sp, Denotes zones r zname z sc tc sd td sid sp ∧
      convertDoc { connect := ((tc : Int) : K), disconnect := ((td : Int) : K), kWh := r.kWh,
                   session := sid, space := sp } offset period V mp maxLen bp ff = .ok e := by
  unfold convRaw at h
  split at h
  · simp at h
  · rename_i pd hpd
    split at h
    · simp at h
    · rename_i doc hdoc
      split at h
      · simp at h
      · rename_i ev hev
        injection h with h
        subst h
        obtain ⟨zname, z, htz, hz, hok⟩ := C20.parse_dates_faithful zones r.fields pd hpd
        unfold toDoc at hdoc
        split at hdoc
        · simp at hdoc
        · rename_i c hc
          split at hdoc
          · simp at hdoc
          · rename_i dd hd
            split at hdoc
            · simp at hdoc
            · rename_i sid hsid
              split at hdoc
              · simp at hdoc
              · rename_i sp hsp
                injection hdoc with hdoc
                obtain ⟨sc, tc, h1, h2, rfl⟩ := (dateField_iff hok _ _).1 hc
                obtain ⟨sd, td, h4, h5, rfl⟩ := (dateField_iff hok _ _).1 hd
                obtain ⟨h7, -⟩ := (strField_iff hok _ _).1 hsid
                obtain ⟨h8, -⟩ := (strField_iff hok _ _).1 hsp
                refine ⟨zname, z, sc, tc, sd, td, sid, sp, ⟨htz, hz, h1, h2, h4, h5, h7, h8⟩, ?_⟩
                rw [← hdoc, (C20.same_instant z.off tc).1, (C20.same_instant z.off td).1] at hev
                exact hev

section total
variable {α β : Type}

theorem yieldAll_total (conv : α → Except DataClient.Err β) :
    ∀ l : List α, (∀ a ∈ l, ∃ b, conv a = .ok b) → ∃ bs, yieldAll conv l = (bs, none) := by
  intro l
  induction l with
  | nil => intro _; exact ⟨[], rfl⟩
  | cons a as ih =>
    intro h
    obtain ⟨b, hb⟩ := h a List.mem_cons_self
    obtain ⟨bs, hbs⟩ := ih (fun x hx => h x (List.mem_cons_of_mem _ hx))
    exact ⟨b :: bs, by simp [yieldAll, hb, hbs]⟩

theorem collect_total {base : String} {fetch : String → Resp α}
    (conv : α → Except DataClient.Err β) {u : String} {ps : List (Page α)}
    (h : Chain base fetch u ps) :
    ∀ fuel : Nat, ps.length ≤ fuel → (∀ p ∈ ps, ∀ a ∈ p.items, ∃ b, conv a = .ok b) →
      (collect base fetch conv fuel u).stop = none := by
  intro fuel hfuel hc
  rw [collect_run conv (fun p => (yieldAll conv p.items).1) h fuel
    (by rw [runUrls_length_chain h]; exact hfuel) fun p hp => ?_]
  obtain ⟨bs, hy⟩ := yieldAll_total conv p.items (hc p hp)
  rw [hy]

end total

theorem parseStamps_total (off : Instant → Int) :
    ∀ l : List String, (∀ s ∈ l, parseRfc1123 s ≠ none) → ∃ as, parseStamps off l = .ok as := by
  intro l
  induction l with
  | nil => intro _; exact ⟨[], rfl⟩
  | cons s ss ih =>
    intro h
    obtain ⟨as, has⟩ := ih (fun x hx => h x (List.mem_cons_of_mem _ hx))
    cases hp : parseRfc1123 s with
    | none => exact absurd hp (h s List.mem_cons_self)
    | some t => exact ⟨toZone off t :: as, by simp [parseStamps, parseHttpDate, hp, has]⟩

theorem parseFields_total (off : Instant → Int) :
    ∀ d : DataClient.Doc, (∀ k l, (k, Val.ts l) ∈ d → ∀ s ∈ l, parseRfc1123 s ≠ none) →
      ∃ pd, parseFields off d = .ok pd := by
  intro d
  induction d with
  | nil => intro _; exact ⟨[], rfl⟩
  | cons f rest ih =>
    intro h
    obtain ⟨pd, hpd⟩ := ih (fun k l hm => h k l (List.mem_cons_of_mem _ hm))
    obtain ⟨k, v⟩ := f
    cases v with
    | str s =>
      cases hp : parseHttpDate off s with
      | none => exact ⟨(k, .str s) :: pd, by simp [parseFields, hp, hpd]⟩
      | some a => exact ⟨(k, .date a) :: pd, by simp [parseFields, hp, hpd]⟩
    | ts l =>
      obtain ⟨as, has⟩ := parseStamps_total off l (h k l List.mem_cons_self)
      exact ⟨(k, .ts as) :: pd, by simp [parseFields, has, hpd]⟩
    | other => exact ⟨(k, .other) :: pd, by simp [parseFields, hpd]⟩

/-- `hsid`, `hsp`: `parse_dates` turns every string field that parses as an RFC-1123 date into a datetime, ids
    included -/
theorem convRaw_of_denotes {zones : String → Option Zone} {offset : Int} {period V mp : K}
    {maxLen : Option Int} {bp : BattParams K} {ff : Bool} {r : RawSession K}
    {zname : String} {z : Zone} {sc : String} {tc : Instant} {sd : String} {td : Instant}
    {sid sp : String} (hden : Denotes zones r zname z sc tc sd td sid sp)
    (hsid : parseRfc1123 sid = none) (hsp : parseRfc1123 sp = none)
    (hts : ∀ k l, (k, Val.ts l) ∈ r.fields → ∀ s ∈ l, parseRfc1123 s ≠ none) {e : Ev K}
    (hconv : convertDoc { connect := ((tc : Int) : K), disconnect := ((td : Int) : K), kWh := r.kWh,
                          session := sid, space := sp } offset period V mp maxLen bp ff = .ok e) :
    convRaw zones offset period V mp maxLen bp ff r = .ok e := by
  obtain ⟨pd, hpd⟩ := parseFields_total z.off r.fields hts
  have hparse : parseDates zones r.fields = .ok pd := by
    unfold parseDates; rw [hden.tz]; simp only; rw [hden.zone]; exact hpd
  have hok := parseFields_ok z.off r.fields pd hpd
  have h1 := (dateField_iff hok _ _).2 ⟨_, _, hden.conn, hden.connT, rfl⟩
  have h2 := (dateField_iff hok _ _).2 ⟨_, _, hden.disc, hden.discT, rfl⟩
  have h3 := (strField_iff hok _ _).2 ⟨hden.sess, hsid⟩
  have h4 := (strField_iff hok _ _).2 ⟨hden.space, hsp⟩
  unfold convRaw
  rw [hparse]
  simp only
  have hdoc : toDoc pd r.kWh =
      .ok (⟨((tc : Int) : K), ((td : Int) : K), r.kWh, sid, sp⟩ : Sessions.Doc K) := by
    unfold toDoc
    rw [h1, h2, h3, h4]
    simp only
    rw [(C20.same_instant z.off tc).1, (C20.same_instant z.off td).1]
  rw [hdoc]
  simp only
  rw [hconv]

theorem generateEvents_ok_iff {zones : String → Option Zone} {base site : String} {start stop : Aware}
    {period V mp : K} {maxLen : Option Int} {bp : BattParams K} {ff : Bool}
    {fetch : String → Resp (RawSession K)} {fuel : Nat} {tr : Trace (Ev K)} (hp : 0 < period) :
    generateEvents zones base site start stop period V mp maxLen bp ff fetch fuel = .ok tr ↔
      validSite site = true ∧
      tr = collect base fetch (convRaw zones (Capstone.periodOf period ((start.instant : Int) : K)) period V mp maxLen bp ff)
        fuel (sessionsUrl base site (timeQuery (some start) (some stop) none false)) := by
  unfold generateEvents getSessions
  rw [SessionsL.periodIndex_pos hp]
  by_cases hv : validSite site = true <;> simp [hv, eq_comm]

end Acn.SessionsE2E
