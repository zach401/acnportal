/-
  The network part of C13 (`AcnModel/EvseNet.lean`): the OrderedDict update `setStation`, the id → index dict
  `stationIndex`, networks built by `register_evse` calls and save / resume steps between them (`CNet`); no numeric
  structure is used there.  At the end the descriptions a constructor is meant for (`WellFormed`), for which
  `_valid_rate` is exactly "within the tolerance of an allowed pilot" (`validRate_iff_near`).
-/
import AcnModel.EvseNet
import AcnProofs.Lemmas.EvseClass
import AcnProofs.Lemmas.Assoc
import Mathlib.Tactic

namespace Acn.EvseNet
open Acn Acn.Evse

variable {K : Type}

theorem stationIndex_eq_none {ids : List String} {sid : String} :
    stationIndex ids sid = none ↔ sid ∉ ids := by
  induction ids with
  | nil => simp [stationIndex]
  | cons x r ih =>
    simp only [stationIndex]
    cases h : stationIndex r sid with
    | some i =>
      have : sid ∈ r := by
        by_contra hc
        rw [ih.mpr hc] at h
        exact absurd h (by simp)
      simp [this]
    | none =>
      have hr : sid ∉ r := ih.mp h
      by_cases hx : x = sid
      · subst hx; simp
      · have : ¬ sid = x := fun e => hx e.symm
        simp [hx, hr, this]

theorem stationIndex_of_nodup {ids : List String} (hn : ids.Nodup) {i : Nat} {sid : String}
    (h : ids[i]? = some sid) : stationIndex ids sid = some i := by
  induction ids generalizing i with
  | nil => simp at h
  | cons x r ih =>
    rw [List.nodup_cons] at hn
    cases i with
    | zero =>
      simp at h
      subst h
      simp [stationIndex, stationIndex_eq_none.mpr hn.1]
    | succ j =>
      simp at h
      simp [stationIndex, ih hn.2 h]

theorem stationIndex_lt {ids : List String} {sid : String} {i : Nat}
    (h : stationIndex ids sid = some i) : i < ids.length := by
  induction ids generalizing i with
  | nil => simp [stationIndex] at h
  | cons x r ih =>
    simp only [stationIndex] at h
    cases hr : stationIndex r sid with
    | some j =>
      rw [hr] at h
      simp at h
      subst h
      have := ih hr
      simp; omega
    | none =>
      rw [hr] at h
      by_cases hx : x = sid
      · simp [hx] at h; subst h; simp
      · simp [hx] at h

/-! ### `OrderedDict.__setitem__`

`_EVSEs` is a dict keyed by station id: the station list, each station paired with its id, is an `Assoc` dict,
`setStation` is its `set` and a run of `register_evse` calls its `ofPairs`; what is said of them below is read off
`Lemmas/Assoc`. -/

/-- a station as the binding `_EVSEs` holds for it -/
def kv (s : Station K) : String × Station K := (s.id, s)

theorem kv_injective : Function.Injective (kv (K := K)) := fun _ _ h => congrArg Prod.snd h

theorem keys_kv (l : List (Station K)) : Assoc.keys (l.map kv) = l.map (·.id) := by
  rw [Assoc.keys, List.map_map]; rfl

theorem setStation_kv (s : Station K) (l : List (Station K)) :
    (setStation s l).map kv = Assoc.set (l.map kv) s.id s := by
  induction l with
  | nil => rfl
  | cons t r ih =>
    by_cases h : t.id = s.id
    · simp [setStation, Assoc.set, kv, h]
    · simp [setStation, Assoc.set, kv, h, ← ih]

theorem ids_setStation (s : Station K) (l : List (Station K)) :
    (setStation s l).map (·.id) =
      if s.id ∈ l.map (·.id) then l.map (·.id) else l.map (·.id) ++ [s.id] := by
  rw [← keys_kv, setStation_kv, Assoc.keys_set, keys_kv]

theorem nodup_setStation (s : Station K) (l : List (Station K))
    (hn : (l.map (·.id)).Nodup) : ((setStation s l).map (·.id)).Nodup := by
  rw [← keys_kv, setStation_kv]; exact Assoc.nodup_set (by rwa [keys_kv]) _ _

theorem mem_setStation (s t : Station K) (l : List (Station K)) (hn : (l.map (·.id)).Nodup) :
    t ∈ setStation s l ↔ t = s ∨ (t ∈ l ∧ t.id ≠ s.id) := by
  rw [← List.mem_map_of_injective kv_injective, setStation_kv, Assoc.mem_set_iff (by rwa [keys_kv]),
    List.mem_map_of_injective kv_injective]
  exact or_congr kv_injective.eq_iff Iff.rfl

theorem run_snoc (regs : List (Station K)) (r : Station K) :
    Net.run (regs ++ [r]) = (Net.run regs).register r := by
  simp [Net.run, List.foldl_append]

theorem foldl_register_stations (l : List (Station K)) (n : Net K) :
    (l.foldl Net.register n).stations = l.foldl (fun acc e => setStation e acc) n.stations := by
  induction l generalizing n with
  | nil => rfl
  | cons s r ih => simp [List.foldl_cons, ih, Net.register]

theorem foldl_setStation_kv (l d : List (Station K)) :
    (l.foldl (fun acc e => setStation e acc) d).map kv =
      (l.map kv).foldl (fun d p => Assoc.set d p.1 p.2) (d.map kv) := by
  induction l generalizing d with
  | nil => rfl
  | cons s r ih => rw [List.foldl_cons, ih, setStation_kv]; rfl

theorem run_kv (regs : List (Station K)) : (Net.run regs).stations.map kv = Assoc.ofPairs (regs.map kv) := by
  rw [Net.run, foldl_register_stations, foldl_setStation_kv]; rfl

theorem run_ids_nodup (regs : List (Station K)) :
    ((Net.run regs).stations.map (·.id)).Nodup := by
  rw [← keys_kv, run_kv]; exact Assoc.nodup_ofPairs _

theorem run_nVolt (regs : List (Station K)) : (Net.run regs).nVolt = regs.length := by
  induction regs using List.reverseRecOn with
  | nil => simp [Net.run, Net.init]
  | append_singleton l r ih => rw [run_snoc]; simp [Net.register, ih]

theorem run_ids_mem (regs : List (Station K)) (x : String) :
    x ∈ (Net.run regs).stations.map (·.id) ↔ x ∈ regs.map (·.id) := by
  rw [← keys_kv, run_kv, Assoc.mem_keys_ofPairs, keys_kv]

theorem foldl_setStation_of_nodup (l : List (Station K)) (h : (l.map (·.id)).Nodup) :
    l.foldl (fun acc e => setStation e acc) [] = l :=
  kv_injective.list_map <| (foldl_setStation_kv l []).trans (Assoc.ofPairs_of_nodup (by rwa [keys_kv]))

theorem run_of_nodup (regs : List (Station K)) (h : (regs.map (·.id)).Nodup) :
    (Net.run regs).stations = regs :=
  (foldl_register_stations regs Net.init).trans (foldl_setStation_of_nodup regs h)

/-- `InfrastructureInfo` can be built for the network iff no id was registered twice -/
theorem run_length_eq_iff (regs : List (Station K)) :
    (Net.run regs).stations.length = regs.length ↔ (regs.map (·.id)).Nodup := by
  constructor
  · -- the ids of the network are duplicate-free and among those registered: as many, they are a permutation
    intro h
    have hsub : List.Subperm ((Net.run regs).stations.map (·.id)) (regs.map (·.id)) :=
      List.subperm_of_subset (run_ids_nodup regs) fun x hx => (run_ids_mem regs x).mp hx
    exact (hsub.perm_of_length_le (by simp [h])).nodup_iff.mp (run_ids_nodup regs)
  · intro h
    rw [run_of_nodup regs h]

section
variable [LT K] [DecidableLT K] [OfNat K 0]

def Coherent (c : CNet K) : Prop := c.cache = infoStore c.net

theorem infraOkC_of_coherent (c : CNet K) (hc : Coherent c) : infraOkC c = infraOk c.net := by
  have hcache : c.cache = infoStore c.net := hc
  simp [infraOkC, infraOk, hcache, infoStore]

theorem iface_of_coherent (c : CNet K) (hc : Coherent c) (sid : String) :
    ifaceAllowableC c sid = ifaceAllowable c.net sid ∧ ifaceMaxC c sid = ifaceMax c.net sid ∧
    ifaceMinC c sid = ifaceMin c.net sid := by
  have hk := infraOkC_of_coherent c hc
  have hcache : c.cache = infoStore c.net := hc
  refine ⟨?_, ?_, ?_⟩
  · simp only [ifaceAllowableC, ifaceAllowable, lookupC, lookup, hk, hcache]; rfl
  · simp only [ifaceMaxC, ifaceMax, lookupC, lookup, hk, hcache]; rfl
  · simp only [ifaceMinC, ifaceMin, lookupC, lookup, hk, hcache]; rfl

omit [LT K] [DecidableLT K] [OfNat K 0] in
theorem restore_eq (c : CNet K) (hn : (c.net.stations.map (·.id)).Nodup) : c.restore = c := by
  cases c with
  | mk net cache =>
    cases net with
    | mk stations nVolt =>
      simp only [CNet.restore, CNet.save, Saved.load]
      rw [foldl_setStation_of_nodup stations hn]

theorem cnet_run_snoc (h : List (NetEv K)) (e : NetEv K) : CNet.run (h ++ [e]) = (CNet.run h).step e := by
  simp [CNet.run, List.foldl_append]

omit [LT K] [DecidableLT K] [OfNat K 0] in
theorem regsOf_append (h g : List (NetEv K)) : regsOf (h ++ g) = regsOf h ++ regsOf g := by
  induction h with
  | nil => rfl
  | cons e r ih => cases e <;> simp [regsOf, ih]

theorem cnet_run_eq (h : List (NetEv K)) :
    (CNet.run h).net = Net.run (regsOf h) ∧ Coherent (CNet.run h) := by
  induction h using List.reverseRecOn with
  | nil => exact ⟨rfl, rfl⟩
  | append_singleton l e ih =>
    rw [cnet_run_snoc, regsOf_append]
    cases e with
    | reg s =>
      simp only [CNet.step, CNet.register, regsOf, run_snoc, ih.1]
      exact ⟨trivial, rfl⟩
    | restore =>
      have hn : (((CNet.run l).net).stations.map (·.id)).Nodup := by
        rw [ih.1]; exact run_ids_nodup _
      simp only [CNet.step, regsOf, List.append_nil, restore_eq _ hn]
      exact ih

end

/-- the parameter ranges the constructors are meant for: a non-empty interval, a non-empty level list
    (`FiniteRatesEVSE.__init__` always yields one: it adds 0) -/
def WellFormed [LE K] : Kind K → Prop
  | .cont mn (some mx) => mn ≤ mx
  | .cont _ none => True
  | .deadband db (some mx) => db ≤ mx
  | .deadband _ none => True
  | .finite rates => rates ≠ []

/-- **`_valid_rate`, all three classes: the pilot is within the class's tolerance of an allowed pilot.**
    The interval of an interval class must not be empty and the tolerance not negative (a negative tolerance
    narrows the interval; an empty interval widened by the tolerance need not be empty). -/
theorem validRate_iff_near [Field K] [LinearOrder K] [IsStrictOrderedRing K] {atol fa : K} {k : Kind K}
    (hwf : WellFormed k) (ht : 0 ≤ tolOf atol fa k) (p : K) :
    validRate atol fa k p = true ↔ ∃ q, Allowed k q ∧ |p - q| ≤ tolOf atol fa k := by
  refine ⟨fun h => ?_, validRate_of_near⟩
  rw [validRate_iff] at h
  cases k with
  | cont mn mx => exact near_of_widened ht (by cases mx <;> exact hwf) h
  | deadband db mx =>
    rcases h with h | h
    · exact ⟨0, Or.inl rfl, h⟩
    · obtain ⟨q, hq, h3⟩ := near_of_widened ht (by cases mx <;> exact hwf) h
      exact ⟨q, Or.inr hq, h3⟩
  | finite rates => exact h

end Acn.EvseNet
