/-
  Helper lemmas for C10 (Sim level, stations): what the scheduler sees under a permutation of the station
  table (`ViewRel`; `ViewRelL` also relates `last_applied_pilot_signals`, as dicts keyed by session id, which the
  rampdown estimator reads), the initial states, and the schedulers that cannot tell (`SchedEquivariant`).
-/
import AcnProofs.Lemmas.EquivSimStations
import AcnProofs.Lemmas.SchedView

set_option linter.unusedSectionVars false

namespace Acn.SimEquiv
open Acn.Sim Acn.EventCore Acn.Evse Acn.Ledger

variable {K : Type} [Field K] [LinearOrder K] [IsStrictOrderedRing K] [HasExp K]

/-- two views of the same situation, the per-station arrays read in the order `σ`.  The list of
    last applied pilots is NOT related: the relation is for schedulers that do not read it, as a hypothesis on
    them (`SchedEquivariant`, `SchedEquivariantD`); the results about the uncontrolled and the sorted schedulers
    are stated over `ViewRelL`. -/
structure ViewRel (σ : List Nat) (v v' : View K) : Prop where
  iter : v'.iter = v.iter
  active : v'.active.Perm v.active
  peak : v'.peak = v.peak
  evsePilot : v'.evsePilot = reidx σ v.evsePilot 0
  connected : v'.connected = reidx σ v.connected none

/-- a pair of scheduler parameters (one per registration order) that answer related views with the
    same association list / the same error.  Variants: `…D` the same DICT in any listing order, and only
    where the original answers; `…E` same dict or same error, on the views satisfying a predicate `P`, for
    `ViewRelL`; `…St` the `E` form for schedulers with a state. -/
def SchedEquivariant (σ : List Nat) (sched sched' : View K → Except EventCore.Err (Schedule K)) : Prop :=
  ∀ v v', ViewRel σ v v' → sched' v' = sched v

section
variable {σ : List Nat} {d : Station K} {cfg : Cfg K}

theorem activeEvs_perm (h : PermOK σ cfg) {s s' : State K} (he : StEquiv σ s s') :
    (activeEvs (permCfg σ d cfg) s').Perm (activeEvs cfg s) := by
  have e : activeEvs (permCfg σ d cfg) s' = (permCfg σ d cfg).stations.filterMap (fun st =>
      match occupantEv s st.id with
      | some e => if isActive cfg e then some e else none
      | none => none) := by
    unfold activeEvs
    apply List.filterMap_congr
    intro st _
    rw [occupantEv_equiv he]
    rfl
  rw [e]
  unfold activeEvs
  exact (permCfg_stations_perm (d := d) h).filterMap _

theorem view_rel (h : PermOK σ cfg) {s s' : State K} (he : StEquiv σ s s') :
    ViewRel σ (view cfg s) (view (permCfg σ d cfg) s') := by
  refine ⟨?_, activeEvs_perm h he, he.peak, he.evsePilot, ?_⟩
  · simp only [view, he.core]
  · simp only [view, he.core]
    exact (reidx_map _ σ cfg.stations d none (perm_lt h.perm)).symm

theorem updateSchedules_rows {stations : List String} {m m' : Pilots.Mat K} {t : Nat} {l : Option Nat}
    {sch : Pilots.Sched K} (hm : m.rows.length = stations.length)
    (h : Pilots.updateSchedules stations m t l sch = .ok m') : m'.rows.length = stations.length := by
  by_cases hne : sch = []
  · subst hne; cases h; exact hm
  rw [Pilots.updateSchedules_cons _ _ _ _ _ hne] at h
  split at h
  · cases h
  split at h
  · cases h
  cases h
  simp only [Pilots.writeBlock, List.length_zipWith, Pilots.densify_length, Pilots.grown_rows_length, hm, Nat.min_self]

theorem init_equiv (h : PermOK σ cfg) : StEquiv σ (Sim.init cfg) (Sim.init (permCfg σ d cfg)) ∧
    Shape cfg.stations.length (Sim.init cfg) ∧ OccSound cfg.core (Sim.init cfg).core.occ := by
  have hn := perm_length h.perm
  have hlt := perm_lt h.perm
  have hlen : (permCfg σ d cfg).stations.length = cfg.stations.length := by simp [permCfg, reidx, hn]
  have hcore : EventCore.init (permCfg σ d cfg).core = EventCore.init cfg.core := rfl
  refine ⟨⟨?_, ?_, ?_, rfl, rfl, ?_, rfl, rfl⟩, ⟨?_, ?_, ?_⟩, ?_⟩
  · simp only [Sim.init, hcore]
  · simp only [Sim.init, hcore, hlen, Pilots.Mat.zeros, Pilots.Mat.reidx]
    rw [reidx_replicate σ _ _ _ hlt, hn]
  · simp only [Sim.init, hcore, hlen, Pilots.Mat.zeros, Pilots.Mat.reidx]
    rw [reidx_replicate σ _ _ _ hlt, hn]
  · simp only [Sim.init, hlen]
    rw [reidx_replicate σ _ _ _ hlt, hn]
  · simp [Sim.init, Pilots.Mat.zeros]
  · simp [Sim.init, Pilots.Mat.zeros]
  · simp [Sim.init]
  · intro st x hx
    simp [Sim.init, EventCore.init] at hx

theorem scripted_equivariant (σ : List Nat) (script : List (Nat × Option (Schedule K))) (dflt : Schedule K) :
    SchedEquivariant σ (scripted script dflt) (scripted script dflt) := by
  intro v v' hv
  simp only [scripted, hv.iter]

theorem emptySched_equivariant (σ : List Nat) : SchedEquivariant σ (emptySched (K := K)) emptySched :=
  fun _ _ _ => rfl

end

/-- `ViewRel` plus `last_applied_pilot_signals` (L), equal as dicts, and distinct session ids in the active list
    (`nodupActive`: what one call of the sorted algorithms needs under another listing, estimator or not) -/
structure ViewRelL (σ : List Nat) (v v' : View K) : Prop where
  rel : ViewRel σ v v'
  lastPilots : v'.lastPilots.Perm v.lastPilots
  nodupLast : (v.lastPilots.map (·.1)).Nodup
  nodupActive : (v.active.map (·.session)).Nodup

theorem activeEvs_sessions_nodup {cfg : Cfg K} (hnd : StationsNodup cfg) {s : State K}
    (ho : OccSound cfg.core s.core.occ) : ((activeEvs cfg s).map (·.session)).Nodup := by
  rw [Sim.activeEvs_eq_filterMap, List.Nodup, List.pairwise_map]
  have hocc : (cfg.stations.map fun st => occupantEv s st.id).Pairwise
      (fun o o' => ∀ b ∈ o, ∀ b' ∈ o', b.session ≠ b'.session) := by
    refine List.pairwise_map.2 ((List.pairwise_map.1 hnd).imp fun {a a'} hne b hb b' hb' hsess => hne ?_)
    obtain ⟨x, hx, hsx⟩ := occupantEv_session (show occupantEv s a.id = some b by simpa using hb)
    obtain ⟨y, hy, hsy⟩ := occupantEv_session (show occupantEv s a'.id = some b' by simpa using hb')
    exact ho.inj hx hy (by rw [← hsx, ← hsy, hsess])
  exact List.Pairwise.filterMap _ (fun o o' hoo b hb b' hb' =>
    hoo b (Option.filter_eq_some_iff.1 hb).1 b' (Option.filter_eq_some_iff.1 hb').1) hocc

theorem lastApplied_keys_nodup {cfg : Cfg K} (hnd : StationsNodup cfg) {s : State K}
    (ho : OccSound cfg.core s.core.occ) : ((lastApplied cfg s).map (·.1)).Nodup :=
  (activeEvs_sessions_nodup hnd ho).sublist (lastApplied_keys_sublist cfg s)

section
variable {σ : List Nat} {d : Station K} {cfg : Cfg K}

/-- the pilot of a station read by station NAME is the same in both runs (0 for an unknown name) -/
theorem get_stationIndex_perm (h : PermOK σ cfg) {s s' : State K} (he : StEquiv σ s s')
    (hs : Shape cfg.stations.length s) (st : String) (t : Nat) :
    s'.pilots.get (stationIndex (permCfg σ d cfg) st) t = s.pilots.get (stationIndex cfg st) t := by
  rw [he.pilots, ← stationIndex_permCfg (d := d) h st, ← hs.pilots]
  unfold Pilots.Mat.get Pilots.Mat.reidx
  rw [getD_reidx_any]

theorem lastApplied_perm (h : PermOK σ cfg) {s s' : State K} (he : StEquiv σ s s')
    (hs : Shape cfg.stations.length s) :
    (lastApplied (permCfg σ d cfg) s').Perm (lastApplied cfg s) := by
  unfold lastApplied
  rw [he.core]
  split
  · have hf : (fun e : Ev K => if e.arrival ≤ ((s.core.iter - 1 : Nat) : Int) then
          some (e.session, s'.pilots.get (stationIndex (permCfg σ d cfg) e.station) (s.core.iter - 1)) else none) =
        (fun e : Ev K => if e.arrival ≤ ((s.core.iter - 1 : Nat) : Int) then
          some (e.session, s.pilots.get (stationIndex cfg e.station) (s.core.iter - 1)) else none) := by
      funext e
      rw [get_stationIndex_perm (d := d) h he hs]
    dsimp only
    rw [hf]
    exact (activeEvs_perm (d := d) h he).filterMap _
  · exact List.Perm.refl _

theorem view_relL (h : PermOK σ cfg) {s s' : State K} (he : StEquiv σ s s')
    (hs : Shape cfg.stations.length s) (ho : OccSound cfg.core s.core.occ) :
    ViewRelL σ (view cfg s) (view (permCfg σ d cfg) s') :=
  ⟨view_rel (d := d) h he, lastApplied_perm (d := d) h he hs, lastApplied_keys_nodup h.nodup ho,
    activeEvs_sessions_nodup h.nodup ho⟩

end

end Acn.SimEquiv
