/-
  Order facts about `daysFromCivil` (a date lies within its year, the year of a day number),
  the successor relation of the calendar, and the weekday law.  Helper lemmas for C20.
-/
import AcnProofs.Lemmas.CalendarCivil
namespace Acn.Calendar

theorem jan1_march (y : Int) : daysFromCivil y 1 1 = marchStart (y - 1) + 306 - 719468 := by
  rw [daysFromCivil_march]; simp [marchOf, monthStart]

theorem jan1_mono {a b : Int} (h : a ≤ b) : daysFromCivil a 1 1 ≤ daysFromCivil b 1 1 := by
  have := marchStart_mono (show a - 1 ≤ b - 1 by omega)
  rw [jan1_march, jan1_march]; omega

theorem within_year (y m d : Int) (hm : 1 ≤ m) (hm' : m ≤ 12) (hd : 1 ≤ d)
    (hd' : d ≤ daysInMonth y m) :
    daysFromCivil y 1 1 ≤ daysFromCivil y m d ∧ daysFromCivil y m d < daysFromCivil (y + 1) 1 1 := by
  obtain ⟨_, _, v2, v3, v4⟩ := (valid_iff_marchDate d hm hm').mp ⟨hd, hd'⟩
  have s : marchStart (y - 1) + 365 ≤ marchStart (y - 1 + 1) := by
    have := marchStart_succ (y - 1); split at this <;> omega
  have e1 : y + 1 - 1 = y := by omega
  have e2 : y - 1 + 1 = y := by omega
  rw [jan1_march, jan1_march, daysFromCivil_march, e1]
  rw [e2] at s
  revert v2 v3 v4
  unfold marchOf monthStart
  split <;> intro v2 v3 v4 <;> simp only [e2] at v2 v3 v4 ⊢ <;> omega

def nextDay (y m d : Int) : Int × Int × Int :=
  if d < daysInMonth y m then (y, m, d + 1)
  else if m < 12 then (y, m + 1, 1)
  else (y + 1, 1, 1)

theorem marchOf_next (y m : Int) (hm : 1 ≤ m) (hm' : m ≤ 12) :
    marchOf (if m < 12 then y else y + 1) (if m < 12 then m + 1 else 1) =
      if m = 2 then ((marchOf y m).1 + 1, 0) else ((marchOf y m).1, (marchOf y m).2 + 1) := by
  rcases (by omega : m = 1 ∨ m = 2 ∨ (3 ≤ m ∧ m < 12) ∨ m = 12) with rfl | rfl | ⟨a, b⟩ | rfl
  · simp [marchOf]
  · simp [marchOf]
  · have c : ¬ m ≤ 2 := by omega
    have d : ¬ m + 1 ≤ 2 := by omega
    have e : m ≠ 2 := by omega
    simp only [marchOf, b, c, d, e, ↓reduceIte, Prod.mk.injEq, true_and]; omega
  · simp [marchOf]

/-- `daysFromCivil` counts days: it is 0 on 1970-01-01 (`daysFromCivil_epoch`) and grows by exactly one from each valid
    date to the next.  Together with the round trips this characterises it as *the* day number of the proleptic
    Gregorian calendar. -/
theorem daysFromCivil_nextDay (y m d : Int) (hm : 1 ≤ m) (hm' : m ≤ 12) (_hd : 1 ≤ d)
    (hd' : d ≤ daysInMonth y m) :
    daysFromCivil (nextDay y m d).1 (nextDay y m d).2.1 (nextDay y m d).2.2
      = daysFromCivil y m d + 1 := by
  by_cases h1 : d < daysInMonth y m
  · simp only [nextDay, h1, ↓reduceIte, daysFromCivil_march]; omega
  · have e : nextDay y m d = ((if m < 12 then y else y + 1), (if m < 12 then m + 1 else 1), 1) := by
      unfold nextDay; rw [if_neg h1]; split <;> rfl
    have l := month_length (y := y) hm hm'
    rw [e, daysFromCivil_march, daysFromCivil_march, marchOf_next y m hm hm']
    split
    · rw [if_pos ‹_›] at l; simp only [monthStart] at l ⊢; omega
    · rw [if_neg ‹_›] at l; dsimp only; omega

/-- a day at or after 1 January of `Y` lies in a year ≥ `Y`, a day before 1 January of `Y + 1` in a year ≤ `Y` -/
theorem year_of_days (z Y : Int) :
    (daysFromCivil Y 1 1 ≤ z → Y ≤ (civilFromDays z).1) ∧
    (z < daysFromCivil (Y + 1) 1 1 → (civilFromDays z).1 ≤ Y) := by
  obtain ⟨v1, v2, v3, v4⟩ := civil_valid z
  obtain ⟨w1, w2⟩ := within_year _ _ _ v1 v2 v3 v4
  rw [days_roundtrip z] at w1 w2
  constructor <;> intro h <;> refine Int.not_lt.mp fun c => ?_
  · have := jan1_mono (a := (civilFromDays z).1 + 1) (b := Y) (by omega); omega
  · have := jan1_mono (a := Y + 1) (b := (civilFromDays z).1) (by omega); omega

theorem daysFromCivil_epoch : daysFromCivil 1970 1 1 = 0 := by decide +kernel

theorem weekday_spec_aux (z : Int) :
    0 ≤ weekday z ∧ weekday z < 7 ∧ weekday (z + 1) = (weekday z + 1) % 7 ∧
    weekday (z + 7) = weekday z := by
  unfold weekday; omega

end Acn.Calendar
