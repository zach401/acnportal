/-
  The three EVSE classes (`AcnModel/Evse.lean`), once: the pilots a class is built for (`Allowed`: an interval; 0 and
  an interval; the listed levels), the tolerance it applies (`tolOf`), and `_valid_rate` as "within that tolerance
  of an allowed pilot" (`validRate_of_near`, with `near_of_widened` for the converse; the equivalence itself, for
  well-formed descriptions, is `EvseNet.validRate_iff_near` at the end of `Lemmas/EvseNet`).  `validRate` is unfolded in
  `validRate_iff` and nowhere else.
-/
import AcnModel.Evse
import AcnProofs.Lemmas.Basic
import Mathlib.Tactic

namespace Acn.Evse
open Acn

variable {K : Type} [Field K] [LinearOrder K] [IsStrictOrderedRing K]

/-- `q ≤ mx`, where `none` is `float('inf')` -/
def UpTo (q : K) : Bound K → Prop
  | none => True
  | some m => q ≤ m

/-- the pilots an EVSE of the class is built for, exactly -/
def Allowed : Kind K → K → Prop
  | .cont mn mx, q => mn ≤ q ∧ UpTo q mx
  | .deadband db mx, q => q = 0 ∨ (db ≤ q ∧ UpTo q mx)
  | .finite rates, q => q ∈ rates

/-- the tolerance a class applies: `FiniteRatesEVSE` ignores the caller's -/
def tolOf (atol fa : K) : Kind K → K
  | .finite _ => fa
  | _ => atol

omit [Field K] [IsStrictOrderedRing K] in
theorem leBound_iff (x : K) (mx : Bound K) : leBound x mx = true ↔ UpTo x mx := by
  cases mx <;> simp [leBound, UpTo]

omit [IsStrictOrderedRing K] in
theorem tolOf_nonneg {atol fa : K} (ha : 0 ≤ atol) (hfa : 0 ≤ fa) (k : Kind K) : 0 ≤ tolOf atol fa k := by
  cases k <;> assumption

theorem widened_of_near {a mn : K} {mx : Bound K} {p : K} (h : ∃ q, (mn ≤ q ∧ UpTo q mx) ∧ |p - q| ≤ a) :
    mn ≤ p + a ∧ UpTo (p - a) mx := by
  obtain ⟨q, ⟨h1, h2⟩, h3⟩ := h
  rw [abs_le] at h3
  refine ⟨by linarith, ?_⟩
  cases mx with
  | none => trivial
  | some m => exact le_trans (by linarith) (show q ≤ m from h2)

/-- the witness is `p` clamped into the interval -/
theorem near_of_widened {a mn : K} {mx : Bound K} {p : K} (ha : 0 ≤ a) (hmm : UpTo mn mx)
    (h : mn ≤ p + a ∧ UpTo (p - a) mx) : ∃ q, (mn ≤ q ∧ UpTo q mx) ∧ |p - q| ≤ a := by
  obtain ⟨h1, h2⟩ := h
  cases mx with
  | none =>
    have : max mn p ≤ p + a := max_le h1 (by linarith)
    exact ⟨max mn p, ⟨le_max_left _ _, trivial⟩, abs_le.mpr ⟨by linarith, by linarith [le_max_right mn p]⟩⟩
  | some m =>
    have h3 : max mn (min p m) ≤ p + a := max_le h1 ((min_le_left _ _).trans (by linarith))
    have h4 : p - a ≤ max mn (min p m) := le_max_of_le_right (le_min (by linarith) h2)
    exact ⟨_, ⟨le_max_left _ _, max_le hmm (min_le_right _ _)⟩, abs_le.mpr ⟨by linarith, by linarith⟩⟩

/-- evse.py:280-294, 383-400, 484-499 as propositions -/
theorem validRate_iff (atol fa : K) (k : Kind K) (p : K) :
    validRate atol fa k p = true ↔ match k with
      | .cont mn mx => mn ≤ p + atol ∧ UpTo (p - atol) mx
      | .deadband db mx => |p - 0| ≤ atol ∨ (db ≤ p + atol ∧ UpTo (p - atol) mx)
      | .finite rates => ∃ a ∈ rates, |p - a| ≤ fa := by
  cases k <;> simp [validRate, isclose0, leBound_iff]

theorem validRate_of_near {atol fa : K} {k : Kind K} {p : K}
    (h : ∃ q, Allowed k q ∧ |p - q| ≤ tolOf atol fa k) : validRate atol fa k p = true := by
  rw [validRate_iff]
  cases k with
  | cont mn mx => exact widened_of_near h
  | deadband db mx =>
    obtain ⟨q, rfl | hq, h3⟩ := h
    · exact Or.inl h3
    · exact Or.inr (widened_of_near ⟨q, hq, h3⟩)
  | finite rates => exact h

theorem validRate_of_allowed {atol fa : K} {k : Kind K} (ht : 0 ≤ tolOf atol fa k) {q : K} (h : Allowed k q) :
    validRate atol fa k q = true :=
  validRate_of_near ⟨q, h, by simpa using ht⟩

end Acn.Evse
