/-
  C02's energy ledger without the static-table clauses: `LedgerQ` is `Acn.Ledger.LedgerP` minus
  `occ_sound` / `log_sound` (which say that an occupant sits at the station its session record names —
  false on a `StochasticNetwork`, where the network assigns the spaces).  `applyStage_ledgerQ` is the
  step of the ledger through one period; of `occ_sound` it needs only that no session is on two
  stations (`DistinctOcc`), which is its hypothesis.  `LedgerStep.applyStage_ledger` adds the two
  static-table clauses.
-/
import AcnProofs.Lemmas.LedgerInv

set_option linter.unusedSectionVars false

namespace Acn.Ledger
open Acn Acn.Sim Acn.EventCore Acn.Evse Finset

variable {K : Type} [Field K] [LinearOrder K] [IsStrictOrderedRing K] [HasExp K]

/-- the ledger invariant at the head of period `t`: every EV's delivered energy (and battery gain)
    is the sum, over the periods `τ < t` and the stations `i`, of the energy that the recorded rate
    `charging_rates[i, τ]` carries at that station's voltage, counted where the occupancy log says the
    EV sat there; vacant stations and future columns hold 0; `peak` is the running maximum of the
    aggregate current -/
structure LedgerQ (cfg : Cfg K) (t : Nat) (rates : Pilots.Mat K) (peak : K) (evs : List (Ev K))
    (log : List (List (Option String))) : Prop where
  log_len : log.length = t
  rates_wf : rates.WF cfg.stations.length
  ids : evs.map (·.session) = cfg.evs.map (·.session)
  gain : ∀ id e0 e, evIn cfg.evs id = some e0 → evIn evs id = some e →
    e.delivered - e0.delivered = e.batt.charge - e0.batt.charge
  sess : ∀ id e0 e, evIn cfg.evs id = some e0 → evIn evs id = some e →
    e.delivered - e0.delivered = sessionEnergy cfg rates log id t
  vacant : ∀ τ i, τ < t → i < cfg.stations.length → occAt log τ i = none → rates.get i τ = 0
  future : ∀ τ i, t ≤ τ → rates.get i τ = 0
  peak_eq : peak = peakUpTo rates cfg.stations.length t

theorem LedgerP.toQ {cfg : Cfg K} {t : Nat} {occ : String → Option Session} {rates : Pilots.Mat K} {peak : K}
    {evs : List (Ev K)} {log : List (List (Option String))} (h : LedgerP cfg t occ rates peak evs log) :
    LedgerQ cfg t rates peak evs log :=
  ⟨h.log_len, h.rates_wf, h.ids, h.gain, h.sess, h.vacant, h.future, h.peak_eq⟩

theorem applyStage_ledgerQ {cfg : Cfg K} {a s' : State K} (hd : DistinctOcc a.core.occ cfg.stations)
    (hL : LedgerQ cfg a.core.iter a.rates a.peak a.evs a.occLog) (h : applyStage cfg a = (s', none)) :
    LedgerQ cfg (a.core.iter + 1) s'.rates s'.peak s'.evs s'.occLog := by
  have hP := applyStage_period hd hL.rates_wf h
  have hlen := hL.log_len
  have hrate := hP.rates
  have hocc_new : ∀ i, occAt s'.occLog a.core.iter i = match cfg.stations[i]? with
        | some st => occId a.core.occ st
        | none => none := fun i => by
    rw [hP.log, ← hlen, occAt_append_eq]; exact occRow_getD cfg a.core.occ i
  have hocc_old : ∀ τ i, τ < a.core.iter → occAt s'.occLog τ i = occAt a.occLog τ i := fun τ i hτ => by
    rw [hP.log]; exact occAt_append_lt _ _ (by rw [hlen]; exact hτ) i
  have hterm_old : ∀ id τ i, τ < a.core.iter →
      term cfg s'.rates s'.occLog id τ i = term cfg a.rates a.occLog id τ i := by
    intro id τ i hτ
    unfold term
    rw [hocc_old τ i hτ, hrate, if_neg (Nat.ne_of_lt hτ)]
  -- what the period does to one EV
  have hdelta : ∀ id e e', evIn a.evs id = some e → evIn s'.evs id = some e' →
      e'.delivered - e.delivered = ∑ i ∈ range cfg.stations.length, term cfg s'.rates s'.occLog id a.core.iter i ∧
      e'.batt.charge - e.batt.charge = e'.delivered - e.delivered := by
    intro id e e' he he'
    by_cases hex : ∃ st ∈ cfg.stations, occId a.core.occ st = some id
    · obtain ⟨st, hst, hid⟩ := hex
      obtain ⟨x, hx, rfl⟩ := occId_eq_some.1 hid
      obtain ⟨k, hk⟩ := List.mem_iff_getElem?.1 hst
      obtain ⟨e'', ν, hc, he''⟩ := hP.served.served k st x e hk hx he
      obtain rfl : e'' = e' := Option.some.inj (he''.symm.trans he')
      obtain ⟨d1, d2, -⟩ := ev_charge_ledger hc
      have hkn : k < cfg.stations.length := (List.getElem?_eq_some_iff.1 hk).1
      refine ⟨?_, by rw [d1, d2]⟩
      rw [Finset.sum_eq_single k]
      · unfold term
        rw [hocc_new k, hk]
        simp only [hid, if_true]
        rw [hrate, if_pos rfl, rateAt_of hk hx he', volt_of_getElem? hk, d1]
      · intro j _ hjk
        unfold term
        rw [hocc_new j]
        cases hj : cfg.stations[j]? with
        | none => simp
        | some b =>
          simp only
          by_cases hb : occId a.core.occ b = some x.id
          · exact absurd (distinctOcc_index hd hj hk hb hid) hjk
          · rw [if_neg hb]
      · intro hk'; exact absurd (Finset.mem_range.2 hkn) hk'
    · have hno : ∀ st ∈ cfg.stations, occId a.core.occ st ≠ some id := fun st hst hc => hex ⟨st, hst, hc⟩
      have := hP.served.other id hno
      rw [he', he] at this
      obtain rfl : e' = e := Option.some.inj this
      refine ⟨?_, by ring⟩
      rw [sub_self]
      symm
      apply Finset.sum_eq_zero
      intro i _
      unfold term
      rw [hocc_new i]
      cases hi : cfg.stations[i]? with
      | none => simp
      | some b =>
        simp only
        rw [if_neg (hno b (List.mem_of_getElem? hi))]
  have hids2 := hP.served.ids
  refine ⟨by rw [hP.log]; simp [hlen], hP.rates_wf, hids2.trans hL.ids, ?_, ?_, ?_, ?_, ?_⟩
  · -- gain
    intro id e0 e' h0 he'
    obtain ⟨e, he⟩ := evIn_exists_of_ids hids2 he'
    have g := hL.gain id e0 e h0 he
    obtain ⟨_, d2⟩ := hdelta id e e' he he'
    linear_combination g - d2
  · -- sess
    intro id e0 e' h0 he'
    obtain ⟨e, he⟩ := evIn_exists_of_ids hids2 he'
    have g := hL.sess id e0 e h0 he
    obtain ⟨d1, _⟩ := hdelta id e e' he he'
    unfold sessionEnergy at g ⊢
    rw [Finset.sum_range_succ, ← d1,
      Finset.sum_congr rfl fun τ hτ => Finset.sum_congr rfl fun i _ => hterm_old id τ i (Finset.mem_range.1 hτ),
      ← g]
    ring
  · -- vacant
    intro τ i hτ hi hv
    rw [hrate]
    by_cases hτt : τ = a.core.iter
    · subst hτt
      rw [if_pos rfl]
      rcases rateAt_cases cfg a.core.occ s'.evs i with h0 | ⟨st, x, e, hst, hx, -, -⟩
      · exact h0
      · rw [hocc_new i, hst] at hv
        simp [occId, hx] at hv
    · rw [if_neg hτt]
      have hlt : τ < a.core.iter := by omega
      rw [hocc_old τ i hlt] at hv
      exact hL.vacant τ i hlt hi hv
  · -- future
    intro τ i hτ
    rw [hrate, if_neg (by omega)]
    exact hL.future τ i (by omega)
  · -- peak
    rw [hP.peak, hL.peak_eq]
    simp only [peakUpTo]
    rw [peakUpTo_congr (m := a.rates) (m' := s'.rates) _ _
      (fun i τ hτ => by rw [hrate, if_neg (Nat.ne_of_lt hτ)])]
    congr 1
    exact (Finset.sum_congr rfl fun i _ => by rw [hrate, if_pos rfl]).symm

end Acn.Ledger
