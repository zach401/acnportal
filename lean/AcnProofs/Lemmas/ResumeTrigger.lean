/-
  Interrupted / resumed runs and `step()` prefixes on the event core (C05).

  `invoked` is a ghost field: no stage of `EventCore.body` reads it, so a run commutes with overwriting it
  (`run_setInv`, for parameters that do not read it either: `Blind`).  The state the events stage of a period leaves —
  where an aborted `run()` and a `step()` call leave the simulator — continues exactly like the loop head it came
  from (`run_mid`): nothing is due any more, `_resolve` / `_last_schedule_update` carry the request.  Hence
  `resume_invoked` (abort in period `k`, then `run()` again: the uninterrupted run's final state with `k` recorded
  twice) and `run_after_supply` (the `run()` after a `step()` pass is the run from the loop head "period `t + 1`,
  schedule last supplied in `t`").
-/
import AcnProofs.Lemmas.ResumeInv
import AcnProofs.Lemmas.SchedTrace
import AcnProofs.Lemmas.StepsCrash
import AcnProofs.Lemmas.ResumeGhost

namespace Acn.EventCore
open Acn Acn.Steps

def failSchedAt (k : Nat) : Core → Option Err := fun c => if c.iter = k then some .schedulerFailed else none

def Blind (f : Core → Option Err) : Prop := ∀ l c, f (setInv l c) = f c

theorem blind_noFail : Blind noFail := fun _ _ => rfl
theorem blind_failSchedAt (k : Nat) : Blind (failSchedAt k) := fun _ _ => rfl

section
variable {cfg : Cfg}

theorem bodyDelta_setInv (l : List Nat) (c : Core) : bodyDelta cfg (setInv l c) = bodyDelta cfg c := by
  unfold bodyDelta
  rw [eventsStage_setInv]
  rcases eventsStage cfg c with ⟨c1, _ | err⟩ <;> rfl

theorem body_setInv {sched apply : Core → Option Err} (hs : Blind sched) (ha : Blind apply) (l : List Nat) (c : Core) :
    body cfg sched apply (setInv l c) =
      (setInv (l ++ bodyDelta cfg c) (body cfg sched apply c).1, (body cfg sched apply c).2) := by
  unfold body bodyDelta
  rw [eventsStage_setInv]
  rcases hes : eventsStage cfg c with ⟨c1, _ | err⟩
  · have h1 : c1.iter = c.iter := (eventsStage_any_facts hes).1
    simp only []
    have hn : needsSched cfg.maxRecompute (setInv l c1) = needsSched cfg.maxRecompute c1 := rfl
    rw [hn]
    by_cases hn' : needsSched cfg.maxRecompute c1 = true
    · simp only [hn', if_true]
      have e1 : markInvoked (setInv l c1) = setInv (l ++ [c.iter]) (markInvoked c1) := by
        simp [markInvoked, setInv, h1]
      rw [e1, hs]
      rcases sched (markInvoked c1) with _ | e
      · simp only []
        unfold finish
        have e2 : markScheduled (setInv (l ++ [c.iter]) (markInvoked c1)) =
            setInv (l ++ [c.iter]) (markScheduled (markInvoked c1)) := rfl
        rw [e2, ha]
        rcases apply (markScheduled (markInvoked c1)) with _ | e <;> rfl
      · rfl
    · simp only [hn']
      unfold finish
      rw [ha]
      rcases apply c1 with _ | e <;> simp [setInv, advance]
  · simp

theorem run_setInv {sched apply : Core → Option Err} (hs : Blind sched) (ha : Blind apply) (n : Nat) (l : List Nat)
    (c : Core) : run cfg sched apply n (setInv l c) =
      (setInv (l ++ (heads guard (body cfg sched apply) n c).flatMap (bodyDelta cfg)) (run cfg sched apply n c).1,
        (run cfg sched apply n c).2) := by
  rw [run_eq, run_eq]
  exact loopE_log_set (σ := setInv) (fun _ _ => rfl) (fun l a _ => body_setInv hs ha l a) n c l

theorem run_invoked {sched apply : Core → Option Err} (hs : Blind sched) (ha : Blind apply) (n : Nat) (c : Core) :
    (run cfg sched apply n c).1.invoked =
      c.invoked ++ (heads guard (body cfg sched apply) n c).flatMap (bodyDelta cfg) :=
  congrArg (fun r => r.1.invoked) (run_setInv hs ha n c.invoked c)

theorem le_of_mem_run_bodyDelta {sched apply : Core → Option Err} {n : Nat} {c : Core} {t : Nat}
    (ht : t ∈ (heads guard (body cfg sched apply) n c).flatMap (bodyDelta cfg)) : c.iter ≤ t := by
  obtain ⟨x, hx, hxt⟩ := List.mem_flatMap.1 ht
  rw [mem_bodyDelta hxt]
  exact (heads_inv (I := fun x => c.iter ≤ x.iter)
    (fun a a' h _ hb => by rw [(body_ok_next hb).1]; omega) n c (Nat.le_refl _) x hx).1

theorem run_mid {sched apply : Core → Option Err} {h e1 : Core} (hg : guard h = true)
    (he : eventsStage cfg h = (e1, none)) (hf : Fresh e1) (n : Nat) :
    run cfg sched apply (n + 1) e1 = run cfg sched apply (n + 1) h := by
  have hg1 : guard e1 = true := by
    have := eventsStage_guard (cfg := cfg) hg (by rw [he])
    rw [he] at this
    exact this
  simp only [run, hg, hg1, if_true, body_congr_events ((eventsStage_nothing_due cfg e1 hf).trans he.symm)]

theorem body_failSched_ne {apply : Core → Option Err} {k : Nat} {c : Core} (h : c.iter ≠ k) :
    body cfg (failSchedAt k) apply c = body cfg noFail apply c :=
  body_congr_sched fun c1 hes _ => by
    simp [failSchedAt, noFail, markInvoked, (eventsStage_any_facts hes).1, h]

theorem body_failSched_eq {apply : Core → Option Err} {k : Nat} {c : Core} (h : c.iter = k) :
    (body cfg (failSchedAt k) apply c = body cfg noFail apply c ∧ bodyDelta cfg c = []) ∨
    ∃ c1, eventsStage cfg c = (c1, none) ∧ needsSched cfg.maxRecompute c1 = true ∧
      body cfg (failSchedAt k) apply c = (markInvoked c1, some .schedulerFailed) := by
  unfold bodyDelta
  rcases hes : eventsStage cfg c with ⟨c1, _ | err⟩
  · by_cases hn : needsSched cfg.maxRecompute c1 = true
    · have hf : failSchedAt k (markInvoked c1) = some .schedulerFailed := by
        simp [failSchedAt, markInvoked, (eventsStage_any_facts hes).1, h]
      exact .inr ⟨c1, rfl, hn, (Pass.schedRaise hes hn hf).eq⟩
    · exact .inl ⟨body_congr_sched fun c1' hes' hn' => absurd ((Prod.mk.inj (hes.symm.trans hes')).1 ▸ hn') hn,
        by simp [hn]⟩
  · exact .inl ⟨body_congr_sched fun c1' hes' _ => (nomatch hes.symm.trans hes'), rfl⟩

theorem body_noOverdue {sched apply : Core → Option Err} {c c' : Core} (hI : NoOverdue cfg c)
    (hb : body cfg sched apply c = (c', none)) : NoOverdue cfg c' := by
  obtain ⟨h1, h2⟩ := body_ok_next hb
  intro e he hk
  rw [h2] at he
  have := eventsStage_noOverdue hI e he hk
  rw [h1]
  exact this

theorem not_mem_bodyDelta_of_same {k : Nat} {c : Core}
    (h : body cfg (failSchedAt k) noFail c = body cfg noFail noFail c) : k ∉ bodyDelta cfg c := by
  by_cases hk : c.iter = k
  · rcases body_failSched_eq (cfg := cfg) (apply := noFail) hk with ⟨_, hd⟩ | ⟨c1, he, hn, hb⟩
    · rw [hd]; simp
    · -- a schedule is needed, so the failure fires while the plain body goes on
      have : body cfg noFail noFail c = (advance (markScheduled (markInvoked c1)), none) :=
        (Pass.done he (.inr ⟨hn, rfl, rfl⟩) rfl).eq
      rw [hb, this] at h
      exact absurd (congrArg Prod.snd h) (by simp)
  · exact fun hm => hk (mem_bodyDelta hm).symm

/-- from the constructor's state, and in acnportal's terms: `C05.resume_invoked_record` -/
theorem resume_invoked (cfg : Cfg) (k : Nat) (n : Nat) {c : Core} (hI : NoOverdue cfg c) (hk : c.iter ≤ k) :
    let r1 := run cfg (failSchedAt k) noFail n c
    let r := run cfg noFail noFail n c
    (r1 = r ∧ ∃ δ, r.1.invoked = c.invoked ++ δ ∧ k ∉ δ) ∨
    (r1.2 = some .schedulerFailed ∧ r1.1.iter = k ∧ Fresh r1.1 ∧
      ∃ pre post, r1.1.invoked = pre ++ [k] ∧ r.1.invoked = pre ++ [k] ++ post ∧ (∀ t ∈ post, k < t) ∧
        run cfg noFail noFail (n - (k - c.iter)) r1.1 = (setInv (pre ++ [k] ++ [k] ++ post) r.1, r.2)) := by
  intro r1 r
  have hf : FailsAt guard (body cfg noFail noFail) (body cfg (failSchedAt k) noFail) Core.iter k (NoOverdue cfg) := by
    refine ⟨fun x hx => body_failSched_ne hx, fun x hx hd => ?_,
      fun x x' hJ _ _ hb => ⟨body_noOverdue hJ hb, (body_ok_next hb).1⟩⟩
    rcases body_failSched_eq (cfg := cfg) (apply := noFail) hx with ⟨hb, _⟩ | ⟨c1, _, _, hb⟩
    · exact absurd hb hd
    · simp [hb]
  have hr1 : r1 = loopE guard (body cfg (failSchedAt k) noFail) n c := run_eq cfg _ _ n c
  have hr : r = loopE guard (body cfg noFail noFail) n c := run_eq cfg _ _ n c
  rcases loop_crash hf n c hI hk with hsame | ⟨h, m, _, hIh, hkh, hgh, hd, hm, h6, h7, _⟩
  · -- the failure never fires: no head of the plain run records a call in period `k`
    refine .inl ⟨by rw [hr1, hr, (loopE_congr_heads n c hsame).1], _, run_invoked blind_noFail blind_noFail n c,
      fun hmem => ?_⟩
    obtain ⟨x, hx, hxk⟩ := List.mem_flatMap.1 hmem
    exact not_mem_bodyDelta_of_same (hsame x hx) hxk
  · right
    rcases body_failSched_eq (cfg := cfg) (apply := noFail) hkh with ⟨hb, _⟩ | ⟨c1, he, hn, hb⟩
    · exact absurd hb hd
    · obtain ⟨hi1, hv1⟩ := eventsStage_any_facts he
      have hfr : Fresh c1 := by have := eventsStage_fresh (cfg := cfg) hIh; rwa [he] at this
      have e1 : r1 = (markInvoked c1, some .schedulerFailed) := by rw [hr1, h6, hb]
      have e2 : r = run cfg noFail noFail (m + 1) h := by rw [hr, h7, ← run_eq]
      -- the plain run from `h`: its first period records `k`, the rest `post`
      have hbody : body cfg noFail noFail h = (advance (markScheduled (markInvoked c1)), none) :=
        (Pass.done he (.inr ⟨hn, rfl, rfl⟩) rfl).eq
      have d1 := run_invoked (cfg := cfg) blind_noFail blind_noFail m (advance (markScheduled (markInvoked c1)))
      have d2 := fun t => le_of_mem_run_bodyDelta (cfg := cfg) (sched := noFail) (apply := noFail) (n := m)
        (c := advance (markScheduled (markInvoked c1))) (t := t)
      generalize (heads guard (body cfg noFail noFail) m (advance (markScheduled (markInvoked c1)))).flatMap
        (bodyDelta cfg) = post at d1 d2
      have e3 : r.1.invoked = h.invoked ++ [k] ++ post := by
        rw [e2]; simp only [run, hgh, if_true, hbody]
        rw [d1]; simp [advance, markScheduled, markInvoked, hv1, hi1, hkh]
      -- the second run re-enters period `k` from the mid-period state `c1`, with one more entry in the record
      have f1 := run_invoked (cfg := cfg) blind_noFail blind_noFail (m + 1) c1
      have f3 := fun l => run_setInv (cfg := cfg) blind_noFail blind_noFail (m + 1) l c1
      generalize (heads guard (body cfg noFail noFail) (m + 1) c1).flatMap (bodyDelta cfg) = δ' at f1 f3
      rw [run_mid hgh he hfr, ← e2] at f1 f3
      have hδ' : δ' = [k] ++ post := by
        rw [e3, hv1, List.append_assoc] at f1
        exact (List.append_cancel_left f1).symm
      have hmk : markInvoked c1 = setInv (h.invoked ++ [k]) c1 := by simp [markInvoked, setInv, hv1, hi1, hkh]
      refine ⟨by rw [e1], by rw [e1]; exact hi1.trans hkh, by rw [e1]; exact hfr, h.invoked, post,
        by rw [e1]; simp [markInvoked, hv1, hi1, hkh], e3, fun t ht => ?_, ?_⟩
      · have := d2 t ht
        simp only [advance, markScheduled, markInvoked] at this
        omega
      · rw [e1, ← hm]
        show run cfg noFail noFail (m + 1) (markInvoked c1) = _
        rw [hmk, f3, hδ']
        simp [List.append_assoc]

/-- the event-core content of one pass of `Simulator.step()` (`Sim.stepPass_core`): the schedule handed in is written
    for the current period (`markScheduled`), the period is simulated (`advance`), the events of the NEXT period are
    applied -/
def supplyPass (cfg : Cfg) (c : Core) : Core × Option Err := eventsStage cfg (advance (markScheduled c))

theorem noOverdue_after_supply {c : Core} (hI : NoOverdue cfg c) (hf : Fresh c) :
    NoOverdue cfg (advance (markScheduled c)) := by
  intro e he hk
  have h1 := hf e he
  have h2 := (hI e he hk).2
  refine ⟨?_, h2⟩
  simp only [advance, markScheduled]
  push_cast
  omega

/-- the loop head `H` the run is compared with satisfies `Head` (`Head.of_invoked`), so the trigger theorems
    (`C05.invoked_iff`, …) decide `δ`; in acnportal's terms: `C05.step_then_run_invoked` -/
theorem run_after_supply {sched apply : Core → Option Err} (hs : Blind sched) (ha : Blind apply) {c c' : Core}
    (hI : NoOverdue cfg (advance (markScheduled c))) (hp : guard (advance (markScheduled c)) = true)
    (hpass : supplyPass cfg c = (c', none)) (sup : List Nat) (n : Nat) :
    ∃ δ, (run cfg sched apply (n + 1) (setInv (sup ++ [c.iter]) (advance (markScheduled c)))).1.invoked = (sup ++ [c.iter]) ++ δ ∧
      (∀ t ∈ δ, c.iter + 1 ≤ t) ∧
      run cfg sched apply (n + 1) c' =
        (setInv (c.invoked ++ δ) (run cfg sched apply (n + 1) (setInv (sup ++ [c.iter]) (advance (markScheduled c)))).1,
         (run cfg sched apply (n + 1) (setInv (sup ++ [c.iter]) (advance (markScheduled c)))).2) := by
  unfold supplyPass at hpass
  have hf : Fresh c' := by
    have := eventsStage_fresh (cfg := cfg) hI
    rw [hpass] at this
    exact this
  have hmid := run_mid (sched := sched) (apply := apply) hp hpass hf n
  have d3 := fun l => run_setInv (cfg := cfg) hs ha (n + 1) l (advance (markScheduled c))
  refine ⟨(heads guard (body cfg sched apply) (n + 1) (advance (markScheduled c))).flatMap (bodyDelta cfg), ?_,
    fun t ht => ?_, ?_⟩
  · rw [d3]; rfl
  · have := le_of_mem_run_bodyDelta ht
    simpa [advance, markScheduled] using this
  · rw [hmid, d3 (sup ++ [c.iter])]
    have hself : advance (markScheduled c) = setInv c.invoked (advance (markScheduled c)) := rfl
    conv_lhs => rw [hself]
    rw [d3 c.invoked]
    rfl

end
end Acn.EventCore
