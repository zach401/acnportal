/-
  T1c (DESIGN §17), group Sorted (properties C07, C08) — `Interface._convert_to_amp_periods`
  (acnportal/acnsim/interface.py), the key functions `least_laxity_first.laxity` and
  `largest_remaining_processing_time.remaining_processing_time`, and the key and direction of the five
  `sorted(evs, key=…, reverse=…)` calls (acnportal/algorithms/sorted_algorithms.py), as translated into
  `AcnModel/Gen/CodeSorted.lean`, equal `Sorted.rap`, `Sorted.laxity`, `Sorted.processingTime` and the table
  `modelSortTable` that `Sorted.sortLt` implements, for every input and at every carrier `K`.

  Not translated (recorded in the trusted base): Python's `ZeroDivisionError` on float division (a zero voltage,
  period or maximum pilot): neither the model nor the translation reports it, both compute with the carrier's `/`.
  NaN/inf comparison corner cases are IEEE matters.
-/
import AcnModel.Gen.CodeSorted
import AcnModel.Sorted

set_option linter.unusedSectionVars false

namespace Acn.CodeTie
open Acn Acn.Battery Acn.Evse

section
variable {K : Type} [Add K] [Sub K] [Mul K] [Div K] [Neg K] [LT K] [LE K]
  [DecidableLT K] [DecidableLE K] [OfNat K 0] [OfNat K 1] [NatCast K] [HasExp K]

/-- `Interface._convert_to_amp_periods` / `remaining_amp_periods` is `Sorted.rap`. -/
theorem amp_periods_tie (infra : Sorted.Infra K) (period : K) (s : Sorted.Session K) :
    Gen.Code.amp_periods (Sorted.remainingDemand s) (infra.volt.getD s.idx 0) period
      = Sorted.rap infra period s := rfl

/-- the inner key function of `least_laxity_first` is `Sorted.laxity`. -/
theorem laxity_key_tie [IntCast K] (infra : Sorted.Infra K) (period : K) (time : Int) (s : Sorted.Session K) :
    Gen.Code.laxity_key s.estDeparture time (Sorted.rap infra period s) (infra.maxPilot.getD s.idx 0)
      = Sorted.laxity infra period time s := rfl

/-- the inner key function of `largest_remaining_processing_time` is `Sorted.processingTime`. -/
theorem rpt_key_tie [IntCast K] (infra : Sorted.Infra K) (period : K) (s : Sorted.Session K) :
    Gen.Code.rpt_key (Sorted.rap infra period s) (infra.maxPilot.getD s.idx 0)
      = Sorted.processingTime infra period s := rfl

/-- What `Sorted.sortLt` implements for each `SortKind`, written as the source writes it:
    `sorted(evs, key=<key>, reverse=<reverse>)`.  `reverse=True` is the flipped comparison (Python keeps
    equal keys in their original order in both directions). -/
def modelSortTable : List (String × String × Bool) :=
  [("first_come_first_served", "arrival", false), ("last_come_first_served", "arrival", true),
   ("earliest_deadline_first", "estimated_departure", false), ("least_laxity_first", "laxity", false),
   ("largest_remaining_processing_time", "remaining_processing_time", true)]

/-- the comparison `sortLt` uses per kind IS `key a < key b` (or flipped for `reverse=True`) for the
    keys of `modelSortTable` -/
theorem sortLt_is_table [IntCast K] (infra : Sorted.Infra K) (period : K) (time : Int) (a b : Sorted.Session K) :
    Sorted.sortLt .fcfs infra period time a b = decide (a.arrival < b.arrival) ∧
    Sorted.sortLt .lcfs infra period time a b = decide (b.arrival < a.arrival) ∧
    Sorted.sortLt .edf infra period time a b = decide (a.estDeparture < b.estDeparture) ∧
    Sorted.sortLt .llf infra period time a b
      = decide (Sorted.laxity infra period time a < Sorted.laxity infra period time b) ∧
    Sorted.sortLt .lrpt infra period time a b
      = decide (Sorted.processingTime infra period b < Sorted.processingTime infra period a) :=
  ⟨rfl, rfl, rfl, rfl, rfl⟩

end

/-- the five sort functions of the source sort by the keys and directions the model implements -/
theorem sort_table_tie : Gen.Code.sort_table = modelSortTable := by decide

/-- every target of this group was translated in this run -/
theorem all_translated_sorted : Gen.Code.translatedSorted = ["amp_periods", "laxity_key", "rpt_key", "sort_table"] := rfl

end Acn.CodeTie
