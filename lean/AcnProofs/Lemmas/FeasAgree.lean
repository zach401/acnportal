/-
  Helper lemmas for C06.  `ChargingNetwork.is_feasible`, the algorithm-side check on the infrastructure view and
  `Interface.is_feasible` on the densified mapping compute the same Boolean, in both modes, once the network arrays
  have the shape `Net.WF` that register / add / remove / update maintain as long as no station id is registered twice
  (`Network.toFeas_wf`, `Lemmas/NetworkFeas`; `C12.reregistration_breaks_wf`); on unit phasors the linear check implies the
  phase-aware one.  At the end: under numpy's row shape `Net.RowsWF`, `from_json(to_json())` gives the network back.
-/
import AcnProofs.Lemmas.FeasSums
import AcnProofs.Lemmas.Assoc
import AcnModel.FeasRestore

namespace Acn.Feas
open Acn

set_option linter.unusedSectionVars false

variable {K : Type} [Field K] [LinearOrder K] [IsStrictOrderedRing K]

theorem algFeasible_eq_rows (M : List (List K)) (lims c s : List K) (vt rt : K) (x : List K) :
    algFeasible M lims c s vt rt x
      = (List.zip M lims).all fun p => rowOk p.1 p.2 vt rt c s x := by
  unfold algFeasible
  congr 1
  funext p
  obtain ⟨row, lim⟩ := p
  simp only [rowOk, alg_dot_eq, aggRe_eq, aggIm_eq]

theorem netFeasible_iff (M : List (List K)) (lims c s : List K) (vt rt : K) (S : List (List K))
    (hne : 0 < lims.length) (hlen : M.length = lims.length) :
    netFeasible M lims c s vt rt S = true ↔
      ∀ t, t < periods S → ∀ i, i < lims.length →
        rowOk (M.getD i []) (lims.getD i 0) vt rt c s (col S t) = true := by
  rw [netFeasible, if_neg (by simpa [List.isEmpty_iff] using List.ne_nil_of_length_pos hne)]
  simp only [List.all_eq_true, List.mem_range]
  refine forall₂_congr fun t _ => ⟨fun h i hi => ?_, fun h p hp => ?_⟩
  · rw [List.getD_eq_getElem _ _ (hlen ▸ hi), List.getD_eq_getElem _ _ hi]
    exact h (M[i], lims[i]) (List.mem_iff_getElem.mpr ⟨i, by simp [hlen, hi], by simp⟩)
  · obtain ⟨i, hi, rfl⟩ := List.mem_iff_getElem.mp hp
    have hi' : i < lims.length := by simp at hi; omega
    have := h i hi'
    rw [List.getD_eq_getElem _ _ (hlen ▸ hi'), List.getD_eq_getElem _ _ hi'] at this
    simpa using this

theorem all_range_true (n : Nat) : ((List.range n).all fun _ => true) = true := by simp

theorem net_eq_alg2 (M : List (List K)) (lims c s : List K) (vt rt : K) (S : List (List K)) :
    netFeasible M lims c s vt rt S = algFeasible2 M lims c s vt rt S := by
  unfold netFeasible algFeasible2
  by_cases h : lims = []
  · subst h; simp [algFeasible]
  · have : lims.isEmpty = false := by simpa using h
    rw [this]
    simp only [Bool.false_eq_true, if_false]
    congr 1
    funext t
    rw [algFeasible_eq_rows]

/-- the 1-D call of the algorithm side is the network check of the one-column matrix -/
theorem alg1_eq_net (M : List (List K)) (lims c s : List K) (vt rt : K) (x : List K)
    (hx : x ≠ []) :
    algFeasible M lims c s vt rt x = netFeasible M lims c s vt rt (x.map fun v => [v]) := by
  rw [net_eq_alg2, algFeasible2, periods_singletons hx]
  simp [List.range_succ, col_singletons]

theorem algLinear_eq_rows (M : List (List K)) (lims : List K) (vt rt : K) (x : List K) :
    algLinear M lims vt rt x
      = (List.zip M lims).all fun p =>
          decide (linAggFixed p.1 x ≤ p.2 + tolOf vt rt p.2) := by
  rfl

theorem netLinear_eq_alg2 (M : List (List K)) (lims : List K) (vt rt : K) (S : List (List K)) :
    netLinear M lims vt rt S = algLinear2 M lims vt rt S := by
  unfold netLinear netFeasibleLinear algLinear2
  by_cases h : lims = []
  · subst h; simp [algLinear]
  · have : lims.isEmpty = false := by simpa using h
    rw [this]
    simp only [Bool.false_eq_true, if_false]
    rfl

theorem ifaceE_ok (stations : List String) (M : List (List K)) (lims c s : List K) (vt rt : K)
    (linear : Bool) (sched : List (String × List K)) (len : Nat) (hne : sched ≠ [])
    (hlen : ∀ p ∈ sched, p.2.length = len) :
    ifaceFeasibleE stations M lims c s vt rt linear sched
      = .ok (if linear then netLinear M lims vt rt (densify stations sched len)
             else netFeasible M lims c s vt rt (densify stations sched len)) := by
  cases sched with
  | nil => exact absurd rfl hne
  | cons p rest =>
    obtain ⟨k, r⟩ := p
    have hr : r.length = len := hlen (k, r) (by simp)
    subst hr
    have hall : rest.all (fun p => p.2.length == r.length) = true := by
      rw [List.all_eq_true]
      intro q hq
      simp [hlen q (by simp [hq])]
    simp only [ifaceFeasibleE, hall, if_true]

theorem ifaceE_err (stations : List String) (M : List (List K)) (lims c s : List K) (vt rt : K)
    (linear : Bool) (k : String) (r : List K) (rest : List (String × List K))
    (h : ∃ q ∈ rest, q.2.length ≠ r.length) :
    ifaceFeasibleE stations M lims c s vt rt linear ((k, r) :: rest) = .error .invalidSchedule := by
  have hall : rest.all (fun p => p.2.length == r.length) = false := by
    rw [List.all_eq_false]
    obtain ⟨q, hq, hne⟩ := h
    exact ⟨q, hq, by simpa using hne⟩
  simp [ifaceFeasibleE, hall]

theorem iface_total_eq (stations : List String) (M : List (List K)) (lims c s : List K)
    (vt rt : K) (sched : List (String × List K)) (len : Nat) (hne : sched ≠ [])
    (hlen : ∀ p ∈ sched, p.2.length = len) :
    ifaceFeasible stations M lims c s vt rt sched
      = netFeasible M lims c s vt rt (densify stations sched len) ∧
    ifaceLinear stations M lims vt rt sched
      = netLinear M lims vt rt (densify stations sched len) := by
  cases sched with
  | nil => exact absurd rfl hne
  | cons p rest =>
    obtain ⟨k, r⟩ := p
    have hr : r.length = len := hlen (k, r) (by simp)
    simp [ifaceFeasible, ifaceLinear, hr]

theorem densify_length (stations : List String) (sched : List (String × List K)) (len : Nat) :
    (densify stations sched len).length = stations.length := by simp [densify]

theorem densify_row_length (stations : List String) (sched : List (String × List K)) (len : Nat)
    (hlen : ∀ p ∈ sched, p.2.length = len) :
    ∀ row ∈ densify stations sched len, row.length = len := by
  intro row hrow
  simp only [densify, List.mem_map] at hrow
  obtain ⟨st, _, rfl⟩ := hrow
  cases h : sched.lookup st with
  | none => simp
  | some r => simpa using hlen (st, r) (Assoc.mem_of_lookup h)

theorem densify_nonneg (stations : List String) (sched : List (String × List K)) (len : Nat)
    (h : ∀ p ∈ sched, ∀ v ∈ p.2, 0 ≤ v) :
    ∀ row ∈ densify stations sched len, ∀ v ∈ row, 0 ≤ v := by
  intro row hrow v hv
  simp only [densify, List.mem_map] at hrow
  obtain ⟨st, _, rfl⟩ := hrow
  cases hl : sched.lookup st with
  | none => simp only [hl, List.mem_replicate] at hv; rw [hv.2]
  | some r => simp only [hl] at hv; exact h (st, r) (Assoc.mem_of_lookup hl) v hv

/-- the shape invariant that `register_evse` (of a fresh id) / `add_constraint` / `remove_constraint` maintain
    (charging_network.py:177-301): one phasor and one voltage per station, one limit and one name
    per constraint row, a matrix as wide as the station list (that each row has that width is `Net.RowsWF`,
    at the end; the agreement theorems read rows through `getD` and do not need it); no matrix ⇒ no limits. -/
structure Net.WF (net : Net K) : Prop where
  hc : net.c.length = net.stations.length
  hs : net.s.length = net.stations.length
  hv : net.voltages.length = net.stations.length
  hids : net.cids.length = net.lims.length
  hnone : net.matrix = none → net.lims = []
  hsome : ∀ M, net.matrix = some M → M.cols = net.stations.length ∧ M.rows.length = net.lims.length

theorem Net.WF.mat_cols {net : Net K} (h : net.WF) : net.mat.cols = net.stations.length := by
  unfold Net.mat
  cases hm : net.matrix with
  | none => rfl
  | some M => exact (h.hsome M hm).1

theorem Net.WF.mat_rows {net : Net K} (h : net.WF) : net.mat.rows.length = net.lims.length := by
  unfold Net.mat
  cases hm : net.matrix with
  | none => simp [h.hnone hm]
  | some M => exact (h.hsome M hm).2

theorem Net.infra_ok {net : Net K} (h : net.WF) : net.infraInfo = .ok net.view := by
  have hv : net.view.validate = .ok () := by
    unfold Infra.validate
    rw [if_pos]
    simp only [Net.view]
    exact ⟨h.mat_cols, h.hc, h.hs, h.hv, h.mat_rows, h.hids⟩
  simp [Net.infraInfo, hv]

theorem Net.isFeasible_eq_view (net : Net K) (h : net.WF) (S : List (List K)) (linear : Bool)
    (vt? rt? : Option K) :
    net.isFeasible S linear vt? rt?
      = .ok (net.view.feasible2 S linear (vt?.getD net.vt) (rt?.getD net.rt)) := by
  unfold Net.isFeasible Infra.feasible2
  by_cases hl : net.lims = []
  · have hz : ∀ M : List (List K), List.zip M net.lims = [] := by intro M; rw [hl]; simp
    simp [hl, Net.view, algLinear2, algLinear, algFeasible2, algFeasible]
  · have hne : net.lims.isEmpty = false := by simpa using hl
    cases hm : net.matrix with
    | none => exact absurd (h.hnone hm) hl
    | some M =>
      simp only [hne, Bool.false_eq_true, if_false, Net.view, Net.mat, hm]
      cases linear
      · simp [net_eq_alg2]
      · simp [netLinear_eq_alg2]

/-- row by row through `rowOk_of_linear`: the triangle inequality for phasor sums -/
theorem netFeasible_of_linear (M : List (List K)) (lims c s : List K) (vt rt : K)
    (S : List (List K)) (hu : UnitPhasors c s) (hS : ∀ row ∈ S, ∀ v ∈ row, 0 ≤ v)
    (h : netLinear M lims vt rt S = true) : netFeasible M lims c s vt rt S = true := by
  unfold netLinear netFeasibleLinear at h
  unfold netFeasible
  by_cases he : lims.isEmpty = true
  · simp [he]
  · simp only [he, if_false, Bool.false_eq_true, List.all_eq_true, List.mem_range,
      decide_eq_true_eq] at h ⊢
    intro t ht p hp
    exact rowOk_of_linear p.1 p.2 vt rt c s (col S t) hu (col_mem_nonneg S hS t) (h t ht p hp)

theorem Net.isFeasible_of_linear (net : Net K) (hu : UnitPhasors net.c net.s) (S : List (List K))
    (hS : ∀ row ∈ S, ∀ v ∈ row, 0 ≤ v) (vt? rt? : Option K)
    (h : net.isFeasible S true vt? rt? = .ok true) : net.isFeasible S false vt? rt? = .ok true := by
  unfold Net.isFeasible at h ⊢
  by_cases he : net.lims.isEmpty = true
  · simp [he]
  · simp only [he, Bool.false_eq_true, if_false] at h ⊢
    cases hm : net.matrix with
    | none => rw [hm] at h; cases h
    | some M =>
      rw [hm] at h
      simp only [if_true, Except.ok.injEq] at h
      simp only [Except.ok.injEq]
      exact netFeasible_of_linear _ _ _ _ _ _ _ hu hS h

theorem Net.iface_eq_net (net : Net K) (sched : List (String × List K)) (len : Nat)
    (hne : sched ≠ []) (hlen : ∀ p ∈ sched, p.2.length = len) (linear : Bool)
    (vt? rt? : Option K) :
    net.ifaceIsFeasible sched linear vt? rt?
      = net.isFeasible (densify net.stations sched len) linear vt? rt? := by
  cases sched with
  | nil => exact absurd rfl hne
  | cons p rest =>
    obtain ⟨k, r⟩ := p
    have hr : r.length = len := hlen (k, r) (by simp)
    subst hr
    have hall : rest.all (fun p => p.2.length == r.length) = true := by
      rw [List.all_eq_true]
      intro q hq
      simp [hlen q (by simp [hq])]
    simp only [Net.ifaceIsFeasible, hall, if_true]

end Acn.Feas

/-! ### save / restore (`Net.restore` is `ChargingNetwork.from_json(net.to_json())`) -/
namespace Acn.Feas
open Acn

variable {K : Type}

/-- numpy's part of the shape invariant: `constraint_matrix` is a 2-D array, so every row is as
    long as the array is wide (`add_constraint` appends rows built over `station_ids`,
    charging_network.py:219-283). -/
def Net.RowsWF (net : Net K) : Prop :=
  ∀ M, net.matrix = some M → M.cols = net.stations.length ∧ ∀ r ∈ M.rows, r.length = M.cols

theorem Net.restore_eq (net : Net K) (h : net.RowsWF) : net.restore = net := by
  obtain ⟨stations, c, s, voltages, matrix, lims, cids, vt, rt⟩ := net
  cases matrix with
  | none => rfl
  | some M =>
    obtain ⟨cols, rows⟩ := M
    obtain ⟨hc, hr⟩ := h ⟨cols, rows⟩ rfl
    cases rows with
    | nil =>
      simp only at hc
      simp [Net.restore, Net.toDoc, NetDoc.toNet, hc]
    | cons r rs =>
      have : r.length = cols := hr r (by simp)
      simp [Net.restore, Net.toDoc, NetDoc.toNet, this]

theorem Net.restoreN_eq (net : Net K) (h : net.RowsWF) (n : Nat) : net.restoreN n = net := by
  induction n with
  | zero => rfl
  | succ n ih => rw [Net.restoreN, Net.restore_eq net h, ih]

end Acn.Feas
