/-
  C19: a run depends on the stream of random choices only through the draws actually made.
  `draws` counts the calls of random.choice; it never decreases, only `plugin` reads the stream,
  and only at index `draws`.
-/
import AcnProofs.Lemmas.StochasticFlags
import AcnProofs.Lemmas.Basic

namespace Acn.Stoch

theorem post_draws {s s1 : Net} {full : Sess → Bool} (hs : s.post full = .ok s1) :
    s1.draws = s.draws := by
  unfold Net.post at hs
  split at hs
  · exact foldlM_except_frame Net.draws _ (fun _ _ _ h => (earlyStep_frame h).2.1) _ s s1 hs
  · cases hs; rfl

theorem plugin_det {cs cs' : Nat → Nat} {s s1 : Net} {x : Sess} (hs : s.plugin cs x = .ok s1)
    (hk : ∀ k, s.draws ≤ k → k < s1.draws → cs k = cs' k) :
    s.draws ≤ s1.draws ∧ s.plugin cs' x = .ok s1 := by
  unfold Net.plugin at hs ⊢
  split at hs
  · rename_i hf
    cases hs
    simp [Net.modEv]
  · rename_i f fs hf
    have hd : s1.draws = s.draws + 1 := (attach_frame hs).2.1
    have hlt : s.draws < s1.draws := by omega
    simp only
    rw [← hk s.draws (le_refl _) hlt]
    exact ⟨by omega, hs⟩

theorem step_det {cs cs' : Nat → Nat} {s s1 : Net} {st : Step} (hs : s.step cs st = .ok s1)
    (hk : ∀ k, s.draws ≤ k → k < s1.draws → cs k = cs' k) :
    s.draws ≤ s1.draws ∧ s.step cs' st = .ok s1 := by
  cases st with
  | post full =>
    simp only [Net.step] at hs ⊢
    exact ⟨by rw [post_draws hs], hs⟩
  | ev e =>
    simp only [Net.step] at hs ⊢
    rcases processEvent_ok hs with ⟨hkind, rfl⟩ | ⟨hkind, s2, h2, rfl⟩ | ⟨hkind, s2, h2, rfl⟩
    · exact ⟨le_refl _, by simp only [Net.processEvent, hkind, pure, Except.pure]⟩
    · refine ⟨by simp [Net.modEv, (unplug_frame h2).2.1], ?_⟩
      simp only [Net.processEvent, hkind, h2, bind, Except.bind, pure, Except.pure]
    · obtain ⟨hle, h3⟩ := plugin_det h2 (cs' := cs') (by
        intro k h1 h2'; exact hk k h1 (by simpa [Net.modEv] using h2'))
      refine ⟨by simpa [Net.modEv] using hle, ?_⟩
      simp only [Net.processEvent, hkind, h3, bind, Except.bind, pure, Except.pure]

theorem run_draws_mono (cs : Nat → Nat) (steps : List Step) (s s' : Net) (h : s.run cs steps = .ok s') :
    s.draws ≤ s'.draws :=
  foldlM_except_rel (R := fun a b : Net => a.draws ≤ b.draws) _ (fun _ => le_refl _) (fun _ _ _ => le_trans)
    (fun _ _ _ h1 => (step_det h1 (cs' := cs) (fun _ _ _ => rfl)).1) steps s s' h

theorem run_det (cs cs' : Nat → Nat) : ∀ (steps : List Step) (s s' : Net),
    s.run cs steps = .ok s' → (∀ k, s.draws ≤ k → k < s'.draws → cs k = cs' k) →
    s.run cs' steps = .ok s' := by
  intro steps
  induction steps with
  | nil => intro s s' h _; cases h; rfl
  | cons st r ih =>
    intro s s' h hk
    obtain ⟨s1, h1, h⟩ := Net.run_cons.1 h
    have hmono : s1.draws ≤ s'.draws := run_draws_mono cs r s1 s' h
    obtain ⟨hle, h2⟩ := step_det h1 (cs' := cs') (fun k a b => hk k a (lt_of_lt_of_le b hmono))
    exact Net.run_cons.2 ⟨s1, h2, ih s1 s' h (fun k a b => hk k (le_trans hle a) b)⟩

end Acn.Stoch
