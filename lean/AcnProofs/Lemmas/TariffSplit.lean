/-
  Helper lemmas for C17: the loader's wrap-around split, its stable sort, and the walk through the
  complete (month, day) table behind `total_unambiguous_<file>`.
-/
import AcnModel.Tariff
import AcnProofs.Lemmas.InsertSort
import Mathlib.Tactic

namespace Acn.C17
open Acn.Tariff

variable {K : Type}

theorem mdLe_iff (a b : Nat × Nat) : mdLe a b = true ↔ a.1 < b.1 ∨ (a.1 = b.1 ∧ a.2 ≤ b.2) := by
  simp [mdLe]

theorem mdLt_iff (a b : Nat × Nat) : mdLt a b = true ↔ a.1 < b.1 ∨ (a.1 = b.1 ∧ a.2 < b.2) := by
  simp [mdLt]

theorem md_no_wrap_overlap (a b m : Nat × Nat) (hw : mdLt b a = true) (h1 : mdLe a m = true)
    (h2 : mdLe m b = true) : False := by
  rw [mdLt_iff] at hw
  rw [mdLe_iff] at h1 h2
  omega

theorem sortByStart_eq (l : List (Schedule K)) :
    sortByStart l = Sorted.sortBy (fun q s => !mdLe s.start q.start) l := by
  unfold sortByStart Sorted.sortBy
  congr; funext s l
  induction l with
  | nil => rfl
  | cons q qs ih =>
    simp only [insertByStart, Sorted.insertBy, ih]
    by_cases h : mdLe s.start q.start = true <;> simp [h]

theorem sortByStart_perm (l : List (Schedule K)) : (sortByStart l).Perm l :=
  sortByStart_eq l ▸ Sorted.sortBy_perm _ l

theorem countValid_perm {l₁ l₂ : List (Schedule K)} (h : l₁.Perm l₂) (md : Nat × Nat) (wd : Nat) :
    countValid l₁ md wd = countValid l₂ md wd := by
  unfold countValid validSchedules
  exact (h.filter _).length_eq

/-- the validity predicate of `_get_tariff_schedule` -/
def validP (md : Nat × Nat) (wd : Nat) (s : Schedule K) : Bool :=
  s.mask.getD wd false && mdLe s.start md && mdLe md s.stop

theorem countValid_eq_countP (l : List (Schedule K)) (md : Nat × Nat) (wd : Nat) :
    countValid l md wd = l.countP (validP md wd) := by
  unfold countValid validSchedules validP
  rw [List.countP_eq_length_filter]

theorem split_pointwise (s : Schedule K) (md : Nat × Nat) (wd : Nat)
    (h1 : mdLe (1, 1) md = true) (h2 : mdLe md (12, 31) = true) :
    (if validP md wd (if wrapped s then { s with stop := (12, 31) } else s) = true then 1 else 0) +
    (if (validP md wd { s with start := (1, 1) } && wrapped s) = true then 1 else 0) =
    (if (s.mask.getD wd false && inSeason s md) = true then 1 else 0) := by
  unfold validP inSeason
  by_cases hw : wrapped s = true
  · simp only [hw, if_true, h1, h2, Bool.and_true]
    have hno := md_no_wrap_overlap s.start s.stop md (by simpa [wrapped] using hw)
    cases hm : s.mask.getD wd false <;> cases ha : mdLe s.start md <;> cases hb : mdLe md s.stop <;>
      simp_all
  · have hw' : wrapped s = false := by simpa using hw
    simp [hw', and_assoc]

/-! ### the complete table, date by date

Whether a schedule is valid on a date depends on the date only through its comparison with the
schedule's start and end, so a date that compares with every start and end like the date before it
has the same valid schedules on every weekday and needs no count of its own: walking through the
366 dates, only the first date of each season is counted. -/

def sameSeasons (l : List (Schedule K)) (p q : Nat × Nat) : Bool :=
  l.all fun s => mdLe s.start p == mdLe s.start q && mdLe p s.stop == mdLe q s.stop

theorem countValid_of_sameSeasons {l : List (Schedule K)} {p q : Nat × Nat}
    (h : sameSeasons l p q = true) (wd : Nat) : countValid l q wd = countValid l p wd := by
  simp only [sameSeasons, List.all_eq_true, Bool.and_eq_true, beq_iff_eq] at h
  rw [countValid_eq_countP, countValid_eq_countP]
  refine List.countP_congr fun s hs => ?_
  simp only [validP, (h s hs).1, (h s hs).2]

/-- exactly one valid schedule on every weekday of every date of `ds`, where a date that compares
    like its predecessor `prev` is not counted again -/
def tableScan (l : List (Schedule K)) : Option (Nat × Nat) → List (Nat × Nat) → Bool
  | _, [] => true
  | prev, q :: ds =>
    (prev.any (sameSeasons l · q) || (List.range 7).all fun wd => countValid l q wd == 1) &&
      tableScan l (some q) ds

theorem table_of_scan (l : List (Schedule K)) (prev : Option (Nat × Nat)) (ds : List (Nat × Nat))
    (hprev : ∀ p ∈ prev, ∀ wd < 7, countValid l p wd = 1) (h : tableScan l prev ds = true) :
    ∀ md ∈ ds, ∀ wd < 7, countValid l md wd = 1 := by
  induction ds generalizing prev with
  | nil => intro md hmd; cases hmd
  | cons q ds ih =>
    simp only [tableScan, Bool.and_eq_true, Bool.or_eq_true, Option.any_eq_true, List.all_eq_true,
      List.mem_range, beq_iff_eq] at h
    have hq : ∀ wd < 7, countValid l q wd = 1 := by
      rcases h.1 with ⟨p, hp, hsame⟩ | hcount
      · intro wd hwd
        rw [countValid_of_sameSeasons hsame]
        exact hprev p hp wd hwd
      · exact hcount
    intro md hmd
    rcases List.mem_cons.mp hmd with rfl | hmd
    · exact hq
    · exact ih (some q) (fun p hp => by cases hp; exact hq) h.2 md hmd

end Acn.C17
