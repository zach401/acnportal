/-
  `dump` of an acyclic heap = the reachable sub-store, each object once (`dump_spec`);
  `load (dump st root) = dump st root`, the same objects under the same ids in the same order (`load_dump`).
-/
import AcnProofs.Lemmas.RegistryWalk

namespace Acn.Registry

/-- what `to_json` writes for the object `root` of an acyclic heap -/
structure DumpSpec (st : Store) (root : Id) (ctx : Store) : Prop where
  ok : CtxOK st ctx
  root_mem : root ∈ ctx.keys
  reach : ∀ j, j ∈ ctx.keys ↔ Reach st root j
  same : ∀ j, Reach st root j → ctx.get j = st.get j

theorem reach_mem_keys {st ctx : Store} (hc : CtxOK st ctx) {a b : Id} (ha : a ∈ ctx.keys) (h : Reach st a b) :
    b ∈ ctx.keys := by
  induction h with
  | refl _ => exact ha
  | @step i j k o hg hj _ ih =>
    obtain ⟨q, hq⟩ := exists_of_key ha
    have : st.get i = some q := hc.sub i q hq
    rw [hg] at this
    cases this
    exact ih (hc.closed i o hq j hj)

theorem ctx_get_eq {st ctx : Store} (hc : CtxOK st ctx) {j : Id} (hj : j ∈ ctx.keys) : ctx.get j = st.get j := by
  obtain ⟨q, hq⟩ := exists_of_key hj
  rw [get_of_mem_nodup hc.nodup hq, hc.sub j q hq]

theorem dump_spec {st : Store} {root : Id} (hac : Acyclic st) (hcl : Closed st root) :
    ∃ ctx, dump st root = .ok ctx ∧ DumpSpec st root ctx := by
  -- what is reachable has a key of the heap, so the heap's length bounds the fuel
  obtain ⟨ctx, h1, new, rfl, hc, hr, hre⟩ := visit_walked hac (st.length + 1) root [] st.keys (CtxOK.nil st)
    (fun j hj => key_of_get (Option.isSome_iff_exists.1 (hcl j hj)).choose_spec) (by simp [Store.keys]) hcl
  have hroot := hr root List.mem_cons_self
  refine ⟨_, h1, hc, hroot, fun j => ⟨fun hj => ?_, fun h => reach_mem_keys hc hroot h⟩,
    fun j hj => ctx_get_eq hc (reach_mem_keys hc hroot hj)⟩
  obtain ⟨x, hx, hxj⟩ := hre j (by simpa using hj)
  exact List.mem_singleton.1 hx ▸ hxj

theorem reach_ctx_mem {st ctx : Store} (hc : CtxOK st ctx) {a b : Id} (ha : a ∈ ctx.keys) (h : Reach ctx a b) :
    b ∈ ctx.keys := by
  induction h with
  | refl _ => exact ha
  | step hg hj _ ih => exact ih (hc.closed _ _ (mem_of_get hg) _ hj)

theorem length_le_of_ctxOK {st ctx : Store} (hc : CtxOK st ctx) : ctx.length ≤ st.length := by
  have hsub : ctx.keys ⊆ st.keys := by
    intro j hj
    obtain ⟨q, hq⟩ := exists_of_key hj
    exact key_of_get (hc.sub j q hq)
  have := (List.subperm_of_subset hc.nodup hsub).length_le
  simpa [Store.keys] using this

theorem load_dump {st : Store} {root : Id} (hac : Acyclic st) {ctx : Store}
    (hd : dump st root = .ok ctx) (hs : DumpSpec st root ctx) : load ctx root = .ok ctx := by
  have hc := hs.ok
  have hcl : Closed st root := fun j hj => by
    obtain ⟨q, hq⟩ := exists_of_key ((hs.reach j).2 hj)
    rw [hc.sub j q hq]; rfl
  -- walk the HEAP with the fuel of `load`: what is below `root` is in the context, so its length bounds the fuel
  obtain ⟨c', h1, -⟩ := visit_walked hac (ctx.length + 1) root [] ctx.keys (CtxOK.nil st)
    (fun j hj => (hs.reach j).2 hj) (by simp [Store.keys]) hcl
  have h3 := visit_mono st _ (st.length + 1) (by have := length_le_of_ctxOK hc; omega) root [] c' h1
  obtain rfl : c' = ctx := Except.ok.inj (h3.symm.trans hd)
  -- on what is below `root` the context is the heap
  unfold load
  rw [visit_congr c' st _ root [] fun j hj => ctx_get_eq hc (reach_ctx_mem hc hs.root_mem hj)]
  exact h1

theorem addr_eq_iff {loaded : Store} {a b : Id} (ha : a ∈ loaded.keys) (hb : b ∈ loaded.keys) :
    addr loaded a = addr loaded b ↔ a = b := by
  unfold addr
  have la : loaded.keys.idxOf a < loaded.length := by
    have := List.idxOf_lt_length_of_mem ha; simpa [Store.keys] using this
  have lb : loaded.keys.idxOf b < loaded.length := by
    have := List.idxOf_lt_length_of_mem hb; simpa [Store.keys] using this
  simp only [la, lb, if_true, Option.some.injEq]
  exact List.idxOf_inj ha

end Acn.Registry
