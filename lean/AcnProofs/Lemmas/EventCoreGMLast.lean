/-
  Where a run of `runGM` ends: every state a run ends in — normally or by a raise — is the start
  state or the result of ONE loop body executed from a loop head that an error-free shorter run
  reaches (`runGM_last`); and what one body does, stage by stage, once the events went through (`bodyGM_ok_cases`,
  `bodyGM_err_cases`: `PassGM` read from the state after the events).
-/
import AcnProofs.Lemmas.EventCoreGM

namespace Acn.EventCore
open Acn Acn.Steps

section
variable {σ : Type} {cfg : Cfg} {ops : QOps} {good : List Event → Prop} {net : NetOps σ}
  {post : Nat → σ → σ × Option Err} {P : List Event → σ → Prop}

theorem bodyGM_ok_cases {sched apply : CoreG σ → σ × Option Err} {g g1 g' : CoreG σ}
    (h1 : eventsStageG ops net cfg g = (g1, none))
    (h : bodyGM ops net post cfg sched apply g = (g', none)) :
    ∃ gB n1 n2, SchedOut cfg sched g1 gB ∧ apply gB = (n1, none) ∧
      post gB.core.iter n1 = (n2, none) ∧ g' = { core := advance gB.core, net := n2 } := by
  cases PassGM.of_eq h with
  | done hes hso ha hp =>
    cases h1.symm.trans hes
    exact ⟨_, _, _, hso, ha, hp, rfl⟩

theorem bodyGM_err_cases {sched apply : CoreG σ → σ × Option Err} {g g1 g' : CoreG σ} {e : Err}
    (h1 : eventsStageG ops net cfg g = (g1, none))
    (h : bodyGM ops net post cfg sched apply g = (g', some e)) :
    (needsSched cfg.maxRecompute g1.core = true ∧
      ∃ n1, sched { g1 with core := markInvoked g1.core } = (n1, some e) ∧
        g' = { core := markInvoked g1.core, net := n1 }) ∨
    (∃ gB n1, SchedOut cfg sched g1 gB ∧ apply gB = (n1, some e) ∧ g' = { gB with net := n1 }) ∨
    (∃ gB n1 n2, SchedOut cfg sched g1 gB ∧ apply gB = (n1, none) ∧
      post gB.core.iter n1 = (n2, some e) ∧ g' = { gB with net := n2 }) := by
  generalize ho : some e = o at h
  cases PassGM.of_eq h with
  | eventRaise hes => cases h1.symm.trans hes
  | schedRaise hes hn hsc =>
    cases h1.symm.trans hes
    cases ho
    exact .inl ⟨hn, _, hsc, rfl⟩
  | applyRaise hes hso ha =>
    cases h1.symm.trans hes
    cases ho
    exact .inr (.inl ⟨_, _, hso, ha, rfl⟩)
  | postRaise hes hso ha hp =>
    cases h1.symm.trans hes
    cases ho
    exact .inr (.inr ⟨_, _, _, hso, ha, hp, rfl⟩)
  | done => cases ho

theorem runGM_last (hq : ValidQ cfg) (hops : ops.Ok good) (hnet : NoFailH net post cfg P)
    {sched apply : CoreG σ → σ × Option Err} (hs : KeepsP P sched) (ha : KeepsP P apply) :
    ∀ (n t : Nat) (g : CoreG σ), InvG cfg t g.core → good g.core.pending → P g.core.eventHist g.net →
    t ≤ horizon cfg →
    ∀ g' r, runGM ops net post cfg sched apply n g = (g', r) →
      (g' = g ∧ r = none) ∨
      ∃ k gm t', k < n ∧ runGM ops net post cfg sched apply k g = (gm, none) ∧
        InvG cfg t' gm.core ∧ good gm.core.pending ∧ P gm.core.eventHist gm.net ∧
        guard gm.core = true ∧ bodyGM ops net post cfg sched apply gm = (g', r) := by
  intro n t g hI hG hN ht g' r h
  rw [runGM_eq] at h
  rcases loopE_last n g g' r h with ⟨h0, hr0, _⟩ | ⟨k, gm, hk, hr, hgm, hbm, _⟩
  · exact Or.inl ⟨h0, hr0⟩
  · rw [← runGM_eq] at hr
    obtain ⟨hIm, hGm, hNm, _⟩ := (runGM_counted hq hops hnet.toNetInv hs ha
      (KeepsJ.trivial ops net post cfg sched apply P) k t g hI hG hN True.intro ht).ok_of hr
    exact Or.inr ⟨k, gm, _, hk, hr, hIm, hGm, hNm, hgm, hbm⟩

end
end Acn.EventCore
