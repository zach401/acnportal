/-
  One call of the sorted algorithms on ONE system depends on the listing order of its sessions only through
  ties: of the sort key when interruptible, of `remaining_time` with `uninterrupted_charging` (the key of the
  sort inside `apply_minimum_charging_rate`; the main sort, stable, then starts from the same list).
  `network.active_evs` is in station order, so this is what a call needs when the stations are registered in
  another order.  Also here: `resolve` in closed form, and `UncontrolledCharging`, whose dict does not depend
  on the listing when no two sessions share a station.
  The tie hypotheses: on one call `TieOKEst` (here, any estimator) and `TieOKE` (EquivSortedRampdown: the rampdown
  estimator; `tieOKEst_of_tieOKE` is the one bridge); on a view `TieFree`, `TieFreeRT`, `TieOK`
  (EquivSimSortedStations) and `TieOKRd` (EquivSimSortedRampdown).
-/
import AcnProofs.Lemmas.EquivSimDict
import AcnProofs.Lemmas.SortedLink
import AcnProofs.Lemmas.SortedOpt

set_option linter.unusedSectionVars false

namespace Acn.Sorted
open Acn.SimEquiv

variable {K : Type} [Field K] [LinearOrder K] [IsStrictOrderedRing K]

/-- what `resolve` does to one session whose station is known -/
def resF (infra : Infra K) (s : Session K) : Session K :=
  { s with idx := (infra.ids.findIdx? (· == s.station)).getD 0 }

def known (infra : Infra K) (s : Session K) : Bool := (infra.ids.findIdx? (· == s.station)).isSome

theorem resolve_cons (infra : Infra K) (a : Session K) (t : List (Session K)) :
    resolve infra (a :: t) = (match infra.ids.findIdx? (· == a.station) with
      | none => .error .keyError
      | some i => (resolve infra t).map (fun l => ({ a with idx := i } : Session K) :: l)) := by
  simp only [resolve, List.mapM_cons]
  cases infra.ids.findIdx? (· == a.station) with
  | none => rfl
  | some i =>
    simp only [bind, Except.bind, pure, Except.pure, Except.map]

theorem resolve_eq (infra : Infra K) : ∀ raw : List (Session K),
    resolve infra raw = if raw.all (known infra) then .ok (raw.map (resF infra)) else .error .keyError := by
  intro raw
  induction raw with
  | nil => rfl
  | cons a t ih =>
    rw [resolve_cons, ih]
    cases hf : infra.ids.findIdx? (· == a.station) with
    | none => simp [known, hf]
    | some i =>
      have hk : known infra a = true := by simp [known, hf]
      have hr : resF infra a = { a with idx := i } := by simp [resF, hf]
      simp only [List.all_cons, hk, Bool.true_and, List.map_cons, hr]
      by_cases hall : t.all (known infra) = true
      · simp [hall, Except.map]
      · simp [hall, Except.map]

theorem resolve_perm (infra : Infra K) {raw raw' : List (Session K)} (hp : raw'.Perm raw) :
    resolve infra raw' =
      if raw.all (known infra) then .ok (raw'.map (resF infra)) else .error .keyError := by
  rw [resolve_eq, hp.all_eq]

theorem sorted_unique {α : Type} {lt : α → α → Bool} {m m' l l' : List α} (p : m.Perm l) (p' : m'.Perm l')
    (s : m.Pairwise (fun a b => lt b a = false)) (s' : m'.Pairwise (fun a b => lt b a = false)) (hp : l'.Perm l)
    (hd : ∀ a ∈ l, ∀ b ∈ l, lt a b = false → lt b a = false → a = b) : m' = m :=
  List.Perm.eq_of_pairwise (fun a b ha hb h1 h2 =>
    hd a (hp.mem_iff.1 (p'.mem_iff.1 ha)) b (p.mem_iff.1 hb) h2 h1) s' s (p'.trans (hp.trans p.symm))

/-- the comparison of `sorted(active_sessions, key=lambda x: x.remaining_time)` -/
def ltRT (a b : Session K) : Bool := decide (a.remainingTime < b.remainingTime)

theorem applyMinimumRate_eq (feas : List K → Bool) (infra : Infra K) (period : K) (l : List (Session K)) :
    applyMinimumRate feas infra period l =
      ((sortBy ltRT l).foldl (minRateStep feas infra period) (List.replicate infra.ids.length 0, [])).2 := rfl

def DistinctRT (l : List (Session K)) : Prop :=
  ∀ a ∈ l, ∀ b ∈ l, a.remainingTime = b.remainingTime → a = b

/-- the decidable form of `DistinctRT` -/
theorem distinctRT_of_pairwise {l : List (Session K)}
    (h : l.Pairwise (fun a b => a.remainingTime ≠ b.remainingTime)) : DistinctRT l := by
  intro a ha b hb hk
  by_contra hne
  have : Std.Symm (fun a b : Session K => a.remainingTime ≠ b.remainingTime) := ⟨fun _ _ hxy e => hxy e.symm⟩
  exact h.forall ha hb hne hk

/-- the decidable form of "no two sessions share the sort key" -/
theorem distinctKeys_of_pairwise (infra : Infra K) (kind : SortKind) (period : K) (time : Int) {l : List (Session K)}
    (h : l.Pairwise (fun a b => Acn.C08.sameKey kind infra period time a b = false)) :
    ∀ a ∈ l, ∀ b ∈ l, Acn.C08.sameKey kind infra period time a b = true → a = b := by
  intro a ha b hb hk
  by_contra hne
  have : Std.Symm (fun a b : Session K => Acn.C08.sameKey kind infra period time a b = false) :=
    ⟨fun x y hxy => by
      simp only [Acn.C08.sameKey] at hxy ⊢
      rw [Bool.and_comm]; exact hxy⟩
  have := h.forall ha hb hne
  rw [hk] at this
  exact Bool.noConfusion this

theorem sortSessions_perm_of_distinct (infra : Infra K) (kind : SortKind) (period : K) (time : Int)
    (l l' : List (Session K)) (hp : l'.Perm l)
    (hd : ∀ a ∈ l, ∀ b ∈ l, Acn.C08.sameKey kind infra period time a b = true → a = b) :
    sortSessions kind infra period time l' = sortSessions kind infra period time l := by
  obtain ⟨p1, s1, _⟩ := sortSessions_key kind infra period time l
  obtain ⟨p2, s2, _⟩ := sortSessions_key kind infra period time l'
  exact sorted_unique p1 p2 s1 s2 hp fun a ha b hb h1 h2 => hd a ha b hb (by simp [Acn.C08.sameKey, h1, h2])

/-- the sessions of the call after preprocessing (`estimate_max_rate = False`, interruptible) -/
def preOf (infra : Infra K) (period : K) (raw : List (Session K)) : List (Session K) :=
  enforcePilotLimit infra (removeFinished infra period (raw.map (resF infra)))

theorem preOf_perm (infra : Infra K) (period : K) {raw raw' : List (Session K)} (hp : raw'.Perm raw) :
    (preOf infra period raw').Perm (preOf infra period raw) := by
  unfold preOf enforcePilotLimit removeFinished
  exact ((hp.map _).filter _).map _

/-- the sessions of the call as `apply_upper_bound_estimate` leaves them (any estimator) -/
def boundedOf (cfgS : Config K) (infra : Infra K) (period : K) (est : List (Session K) → Session K → Option K)
    (raw : List (Session K)) : List (Session K) :=
  if cfgS.estimate then applyUpperBoundFn (est (preOf infra period raw)) (preOf infra period raw)
  else preOf infra period raw

/-- tie-freeness of one call, in the key that decides the order of its mode -/
def TieOKEst (cfgS : Config K) (infra : Infra K) (period : K) (time : Int)
    (est : List (Session K) → Session K → Option K) (raw : List (Session K)) : Prop :=
  if cfgS.uninterrupted then DistinctRT (boundedOf cfgS infra period est raw)
  else ∀ a ∈ boundedOf cfgS infra period est raw, ∀ b ∈ boundedOf cfgS infra period est raw,
    Acn.C08.sameKey cfgS.sort infra period time a b = true → a = b

theorem preprocessEst_resF (feas : List K → Bool) (cfgS : Config K) (infra : Infra K) (period : K)
    (est : List (Session K) → Session K → Option K) (raw : List (Session K)) :
    preprocessEst feas cfgS infra period est (raw.map (resF infra)) =
      if cfgS.uninterrupted then applyMinimumRate feas infra period (boundedOf cfgS infra period est raw)
      else boundedOf cfgS infra period est raw := rfl

theorem scheduleCallEst_perm [HasCeilNat K] (feas : List K → Bool) (cfgS : Config K) (infra : Infra K) (period : K)
    (time : Int) (est : List (Session K) → Session K → Option K) {raw raw' : List (Session K)} (hp : raw'.Perm raw)
    (hest : cfgS.estimate = true → est (preOf infra period raw') = est (preOf infra period raw))
    (hd : TieOKEst cfgS infra period time est raw) :
    (scheduleCallEst feas cfgS infra period time est raw').result =
      (scheduleCallEst feas cfgS infra period time est raw).result := by
  rw [scheduleCallEst_result, scheduleCallEst_result, resolve_perm infra hp, resolve_eq]
  by_cases hall : raw.all (known infra) = true
  · simp only [hall, if_true, preprocessEst_resF]
    have hb : (boundedOf cfgS infra period est raw').Perm (boundedOf cfgS infra period est raw) := by
      unfold boundedOf
      by_cases he : cfgS.estimate = true
      · simp only [he, if_true]
        rw [hest he]
        exact (preOf_perm infra period hp).map _
      · simp only [he, Bool.false_eq_true, if_false]
        exact preOf_perm infra period hp
    unfold TieOKEst at hd
    congr 1
    by_cases hu : cfgS.uninterrupted = true
    · simp only [hu, if_true] at hd ⊢
      have hlt : ∀ a b : Session K, ltRT a b = true ↔ a.remainingTime < b.remainingTime := fun a b => by simp [ltRT]
      obtain ⟨p1, s1, _⟩ := sortBy_key (·.remainingTime) ltRT hlt (boundedOf cfgS infra period est raw)
      obtain ⟨p2, s2, _⟩ := sortBy_key (·.remainingTime) ltRT hlt (boundedOf cfgS infra period est raw')
      rw [applyMinimumRate_eq, applyMinimumRate_eq, sorted_unique p1 p2 s1 s2 hb]
      intro a ha b hb' h1 h2
      refine hd a ha b hb' ?_
      simp only [ltRT, decide_eq_false_iff_not, Nat.not_lt] at h1 h2
      omega
    · simp only [hu, Bool.false_eq_true, if_false] at hd ⊢
      exact sortSessions_perm_of_distinct infra cfgS.sort period time _ _ hb hd
  · simp only [hall, Bool.false_eq_true, if_false]

theorem uncontrolled_perm (infra : Infra K) {l l' : List (Session K)} (hp : l'.Perm l)
    (hst : (l.map (·.station)).Nodup) : DictEq (uncontrolled infra l') (uncontrolled infra l) := by
  have hst' : (l'.map (·.station)).Nodup := (hp.map _).nodup_iff.2 hst
  rw [uncontrolled_eq_map _ l' hst', uncontrolled_eq_map _ l hst]
  exact ⟨hp.map _, by rw [List.map_map]; exact hst⟩

end Acn.Sorted
