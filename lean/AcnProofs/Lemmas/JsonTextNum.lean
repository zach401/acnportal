/-
  `int(repr(n)) = n` for every Python int, negative ones included (`AcnModel/JsonText.lean`: `renderInt` = Lean's
  `toString : Int → String` = decimal digits with a leading `-`; `isIntTok`, `intOfTok`), and the lexical facts the
  document parser needs: the text of an int is recognised as an int (never as a float), and an int text is a number
  text (number characters, starting with a digit or `-`).
-/
import AcnModel.JsonText
import Mathlib.Tactic
namespace Acn.JsonText

theorem natOfDigits_snoc (ds : List Char) (c : Char) :
    natOfDigits (ds ++ [c]) = 10 * natOfDigits ds + (c.toNat - 48) := by
  simp [natOfDigits, List.foldl_append]

theorem natOfDigits_toDigits (n : Nat) : natOfDigits (Nat.toDigits 10 n) = n := by
  induction n using Nat.strong_induction_on with
  | _ n ih =>
    by_cases h : n < 10
    · rw [Nat.toDigits_of_lt_base h]
      simp [natOfDigits, Nat.toNat_digitChar_sub_48_of_lt_ten h]
    · have h10 : 10 ≤ n := by omega
      rw [Nat.toDigits_of_base_le (by norm_num) h10, natOfDigits_snoc, ih (n / 10) (by omega),
        Nat.toNat_digitChar_sub_48_of_lt_ten (Nat.mod_lt _ (by norm_num))]
      omega

theorem toDigits_all_digit (n : Nat) : (Nat.toDigits 10 n).all Char.isDigit = true := by
  rw [List.all_eq_true]
  intro c hc
  exact Nat.isDigit_of_mem_toDigits (by norm_num) (by norm_num) hc

theorem toDigits_cons (n : Nat) : ∃ c t, Nat.toDigits 10 n = c :: t ∧ c.isDigit = true := by
  have hne := @Nat.toDigits_ne_nil n 10
  cases h : Nat.toDigits 10 n with
  | nil => exact absurd h hne
  | cons c t =>
    refine ⟨c, t, rfl, ?_⟩
    have := toDigits_all_digit n
    rw [h] at this
    simp at this
    exact this.1

theorem renderInt_eq (n : Int) :
    renderInt n = if 0 ≤ n then Nat.toDigits 10 n.toNat else '-' :: Nat.toDigits 10 (-n).toNat := by
  unfold renderInt
  rw [Int.toString_eq_repr, Int.repr_eq_if]
  split_ifs
  · exact Nat.toList_repr
  · rw [String.toList_append, Nat.toList_repr]; rfl

theorem isDigit_ne_minus (c : Char) (h : c.isDigit = true) : c ≠ '-' := by
  rintro rfl; revert h; decide

theorem isIntTok_renderInt (n : Int) : isIntTok (renderInt n) = true := by
  rw [renderInt_eq]
  split_ifs
  · obtain ⟨c, t, h, hc⟩ := toDigits_cons n.toNat
    have hall := toDigits_all_digit n.toNat
    rw [h] at hall ⊢
    simp only [isIntTok, isDigit_ne_minus c hc, if_false]
    exact hall
  · obtain ⟨c, t, h, _⟩ := toDigits_cons (-n).toNat
    have hall := toDigits_all_digit (-n).toNat
    simp only [isIntTok, if_true]
    rw [hall, h]; rfl

theorem intOfTok_renderInt (n : Int) : intOfTok (renderInt n) = n := by
  rw [renderInt_eq]
  split_ifs with h
  · obtain ⟨c, t, hd, hc⟩ := toDigits_cons n.toNat
    have := natOfDigits_toDigits n.toNat
    rw [hd] at this ⊢
    simp only [intOfTok, isDigit_ne_minus c hc, if_false, this]
    omega
  · simp only [intOfTok, if_true, natOfDigits_toDigits]
    omega

theorem isDigit_isNumChar (c : Char) (h : c.isDigit = true) : isNumChar c = true := by
  simp [isNumChar, h]

theorem all_isNumChar_of_isDigit {ds : List Char} (h : ds.all Char.isDigit = true) : ds.all isNumChar = true :=
  List.all_eq_true.2 fun c hc => isDigit_isNumChar c (List.all_eq_true.1 h c hc)

theorem isIntTok_numTok {t : List Char} (h : isIntTok t = true) : t.all isNumChar = true ∧ startsNum t = true := by
  rcases t with _ | ⟨c, ds⟩
  · cases h
  · simp only [isIntTok] at h
    split at h
    · subst c
      simp only [Bool.and_eq_true] at h
      exact ⟨by rw [List.all_cons, all_isNumChar_of_isDigit h.2]; rfl, rfl⟩
    · have hc : c.isDigit = true := by simp only [List.all_cons, Bool.and_eq_true] at h; exact h.1
      exact ⟨all_isNumChar_of_isDigit h, by simp [startsNum, hc]⟩

theorem not_isFloatTok_renderInt (n : Int) : isFloatTok (renderInt n) = false := by
  simp [isFloatTok, isIntTok_renderInt]

end Acn.JsonText
