/-
  One period of the simulator, stage by stage.  First the model in the form of `Steps`: the event loops are
  `foldE`, the runs are `loopE`, `applyStage` and `Sim.body` are `andThen`-chains of their stages (`applyStageW_eq`,
  `applyStage_eq`, `body_eq`: where the two are unfolded; the one other place is `SimSortedRd.bodySt_frozen`, which sets
  `Sim.body` beside the body with a scheduler state); with it, what each stage leaves alone and
  how the events project onto the event core.  Then what one stage can do, as a relation with one constructor per
  outcome that carries the facts of its branch: `SetPilot` (one `EVSE.set_pilot`), `StoreRates` (the rates of the
  period), `Apply` (the pilots/rates half), `Pass` (the whole period).  Between the two halves of a period stands a
  state `a` that differs from the loop head `s` only in the core (the events, the scheduler's marks), in the values
  of the EVSE pilots and in the pilot matrix (`PreApply`): the period stops at `a` with a raise, or is `applyStage`
  on `a`.  An invariant of the loop says what it needs of `PreApply` and of `applyStage` (`body_keeps`,
  `body_keeps_any`); `applyStage_keeps` reduces the latter to the single steps.
-/
import AcnModel.SimStep
import AcnProofs.Lemmas.Steps
import AcnProofs.Lemmas.EventCoreBasic
import AcnProofs.Lemmas.Evse
import Mathlib.Tactic

set_option linter.unusedSectionVars false

namespace Acn.Sim
open Acn Acn.EventCore Acn.Steps

variable {K : Type} [Add K] [Sub K] [Mul K] [Div K] [Neg K] [LT K] [LE K]
  [DecidableLT K] [DecidableLE K] [OfNat K 0] [OfNat K 1] [NatCast K] [HasExp K]

theorem processAll_eq (cfg : Cfg K) : ∀ (es : List Event) (s : State K),
    processAll cfg es s = foldE (stepEv cfg) es s :=
  foldE_unique (fun _ => rfl) fun e es s => by
    rw [processAll]
    rcases stepEv cfg e s with ⟨s2, _ | err⟩ <;> rfl

theorem updatePilotsFrom_cons (cfg : Cfg K) (i : Nat) (st : Station K) (rest : List (Station K)) (s : State K) :
    updatePilotsFrom cfg i (st :: rest) s = andThen (setPilotAt cfg s i st) (updatePilotsFrom cfg (i + 1) rest) := by
  rw [updatePilotsFrom]
  rcases setPilotAt cfg s i st with ⟨s2, _ | err⟩ <;> rfl

theorem updatePilotsFrom_foldE (cfg : Cfg K) : ∀ (l : List (Station K)) (i : Nat) (s : State K),
    updatePilotsFrom cfg i l s = foldE (fun (p : Station K × Nat) s => setPilotAt cfg s p.2 p.1) (l.zipIdx i) s
  | [], _, _ => rfl
  | st :: rest, i, s => by
    rw [updatePilotsFrom_cons, List.zipIdx_cons, foldE]
    exact andThen_congr fun s2 _ => updatePilotsFrom_foldE cfg rest (i + 1) s2

theorem run_eq (cfg : Cfg K) (sched : View K → Except Err (Schedule K)) : ∀ (n : Nat) (s : State K),
    run cfg sched n s = loopE (fun s => guard s.core) (body cfg sched) n s :=
  loopE_unique (fun _ => rfl) fun n s => by
    rw [run]
    rcases body cfg sched s with ⟨s2, _ | err⟩ <;> rfl

theorem stepEv_core (cfg : Cfg K) (e : Event) (s : State K) :
    ((stepEv cfg e s).1.core, (stepEv cfg e s).2) = EventCore.step cfg.core e s.core := rfl

theorem processAll_proj {β : Type} (cfg : Cfg K) (f : State K → β) (hf : ∀ e s, f (stepEv cfg e s).1 = f s)
    (l : List Event) (s : State K) : f (processAll cfg l s).1 = f s := by
  rw [processAll_eq]
  exact foldE_proj f hf l s

theorem processAll_core (cfg : Cfg K) (l : List Event) (s : State K) :
    ((processAll cfg l s).1.core, (processAll cfg l s).2) = EventCore.processAll cfg.core l s.core := by
  rw [processAll_eq, EventCore.processAll_eq]
  exact foldE_comm (·.core) (stepEv_core cfg) l s

theorem eventsStage_core (cfg : Cfg K) (s : State K) :
    ((eventsStage cfg s).1.core, (eventsStage cfg s).2) = EventCore.eventsStage cfg.core s.core :=
  processAll_core cfg _ _

/-- `s'` differs from `s` at most in the core and in the VALUES of the EVSE pilots: what the events
    of a period (`EVSE.unplug` resets `_current_pilot`) can do to a state -/
def EventsFrame (s s' : State K) : Prop :=
  s'.pilots = s.pilots ∧ s'.rates = s.rates ∧ s'.peak = s.peak ∧ s'.evs = s.evs ∧
    s'.noiseIdx = s.noiseIdx ∧ s'.occLog = s.occLog ∧ s'.evsePilot.length = s.evsePilot.length

theorem stepEv_evseLen (cfg : Cfg K) (e : Event) (s : State K) :
    (stepEv cfg e s).1.evsePilot.length = s.evsePilot.length := by
  unfold stepEv
  simp only
  split <;> simp

theorem processAll_frame (cfg : Cfg K) (l : List Event) (s : State K) : EventsFrame s (processAll cfg l s).1 :=
  ⟨processAll_proj cfg (·.pilots) (fun _ _ => rfl) l s, processAll_proj cfg (·.rates) (fun _ _ => rfl) l s,
    processAll_proj cfg (·.peak) (fun _ _ => rfl) l s, processAll_proj cfg (·.evs) (fun _ _ => rfl) l s,
    processAll_proj cfg (·.noiseIdx) (fun _ _ => rfl) l s, processAll_proj cfg (·.occLog) (fun _ _ => rfl) l s,
    processAll_proj cfg (·.evsePilot.length) (stepEv_evseLen cfg) l s⟩

theorem eventsStage_frame (cfg : Cfg K) (s : State K) : EventsFrame s (eventsStage cfg s).1 :=
  processAll_frame cfg _ _

/-- the four outcomes of `setPilotAt cfg s i st`: the rate is not one the EVSE accepts, `Battery.charge`
    raises, the station is vacant, the occupant is charged -/
inductive SetPilot (cfg : Cfg K) (s : State K) (i : Nat) (st : Station K) : State K → Option Err → Prop
  | invalid :
      Evse.validRate (atolOf cfg st.kind) cfg.atolFinite st.kind (s.pilots.get i s.core.iter) = false →
      SetPilot cfg s i st s (some .invalidRate)
  | chargeRaise {e : Evse.Ev K} {x : Battery.Err} :
      Evse.validRate (atolOf cfg st.kind) cfg.atolFinite st.kind (s.pilots.get i s.core.iter) = true →
      occupantEv s st.id = some e →
      e.charge (s.pilots.get i s.core.iter) st.voltage cfg.period (noiseAt cfg s.noiseIdx) = .error x →
      SetPilot cfg s i st s (some .valueError)
  | vacant :
      Evse.validRate (atolOf cfg st.kind) cfg.atolFinite st.kind (s.pilots.get i s.core.iter) = true →
      occupantEv s st.id = none →
      SetPilot cfg s i st { s with evsePilot := s.evsePilot.set i (s.pilots.get i s.core.iter) } none
  | charged {e e' : Evse.Ev K} :
      Evse.validRate (atolOf cfg st.kind) cfg.atolFinite st.kind (s.pilots.get i s.core.iter) = true →
      occupantEv s st.id = some e →
      e.charge (s.pilots.get i s.core.iter) st.voltage cfg.period (noiseAt cfg s.noiseIdx) = .ok e' →
      SetPilot cfg s i st
        { s with evsePilot := s.evsePilot.set i (s.pilots.get i s.core.iter),
                 evs := replaceEv s.evs e',
                 noiseIdx := if drawsNoise e.batt (s.pilots.get i s.core.iter) st.voltage cfg.period
                   then s.noiseIdx + 1 else s.noiseIdx } none

theorem setPilotAt_outcome (cfg : Cfg K) (s : State K) (i : Nat) (st : Station K) :
    SetPilot cfg s i st (setPilotAt cfg s i st).1 (setPilotAt cfg s i st).2 := by
  unfold setPilotAt
  simp only
  generalize hr : Evse.setPilot (atolOf cfg st.kind) cfg.atolFinite _ _ _ _ _ = r
  cases Evse.SetPilotOut.of_eq hr with
  | invalid hv => exact .invalid hv
  | chargeRaise hv he hc => exact .chargeRaise hv he hc
  | vacant hv he => simp only [show occupantEv s st.id = none from he]; exact .vacant hv he
  | charged hv he hc => simp only [show occupantEv s st.id = some _ from he]; exact .charged hv he hc

/-- `cases` on the result needs `s'` and `err` to be variables -/
theorem SetPilot.of_eq {cfg : Cfg K} {s s' : State K} {i : Nat} {st : Station K} {err : Option Err}
    (h : setPilotAt cfg s i st = (s', err)) : SetPilot cfg s i st s' err := by
  have := setPilotAt_outcome cfg s i st
  rwa [h] at this

theorem setPilotAt_err {cfg : Cfg K} {s s' : State K} {i : Nat} {st : Station K} {e : Err}
    (h : setPilotAt cfg s i st = (s', some e)) : e = .invalidRate ∨ e = .valueError := by
  generalize hn : some e = err at h
  cases SetPilot.of_eq h with
  | invalid _ => cases hn; exact Or.inl rfl
  | chargeRaise _ _ _ => cases hn; exact Or.inr rfl
  | vacant _ _ => cases hn
  | charged _ _ _ => cases hn

theorem updatePilotsFrom_keeps {cfg : Cfg K} {P : State K → Prop}
    (hp : ∀ s i st, P s → P (setPilotAt cfg s i st).1) (l : List (Station K)) (i : Nat) (s : State K) (h : P s) :
    P (updatePilotsFrom cfg i l s).1 := by
  rw [updatePilotsFrom_foldE]
  exact foldE_inv (fun p _ a ha => hp a p.2 p.1 ha) h

/-- `s'` differs from `s` at most in the VALUES of the EVSE pilots, in the EVs and in the noise index:
    what `update_pilots` can do to a state -/
structure PilotsFrame (s s' : State K) : Prop where
  core : s'.core = s.core
  pilots : s'.pilots = s.pilots
  rates : s'.rates = s.rates
  peak : s'.peak = s.peak
  occLog : s'.occLog = s.occLog
  evseLen : s'.evsePilot.length = s.evsePilot.length

theorem PilotsFrame.refl (s : State K) : PilotsFrame s s := ⟨rfl, rfl, rfl, rfl, rfl, rfl⟩

theorem PilotsFrame.trans {s a b : State K} (h : PilotsFrame s a) (h' : PilotsFrame a b) : PilotsFrame s b :=
  ⟨h'.core.trans h.core, h'.pilots.trans h.pilots, h'.rates.trans h.rates, h'.peak.trans h.peak,
    h'.occLog.trans h.occLog, h'.evseLen.trans h.evseLen⟩

theorem setPilotAt_frame (cfg : Cfg K) (s : State K) (i : Nat) (st : Station K) :
    PilotsFrame s (setPilotAt cfg s i st).1 := by
  rcases h : setPilotAt cfg s i st with ⟨s', err⟩
  cases SetPilot.of_eq h with
  | invalid _ => exact .refl s
  | chargeRaise _ _ _ => exact .refl s
  | vacant _ _ => exact ⟨rfl, rfl, rfl, rfl, rfl, List.length_set⟩
  | charged _ _ _ => exact ⟨rfl, rfl, rfl, rfl, rfl, List.length_set⟩

theorem setPilotAt_core (cfg : Cfg K) (s : State K) (i : Nat) (st : Station K) :
    (setPilotAt cfg s i st).1.core = s.core := (setPilotAt_frame cfg s i st).core

theorem updatePilotsFrom_proj {β : Type} (cfg : Cfg K) (f : State K → β)
    (hf : ∀ s i st, f (setPilotAt cfg s i st).1 = f s) (l : List (Station K)) (i : Nat) (s : State K) :
    f (updatePilotsFrom cfg i l s).1 = f s := by
  rw [updatePilotsFrom_foldE]
  exact foldE_proj f (fun (p : Station K × Nat) a => hf a p.2 p.1) _ s

theorem updatePilotsFrom_frame (cfg : Cfg K) (l : List (Station K)) (i : Nat) (s : State K) :
    PilotsFrame s (updatePilotsFrom cfg i l s).1 :=
  updatePilotsFrom_keeps (P := PilotsFrame s) (fun a i st ha => ha.trans (setPilotAt_frame cfg a i st)) l i s (.refl s)

theorem updatePilotsFrom_raise {cfg : Cfg K} : ∀ {l : List (Station K)} {i : Nat} {s s' : State K} {e : Err},
    updatePilotsFrom cfg i l s = (s', some e) →
    ∃ k st a, l[k]? = some st ∧ PilotsFrame s a ∧ setPilotAt cfg a (i + k) st = (s', some e)
  | [], _, _, _, _, h => nomatch h
  | st :: rest, i, s, s', e, h => by
    rw [updatePilotsFrom_cons] at h
    rcases andThen_eq_err.1 h with h1 | ⟨s1, h1, h2⟩
    · exact ⟨0, st, s, rfl, .refl s, h1⟩
    · obtain ⟨k, st', a, hk, hf, ha⟩ := updatePilotsFrom_raise h2
      have f1 := setPilotAt_frame cfg s i st
      rw [h1] at f1
      exact ⟨k + 1, st', a, hk, f1.trans hf, (show i + 1 + k = i + (k + 1) by omega) ▸ ha⟩

/-- the matrix `_store_actual_charging_rates` writes into: the rate matrix, grown by `w` when it has no
    column `iter` -/
def ratesFor (w : Nat) (s : State K) : Pilots.Mat K :=
  if s.core.iter < s.rates.width then s.rates else Pilots.increaseWidth s.rates w

/-- the two outcomes of `storeRates cfg w s`: numpy's bounds check on column `iter` fails even after
    growing, or the current rates are written there and the peak is updated -/
inductive StoreRates (cfg : Cfg K) (w : Nat) (s : State K) : State K → Option Err → Prop
  | noColumn : (ratesFor w s).width ≤ s.core.iter →
      StoreRates cfg w s { s with rates := ratesFor w s } (some .indexError)
  | stored : s.core.iter < (ratesFor w s).width →
      StoreRates cfg w s
        { s with rates := writeCol (ratesFor w s) s.core.iter (currentRates cfg s),
                 peak := pyMax s.peak (sumK (currentRates cfg s)) } none

theorem storeRates_stored {cfg : Cfg K} {w : Nat} {s : State K} (h : s.core.iter < (ratesFor w s).width) :
    storeRates cfg w s =
      ({ s with rates := writeCol (ratesFor w s) s.core.iter (currentRates cfg s),
                peak := pyMax s.peak (sumK (currentRates cfg s)) }, none) :=
  if_pos h

theorem storeRates_noColumn {cfg : Cfg K} {w : Nat} {s : State K} (h : ¬ s.core.iter < (ratesFor w s).width) :
    storeRates cfg w s = ({ s with rates := ratesFor w s }, some .indexError) :=
  if_neg h

theorem StoreRates.of_eq {cfg : Cfg K} {w : Nat} {s s' : State K} {err : Option Err}
    (h : storeRates cfg w s = (s', err)) : StoreRates cfg w s s' err := by
  by_cases hw : s.core.iter < (ratesFor w s).width
  · rw [storeRates_stored hw] at h
    cases h
    exact .stored hw
  · rw [storeRates_noColumn hw] at h
    cases h
    exact .noColumn (Nat.le_of_not_lt hw)

theorem storeRates_frame (cfg : Cfg K) (w : Nat) (s : State K) :
    (storeRates cfg w s).1.core = s.core ∧ (storeRates cfg w s).1.pilots = s.pilots ∧
    (storeRates cfg w s).1.evs = s.evs ∧ (storeRates cfg w s).1.evsePilot = s.evsePilot ∧
    (storeRates cfg w s).1.noiseIdx = s.noiseIdx ∧ (storeRates cfg w s).1.occLog = s.occLog := by
  rcases h : storeRates cfg w s with ⟨s', err⟩
  cases StoreRates.of_eq h <;> exact ⟨rfl, rfl, rfl, rfl, rfl, rfl⟩

theorem storeRates_raise {cfg : Cfg K} {w : Nat} {s s' : State K} {e : Err}
    (h : storeRates cfg w s = (s', some e)) : e = .indexError := by
  generalize he : some e = err at h
  cases StoreRates.of_eq h with
  | noColumn _ => exact Option.some.inj he
  | stored _ => cases he

theorem storeRates_core (cfg : Cfg K) (w : Nat) (s : State K) : (storeRates cfg w s).1.core = s.core :=
  (storeRates_frame cfg w s).1

/-- numpy's bounds check on `pilots[k, i]` after the matrices were widened by `w` -/
def widenStageW (w : Nat) (s : State K) : State K × Option Err :=
  (widenW w s, if (widenW w s).pilots.width ≤ s.core.iter then some .indexError else none)

/-- … by `width_increase`, as in `run()` -/
def widenStage (s : State K) : State K × Option Err :=
  (widen s, if (widen s).pilots.width ≤ s.core.iter then some .indexError else none)

def storeStage (cfg : Cfg K) (s : State K) : State K × Option Err := storeRates cfg (widthInc s) s

/-- `post_charging_update` and `_iteration += 1` -/
def finishStage (cfg : Cfg K) (s : State K) : State K :=
  { s with occLog := s.occLog ++ [cfg.stations.map fun st => (s.core.occ st.id).map (·.id)], core := advance s.core }

theorem applyStageW_eq (cfg : Cfg K) (w : Nat) (s : State K) :
    applyStageW cfg w s =
      andThen (widenStageW w s) fun s1 => andThen (updatePilots cfg s1) fun s2 =>
        andThen (storeRates cfg w s2) fun s3 => (finishStage cfg s3, none) := by
  unfold applyStageW widenStageW
  by_cases hw : (widenW w s).pilots.width ≤ s.core.iter
  · rw [if_pos hw, if_pos hw, andThen_err]
  · rw [if_neg hw, if_neg hw, andThen_ok]
    rcases updatePilots cfg (widenW w s) with ⟨s2, _ | e⟩
    · rw [andThen_ok]
      dsimp only
      rcases storeRates cfg w s2 with ⟨s3, _ | e⟩ <;> rfl
    · rfl

theorem applyStage_eq (cfg : Cfg K) (s : State K) :
    applyStage cfg s =
      andThen (widenStage s) fun s1 => andThen (updatePilots cfg s1) fun s2 =>
        andThen (storeStage cfg s2) fun s3 => (finishStage cfg s3, none) := by
  refine (applyStageW_eq cfg (widthInc s) s).trans (andThen_congr fun s1 h1 => andThen_congr fun s2 h2 => ?_)
  -- `width_increase` is computed before `update_pilots`, which does not touch what it reads
  have hc : s2.core = s.core := by
    have := (updatePilotsFrom_frame cfg cfg.stations 0 s1).1
    rw [show updatePilotsFrom cfg 0 cfg.stations s1 = (s2, none) from h2] at this
    exact this.trans (congrArg (·.1.core) h1).symm
  rw [storeStage, widthInc, widthInc, hc]

/-- `scheduler.run()` and `_update_schedules`, as a step on states -/
def schedSet (cfg : Cfg K) (sched : View K → Except Err (Schedule K)) (s : State K) : State K × Option Err :=
  match schedStage cfg sched { s with core := markInvoked s.core } with
  | .error e => ({ s with core := markInvoked s.core }, some e)
  | .ok m => ({ s with pilots := m, core := markScheduled (markInvoked s.core) }, none)

theorem body_eq (cfg : Cfg K) (sched : View K → Except Err (Schedule K)) (s : State K) :
    body cfg sched s =
      andThen (eventsStage cfg s) fun s1 =>
        if needsSched cfg.maxRecompute s1.core then andThen (schedSet cfg sched s1) (applyStage cfg)
        else applyStage cfg s1 := by
  unfold body
  rcases eventsStage cfg s with ⟨s1, _ | e⟩
  · rw [andThen_ok]
    dsimp only
    by_cases hn : needsSched cfg.maxRecompute s1.core = true
    · rw [if_pos hn, if_pos hn, schedSet]
      rcases schedStage cfg sched { s1 with core := markInvoked s1.core } with e | m <;> rfl
    · rw [if_neg hn, if_neg hn]
  · rfl

/-- the four outcomes of `applyStageW cfg w a` (`run()`: `w = widthInc a`; `step()`: the growth target
    of `_update_schedules`) -/
inductive Apply (cfg : Cfg K) (w : Nat) (a : State K) : State K → Option Err → Prop
  | noColumn : (widenW w a).pilots.width ≤ a.core.iter → Apply cfg w a (widenW w a) (some .indexError)
  | pilotsRaise {s2 : State K} {e : Err} : a.core.iter < (widenW w a).pilots.width →
      updatePilots cfg (widenW w a) = (s2, some e) → Apply cfg w a s2 (some e)
  | storeRaise {s2 s3 : State K} {e : Err} : a.core.iter < (widenW w a).pilots.width →
      updatePilots cfg (widenW w a) = (s2, none) → storeRates cfg w s2 = (s3, some e) →
      Apply cfg w a s3 (some e)
  | done {s2 s3 : State K} : a.core.iter < (widenW w a).pilots.width →
      updatePilots cfg (widenW w a) = (s2, none) → storeRates cfg w s2 = (s3, none) →
      Apply cfg w a (finishStage cfg s3) none

theorem Apply.of_eqW {cfg : Cfg K} {w : Nat} {a s' : State K} {err : Option Err}
    (h : applyStageW cfg w a = (s', err)) : Apply cfg w a s' err := by
  rw [applyStageW_eq, widenStageW] at h
  by_cases hw : (widenW w a).pilots.width ≤ a.core.iter
  · rw [if_pos hw, andThen_err] at h
    cases h
    exact .noColumn hw
  · rw [if_neg hw, andThen_ok] at h
    rcases h2 : updatePilots cfg (widenW w a) with ⟨s2, _ | e2⟩
    · rw [h2, andThen_ok] at h
      rcases h3 : storeRates cfg w s2 with ⟨s3, _ | e3⟩
      · rw [h3, andThen_ok] at h
        cases h
        exact .done (Nat.lt_of_not_le hw) h2 h3
      · rw [h3, andThen_err] at h
        cases h
        exact .storeRaise (Nat.lt_of_not_le hw) h2 h3
    · rw [h2, andThen_err] at h
      cases h
      exact .pilotsRaise (Nat.lt_of_not_le hw) h2

theorem Apply.of_eq {cfg : Cfg K} {a s' : State K} {err : Option Err} (h : applyStage cfg a = (s', err)) :
    Apply cfg (widthInc a) a s' err :=
  .of_eqW (w := widthInc a) h

theorem applyStageW_frame (cfg : Cfg K) (w : Nat) (s : State K) :
    (applyStageW cfg w s).1.pilots = Pilots.increaseWidth s.pilots w ∧
    (applyStageW cfg w s).1.core = (match (applyStageW cfg w s).2 with
      | none => advance s.core
      | some _ => s.core) ∧
    ((applyStageW cfg w s).2 = none → s.core.iter < (Pilots.increaseWidth s.pilots w).width) := by
  rcases h : applyStageW cfg w s with ⟨s', err⟩
  have f2 : PilotsFrame (widenW w s) (updatePilots cfg (widenW w s)).1 := updatePilotsFrom_frame cfg _ 0 _
  cases Apply.of_eqW h with
  | noColumn _ => exact ⟨rfl, rfl, fun h0 => nomatch h0⟩
  | pilotsRaise _ hu =>
    rw [hu] at f2
    exact ⟨f2.pilots, f2.core, fun h0 => nomatch h0⟩
  | storeRaise _ hu hs =>
    rw [hu] at f2
    obtain ⟨hrc, hrp, -⟩ := storeRates_frame cfg w _
    rw [hs] at hrc hrp
    exact ⟨hrp.trans f2.pilots, hrc.trans f2.core, fun h0 => nomatch h0⟩
  | done hw hu hs =>
    rw [hu] at f2
    obtain ⟨hrc, hrp, -⟩ := storeRates_frame cfg w _
    rw [hs] at hrc hrp
    exact ⟨hrp.trans f2.pilots, congrArg advance (hrc.trans f2.core), fun _ => hw⟩

/-- `run()` grows the matrices by `widthInc` (simulator.py:132-137) -/
theorem applyStage_frame (cfg : Cfg K) (s : State K) :
    (applyStage cfg s).1.pilots = Pilots.increaseWidth s.pilots (widthInc s) ∧
    (applyStage cfg s).1.core = (match (applyStage cfg s).2 with
      | none => advance s.core
      | some _ => s.core) ∧
    ((applyStage cfg s).2 = none → s.core.iter < (Pilots.increaseWidth s.pilots (widthInc s)).width) :=
  applyStageW_frame cfg (widthInc s) s

theorem applyStage_core (cfg : Cfg K) (s : State K) (h : (applyStage cfg s).2 = none) :
    (applyStage cfg s).1.core = advance s.core := by
  have := (applyStage_frame cfg s).2.1
  rwa [h] at this

theorem applyStage_keeps {cfg : Cfg K} {P : State K → Prop}
    (hw : ∀ s w, P s → P (widenW w s))
    (hp : ∀ s i st, P s → P (setPilotAt cfg s i st).1)
    (hr : ∀ s w, P s → P (storeRates cfg w s).1)
    (hfin : ∀ s, P s → P (finishStage cfg s))
    (a : State K) (h : P a) : P (applyStage cfg a).1 := by
  have h2 : P (updatePilots cfg (widenW (widthInc a) a)).1 :=
    updatePilotsFrom_keeps hp cfg.stations 0 _ (hw a _ h)
  rcases hap : applyStage cfg a with ⟨s', err⟩
  cases Apply.of_eq hap with
  | noColumn _ => exact hw a _ h
  | pilotsRaise _ hu => rwa [hu] at h2
  | storeRaise _ hu hs =>
    rw [hu] at h2
    have h3 := hr _ (widthInc a) h2
    rwa [hs] at h3
  | done _ hu hs =>
    rw [hu] at h2
    have h3 := hr _ (widthInc a) h2
    rw [hs] at h3
    exact hfin _ h3

theorem schedStage_ok {cfg : Cfg K} {sched : View K → Except Err (Schedule K)} {s : State K}
    {m : Pilots.Mat K} (h : schedStage cfg sched s = .ok m) :
    (activeEvs cfg s).any (fun e => !sessionInfoOk e) = false ∧
    ∃ sch, sched (view cfg s) = .ok sch ∧
      Pilots.updateSchedules (cfg.stations.map (·.id)) s.pilots s.core.iter
        ((lastTs s.core.pending).map Int.toNat) sch = .ok m := by
  unfold schedStage at h
  split at h
  · cases h
  · rename_i hany
    refine ⟨by simpa using hany, ?_⟩
    split at h
    · cases h
    · rename_i sch hs
      split at h
      · cases h
      · rename_i m0 hu
        cases h
        exact ⟨sch, hs, hu⟩

theorem schedStage_ok_invoked {cfg : Cfg K} {sched : View K → Except Err (Schedule K)} {s1 : State K}
    {m : Pilots.Mat K} (h : schedStage cfg sched { s1 with core := markInvoked s1.core } = .ok m) :
    ∃ sch, sched (view cfg { s1 with core := markInvoked s1.core }) = .ok sch ∧
      Pilots.updateSchedules (cfg.stations.map (·.id)) s1.pilots s1.core.iter
        ((lastTs s1.core.pending).map Int.toNat) sch = .ok m :=
  (schedStage_ok h).2

theorem schedStage_congr {cfg : Cfg K} {sched sched' : View K → Except Err (Schedule K)} {s : State K}
    (h : (activeEvs cfg s).any (fun e => !sessionInfoOk e) = false → sched (view cfg s) = sched' (view cfg s)) :
    schedStage cfg sched s = schedStage cfg sched' s := by
  unfold schedStage
  split
  · rfl
  · rename_i hany
    rw [h (by simpa using hany)]

/-- what the scheduling stage can raise: the `ValueError` of `SessionInfo.__init__`, whatever the
    scheduler raised, or an error of `_update_schedules` -/
theorem schedStage_error {cfg : Cfg K} {sched : View K → Except Err (Schedule K)} {s : State K}
    {e : Err} (h : schedStage cfg sched s = .error e) :
    e = .valueError ∨ sched (view cfg s) = .error e ∨ ∃ pe, e = pilotsErr pe := by
  unfold schedStage at h
  split at h
  · cases h
    exact Or.inl rfl
  · split at h
    · rename_i e' hs
      cases h
      exact Or.inr (Or.inl hs)
    · split at h
      · rename_i pe _
        cases h
        exact Or.inr (Or.inr ⟨pe, rfl⟩)
      · cases h

/-- the four outcomes of `body cfg sched s` -/
inductive Pass (cfg : Cfg K) (sched : View K → Except Err (Schedule K)) (s : State K) :
    State K → Option Err → Prop
  | eventRaise {s1 : State K} {e : Err} : eventsStage cfg s = (s1, some e) → Pass cfg sched s s1 (some e)
  | idle {s1 s' : State K} {err : Option Err} : eventsStage cfg s = (s1, none) →
      needsSched cfg.maxRecompute s1.core = false → applyStage cfg s1 = (s', err) → Pass cfg sched s s' err
  | schedRaise {s1 : State K} {e : Err} : eventsStage cfg s = (s1, none) →
      needsSched cfg.maxRecompute s1.core = true →
      schedStage cfg sched { s1 with core := markInvoked s1.core } = .error e →
      Pass cfg sched s { s1 with core := markInvoked s1.core } (some e)
  | scheduled {s1 s' : State K} {m : Pilots.Mat K} {err : Option Err} : eventsStage cfg s = (s1, none) →
      needsSched cfg.maxRecompute s1.core = true →
      schedStage cfg sched { s1 with core := markInvoked s1.core } = .ok m →
      applyStage cfg { s1 with pilots := m, core := markScheduled (markInvoked s1.core) } = (s', err) →
      Pass cfg sched s s' err

theorem Pass.of_eq {cfg : Cfg K} {sched : View K → Except Err (Schedule K)} {s s' : State K}
    {err : Option Err} (h : body cfg sched s = (s', err)) : Pass cfg sched s s' err := by
  rw [body_eq] at h
  rcases hes : eventsStage cfg s with ⟨s1, _ | e1⟩
  · rw [hes, andThen_ok] at h
    cases hn : needsSched cfg.maxRecompute s1.core with
    | false =>
      rw [hn, if_neg Bool.false_ne_true] at h
      exact .idle hes hn h
    | true =>
      rw [hn, if_pos rfl, schedSet] at h
      rcases hs : schedStage cfg sched { s1 with core := markInvoked s1.core } with e | m
      · rw [hs, andThen_err] at h
        cases h
        exact .schedRaise hes hn hs
      · rw [hs, andThen_ok] at h
        exact .scheduled hes hn hs h
  · rw [hes, andThen_err] at h
    cases h
    exact .eventRaise hes

theorem body_congr_view {cfg : Cfg K} {sched sched' : View K → Except Err (Schedule K)} {s : State K}
    (h : ∀ s1, eventsStage cfg s = (s1, none) → needsSched cfg.maxRecompute s1.core = true →
      (activeEvs cfg { s1 with core := markInvoked s1.core }).any (fun e => !sessionInfoOk e) = false →
      sched (view cfg { s1 with core := markInvoked s1.core }) =
        sched' (view cfg { s1 with core := markInvoked s1.core })) :
    body cfg sched s = body cfg sched' s := by
  rw [body_eq, body_eq]
  refine andThen_congr fun s1 hes => ?_
  split
  · rename_i hn
    rw [schedSet, schedSet, schedStage_congr (h s1 hes hn)]
  · rfl

/-- `c'` is `c` with the marks of `scheduler.run()` (`invoked`, `lastUpd`, `resolve`) possibly set -/
def Marked (c c' : Core) : Prop :=
  c' = c ∨ c' = markInvoked c ∨ c' = markScheduled (markInvoked c)

theorem Marked.iter {c c' : Core} (h : Marked c c') : c'.iter = c.iter := by
  rcases h with rfl | rfl | rfl <;> rfl

theorem Marked.occ {c c' : Core} (h : Marked c c') : c'.occ = c.occ := by
  rcases h with rfl | rfl | rfl <;> rfl

/-- `a` is a state at which a period from loop head `s` can stop before the pilots/rates half, or to which
    it applies that half: the events of the period have moved the core and reset EVSE pilots, the
    scheduler may have set its marks and replaced the pilot matrix; nothing else has changed -/
structure PreApply (cfg : Cfg K) (sched : View K → Except Err (Schedule K)) (s a : State K) : Prop where
  rates : a.rates = s.rates
  peak : a.peak = s.peak
  evs : a.evs = s.evs
  noiseIdx : a.noiseIdx = s.noiseIdx
  occLog : a.occLog = s.occLog
  evseLen : a.evsePilot.length = s.evsePilot.length
  core : Marked (EventCore.eventsStage cfg.core s.core).1 a.core
  /-- the pilot matrix is the old one, or what `_update_schedules` made of it in the current period
      with a schedule the scheduler returned -/
  pilots : a.pilots = s.pilots ∨ ∃ v sch last, sched v = .ok sch ∧
      Pilots.updateSchedules (cfg.stations.map (·.id)) s.pilots a.core.iter last sch = .ok a.pilots

theorem PreApply.iter {cfg : Cfg K} {sched : View K → Except Err (Schedule K)} {s a : State K}
    (p : PreApply cfg sched s a) : a.core.iter = (EventCore.eventsStage cfg.core s.core).1.iter := p.core.iter

theorem PreApply.occ {cfg : Cfg K} {sched : View K → Except Err (Schedule K)} {s a : State K}
    (p : PreApply cfg sched s a) : a.core.occ = (EventCore.eventsStage cfg.core s.core).1.occ := p.core.occ

theorem PreApply.of_events {cfg : Cfg K} {s s1 : State K} {o : Option Err}
    (h : eventsStage cfg s = (s1, o)) {a : State K} (h1 : a.rates = s1.rates) (h2 : a.peak = s1.peak)
    (h3 : a.evs = s1.evs) (h4 : a.noiseIdx = s1.noiseIdx) (h5 : a.occLog = s1.occLog)
    (h6 : a.evsePilot = s1.evsePilot) (hc : Marked s1.core a.core)
    {sched : View K → Except Err (Schedule K)}
    (hp : a.pilots = s1.pilots ∨ ∃ v sch last, sched v = .ok sch ∧
      Pilots.updateSchedules (cfg.stations.map (·.id)) s1.pilots a.core.iter last sch = .ok a.pilots) :
    PreApply cfg sched s a := by
  obtain ⟨f1, f2, f3, f4, f5, f6, f7⟩ := eventsStage_frame cfg s
  have hc1 := congrArg Prod.fst (eventsStage_core cfg s)
  rw [h] at f1 f2 f3 f4 f5 f6 f7 hc1
  simp only at f1 f2 f3 f4 f5 f6 f7 hc1
  exact ⟨h1.trans f2, h2.trans f3, h3.trans f4, h4.trans f5, h5.trans f6, (congrArg _ h6).trans f7,
    hc1 ▸ hc, f1 ▸ hp⟩

theorem Pass.preApply {cfg : Cfg K} {sched : View K → Except Err (Schedule K)} {s s' : State K}
    {err : Option Err} (h : Pass cfg sched s s' err) :
    ∃ a, PreApply cfg sched s a ∧ ((s' = a ∧ err ≠ none) ∨ applyStage cfg a = (s', err)) := by
  cases h with
  | eventRaise hes =>
    exact ⟨_, .of_events hes rfl rfl rfl rfl rfl rfl (Or.inl rfl) (Or.inl rfl), Or.inl ⟨rfl, fun h0 => nomatch h0⟩⟩
  | idle hes _ ha => exact ⟨_, .of_events hes rfl rfl rfl rfl rfl rfl (Or.inl rfl) (Or.inl rfl), Or.inr ha⟩
  | @schedRaise s1 _ hes _ _ =>
    exact ⟨{ s1 with core := markInvoked s1.core },
      .of_events hes (a := { s1 with core := markInvoked s1.core }) rfl rfl rfl rfl rfl rfl
        (Or.inr (Or.inl rfl)) (Or.inl rfl),
      Or.inl ⟨rfl, fun h0 => nomatch h0⟩⟩
  | @scheduled s1 _ m _ hes _ hs ha =>
    obtain ⟨sch, hsch, hu⟩ := schedStage_ok_invoked hs
    exact ⟨{ s1 with pilots := m, core := markScheduled (markInvoked s1.core) },
      .of_events hes (a := { s1 with pilots := m, core := markScheduled (markInvoked s1.core) })
        rfl rfl rfl rfl rfl rfl (Or.inr (Or.inr rfl)) (Or.inr ⟨_, sch, _, hsch, hu⟩), Or.inr ha⟩

theorem body_preApply {cfg : Cfg K} {sched : View K → Except Err (Schedule K)} {s s' : State K}
    {err : Option Err} (h : body cfg sched s = (s', err)) :
    ∃ a, PreApply cfg sched s a ∧ ((s' = a ∧ err ≠ none) ∨ applyStage cfg a = (s', err)) :=
  (Pass.of_eq h).preApply

/-- `M`: what is left of `P` at a `PreApply` state, after the events and the scheduler; `applyStage` re-establishes
    `P` from it -/
theorem body_keeps {cfg : Cfg K} {sched : View K → Except Err (Schedule K)} {P M : State K → Prop}
    (hpre : ∀ s a, P s → PreApply cfg sched s a → M a)
    (happly : ∀ a s', M a → applyStage cfg a = (s', none) → P s')
    {s s' : State K} (hP : P s) (h : body cfg sched s = (s', none)) : P s' := by
  obtain ⟨a, hpa, ⟨-, hne⟩ | ha⟩ := body_preApply h
  · exact absurd rfl hne
  · exact happly a s' (hpre s a hP hpa) ha

theorem body_keeps_any {cfg : Cfg K} {sched : View K → Except Err (Schedule K)} {P : State K → Prop}
    (hpre : ∀ s a, P s → PreApply cfg sched s a → P a)
    (happly : ∀ a, P a → P (applyStage cfg a).1)
    {s : State K} (hP : P s) : P (body cfg sched s).1 := by
  obtain ⟨a, hpa, ⟨h1, -⟩ | ha⟩ :=
    body_preApply (show body cfg sched s = ((body cfg sched s).1, (body cfg sched s).2) from rfl)
  · rw [h1]
    exact hpre s a hP hpa
  · have := happly a (hpre s a hP hpa)
    rwa [ha] at this

end Acn.Sim
