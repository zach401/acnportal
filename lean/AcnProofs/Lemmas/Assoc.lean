/-
  A Python `dict` as the model keeps it everywhere: an association list in insertion order (keys: `str` in every
  dict of the model; `Nat` in the lookups of the registry store and the scripted scheduler),
  read by `List.lookup` (first binding of the key).  `set` is `d[k] = v` (a known key keeps its place, a new one
  is appended), `ofPairs` the dict a comprehension or a run of assignments builds (the LAST binding of a key
  wins, the FIRST fixes its place).  Every dict of the model (`Network.Current`, `Sorted.dictSet`,
  `Gen.Code.dictGet?/dictSet`, `Analysis.dictGet`, `SimSortedRd.dictGet`) is shown to be this one where it is
  used; nothing here is about a particular one.  Core only: no import.
-/

namespace Acn.Assoc
variable {α V W : Type} [DecidableEq α]

/-- the keys in insertion order -/
abbrev keys (d : List (α × V)) : List α := d.map (·.1)

/-- `d[k] = v` -/
def set : List (α × V) → α → V → List (α × V)
  | [], k, v => [(k, v)]
  | (k', v') :: r, k, v => if k' = k then (k', v) :: r else (k', v') :: set r k v

/-- the dict built from the pairs in order by assignment -/
def ofPairs (l : List (α × V)) : List (α × V) := l.foldl (fun d p => set d p.1 p.2) []

theorem lookup_cons (k' : α) (v : V) (r : List (α × V)) (k : α) :
    ((k', v) :: r).lookup k = if k' = k then some v else r.lookup k := by
  by_cases h : k' = k
  · subst h; simp
  · have : (k == k') = false := by simpa using fun e : k = k' => h e.symm
    simp [List.lookup_cons, this, h]

theorem lookup_isSome (d : List (α × V)) (k : α) : (d.lookup k).isSome = true ↔ k ∈ keys d := by
  rw [List.lookup_isSome_iff]
  exact ⟨fun ⟨p, hp, e⟩ => List.mem_map.2 ⟨p, hp, (beq_iff_eq.1 e).symm⟩,
    fun h => let ⟨p, hp, e⟩ := List.mem_map.1 h; ⟨p, hp, beq_iff_eq.2 e.symm⟩⟩

theorem lookup_eq_none (d : List (α × V)) (k : α) : d.lookup k = none ↔ k ∉ keys d := by
  rw [← lookup_isSome]; cases d.lookup k <;> simp

omit [DecidableEq α] in
theorem mem_of_lookup [BEq α] [LawfulBEq α] {d : List (α × V)} {k : α} {v : V} (h : d.lookup k = some v) :
    (k, v) ∈ d := by
  obtain ⟨l₁, l₂, rfl, -⟩ := List.lookup_eq_some_iff.1 h
  exact List.mem_append_right _ List.mem_cons_self

theorem lookup_eq_some {d : List (α × V)} (hn : (keys d).Nodup) (k : α) (v : V) :
    d.lookup k = some v ↔ (k, v) ∈ d := by
  refine ⟨mem_of_lookup, fun h => ?_⟩
  induction d with
  | nil => cases h
  | cons p r ih =>
    obtain ⟨k', w⟩ := p
    rw [lookup_cons]
    rcases List.mem_cons.1 h with e | h
    · cases e; simp
    · have hk : k ∈ keys r := List.mem_map.2 ⟨_, h, rfl⟩
      rw [if_neg (fun e : k' = k => (List.nodup_cons.1 hn).1 (e ▸ hk))]
      exact ih (List.nodup_cons.1 hn).2 h

theorem lookup_perm {d d' : List (α × V)} (hn : (keys d).Nodup) (hp : d.Perm d') (k : α) :
    d.lookup k = d'.lookup k := by
  have hn' : (keys d').Nodup := (hp.map _).nodup_iff.1 hn
  apply Option.ext
  intro v
  rw [lookup_eq_some hn, lookup_eq_some hn']
  exact hp.mem_iff

theorem lookup_map {β : Type} (f : β → α) (g : β → V) (l : List β) (k : α) :
    (l.map fun x => (f x, g x)).lookup k = (l.find? fun x => f x == k).map g := by
  induction l with
  | nil => rfl
  | cons x xs ih =>
    rw [List.map_cons, lookup_cons, List.find?_cons, ih]
    by_cases h : f x = k
    · simp [h]
    · simp [h, beq_eq_false_iff_ne.2 h]

theorem lookup_mapVal (f : α → V → W) (d : List (α × V)) (k : α) :
    (d.map fun p => (p.1, f p.1 p.2)).lookup k = (d.lookup k).map (f k) := by
  induction d with
  | nil => rfl
  | cons p r ih =>
    obtain ⟨k', v⟩ := p
    rw [List.map_cons, lookup_cons, lookup_cons, ih]
    by_cases h : k' = k
    · subst h; simp
    · simp [h]

omit [DecidableEq α] in
theorem keys_mapVal (f : α → V → W) (d : List (α × V)) :
    keys (d.map fun p => (p.1, f p.1 p.2)) = keys d := by
  simp [keys, List.map_map, Function.comp_def]

theorem lookup_filterKey (q : α → Bool) (d : List (α × V)) (k : α) :
    (d.filter fun p => q p.1).lookup k = if q k then d.lookup k else none := by
  induction d with
  | nil => simp
  | cons p r ih =>
    obtain ⟨k', v⟩ := p
    by_cases hq : q k' = true
    · rw [List.filter_cons_of_pos (by simpa using hq), lookup_cons, lookup_cons, ih]
      by_cases h : k' = k
      · subst h; simp [hq]
      · simp [h]
    · rw [List.filter_cons_of_neg (by simpa using hq), lookup_cons, ih]
      by_cases h : k' = k
      · subst h; simp [hq]
      · simp [h]

omit [DecidableEq α] in
theorem keys_filterKey (q : α → Bool) (d : List (α × V)) :
    keys (d.filter fun p => q p.1) = (keys d).filter q := by
  simp [keys, List.filter_map, Function.comp_def]

theorem lookup_set (d : List (α × V)) (k : α) (v : V) (k' : α) :
    (set d k v).lookup k' = if k = k' then some v else d.lookup k' := by
  induction d with
  | nil => simp [set, lookup_cons]
  | cons p r ih =>
    obtain ⟨k0, v0⟩ := p
    by_cases h0 : k0 = k
    · subst h0
      by_cases h1 : k0 = k' <;> simp [set, lookup_cons, h1]
    · simp only [set, if_neg h0, lookup_cons, ih]
      by_cases h1 : k0 = k'
      · subst h1; simp [Ne.symm h0]
      · simp [h1]

theorem keys_set (d : List (α × V)) (k : α) (v : V) :
    keys (set d k v) = if k ∈ keys d then keys d else keys d ++ [k] := by
  induction d with
  | nil => simp [set]
  | cons p r ih =>
    obtain ⟨k0, v0⟩ := p
    by_cases h0 : k0 = k
    · subst h0; simp [set]
    · have h0' : ¬ k = k0 := fun e => h0 e.symm
      simp only [set, if_neg h0, List.map_cons, ih, List.mem_cons, h0', false_or]
      split <;> simp

theorem mem_set {d : List (α × V)} {k : α} {v : V} {p : α × V} (h : p ∈ set d k v) :
    p = (k, v) ∨ p ∈ d := by
  induction d with
  | nil => exact Or.inl (by simpa [set] using h)
  | cons q r ih =>
    obtain ⟨k0, v0⟩ := q
    by_cases h0 : k0 = k
    · subst h0
      simp only [set, if_true, List.mem_cons] at h ⊢
      exact h.imp id Or.inr
    · simp only [set, if_neg h0, List.mem_cons] at h ⊢
      rcases h with h | h
      · exact Or.inr (Or.inl h)
      · exact (ih h).imp id Or.inr

theorem set_of_not_mem {d : List (α × V)} {k : α} (v : V) (h : k ∉ keys d) : set d k v = d ++ [(k, v)] := by
  induction d with
  | nil => rfl
  | cons p r ih =>
    obtain ⟨k0, v0⟩ := p
    simp only [List.map_cons, List.mem_cons, not_or] at h
    simp only [set, if_neg (fun e : k0 = k => h.1 e.symm), ih h.2, List.cons_append]

theorem set_same {d : List (α × V)} {k : α} {v : V} (h : d.lookup k = some v) : set d k v = d := by
  induction d with
  | nil => cases h
  | cons p r ih =>
    obtain ⟨k0, v0⟩ := p
    rw [lookup_cons] at h
    by_cases h0 : k0 = k
    · rw [if_pos h0] at h; cases h; simp [set, h0]
    · rw [if_neg h0] at h; simp [set, h0, ih h]

theorem set_set (d : List (α × V)) (k : α) (v v' : V) : set (set d k v) k v' = set d k v' := by
  induction d with
  | nil => simp [set]
  | cons p r ih =>
    by_cases h0 : p.1 = k
    · simp [set, h0]
    · simp [set, h0, ih]

theorem nodup_set {d : List (α × V)} (hn : (keys d).Nodup) (k : α) (v : V) :
    (keys (set d k v)).Nodup := by
  rw [keys_set]
  split
  · exact hn
  · rename_i hk
    exact List.nodup_append.2 ⟨hn, by simp, fun a ha b hb e =>
      hk (by rw [List.mem_singleton.1 hb] at e; exact e ▸ ha)⟩

theorem mem_set_iff {d : List (α × V)} (hn : (keys d).Nodup) (k : α) (v : V) (p : α × V) :
    p ∈ set d k v ↔ p = (k, v) ∨ (p ∈ d ∧ p.1 ≠ k) := by
  obtain ⟨k', v'⟩ := p
  rw [← lookup_eq_some (nodup_set hn k v), lookup_set, ← lookup_eq_some hn]
  by_cases h : k = k'
  · subst h; simp [eq_comm]
  · simp [h, Ne.symm h]

theorem foldl_set (l : List (α × V)) (d : List (α × V)) :
    ((keys d).Nodup → (keys (l.foldl (fun d p => set d p.1 p.2) d)).Nodup) ∧
    (∀ k, (l.foldl (fun d p => set d p.1 p.2) d).lookup k = (l.reverse.lookup k).or (d.lookup k)) ∧
    (∀ p ∈ l.foldl (fun d p => set d p.1 p.2) d, p ∈ l ∨ p ∈ d) := by
  induction l generalizing d with
  | nil => exact ⟨id, fun k => by simp, fun p hp => Or.inr hp⟩
  | cons x xs ih =>
    obtain ⟨i1, i2, i3⟩ := ih (set d x.1 x.2)
    refine ⟨fun hn => i1 (nodup_set hn _ _), fun k => ?_, fun p hp => ?_⟩
    · rw [List.foldl_cons, i2, lookup_set, List.reverse_cons, List.lookup_append, lookup_cons]
      cases xs.reverse.lookup k <;> by_cases h : x.1 = k <;> simp [h]
    · rcases i3 p hp with h | h
      · exact Or.inl (List.mem_cons_of_mem _ h)
      · exact (mem_set h).imp (fun e : p = (x.1, x.2) => e ▸ List.mem_cons_self) id

/-- assignments `d[key b] = g b (d.get (key b))` under pairwise different keys: each reads what the dict held at
    the start, so the run is a run of plain assignments -/
theorem foldl_set_read {β : Type} (key : β → α) (g : β → Option V → V) (l : List β) (d : List (α × V))
    (hn : (l.map key).Nodup) :
    l.foldl (fun d b => set d (key b) (g b (d.lookup (key b)))) d =
      (l.map fun b => (key b, g b (d.lookup (key b)))).foldl (fun d p => set d p.1 p.2) d := by
  induction l generalizing d with
  | nil => rfl
  | cons a t ih =>
    rw [List.map_cons, List.nodup_cons] at hn
    rw [List.foldl_cons, List.map_cons, List.foldl_cons, ih _ hn.2]
    congr 1
    apply List.map_congr_left
    intro b hb
    rw [lookup_set, if_neg (fun e => hn.1 (by rw [e]; exact List.mem_map_of_mem hb))]

theorem lookup_foldl_set_read {β : Type} (key : β → α) (g : β → Option V → V) (l : List β) (d : List (α × V))
    (hn : (l.map key).Nodup) (k : α) :
    (l.foldl (fun d b => set d (key b) (g b (d.lookup (key b)))) d).lookup k =
      ((l.map fun b => (key b, g b (d.lookup (key b)))).lookup k).or (d.lookup k) := by
  have hk : (keys (l.map fun b => (key b, g b (d.lookup (key b))))).Nodup := by rw [keys, List.map_map]; exact hn
  rw [foldl_set_read key g l d hn, (foldl_set _ _).2.1, lookup_perm hk (List.reverse_perm _).symm]

theorem foldl_set_of_nodup (l d : List (α × V)) (hn : (keys (d ++ l)).Nodup) :
    l.foldl (fun d p => set d p.1 p.2) d = d ++ l := by
  induction l generalizing d with
  | nil => simp
  | cons x xs ih =>
    have hx : x.1 ∉ keys d := fun hm => by
      simp only [keys, List.map_append, List.nodup_append] at hn
      exact hn.2.2 _ hm _ List.mem_cons_self rfl
    rw [List.foldl_cons, set_of_not_mem _ hx, ih _ (by simpa using hn)]
    simp

theorem ofPairs_of_nodup {l : List (α × V)} (hn : (keys l).Nodup) : ofPairs l = l := by
  simpa [ofPairs] using foldl_set_of_nodup l [] (by simpa using hn)

theorem lookup_ofPairs (l : List (α × V)) (k : α) : (ofPairs l).lookup k = l.reverse.lookup k := by
  rw [ofPairs, (foldl_set l []).2.1]; simp

theorem nodup_ofPairs (l : List (α × V)) : (keys (ofPairs l)).Nodup :=
  (foldl_set l []).1 List.nodup_nil

theorem mem_ofPairs {l : List (α × V)} {p : α × V} (h : p ∈ ofPairs l) : p ∈ l :=
  ((foldl_set l []).2.2 p h).resolve_right (by simp)

theorem mem_ofPairs_iff (l : List (α × V)) (p : α × V) :
    p ∈ ofPairs l ↔ ∃ pre post, l = pre ++ p :: post ∧ p.1 ∉ keys post := by
  rw [← lookup_eq_some (nodup_ofPairs l), lookup_ofPairs, List.lookup_eq_some_iff]
  constructor
  · rintro ⟨l₁, l₂, h, hk⟩
    refine ⟨l₂.reverse, l₁.reverse, by simpa using congrArg List.reverse h, fun hm => ?_⟩
    obtain ⟨q, hq, e⟩ := List.mem_map.1 hm
    exact bne_iff_ne.1 (hk q (List.mem_reverse.1 hq)) e.symm
  · rintro ⟨pre, post, rfl, hk⟩
    refine ⟨post.reverse, pre.reverse, by simp, fun q hq => ?_⟩
    exact bne_iff_ne.2 fun e => hk (List.mem_map.2 ⟨q, List.mem_reverse.1 hq, e.symm⟩)

theorem mem_keys_ofPairs (l : List (α × V)) (k : α) : k ∈ keys (ofPairs l) ↔ k ∈ keys l := by
  rw [← lookup_isSome, lookup_ofPairs, lookup_isSome, keys, List.map_reverse, List.mem_reverse]

end Acn.Assoc
