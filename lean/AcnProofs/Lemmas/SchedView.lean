/-
  The full simulator model and its scheduler parameter (C05): `Sim.body` consults the scheduler on `handedView`
  only (`body_congr`) — at most once per period, after the period's events; the views recorded along the loop
  correspond 1-1 to the invocations; what the fields of a view are, in terms of the simulator state.
  The loop lemmas are stated for `runG g` (any continuation test); `run` is `runG guard`.
-/
import AcnModel.SchedView
import AcnProofs.Lemmas.EventCoreSim
import AcnProofs.Lemmas.SchedTrace

namespace Acn.Sim
open Acn Acn.EventCore Acn.Steps

set_option linter.unusedSectionVars false

variable {K : Type} [Add K] [Sub K] [Mul K] [Div K] [Neg K] [LT K] [LE K]
  [DecidableLT K] [DecidableLE K] [OfNat K 0] [OfNat K 1] [NatCast K] [HasExp K]

theorem body_congr (cfg : Cfg K) (sched sched' : View K → Except Err (Schedule K)) (s : State K)
    (h : ∀ v, handedView cfg s = some v → sched v = sched' v) : body cfg sched s = body cfg sched' s := by
  refine body_congr_view fun s1 hes hn hany => h _ ?_
  unfold handedView consulted
  rw [hes]
  simp only [hn, if_true, hany, Bool.false_eq_true, if_false]

theorem handedView_eq_some (cfg : Cfg K) (s : State K) (v : View K) :
    handedView cfg s = some v ↔
      ∃ s1, consulted cfg s = some s1 ∧ (activeEvs cfg s1).any (fun e => !sessionInfoOk e) = false ∧
        v = view cfg s1 := by
  unfold handedView
  cases hc : consulted cfg s with
  | none => simp
  | some s1 =>
    simp only [Option.some.injEq, exists_eq_left']
    by_cases hany : (activeEvs cfg s1).any (fun e => !sessionInfoOk e) = true
    · rw [if_pos hany]; simp [hany]
    · rw [if_neg hany]
      have : (activeEvs cfg s1).any (fun e => !sessionInfoOk e) = false := by simpa using hany
      simp only [Option.some.injEq, this, true_and]
      exact eq_comm

theorem handedView_of_events {cfg : Cfg K} {s s1 : State K} (he : eventsStage cfg s = (s1, none)) :
    handedView cfg s =
      if needsSched cfg.maxRecompute s1.core then
        if (activeEvs cfg { s1 with core := markInvoked s1.core }).any (fun e => !sessionInfoOk e) then none
        else some (view cfg { s1 with core := markInvoked s1.core })
      else none := by
  unfold handedView consulted
  rw [he]
  by_cases hn : needsSched cfg.maxRecompute s1.core = true
  · simp only [hn, if_true]
  · simp only [hn, Bool.false_eq_true, if_false]

theorem body_invoked (cfg : Cfg K) (sched : View K → Except Err (Schedule K)) (s s' : State K)
    (h : body cfg sched s = (s', none)) :
    s'.core.invoked = s.core.invoked ++ (handedView cfg s).toList.map (·.iter) := by
  -- on the core the period appends `bodyDelta`; with the events' outcome known, both sides are computed
  have hinv := EventCore.body_invoked (cfg := cfg.core) noFail noFail s.core
  rw [body_core_ok h] at hinv
  have hd : ∀ s1, eventsStage cfg s = (s1, none) →
      bodyDelta cfg.core s.core = if needsSched cfg.maxRecompute s1.core then [s1.core.iter] else [] := by
    intro s1 hes
    have hc := eventsStage_core cfg s
    rw [hes] at hc
    unfold bodyDelta
    rw [← hc, (eventsStage_any_facts hc.symm).1]
    rfl
  rw [hinv]
  cases Pass.of_eq h with
  | idle hes hn _ =>
    rw [hd _ hes, handedView_of_events hes, hn]
    rfl
  | scheduled hes hn hs _ =>
    rw [hd _ hes, handedView_of_events hes, hn, if_pos rfl, if_pos rfl, (schedStage_ok hs).1]
    rfl

theorem runG_eq (g : Core → Bool) (cfg : Cfg K) (sched : View K → Except Err (Schedule K)) :
    ∀ (n : Nat) (s : State K), runG g cfg sched n s = loopE (fun s => g s.core) (body cfg sched) n s :=
  loopE_unique (fun _ => rfl) fun n s => by
    rw [runG]
    rcases body cfg sched s with ⟨s1, _ | e⟩ <;> rfl

theorem runG_guard (cfg : Cfg K) (sched : View K → Except Err (Schedule K)) (n : Nat) (s : State K) :
    runG guard cfg sched n s = run cfg sched n s := by
  rw [runG_eq, run_eq]

theorem runViewsG_eq (g : Core → Bool) (cfg : Cfg K) (sched : View K → Except Err (Schedule K)) :
    ∀ (n : Nat) (s : State K), runViewsG g cfg sched n s =
      (heads (fun s => g s.core) (body cfg sched) n s).flatMap fun s => (handedView cfg s).toList :=
  heads_unique (fun _ => rfl) fun n s => by
    rw [runViewsG]
    rcases body cfg sched s with ⟨s1, _ | e⟩ <;> rfl

theorem runViews_eq (cfg : Cfg K) (sched : View K → Except Err (Schedule K)) :
    ∀ (n : Nat) (s : State K), runViews cfg sched n s =
      (heads (fun s => guard s.core) (body cfg sched) n s).flatMap fun s => (handedView cfg s).toList :=
  heads_unique (fun _ => rfl) fun n s => by
    rw [runViews]
    rcases body cfg sched s with ⟨s1, _ | e⟩ <;> rfl

theorem runViewsG_guard (cfg : Cfg K) (sched : View K → Except Err (Schedule K)) (n : Nat) (s : State K) :
    runViewsG guard cfg sched n s = runViews cfg sched n s := by
  rw [runViewsG_eq, runViews_eq]

theorem runG_invoked_views (g : Core → Bool) (cfg : Cfg K) (sched : View K → Except Err (Schedule K))
    (n : Nat) (s s' : State K) (h : runG g cfg sched n s = (s', none)) :
    s'.core.invoked = s.core.invoked ++ (runViewsG g cfg sched n s).map (·.iter) := by
  rw [Sim.runG_eq] at h
  rw [runViewsG_eq, List.map_flatMap]
  exact loopE_log_ok (m := fun s => s.core.invoked) (fun a a' _ hb => Sim.body_invoked cfg sched a a' hb) n s s' h

theorem runG_congr (g : Core → Bool) (cfg : Cfg K) (sched sched' : View K → Except Err (Schedule K))
    (n : Nat) (s : State K) (h : ∀ v ∈ runViewsG g cfg sched n s, sched v = sched' v) :
    runG g cfg sched' n s = runG g cfg sched n s ∧ runViewsG g cfg sched' n s = runViewsG g cfg sched n s := by
  rw [runViewsG_eq] at h
  -- the two periods agree at every loop head: `body` consults the scheduler on the handed view only
  obtain ⟨h1, h2⟩ := loopE_congr_heads (g := fun s => g s.core) (body := body cfg sched) (body' := body cfg sched')
    n s fun x hx => (Sim.body_congr cfg sched sched' x fun v hv =>
      h v (List.mem_flatMap.2 ⟨x, hx, Option.mem_toList.2 hv⟩)).symm
  rw [Sim.runG_eq, Sim.runG_eq, runViewsG_eq, runViewsG_eq, h1, h2]
  exact ⟨rfl, rfl⟩

theorem run_congr (cfg : Cfg K) (sched sched' : View K → Except Err (Schedule K)) (n : Nat) (s : State K)
    (h : ∀ v ∈ runViews cfg sched n s, sched v = sched' v) :
    run cfg sched' n s = run cfg sched n s ∧ runViews cfg sched' n s = runViews cfg sched n s := by
  simp only [← runG_guard, ← runViewsG_guard] at h ⊢
  exact runG_congr guard cfg sched sched' n s h

theorem occupantEv_eq_some (s : State K) (st : String) (e : Evse.Ev K) :
    occupantEv s st = some e ↔ ∃ x, s.core.occ st = some x ∧ evOf s x.id = some e := by
  unfold occupantEv
  cases h : s.core.occ st with
  | none => simp
  | some x => simp

/-- `network.active_evs` walks `_EVSEs.values()`: the occupants, station by station in REGISTRATION
    order, filtered by "not fully charged" -/
theorem activeEvs_eq_filterMap (cfg : Cfg K) (s : State K) :
    activeEvs cfg s = (cfg.stations.map fun st => occupantEv s st.id).filterMap (fun o => o.filter (isActive cfg)) := by
  unfold activeEvs
  rw [List.filterMap_map]
  apply List.filterMap_congr
  intro st _
  simp only [Function.comp]
  cases occupantEv s st.id with
  | none => rfl
  | some e => simp [Option.filter]

theorem mem_activeEvs_iff (cfg : Cfg K) (s : State K) (e : Evse.Ev K) :
    e ∈ activeEvs cfg s ↔
      ∃ st ∈ cfg.stations, occupantEv s st.id = some e ∧ cfg.fullEps < e.requested - e.delivered := by
  rw [activeEvs_eq_filterMap]
  simp only [List.mem_filterMap, List.mem_map, Option.filter_eq_some_iff, isActive, decide_eq_true_eq]
  exact ⟨fun ⟨_, ⟨st, hst, rfl⟩, h⟩ => ⟨st, hst, h⟩, fun ⟨st, hst, h⟩ => ⟨_, ⟨st, hst, rfl⟩, h⟩⟩

/-- `last_applied_pilot_signals` is EMPTY while `iteration − 1 ≤ 0` (interface.py:359-360) -/
theorem lastApplied_early (cfg : Cfg K) (s : State K) (h : s.core.iter ≤ 1) : lastApplied cfg s = [] := by
  unfold lastApplied
  rw [if_neg (by omega)]

theorem mem_lastApplied_iff (cfg : Cfg K) (s : State K) (h : 2 ≤ s.core.iter) (id : String) (p : K) :
    (id, p) ∈ lastApplied cfg s ↔
      ∃ e ∈ activeEvs cfg s, e.session = id ∧ e.arrival ≤ ((s.core.iter - 1 : Nat) : Int) ∧
        p = s.pilots.get (stationIndex cfg e.station) (s.core.iter - 1) := by
  unfold lastApplied
  rw [if_pos h]
  simp only [List.mem_filterMap]
  constructor
  · rintro ⟨e, he, hh⟩
    split at hh
    · rename_i ha
      simp only [Option.some.injEq, Prod.mk.injEq] at hh
      exact ⟨e, he, hh.1, ha, hh.2.symm⟩
    · simp at hh
  · rintro ⟨e, he, h1, h2, h3⟩
    exact ⟨e, he, by rw [if_pos h2, h1, h3]⟩

/-- `last_applied_pilot_signals` lists (some of) the active sessions, in the order of `active_evs` -/
theorem lastApplied_keys_sublist (cfg : Cfg K) (s : State K) :
    ((lastApplied cfg s).map (·.1)).Sublist ((activeEvs cfg s).map (·.session)) := by
  unfold lastApplied
  split
  · refine filterMap_map_sublist _ _ _ _ fun e p hp => ?_
    split at hp
    · rw [← Option.some.inj hp]
    · cases hp
  · exact List.nil_sublist _

/-- the state `s1` in which the scheduler is consulted in the period that starts at loop head `s`: the energies,
    pilot matrix, rate matrix and peak of the loop head (i.e. of the end of the previous period), the current
    period number, and the occupancy reached after THIS period's events -/
structure Consulted (cfg : Cfg K) (s s1 : State K) : Prop where
  evs : s1.evs = s.evs
  pilots : s1.pilots = s.pilots
  rates : s1.rates = s.rates
  peak : s1.peak = s.peak
  iter : s1.core.iter = s.core.iter
  occ : s1.core.occ = (EventCore.eventsStage cfg.core s.core).1.occ

theorem consulted_spec (cfg : Cfg K) (s s1 : State K) (h : consulted cfg s = some s1) : Consulted cfg s s1 := by
  unfold consulted at h
  have hf := eventsStage_frame cfg s
  have hc := eventsStage_core cfg s
  rcases hes : eventsStage cfg s with ⟨s2, _ | e⟩
  · rw [hes] at h hf hc
    simp only at h hf hc
    split at h
    · simp only [Option.some.injEq] at h
      subst h
      obtain ⟨hp, hr, hk, he, -⟩ := hf
      exact ⟨he, hp, hr, hk, (eventsStage_any_facts hc.symm).1, congrArg (fun r => r.1.occ) hc⟩
    · simp at h
  · rw [hes] at h; simp at h

theorem handedView_iter (cfg : Cfg K) (s : State K) {v : View K} (h : handedView cfg s = some v) :
    v.iter = s.core.iter := by
  obtain ⟨s1, hc, _, rfl⟩ := (handedView_eq_some cfg s v).1 h
  exact (consulted_spec cfg s s1 hc).iter

theorem consulted_occ_valid (cfg : Cfg K) (hv : Valid cfg.core) {t : Nat} {s s1 : State K}
    (hI : Inv cfg.core t s.core) (h : consulted cfg s = some s1) (st : String) (x : Session) :
    s1.core.occ st = some x ↔
      x ∈ cfg.core.sessions ∧ x.station = st ∧ x.arrival ≤ t ∧ (t : Int) < x.departure := by
  have hocc := (consulted_spec cfg s s1 h).occ
  obtain ⟨c1, h1, _, _, _, _, hO, _⟩ := eventsStage_ok hv hI
  rw [hocc, h1]
  exact hO st x

theorem filterMap_some_sublist {α β : Type} (f g : α → Option β) (h : ∀ a b, g a = some b → f a = some b) :
    ∀ l : List α, ((l.filterMap g).map some).Sublist (l.map f) := by
  intro l
  induction l with
  | nil => simp
  | cons a l ih =>
    cases hg : g a with
    | none => rw [List.filterMap_cons_none hg, List.map_cons]; exact List.Sublist.cons _ ih
    | some b =>
      rw [List.filterMap_cons_some hg, List.map_cons, List.map_cons, h a b hg]
      exact List.Sublist.cons_cons _ ih

theorem activeEvs_sublist (cfg : Cfg K) (s : State K) :
    ((activeEvs cfg s).map some).Sublist (cfg.stations.map fun st => occupantEv s st.id) := by
  rw [activeEvs_eq_filterMap]
  simpa using filterMap_some_sublist id (fun o => o.filter (isActive cfg))
    (fun a b h => (Option.filter_eq_some_iff.1 h).1) (cfg.stations.map fun st => occupantEv s st.id)

end Acn.Sim
