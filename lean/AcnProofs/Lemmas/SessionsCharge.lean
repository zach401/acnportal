/-
  For C15: charging the fitted two-stage battery at the fit's full rate for `n`
  periods is the two-stage flow over time `n` (uses the semigroup law of `Lemmas/BatteryCont`).  Then the domain
  of `batt_cap_fn`, `FitDomain`, on which the fit theorems of C15 are stated, and `fit_main`: what an answer
  `(cap, init)` of the ladder satisfies, in terms of the initial SoC `init / cap`.
-/
import AcnModel.Sessions
import AcnProofs.Lemmas.SessionsFit
import AcnProofs.Lemmas.BatteryAlg

set_option linter.unusedSectionVars false

namespace Acn.SessionsFit
open Acn.Sessions Acn.Battery Acn.BattFlow

/-- the battery the fit is about: `Linear2StageBattery(cap, ·, mp, transition_soc = ts)`,
    no noise, continuous calculation -/
structure FitBatt (cap mp ts : ℝ) (b : Batt ℝ) : Prop where
  hcap : b.capacity = cap
  hmp : b.maxPower = mp
  htwo : b.twoStage = true
  hts : b.ts = ts
  hnoise : b.noiseLevel = 0
  hmode : b.cmode = .continuous

variable {cap mr V P ts : ℝ}

/-- One call at the fit's rate: pilot and maximum SoC rates are both `fitM`, so the closed form of
    `Lemmas/BatteryAlg` (`contCharge_ok`, which also covers the full battery of fix F18) is the flow
    over one period. -/
theorem charge_step {b : Batt ℝ} (hb : FitBatt cap (mr * V / 1000) ts b) (hmr : 0 < mr)
    (hV : 0 < V) (hP : 0 < P) (hc : 0 < cap) (hts : ts < 1) (hle : b.charge ≤ cap) :
    ∃ b' r, Battery.charge b mr V P 0 = .ok (b', r) ∧ FitBatt cap (mr * V / 1000) ts b' ∧
      b'.init = b.init ∧ b'.charge ≤ cap ∧
      b'.charge / cap = flowSoc (fitM mr V P cap) (fitM mr V P cap / (1 - ts)) (b.charge / cap) 1 := by
  have hm := fitM_pos hmr hV hP hc
  have hfb := flowSoc_bounds (s := b.charge / cap) (t := 1) hm (div_pos hm (sub_pos.2 hts))
    ((div_le_one hc).2 hle) zero_le_one
  obtain ⟨hcap, hmp, htwo, hts', hnoise, hmode⟩ := hb
  have hcurr : BattAlg.currOf b mr V P 0 =
      flowSoc (fitM mr V P cap) (fitM mr V P cap / (1 - ts)) (b.charge / cap) 1 := by
    unfold BattAlg.currOf BattAlg.pd0Of BattAlg.mdOf
    rw [if_neg (by rw [hnoise]; exact lt_irrefl 0), hcap, hmp, hts', ← fitM,
      contSoc_eq_flow hm hm hts, min_self]
  have hdisp : Battery.charge b mr V P 0 = contCharge b mr V P 0 := by
    unfold Battery.charge; rw [htwo, hmode]; rfl
  rw [hdisp, BattAlg.contCharge_ok b 0 hV hP hmr (hcap ▸ hc) (hmp ▸ by positivity) (hts' ▸ hts)
    (hcap ▸ hle), hcurr, hcap]
  exact ⟨_, _, rfl, ⟨rfl, hmp, htwo, hts', hnoise, hmode⟩, rfl,
    mul_le_of_le_one_left hc.le hfb.2.2, mul_div_cancel_right₀ _ hc.ne'⟩

theorem mkTwoStage_ok {init mp noise : ℝ} (cm : Calc) (hic : init ≤ cap) (h0 : 0 ≤ ts) (h1 : ts < 1) :
    mkTwoStage cap init mp noise ts cm =
      .ok { capacity := cap, charge := init, init := init, maxPower := mp, power := 0,
            twoStage := true, noiseLevel := noise, ts := ts, cmode := cm } := by
  unfold mkTwoStage
  rw [if_neg (not_lt.2 hic), if_neg (not_lt.2 h0), if_neg (not_le.2 h1)]

theorem chargeN_flow (hmr : 0 < mr) (hV : 0 < V) (hP : 0 < P) (hc : 0 < cap) (hts : ts < 1) :
    ∀ (n : Nat) (b : Batt ℝ), FitBatt cap (mr * V / 1000) ts b → b.charge ≤ cap →
      ∃ b', chargeN b mr V P n = .ok b' ∧ FitBatt cap (mr * V / 1000) ts b' ∧ b'.init = b.init ∧
        b'.charge / cap =
          flowSoc (fitM mr V P cap) (fitM mr V P cap / (1 - ts)) (b.charge / cap) (n : ℝ) := by
  have hm := fitM_pos hmr hV hP hc
  have hκ : 0 < fitM mr V P cap / (1 - ts) := div_pos hm (by linarith)
  intro n
  induction n with
  | zero =>
    intro b hb _
    refine ⟨b, rfl, hb, rfl, ?_⟩
    rw [Nat.cast_zero, flowSoc_zero hm hκ]
  | succ n ih =>
    intro b hb hle
    obtain ⟨b1, r, h1, hb1, hi1, hle1, hs1⟩ := charge_step hb hmr hV hP hc hts hle
    obtain ⟨b2, h2, hb2, hi2, hs2⟩ := ih b1 hb1 hle1
    refine ⟨b2, ?_, hb2, by rw [hi2, hi1], ?_⟩
    · rw [chargeN, h1]; exact h2
    · rw [hs2, hs1, flowSoc_semigroup hm hκ (by norm_num) (Nat.cast_nonneg n)]
      congr 1
      push_cast; ring

/-- domain of `batt_cap_fn` -/
structure FitDomain (caps : List ℝ) (mr ts tol E T V P : ℝ) : Prop where
  caps_pos : ∀ c ∈ caps, 0 < c
  mr_pos : 0 < mr
  ts_nonneg : 0 ≤ ts
  ts_lt : ts < 1
  tol_pos : 0 < tol
  E_nonneg : 0 ≤ E
  T_pos : 0 < T
  V_pos : 0 < V
  P_pos : 0 < P

/-- Everything C15 needs about an answer `(cap, init)` of the ladder, in terms of the initial SoC
    `init / cap ≤ 1`: charged from there for `T` periods the battery model takes the request within
    `tol` (SoC) and the free SoC covers the request within `tol`; in the closed-form branch both
    hold exactly and the initial SoC is in the exponential stage; in the bisection branch it lies
    in the code's bracket `[ts − m·T, 1]`. -/
theorem fit_main {caps : List ℝ} {mr ts tol E T V P cap init : ℝ} {fuel : Nat}
    (hd : FitDomain caps mr ts tol E T V P)
    (h : battCapFn caps mr ts tol fuel E T V P = .ok (cap, init)) :
    cap ∈ caps ∧ 0 < cap ∧ E ≤ cap ∧ 0 ≤ init ∧ init / cap ≤ 1 ∧
      |taken (fitM mr V P cap) ts T (init / cap) - E / cap| < tol ∧
      E / cap - tol < 1 - init / cap ∧
      (ts ≤ (closedInitSoc mr ts E T V P cap).2.2 → ts ≤ init / cap ∧
        taken (fitM mr V P cap) ts T (init / cap) = E / cap ∧ E / cap ≤ 1 - init / cap) ∧
      (¬ ts ≤ (closedInitSoc mr ts E T V P cap).2.2 → ts - fitM mr V P cap * T ≤ init / cap) := by
  obtain ⟨hle, hget, h0, pre, post, he, -⟩ := battCapFn_spec caps h
  have hmem : cap ∈ caps := he ▸ List.mem_append_right _ List.mem_cons_self
  have hc : 0 < cap := hd.caps_pos cap hmem
  have hm := fitM_pos hd.mr_pos hd.V_pos hd.P_pos hc
  have hδ : 0 ≤ E / cap := div_nonneg hd.E_nonneg hc.le
  refine ⟨hmem, hc, hle, h0, ?_⟩
  rw [closed_eq]
  cases getInitCap_spec (closed_eq mr ts E T V P cap) (mul_pos hm hd.T_pos).le hd.ts_lt.le hget with
  | closed hcl hi =>
    obtain ⟨hle1, hfree, hflow, -⟩ := closed_spec hm hd.T_pos hd.ts_lt hδ closed_missing
    rw [hi, mul_div_cancel_right₀ _ hc.ne', hflow hcl, sub_self, abs_zero]
    exact ⟨hle1, hd.tol_pos, by linarith only [hd.tol_pos, hfree],
      fun _ => ⟨hcl, rfl, hfree⟩, fun hn => absurd hcl hn⟩
  | infeasible _ _ hi => rw [hi] at h0; norm_num at h0
  | bisect s hncl hfeas hs1 hlb htol hi =>
    obtain ⟨hg1, hg2⟩ := delta_le_free (s := s) hm hd.T_pos hd.ts_lt hs1
    rw [abs_lt] at htol
    rw [hi, mul_div_cancel_right₀ _ hc.ne']
    refine ⟨hs1, ?_, by linarith only [htol.1, hg1, hg2], fun hcl => absurd hcl hncl, fun _ => hlb⟩
    rw [abs_lt]
    refine ⟨by linarith only [htol.1, hg1], ?_⟩
    -- below `ts` the battery takes what `delta_soc_from_init_soc` says; from `ts` on it cannot
    -- reach the request at all, the closed-form candidate lying below `ts`
    rcases le_or_gt s ts with hlt | hge
    · rw [← delta_eq_taken hm hd.T_pos hd.ts_lt hlt]; exact htol.2
    · have := (closed_spec hm hd.T_pos hd.ts_lt hδ closed_missing).2.2.2 hncl hge.le
      linarith only [this, hd.tol_pos]

theorem ratK_cast (q : ℚ) : (ratK q : ℝ) = (q : ℝ) := by
  unfold ratK
  rw [Rat.cast_def, Nat.cast_natAbs]
  split
  · rename_i hneg
    rw [abs_of_neg hneg]; push_cast; ring
  · rename_i hnn
    rw [abs_of_nonneg (not_lt.mp hnn)]

end Acn.SessionsFit
