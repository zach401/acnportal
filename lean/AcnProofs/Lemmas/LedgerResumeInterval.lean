/-
  Under C01's `Valid`, the occupancy snapshot of period `τ` shows session `x` at its station exactly when
  `arrival_x ≤ τ < departure_x` (`LogInterval`): how one recorded period extends that reading, given C01's loop
  invariant `EventCore.Inv` for the new core; that it holds at every loop head and survives aborted periods and
  resumed runs.

  A period aborted by the scheduler leaves the core in a MID-PERIOD state (`EventCore.Mid`,
  `Lemmas/EventCoreMid.lean`); `RInv` = ledger invariant + interval reading of the log + core at a loop head or
  mid-period.  `body_rinv` is the one step, for a period that returns and for one that is aborted.
-/
import AcnProofs.Lemmas.LedgerResume
import AcnProofs.Lemmas.EventCoreSim
import AcnProofs.Lemmas.EventCoreRun
import AcnProofs.Lemmas.EventCoreMid

set_option linter.unusedSectionVars false

namespace Acn.Ledger
open Acn Acn.Sim Acn.EventCore Acn.Evse Finset

variable {K : Type} [Field K] [LinearOrder K] [IsStrictOrderedRing K] [HasExp K]

def LogInterval (cfg : Cfg K) (s : State K) : Prop :=
  ∀ τ i id, occAt s.occLog τ i = some id ↔
    τ < s.core.iter ∧ ∃ st x, cfg.stations[i]? = some st ∧ x ∈ cfg.core.sessions ∧ x.id = id ∧
      x.station = st.id ∧ x.arrival ≤ (τ : Int) ∧ (τ : Int) < x.departure

theorem logInterval_succ {cfg : Cfg K} {s s' : State K}
    (hlen : s.occLog.length = s.core.iter) (hlogI : LogInterval cfg s)
    (hlog : s'.occLog = s.occLog ++ [cfg.stations.map fun st => (s'.core.occ st.id).map (·.id)])
    (hiter : s'.core.iter = s.core.iter + 1)
    (hInv' : EventCore.Inv cfg.core (s.core.iter + 1) s'.core) : LogInterval cfg s' := by
  intro τ i id
  rw [hlog, hiter, occAt_snapshot, hlen, hlogI τ i id]
  constructor
  · rintro (⟨_, hτ, hp⟩ | ⟨rfl, st, x, hst, hx, hc⟩)
    · exact ⟨by omega, hp⟩
    · obtain ⟨m1, m2, m3, m4⟩ := (hInv'.occ st.id x).1 hx
      exact ⟨Nat.lt_succ_self _, st, x, hst, m1, hc, m2, by push_cast at m3; omega, by push_cast at m4; omega⟩
  · rintro ⟨hτ, st, x, hst, m1, m2, m3, m4, m5⟩
    rcases Nat.lt_succ_iff_lt_or_eq.1 hτ with hlt | rfl
    · exact Or.inl ⟨hlt, hlt, st, x, hst, m1, m2, m3, m4, m5⟩
    · exact Or.inr ⟨rfl, st, x, hst, (hInv'.occ st.id x).2 ⟨m1, m3, by push_cast; omega, by push_cast; omega⟩, m2⟩

theorem occAt_iff_interval {cfg : Cfg K} (hn : StationsNodup cfg) (hv : Valid cfg.core) {s : State K}
    (hlog : LogInterval cfg s) {id : String} {e0 : Ev K} (h0 : evIn cfg.evs id = some e0) (τ : Nat) :
    occAt s.occLog τ (stationIndex cfg e0.station) = some id ↔
      τ < s.core.iter ∧ e0.arrival ≤ (τ : Int) ∧ (τ : Int) < e0.departure := by
  have hmem : e0 ∈ cfg.evs := List.mem_of_find?_eq_some h0
  have hsid : e0.session = id := evIn_session h0
  have hx0 : sessionOf e0 ∈ cfg.core.sessions := List.mem_map.2 ⟨e0, hmem, rfl⟩
  rw [hlog]
  constructor
  · rintro ⟨hτ, st, x, _, m1, m2, _, m4, m5⟩
    have : x = sessionOf e0 := id_inj hv.toQ m1 hx0 (by rw [m2]; exact hsid.symm)
    subst this
    exact ⟨hτ, m4, m5⟩
  · rintro ⟨hτ, m4, m5⟩
    have hreg := hv.registered _ hx0
    simp only [Cfg.core, List.mem_map] at hreg
    obtain ⟨st, hst, hstid⟩ := hreg
    obtain ⟨k, hk⟩ := List.mem_iff_getElem?.1 hst
    have hidx := stationIndex_of hn hk
    rw [hstid] at hidx
    have hidx' : stationIndex cfg e0.station = k := hidx
    refine ⟨hτ, st, sessionOf e0, by rw [hidx']; exact hk, hx0, hsid, hstid.symm, m4, m5⟩

structure RInv (cfg : Cfg K) (s : State K) : Prop where
  led : Inv cfg s
  log : LogInterval cfg s
  core : HeadOrMid cfg.core s.core

theorem init_rinv (cfg : Cfg K) (hv : Valid cfg.core) : RInv cfg (Sim.init cfg) := by
  refine ⟨init_ledger cfg, ?_, Or.inl (init_inv hv)⟩
  intro τ i id
  constructor
  · intro h; simp [Sim.init, occAt] at h
  · rintro ⟨h, _⟩; simp [Sim.init, EventCore.init] at h

theorem LogInterval.transfer {cfg : Cfg K} {s a : State K} (h : LogInterval cfg s) (h1 : a.occLog = s.occLog)
    (h2 : a.core.iter = s.core.iter) : LogInterval cfg a := by
  intro τ i id
  rw [h1, h2]
  exact h τ i id

/-- The core clause is `Sim.body_headOrMid`; a period that raised before the pilots/rates half has moved nothing the
    ledger or the log reads (`PreApply`), one that returned has added the row of a loop head. -/
theorem body_rinv {cfg : Cfg K} (hn : StationsNodup cfg) (hv : Valid cfg.core)
    (sched : View K → Except EventCore.Err (Schedule K)) {s s' : State K} {err : Option EventCore.Err}
    (hR : RInv cfg s) (h : Sim.body cfg sched s = (s', err)) (he : ∀ e, err = some e → ¬ ApplyErr e) :
    RInv cfg s' ∧ (err = none → EventCore.Inv cfg.core s'.core.iter s'.core) := by
  obtain ⟨hHM, hInv⟩ := Sim.body_headOrMid hv sched hR.core
  rw [h] at hHM hInv
  obtain ⟨a, p, ⟨rfl, -⟩ | ha⟩ := body_preApply h
  · exact ⟨⟨hR.led.preApply p, hR.log.transfer p.occLog (preApply_core hR.led.occ_sound p).1, hHM⟩, hInv⟩
  · cases err with
    | some e => exact absurd (applyStage_err ha) (he e rfl)
    | none =>
      have hLa := hR.led.preApply p
      -- the period appended the snapshot of its (unchanged) occupancy and advanced `_iteration`
      have hP := applyStage_period (distinctOcc_of hn hLa.occ_sound) hLa.rates_wf ha
      have l1 : s'.occLog = a.occLog ++ [cfg.stations.map fun st => (s'.core.occ st.id).map (·.id)] :=
        hP.core ▸ hP.log
      have hiter : s'.core.iter = a.core.iter + 1 := hP.core ▸ rfl
      exact ⟨⟨applyStage_ledger hn hLa ha, logInterval_succ hLa.log_len
        (hR.log.transfer p.occLog (preApply_core hR.led.occ_sound p).1) l1 hiter (hiter ▸ hInv rfl), hHM⟩, hInv⟩

theorem run_rinv {cfg : Cfg K} (hn : StationsNodup cfg) (hv : Valid cfg.core)
    (sched : View K → Except EventCore.Err (Schedule K)) : ∀ (n : Nat) (s s' : State K) (err : Option EventCore.Err),
    RInv cfg s → Sim.run cfg sched n s = (s', err) → (∀ e, err = some e → ¬ ApplyErr e) → RInv cfg s' :=
  run_induction sched (Q := fun e => ¬ ApplyErr e)
    (fun _ _ hR hb => (body_rinv hn hv sched hR hb fun _ h => nomatch h).1)
    fun _ _ _ hR hb he => (body_rinv hn hv sched hR hb fun _ h => Option.some.inj h ▸ he).1

theorem resumed_rinv {cfg : Cfg K} (hn : StationsNodup cfg) (hv : Valid cfg.core) {s : State K}
    (h : Resumed cfg s) : RInv cfg s := by
  induction h with
  | init => exact init_rinv cfg hv
  | call sched n _ hrun he ih => exact run_rinv hn hv sched n _ _ _ ih hrun he

theorem RInv.dep_le_iter {cfg : Cfg K} (hv : Valid cfg.core) {s : State K} (hR : RInv cfg s)
    (hp : s.core.pending = []) : ∀ x ∈ cfg.core.sessions, x.departure ≤ (s.core.iter : Int) := by
  intro x hx
  have hnot : ∀ e, e ∉ s.core.pending := by rw [hp]; simp
  have had := hv.arr_lt_dep x hx
  rcases hR.core with hI | hM
  · by_contra hlt
    rw [not_le] at hlt
    by_cases ha : (s.core.iter : Int) ≤ x.arrival
    · exact hnot _ ((hI.pend_mem (plugEv x)).2 (Or.inl ⟨x, hx, rfl, ha⟩))
    · exact hnot _ ((hI.pend_mem (unplugEv x)).2 (Or.inr (Or.inl ⟨x, hx, rfl, by omega, by omega⟩)))
  · by_contra hlt
    rw [not_le] at hlt
    rcases lt_trichotomy (s.core.iter : Int) x.arrival with ha | ha | ha
    · exact hnot _ ((hM.pend.2 (plugEv x)).2 (Or.inl ⟨Or.inl ⟨x, hx, rfl, by omega⟩, ha⟩))
    · exact hnot _ ((hM.pend.2 (unplugEv x)).2 (Or.inr ⟨x, hx, rfl, ha.symm, by simp⟩))
    · exact hnot _ ((hM.pend.2 (unplugEv x)).2 (Or.inl ⟨Or.inr (Or.inl ⟨x, hx, rfl, ha, by omega⟩), hlt⟩))

end Acn.Ledger
