/-
  The whole `schedule()` call of the sorted algorithms (any estimator) and `UncontrolledCharging` are natural
  in a relabelling of the stations (`Moves`), a time shift and a pair of oracles with `feas' (T x) = feas x`:
  the call on the relabelled system answers with the relabelled rate vector, or with the same error.
-/
import AcnProofs.Lemmas.EquivSortedRR

set_option linter.unusedSectionVars false

namespace Acn.Sorted
open Acn.SimEquiv

variable {K : Type} [Field K] [LinearOrder K] [IsStrictOrderedRing K]

theorem resolve_ok_eq (infra : Infra K) {raw l : List (Session K)} (h : resolve infra raw = .ok l) :
    l = raw.map (resF infra) := by
  rw [resolve_eq] at h
  split at h
  · exact (Except.ok.inj h).symm
  · cases h

section
variable {n : Nat} {D : Nat → Prop} {p : Nat → Nat} {T : {α : Type} → List α → α → List α} (hM : Moves n D p T)
  (k : Nat) (infra : Infra K)
include hM

theorem uncontrolled_mvS (l : List (Session K)) (hl : ∀ s ∈ l, D s.idx) :
    uncontrolled (mapInfra T infra) (l.map (mvS p k)) = uncontrolled infra l := by
  rw [uncontrolled_eq, uncontrolled_eq, List.map_map]
  congr 1
  exact List.map_congr_left fun s hs => by rw [Function.comp, maxPilot_mvS hM k infra (hl s hs)]; rfl

variable (feas feas' : List K → Bool) (hf : ∀ x : List K, x.length = n → feas' (T x 0) = feas x)
include hf

theorem allocResult_mvS [HasCeilNat K] (hn : infra.ids.length = n) (hallow : infra.allow.length = n) (cfgS : Config K)
    (period : K) (q : List (Session K)) (hq : ∀ s ∈ q, D s.idx) :
    allocResult feas' cfgS (mapInfra T infra) period (q.map (mvS p k)) =
      (allocResult feas cfgS infra period q).map (fun x => T x 0) ∧
    ∀ out, allocResult feas cfgS infra period q = .ok out → out.length = n := by
  unfold allocResult
  cases cfgS.algo with
  | greedy =>
    simp only
    refine ⟨sortingAlgorithm_mvS hM k infra feas feas' hf hn cfgS.fuel cfgS.eps period q hq, ?_⟩
    intro out ho
    rw [(sortingAlgorithm_inactive feas cfgS.fuel cfgS.eps infra period q out ho).1, hn]
  | roundRobin =>
    simp only
    obtain ⟨h1, h2⟩ := roundRobin_mvS hM k infra feas feas' hf hn hallow (rrLevels infra period cfgS.inc)
      (rrLevels (mapInfra T infra) period cfgS.inc) q hq (fun s hs => rrLevels_mvS hM k infra period cfgS.inc (hq s hs))
    refine ⟨?_, ?_⟩
    · rw [h1]
      cases roundRobin feas (rrLevels infra period cfgS.inc) infra q with
      | error e => rfl
      | ok st => rfl
    · intro out ho
      cases hrr : roundRobin feas (rrLevels infra period cfgS.inc) infra q with
      | error e => rw [hrr] at ho; cases ho
      | ok st =>
        rw [hrr] at ho
        simp only [Except.map, Except.ok.injEq] at ho
        rw [← ho]
        exact h2 st hrr

/-- `hfind`: the station table is searched alike (`resolve_mvS`); `hest`: the two estimators answer alike on what
    the call hands them (sessions with valid stations) -/
theorem scheduleCallEst_mvS [HasCeilNat K] (hn : infra.ids.length = n) (hallow : infra.allow.length = n)
    (hfind : ∀ st : String, (T infra.ids "").findIdx? (· == st) = (infra.ids.findIdx? (· == st)).map p)
    (cfgS : Config K) (period : K) (time : Int) (est est' : List (Session K) → Session K → Option K)
    (raw : List (Session K))
    (hest : cfgS.estimate = true → (∀ s ∈ preOf infra period raw, D s.idx) → ∀ s ∈ preOf infra period raw,
      est' ((preOf infra period raw).map (mvS p k)) (mvS p k s) = est (preOf infra period raw) s) :
    (scheduleCallEst feas' cfgS (mapInfra T infra) period (time + k) est' (raw.map (mvS id k))).result =
      (scheduleCallEst feas cfgS infra period time est raw).result.map (fun x => T x 0) ∧
    ∀ out, (scheduleCallEst feas cfgS infra period time est raw).result = .ok out → out.length = n := by
  obtain ⟨hres, hD⟩ := resolve_mvS hM k infra hn hfind raw
  rw [scheduleCallEst_result, scheduleCallEst_result, hres]
  cases hr : resolve infra raw with
  | error e => exact ⟨rfl, fun out ho => by cases ho⟩
  | ok l =>
    have hl := resolve_ok_eq infra hr
    subst hl
    simp only [Except.map]
    obtain ⟨hpre, hpi⟩ := preprocessEst_mvS hM k infra feas feas' hf hn cfgS period est est' _ (hD _ hr) hest
    rw [hpre, sortSessions_mvS hM k infra cfgS.sort period time _ hpi]
    exact allocResult_mvS hM k infra feas feas' hf hn hallow cfgS period _
      (fun s hs => hpi s ((mem_sortBy _ _ s).1 hs))

end
end Acn.Sorted
