/-
  T1c (DESIGN §17) — the hand-written kernels ARE the code, by proof (Tariff group, property C17).

  `AcnModel/Gen/CodeTariff.lean` is regenerated on every run from the Python AST of /repo's working tree
  (harness/translate_code.py).  Translated: the list comprehension at the head of
  `TimeOfUseTariff._get_tariff_schedule` (signals/tariffs/tou_tariff.py)

      [s for s in self._schedule
         if s.dow_mask[date_time.weekday()] and s.start <= (date_time.month, date_time.day) <= s.end]

  as a `List.filter`, with the chained comparison of (month, day) tuples written out as Python compares
  tuples (first components, then second ones) and `dow_mask[weekday]` read as the model reads it
  (`mask.getD wd false`; `weekday()` is 0…6 and every mask has seven entries).  It equals
  `Tariff.validSchedules`, the function `Tariff.selectSchedule` — and through it `C17.get_tariff_spec`,
  `select_of_count_one`, `tariff_total_of_table`, the per-file `total_unambiguous_*` tables — decide on.

  Not translated (tied by the correspondence runs only, T2 of DESIGN §1): the three-way decision on the
  number of valid schedules (its two `ValueError`s differ only in their message), the loop over
  `sorted(…, reverse=True)` in `get_tariff`, the `Decimal` arithmetic of `target_hour`.
-/
import AcnModel.Gen.CodeTariff
import AcnModel.Tariff

namespace Acn.CodeTie
open Acn Acn.Tariff

section
variable {K : Type}

/-- the validity test of one schedule, as the comprehension writes it, is the model's -/
theorem tariff_valid_test (s : Schedule K) (md : Nat × Nat) (wd : Nat) :
    ((s.mask.getD wd false) &&
        ((decide (s.start.1 < md.1) || (s.start.1 == md.1 && decide (s.start.2 ≤ md.2))) &&
         (decide (md.1 < s.stop.1) || (md.1 == s.stop.1 && decide (md.2 ≤ s.stop.2)))))
      = (s.mask.getD wd false && mdLe s.start md && mdLe md s.stop) := by
  unfold mdLe
  rw [Bool.and_assoc]

/-- the schedules `_get_tariff_schedule` considers valid are `Tariff.validSchedules` -/
theorem tariff_valid_schedules_tie (l : List (Schedule K)) (md : Nat × Nat) (wd : Nat) :
    Gen.Code.tariff_valid_schedules l md wd = validSchedules l md wd := by
  unfold Gen.Code.tariff_valid_schedules validSchedules
  simp only [tariff_valid_test]

end

theorem all_translated_tariff : Gen.Code.translatedTariff = ["tariff_valid_schedules"] := rfl

end Acn.CodeTie
