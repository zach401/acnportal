/-
  C19, full simulator on the stochastic network, for `AcnProofs/C19Abort.lean`, over an arbitrary
  carrier.  Which stage touches what: the post-charging hook leaves the EV records (energies) alone,
  does to the network what `Net.post` does with `fully_charged` computed, and never raises; the
  scheduler and apply stages leave the network alone; a raising scheduler stage has changed nothing.
  Hence `body_raise_cases`, the two ways a period raises, and `run_last`, a run as an error-free
  shorter run and one last loop body, which the theorems of C19Abort start from.
-/
import AcnProofs.Lemmas.SimStochastic
import AcnProofs.Lemmas.EventCoreGMLast
import AcnProofs.Lemmas.EventCoreHeap

set_option linter.unusedSectionVars false

namespace Acn.SimSt
open Acn Acn.EventCore Acn.Stoch

variable {K : Type} [Add K] [Sub K] [Mul K] [Div K] [Neg K] [LT K] [LE K]
  [DecidableLT K] [DecidableLE K] [OfNat K 0] [OfNat K 1] [NatCast K] [HasExp K]

theorem postS_evs (cfg : Sim.Cfg K) (t : Nat) (sp : St K) : (postS cfg t sp).1.2.evs = sp.2.evs :=
  congrArg (fun f => f.2.2.1) (postS_ledgerPart cfg t sp)  -- `evs` is the third component of `ledgerPart`

theorem fullOf_congr (cfg : Sim.Cfg K) {a b : Num K} (h : a.evs = b.evs) : fullOf cfg a = fullOf cfg b := by
  funext x
  simp only [fullOf, h]

theorem postS_net (cfg : Sim.Cfg K) (t : Nat) (sp n2 : St K) (h : postS cfg t sp = (n2, none)) :
    sp.1.post (fullOf cfg sp.2) = .ok n2.1 := by
  rw [← postNet_fst]
  unfold postS at h
  cases hp : postNet cfg sp with
  | error e => rw [hp] at h; cases h
  | ok sp' => rw [hp] at h; cases h; rfl

theorem schedS_net1 (cfg : Sim.Cfg K) (sched : Sim.View K → Except EventCore.Err (Sim.Schedule K))
    (g : CoreG (St K)) : (schedS cfg sched g).1.1 = g.net.1 := by
  unfold schedS
  split <;> rfl

theorem schedS_err {cfg : Sim.Cfg K} {sched : Sim.View K → Except EventCore.Err (Sim.Schedule K)}
    {g : CoreG (St K)} {n1 : St K} {e : EventCore.Err} (h : schedS cfg sched g = (n1, some e)) :
    n1 = g.net := by
  unfold schedS at h
  split at h
  · simp only [Prod.mk.injEq] at h
    exact h.1.symm
  · simp at h

theorem schedOut_net1 {cfg : Sim.Cfg K} {sched : Sim.View K → Except EventCore.Err (Sim.Schedule K)}
    {g1 gB : CoreG (St K)} (h : SchedOut cfg.core (schedS cfg sched) g1 gB) : gB.net.1 = g1.net.1 := by
  rcases h with ⟨_, rfl⟩ | ⟨ns, _, hsc, rfl⟩
  · rfl
  · have := schedS_net1 cfg sched { g1 with core := markInvoked g1.core }
    rw [hsc] at this
    exact this

theorem applyS_net1 {cfg : Sim.Cfg K} {gB : CoreG (St K)} {n1 : St K} {r : Option EventCore.Err}
    (hap : applyS cfg gB = (n1, r)) : n1.1 = gB.net.1 := by
  have : (applyS cfg gB).1.1 = gB.net.1 := rfl
  rw [hap] at this
  exact this

theorem postS_not_raised {cfg : Sim.Cfg K} (hq : ValidQ cfg.core) (cs : Nat → Nat)
    {sched : Sim.View K → Except EventCore.Err (Sim.Schedule K)} {g1 gB : CoreG (St K)} {n1 n2 : St K}
    {e : EventCore.Err} {early : Bool} (hN1 : LoopInv cfg.core early g1.core.eventHist g1.net.1)
    (hso : SchedOut cfg.core (schedS cfg sched) g1 gB) (hap : applyS cfg gB = (n1, none))
    (hpo : postS cfg gB.core.iter n1 = (n2, some e)) : False := by
  have hP : LoopInv cfg.core early gB.core.eventHist n1.1 := by
    rw [hso.core.2.1, applyS_net1 hap, schedOut_net1 hso]
    exact hN1
  have := (((hosts_sim cs cfg).noFail cfg.core hq early).post gB.core.eventHist gB.core.iter n1 hP).1
  rw [hpo] at this
  cases this

/-- a period whose events went through (`g1`) and that raises `e`: (A) the scheduler stage raised and
    only the `invoked` flag has moved, or (B) the apply stage raised in the state `gB` the scheduler
    stage left (same network as `g1`) and the state is `gB` with that stage's own partial numeric
    state.  The hook never raises. -/
theorem body_raise_cases {cfg : Sim.Cfg K} (hq : ValidQ cfg.core) (cs : Nat → Nat)
    {sched : Sim.View K → Except EventCore.Err (Sim.Schedule K)} {early : Bool} {gm g1 g : CoreG (St K)}
    {e : EventCore.Err} (h1 : eventsStageG heapQ (netOps cs cfg) cfg.core gm = (g1, none))
    (hN1 : LoopInv cfg.core early g1.core.eventHist g1.net.1) (hb : body cs cfg sched gm = (g, some e)) :
    (RaisedBy (schedS cfg sched) e ∧ g = { g1 with core := markInvoked g1.core }) ∨
    ∃ gB, SchedOut cfg.core (schedS cfg sched) g1 gB ∧ gB.net.1 = g1.net.1 ∧ (applyS cfg gB).2 = some e ∧
      g = { gB with net := (applyS cfg gB).1 } := by
  rcases bodyGM_err_cases h1 hb with ⟨_, n1, hsc, hg⟩ | ⟨gB, n1, hso, hap, hg⟩ | ⟨gB, n1, n2, hso, hap, hpo, hg⟩
  · obtain rfl : n1 = g1.net := schedS_err hsc
    exact Or.inl ⟨⟨_, by rw [hsc]⟩, hg⟩
  · exact Or.inr ⟨gB, hso, schedOut_net1 hso, by rw [hap], by rw [hap]; exact hg⟩
  · exact (postS_not_raised hq cs hN1 hso hap hpo).elim

/-- The last loop body of a run of the full simulator: unless the run is the empty one, its result
    `(g, r)` is what ONE body produces from a loop head `gm` that an error-free shorter run reaches;
    the events of that period do not raise and leave the loop invariant intact (state `g1`), and every
    invariant `J` of the loop (`KeepsJ`) that holds initially holds in `g1`. -/
theorem run_last {cfg : Sim.Cfg K} (hq : ValidQ cfg.core) (hst : (cfg.stations.map (·.id)).Nodup)
    (early : Bool) (cs : Nat → Nat) (sched : Sim.View K → Except EventCore.Err (Sim.Schedule K))
    {n : Nat} {g : CoreG (St K)} {r : Option EventCore.Err}
    (hrun : run cs cfg sched n (init cfg early) = (g, r)) :
    (g = init cfg early ∧ r = none) ∨
    ∃ k gm g1, k < n ∧ run cs cfg sched k (init cfg early) = (gm, none) ∧
      eventsStageG heapQ (netOps cs cfg) cfg.core gm = (g1, none) ∧ g1.core.iter = gm.core.iter ∧
      LoopInv cfg.core early g1.core.eventHist g1.net.1 ∧ body cs cfg sched gm = (g, r) ∧
      ∀ J : CoreG (St K) → Prop,
        KeepsJ heapQ (netOps cs cfg) (postS cfg) cfg.core (schedS cfg sched) (applyS cfg)
          (fun hist (s : St K) => LoopInv cfg.core early hist s.1) J → J (init cfg early) → J g1 := by
  obtain ⟨h0, g0⟩ := initG_inv (σ := St K) hq heapQ_ok (net0 cfg.core early, numOf (Sim.init cfg))
  have hnf := (hosts_sim cs cfg).noFail cfg.core hq early
  have hks := schedS_keeps cfg sched (LoopInv cfg.core early)
  have hka := applyS_keeps cfg (LoopInv cfg.core early)
  rcases runGM_last hq heapQ_ok hnf hks hka n 0 (init cfg early) h0 g0
      (loopInv_init cfg.core hst early) (Nat.zero_le _) g r hrun with
    h | ⟨k, gm, t', hk, hrk, hIm, hGm, hNm, _, hb⟩
  · exact Or.inl h
  · obtain ⟨g1, h1, -, hM, -, hN1⟩ := eventsStageG_ok hq heapQ_ok hnf.toNetInv hIm hGm hNm
    refine Or.inr ⟨k, gm, g1, hk, hrk, h1, by rw [hM.iter, hIm.iter], hN1, hb, fun J hJ hJ0 => ?_⟩
    obtain ⟨-, -, -, hJm⟩ := (runGM_counted hq heapQ_ok hnf.toNetInv hks hka hJ k 0 (init cfg early) h0 g0
      (loopInv_init cfg.core hst early) hJ0 (Nat.zero_le _)).ok_of hrk
    exact hJ.events gm g1 h1 hJm

end Acn.SimSt
