/-
  The noise-free continuous call as the flow of the documented law over the period, at the
  level of the battery state (`contCharge`), and what follows: splitting a period,
  monotonicity in the period and in the pilot.  Frame lemma for whole histories.
-/
import AcnProofs.Lemmas.BatteryReal

namespace Acn.BattLaw
open Acn Acn.Battery Acn.BattAlg Acn.BattFlow Acn.BattReal

/-- SoC per minute requested by the pilot, clamped at the maximum rate -/
noncomputable def rateP (b : Batt ℝ) (pilot V : ℝ) : ℝ :=
  min (pilot * V / 1000 / b.capacity / 60) (b.maxPower / b.capacity / 60)

/-- `κ = max_rate / (1 − transition_soc)` per minute -/
noncomputable def kappa (b : Batt ℝ) : ℝ := b.maxPower / b.capacity / 60 / (1 - b.ts)

theorem pd0Of_lin (b : Batt ℝ) (pilot V : ℝ) {T : ℝ} (hT : 0 < T) :
    pd0Of b pilot V T = pilot * V / 1000 / b.capacity / 60 * T := by
  unfold pd0Of; field_simp

theorem mdOf_lin (b : Batt ℝ) {T : ℝ} (hT : 0 < T) : mdOf b T = b.maxPower / b.capacity / 60 * T := by
  unfold mdOf; field_simp

theorem currOf_free {b : Batt ℝ} (hn : ¬ 0 < b.noiseLevel) (pilot V T ν : ℝ) :
    currOf b pilot V T ν = contSoc (b.charge / b.capacity) b.ts (pd0Of b pilot V T) (mdOf b T) := by
  unfold currOf; simp [hn]

theorem rateP_pos {b : Batt ℝ} (hb : Inv b) (hm : 0 < b.maxPower) {pilot V : ℝ} (hp : 0 < pilot)
    (hV : 0 < V) : 0 < rateP b pilot V := by
  have := hb.cap_pos
  unfold rateP; exact lt_min (by positivity) (by positivity)

theorem kappa_pos {b : Batt ℝ} (hb : Inv b) (hm : 0 < b.maxPower) : 0 < kappa b := by
  have := hb.cap_pos
  have : 0 < 1 - b.ts := by linarith [hb.ts_lt]
  unfold kappa; positivity

theorem rateP_mono (b : Batt ℝ) (hc : 0 < b.capacity) {p1 p2 V : ℝ} (hV : 0 ≤ V) (hp : p1 ≤ p2) :
    rateP b p1 V ≤ rateP b p2 V := by
  unfold rateP
  gcongr

/-- the domain of the documented law: a reachable battery with a positive maximum power and the noise off -/
structure Lawful (b : Batt ℝ) : Prop where
  inv : Inv b
  maxp : 0 < b.maxPower
  quiet : ¬ 0 < b.noiseLevel

theorem Lawful.charge_eq {b : Batt ℝ} (h : Lawful b) : b.charge = soc b * b.capacity := by
  unfold soc; rw [div_mul_cancel₀ _ h.inv.cap_pos.ne']

/-- **a noise-free continuous call is the flow of the documented law over `T` minutes**: the SoC moves along the
    flow; capacity, the two rates and lawfulness are kept, so a second call starts where this one ended -/
theorem contCharge_soc {b : Batt ℝ} (h : Lawful b) (ν : ℝ) {pilot V T : ℝ} (hV : 0 < V) (hT : 0 < T)
    (hp : 0 < pilot) :
    ∃ b' r, contCharge b pilot V T ν = .ok (b', r) ∧ Lawful b' ∧ b'.capacity = b.capacity ∧
      (∀ p V', rateP b' p V' = rateP b p V') ∧ kappa b' = kappa b ∧
      soc b' = flowSoc (rateP b pilot V) (kappa b) (soc b) T ∧
      r = (b'.charge - b.charge) / (T / 60) * 1000 / V := by
  have hc := h.inv.cap_pos
  have hm := h.maxp
  have hs : currOf b pilot V T ν = flowSoc (rateP b pilot V) (kappa b) (soc b) T := by
    rw [currOf_free h.quiet, pd0Of_lin b pilot V hT, mdOf_lin b hT,
      contSoc_eq_flow_t (by positivity) (by positivity) h.inv.ts_lt hT]
    rfl
  have hle : currOf b pilot V T ν * b.capacity ≤ b.capacity := by
    rw [hs]
    exact mul_le_of_le_one_left hc.le
      (flowSoc_bounds (rateP_pos h.inv h.maxp hp hV) (kappa_pos h.inv h.maxp) h.inv.soc_le_one hT.le).2.2
  refine ⟨_, _, contCharge_ok b ν hV hT hp hc hm h.inv.ts_lt h.inv.charge_le,
    ⟨h.inv.of_sameParams (.of_with b _ _) hle, h.maxp, h.quiet⟩, rfl, fun _ _ => rfl, rfl, ?_, ?_⟩
  · show currOf b pilot V T ν * b.capacity / b.capacity = _
    rw [mul_div_cancel_right₀ _ hc.ne', hs]
  · show _ = (currOf b pilot V T ν * b.capacity - b.charge) / (T / 60) * 1000 / V
    congr 2
    field_simp

theorem applyOp_sameParams {b b' : Batt ℝ} {o : Op ℝ} {r : ℝ} (h : applyOp b o = .ok (b', r)) :
    SameParams b b' := by
  cases o with
  | charge pilot V T ν => exact (charge_delivers h).params
  | reset i =>
    simp only [applyOp] at h
    cases hr : reset b i with
    | error e => rw [hr] at h; cases h
    | ok b1 =>
      rw [hr] at h; simp only [Except.ok.injEq, Prod.mk.injEq] at h
      obtain ⟨rfl, rfl⟩ := h
      exact reset_sameParams hr

theorem finalState_sameParams (ops : List (Op ℝ)) : ∀ b : Batt ℝ, SameParams b (finalState b ops) := by
  induction ops with
  | nil => intro b; exact SameParams.refl b
  | cons o os ih =>
    intro b
    unfold finalState
    cases h : applyOp b o with
    | error e => exact ih b
    | ok x =>
      obtain ⟨b', r⟩ := x
      exact (applyOp_sameParams h).trans (ih b')

end Acn.BattLaw
