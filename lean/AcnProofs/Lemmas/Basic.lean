/-
  Bridges between the model's order-only primitives (`pyMin`, `pyMax`, `absK`, `sumK`) and the usual `min`, `max`,
  `|·|`, `List.sum`, and the few facts about plain lists (`getD`, `Forall₂`, folds that keep a best value,
  folds and `mapM` in `Except`) that proofs about different parts of the model share.
-/
import AcnModel.Num
import Mathlib.Data.List.GetD
import Mathlib.Algebra.BigOperators.Group.Finset.Basic
import Mathlib.Algebra.Order.Field.Basic
import Mathlib.Algebra.Order.AbsoluteValue.Basic
import Mathlib.Tactic.Linarith
import Mathlib.Tactic.Ring

namespace Acn

/-- From `init` the fold moves to `f y` only when that is at least as good (`r (f y) best`) and stays only when
    `best` is (`r best (f y)`).  The result is `init` or the value of an element, and at least as good as all of
    them.  (`lastTsList` with `≥` on timestamps, `QSpec.pickFirst` with `≤` on keys, every running maximum.) -/
theorem foldl_best_from {α β : Type} {r : β → β → Prop} (hrefl : ∀ b, r b b)
    (htrans : ∀ a b c, r a b → r b c → r a c) (f : α → β) (p : β → α → Prop)
    [∀ b y, Decidable (p b y)] (hpos : ∀ b y, p b y → r (f y) b)
    (hneg : ∀ b y, ¬p b y → r b (f y)) (xs : List α) (init m : β)
    (hm : xs.foldl (fun b y => if p b y then f y else b) init = m) :
    (m = init ∨ ∃ z ∈ xs, m = f z) ∧ r m init ∧ ∀ z ∈ xs, r m (f z) := by
  induction xs generalizing init with
  | nil => exact ⟨.inl hm.symm, hm ▸ hrefl _, fun _ h => absurd h List.not_mem_nil⟩
  | cons y ys ih =>
    obtain ⟨h1, h2, h3⟩ := ih (if p init y then f y else init) hm
    have hb : r (if p init y then f y else init) init ∧ r (if p init y then f y else init) (f y) := by
      split
      next hc => exact ⟨hpos _ _ hc, hrefl _⟩
      next hc => exact ⟨hrefl _, hneg _ _ hc⟩
    refine ⟨?_, htrans _ _ _ h2 hb.1, List.forall_mem_cons.mpr ⟨htrans _ _ _ h2 hb.2, h3⟩⟩
    rcases h1 with h1 | ⟨z, hz, h1⟩
    · rw [h1]
      split
      · exact .inr ⟨y, List.mem_cons_self, rfl⟩
      · exact .inl rfl
    · exact .inr ⟨z, List.mem_cons_of_mem _ hz, h1⟩

theorem foldl_best {α β : Type} {r : β → β → Prop} (hrefl : ∀ b, r b b)
    (htrans : ∀ a b c, r a b → r b c → r a c) (f : α → β) (p : β → α → Prop)
    [∀ b y, Decidable (p b y)] (hpos : ∀ b y, p b y → r (f y) b)
    (hneg : ∀ b y, ¬p b y → r b (f y)) (x : α) (xs : List α) (m : β)
    (hm : xs.foldl (fun b y => if p b y then f y else b) (f x) = m) :
    (∃ z ∈ x :: xs, m = f z) ∧ ∀ z ∈ x :: xs, r m (f z) := by
  obtain ⟨h1, h2, h3⟩ := foldl_best_from hrefl htrans f p hpos hneg xs (f x) m hm
  exact ⟨h1.elim (fun h => ⟨x, List.mem_cons_self, h⟩) fun ⟨z, hz, h⟩ => ⟨z, List.mem_cons_of_mem _ hz, h⟩,
    List.forall_mem_cons.mpr ⟨h2, h3⟩⟩

theorem foldl_max_spec {α β : Type} [LinearOrder β] (f : α → β) (l : List α) (a : β) :
    (l.foldl (fun m x => max m (f x)) a = a ∨ ∃ x ∈ l, l.foldl (fun m x => max m (f x)) a = f x) ∧
      a ≤ l.foldl (fun m x => max m (f x)) a ∧ ∀ x ∈ l, f x ≤ l.foldl (fun m x => max m (f x)) a := by
  simp only [max_def]
  exact foldl_best_from (r := fun a b : β => b ≤ a) (fun _ => le_rfl) (fun _ _ _ h1 h2 => le_trans h2 h1) f
    (fun b y => b ≤ f y) (fun _ _ => id) (fun _ _ h => (not_le.1 h).le) l a _ rfl

section order
variable {K : Type} [LinearOrder K]

@[simp] theorem pyMin_eq_min (a b : K) : pyMin a b = min a b := by
  unfold pyMin; split
  · rw [min_eq_right (le_of_lt ‹_›)]
  · rw [min_eq_left (not_lt.mp ‹_›)]

@[simp] theorem pyMax_eq_max (a b : K) : pyMax a b = max a b := by
  unfold pyMax; split
  · rw [max_eq_right (le_of_lt ‹_›)]
  · rw [max_eq_left (not_lt.mp ‹_›)]

@[simp] theorem pyMin3_eq (a b c : K) : pyMin3 a b c = min (min a b) c := by
  simp [pyMin3]

@[simp] theorem pyMin4_eq (a b c d : K) : pyMin4 a b c d = min (min (min a b) c) d := by
  simp [pyMin4]

/-- Python's `max(xs)` is a left fold of `pyMax` -/
theorem foldl_pyMax_spec (as : List K) (a : K) :
    as.foldl pyMax a ∈ a :: as ∧ ∀ b ∈ a :: as, b ≤ as.foldl pyMax a := by
  have e : as.foldl pyMax a = as.foldl (fun m x => max m (id x)) a := by
    congr; funext m x; exact pyMax_eq_max m x
  obtain ⟨h1, h2, h3⟩ := foldl_max_spec id as a
  rw [e]
  refine ⟨?_, List.forall_mem_cons.mpr ⟨h2, h3⟩⟩
  rcases h1 with h | ⟨x, hx, h⟩ <;> rw [h]
  · exact List.mem_cons_self
  · exact List.mem_cons_of_mem _ hx

end order

variable {K : Type} [Field K] [LinearOrder K] [IsStrictOrderedRing K]

@[simp] theorem absK_eq_abs (a : K) : absK a = |a| := by
  unfold absK; split
  · rw [abs_of_neg ‹_›]
  · rw [abs_of_nonneg (not_lt.mp ‹_›)]

theorem sumK_eq_sum {M : Type} [AddMonoid M] (l : List M) : sumK l = l.sum := List.sum_eq_foldl.symm

theorem sum_eq_sum_getD {M : Type} [AddCommMonoid M] (l : List M) (n : Nat) (h : l.length = n) :
    l.sum = ∑ i ∈ Finset.range n, l.getD i 0 := by
  subst h
  induction l with
  | nil => rfl
  | cons a l ih =>
    rw [List.length_cons, Finset.sum_range_succ', List.sum_cons, ih, add_comm]
    rfl

theorem sum_eq_sum_range {M : Type} [AddCommMonoid M] (l : List M) (n : Nat) (h : l.length ≤ n) :
    l.sum = ∑ j ∈ Finset.range n, l.getD j 0 := by
  rw [sum_eq_sum_getD l _ rfl]
  exact Finset.sum_subset (Finset.range_subset_range.2 h) fun j _ hj =>
    List.getD_eq_default _ _ (by simpa using hj)

/-- no assumption on the lengths: beyond either list both sides are 0 -/
theorem getD_zipWith_mul {M : Type} [MulZeroClass M] (a b : List M) (j : Nat) :
    (List.zipWith (· * ·) a b).getD j 0 = a.getD j 0 * b.getD j 0 := by
  simp only [List.getD_eq_getElem?_getD, List.getElem?_zipWith]
  cases a[j]? <;> cases b[j]? <;> simp

theorem getD_mem {α : Type} (l : List α) (d : α) {i : Nat} (h : i < l.length) : l.getD i d ∈ l := by
  rw [List.getD_eq_getElem l d h]; exact List.getElem_mem h

theorem range_map_getD {α : Type} (l : List α) (d : α) : (List.range l.length).map (fun i => l.getD i d) = l := by
  apply List.ext_getElem
  · simp
  · intro i h1 h2
    rw [List.getElem_map, List.getElem_range, List.getD_eq_getElem l d h2]

/-- a key (`g`) that `f` hands on from its argument (`h`): the keys of the selection are in the order of the list -/
theorem filterMap_map_sublist {α β γ : Type} (f : α → Option β) (g : β → γ) (h : α → γ) (l : List α)
    (hfg : ∀ a b, f a = some b → g b = h a) : ((l.filterMap f).map g).Sublist (l.map h) := by
  induction l with
  | nil => exact .slnil
  | cons a l ih =>
    rw [List.filterMap_cons]
    cases hf : f a with
    | none => exact ih.cons _
    | some b =>
      rw [List.map_cons, List.map_cons, ← hfg a b hf]
      exact ih.cons_cons _

theorem filterMap_map_nodup {α β γ : Type} (f : α → Option β) (g : β → γ) (h : α → γ) (l : List α)
    (hnd : (l.map h).Nodup) (hfg : ∀ a b, f a = some b → g b = h a) : ((l.filterMap f).map g).Nodup :=
  hnd.sublist (filterMap_map_sublist f g h l hfg)

theorem getD_nonneg {α : Type} [Zero α] [Preorder α] {l : List α} (h : ∀ c ∈ l, 0 ≤ c) (k : Nat) :
    0 ≤ l.getD k 0 := by
  by_cases hk : k < l.length
  · rw [List.getD_eq_getElem _ _ hk]; exact h _ (List.getElem_mem hk)
  · rw [List.getD_eq_default _ _ (by omega)]

/-- lookup by key in a list whose keys are pairwise distinct finds the member itself -/
theorem find?_key_of_nodup {α β : Type} [BEq β] [LawfulBEq β] (f : α → β) {l : List α} (hn : (l.map f).Nodup)
    {x : α} (hx : x ∈ l) : l.find? (fun y => f y == f x) = some x := by
  rcases h : l.find? (fun y => f y == f x) with _ | y
  · simpa using List.find?_eq_none.1 h x hx
  · rw [List.inj_on_of_nodup_map hn (List.mem_of_find?_eq_some h) hx (by simpa using List.find?_some h)]

theorem forall₂_mem_right {α β : Type} {R : α → β → Prop} {l₁ : List α} {l₂ : List β}
    (h : List.Forall₂ R l₁ l₂) : ∀ b ∈ l₂, ∃ a ∈ l₁, R a b := by
  induction h with
  | nil => intro b hb; cases hb
  | cons hab _ ih =>
    intro b hb
    rcases List.mem_cons.mp hb with rfl | hb
    · exact ⟨_, List.mem_cons_self, hab⟩
    · obtain ⟨a, ha, hR⟩ := ih b hb
      exact ⟨a, List.mem_cons_of_mem _ ha, hR⟩

theorem foldlM_except_map {α α' γ ε : Type} (π : α → α') (f : α → γ → Except ε α)
    (g : α' → γ → Except ε α') (h : ∀ s x, (f s x).map π = g (π s) x) :
    ∀ (l : List γ) (s : α), (l.foldlM f s).map π = l.foldlM g (π s)
  | [], _ => rfl
  | x :: l, s => by
    simp only [List.foldlM_cons]
    rw [← h s x]
    cases f s x with
    | error e => rfl
    | ok s1 => exact foldlM_except_map π f g h l s1

theorem foldlM_except_rel {α γ ε : Type} {R : α → α → Prop} (f : α → γ → Except ε α) (hr : ∀ s, R s s)
    (ht : ∀ a b c, R a b → R b c → R a c) (h : ∀ s x s', f s x = .ok s' → R s s') :
    ∀ (l : List γ) (s s' : α), l.foldlM f s = .ok s' → R s s'
  | [], s, s', hl => by cases hl; exact hr s
  | x :: l, s, s', hl => by
    simp only [List.foldlM_cons] at hl
    cases hx : f s x with
    | error e => rw [hx] at hl; cases hl
    | ok s1 =>
      rw [hx] at hl
      exact ht _ _ _ (h s x s1 hx) (foldlM_except_rel f hr ht h l s1 s' hl)

theorem foldlM_except_frame {α β γ ε : Type} (F : α → β) (f : α → γ → Except ε α)
    (h : ∀ s x s', f s x = .ok s' → F s' = F s) :
    ∀ (l : List γ) (s s' : α), l.foldlM f s = .ok s' → F s' = F s :=
  foldlM_except_rel (R := fun a b => F b = F a) f (fun _ => rfl) (fun _ _ _ h1 h2 => h2.trans h1) h

theorem forall₂_imp_mem {α β : Type} {R S : α → β → Prop} {l₁ : List α} {l₂ : List β} (h : List.Forall₂ R l₁ l₂)
    (himp : ∀ a ∈ l₁, ∀ b ∈ l₂, R a b → S a b) : List.Forall₂ S l₁ l₂ := by
  induction h with
  | nil => exact .nil
  | cons hab _ ih =>
    exact .cons (himp _ List.mem_cons_self _ List.mem_cons_self hab)
      (ih fun a ha b hb => himp a (List.mem_cons_of_mem _ ha) b (List.mem_cons_of_mem _ hb))

theorem forall₂_map_eq {α β γ : Type} {R : α → β → Prop} {f : α → γ} {g : β → γ} {l₁ : List α}
    {l₂ : List β} (h : List.Forall₂ R l₁ l₂) (hR : ∀ a b, R a b → g b = f a) : l₂.map g = l₁.map f := by
  induction h with
  | nil => rfl
  | cons hab _ ih => rw [List.map_cons, List.map_cons, hR _ _ hab, ih]

theorem exists_forall₂ {α β : Type} {R : α → β → Prop} :
    ∀ {l : List α}, (∀ a ∈ l, ∃ b, R a b) → ∃ l', List.Forall₂ R l l'
  | [], _ => ⟨[], .nil⟩
  | a :: l, h =>
    let ⟨b, hb⟩ := h a List.mem_cons_self
    let ⟨l', hl⟩ := exists_forall₂ (l := l) fun x hx => h x (List.mem_cons_of_mem _ hx)
    ⟨b :: l', .cons hb hl⟩

/-! A list comprehension whose element function may raise (`[f(x) for x in xs]`) is `List.mapM` in `Except`; one whose
  element function may have no value (fancy indexing `m[idxs]`) is `List.mapM` in `Option`. -/

theorem mapM_ok_iff {α β ε : Type} (f : α → Except ε β) (l : List α) (v : List β) :
    l.mapM f = .ok v ↔ List.Forall₂ (fun a b => f a = .ok b) l v := by
  induction l generalizing v with
  | nil => cases v <;> simp [pure, Except.pure]
  | cons a l ih =>
    rw [List.mapM_cons]
    cases v with
    | nil => cases f a <;> cases l.mapM f <;> simp [bind, Except.bind, pure, Except.pure]
    | cons b v =>
      rw [List.forall₂_cons, ← ih]
      cases f a <;> cases l.mapM f <;> simp [bind, Except.bind, pure, Except.pure]

theorem mapM_total {α β ε : Type} (f : α → Except ε β) (l : List α) (h : ∀ a ∈ l, ∃ b, f a = .ok b) :
    ∃ v, l.mapM f = .ok v :=
  (exists_forall₂ h).imp fun v hv => (mapM_ok_iff f l v).2 hv

theorem mapM_some_iff {α β : Type} (f : α → Option β) (l : List α) (v : List β) :
    l.mapM f = some v ↔ List.Forall₂ (fun a b => f a = some b) l v := by
  induction l generalizing v with
  | nil => cases v <;> simp
  | cons a l ih =>
    rw [List.mapM_cons]
    cases v with
    | nil => cases f a <;> cases l.mapM f <;> simp
    | cons b v =>
      rw [List.forall₂_cons, ← ih]
      cases f a <;> cases l.mapM f <;> simp

theorem mapM_some_map {α β : Type} (f : α → Option β) (g : α → β) (l : List α)
    (h : ∀ a ∈ l, f a = some (g a)) : l.mapM f = some (l.map g) :=
  (mapM_some_iff f l _).2 (List.forall₂_map_right_iff.2 (List.forall₂_same.2 h))

theorem mid_mem {lb ub : K} (h : lb ≤ ub) :
    lb ≤ (lb + ub) / 2 ∧ (lb + ub) / 2 ≤ ub ∧
      ∀ g, ub - lb ≤ 2 * g → ub - (lb + ub) / 2 ≤ g ∧ (lb + ub) / 2 - lb ≤ g := by
  refine ⟨by linarith only [h], by linarith only [h], fun g hg => ?_⟩
  constructor <;> linarith only [hg]

end Acn
