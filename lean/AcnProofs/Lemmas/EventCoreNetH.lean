/-
  The events of one period for ANY conforming queue and ANY network whose good behaviour may depend on the HISTORY
  of calls.  `NoFailH` is `NetOps.NoFail` with the invariant `P` indexed by `event_history`, and with the facts the
  loop guarantees at each call — at a plug-in the plug-in event is new; at an unplug the plug-in event is already in
  the history and the unplug event is new.  `NetInv` adds, at a plug-in, what the loop knows about the ORDER of
  delivery; every `NoFailH` network is a `NetInv` network, and `ChargingNetwork` with the occupancy read off the
  history is one (`EventCoreRun.lean`).  `stepG_ok` (one event, with what holds `During` a period), `eventsStageG_ok`
  (the stage: the `for` loop of `Steps.lean` over it): such a network never raises during the events stage, and the
  stage leaves `MidG`: history and queue of the period worked off.
  `NoFail.toH`: the history-free `NoFail` with `ChargingNetwork`'s empty hook is the special case.
  `NoFailH.comap`: a state that carries such a network as a component inherits it.
-/
import AcnModel.EventCoreGP
import AcnProofs.Lemmas.EventCoreNet

namespace Acn.EventCore
open Acn Acn.Steps

structure NoFailH {σ : Type} (net : NetOps σ) (post : Nat → σ → σ × Option Err) (cfg : Cfg)
    (P : List Event → σ → Prop) : Prop where
  plugin : ∀ hist s, ∀ x ∈ cfg.sessions, P hist s → plugEv x ∉ hist →
    (net.plugin s x).2 = none ∧ P (hist ++ [plugEv x]) (net.plugin s x).1
  unplug : ∀ hist s, ∀ x ∈ cfg.sessions, P hist s → plugEv x ∈ hist →
    unplugEv x ∉ hist →
    (net.unplug s x).2 = none ∧ P (hist ++ [unplugEv x]) (net.unplug s x).1
  recomp : ∀ hist s, ∀ r ∈ cfg.recomputes, P hist s → P (hist ++ [recEv r]) s
  post : ∀ hist t s, P hist s → (post t s).2 = none ∧ P hist (post t s).1

/-- `NoFailH` whose plug-in clause may also use what the loop guarantees about the ORDER of delivery: nobody
    plugged in so far arrives later than `x`, and whoever departs by `x.arrival` has been unplugged.
    (`ChargingNetwork` needs both to know the station vacant: `chargingNet_netInv`.) -/
structure NetInv {σ : Type} (net : NetOps σ) (post : Nat → σ → σ × Option Err) (cfg : Cfg)
    (P : List Event → σ → Prop) : Prop where
  plugin : ∀ hist s, ∀ x ∈ cfg.sessions, P hist s → plugEv x ∉ hist →
    (∀ y ∈ cfg.sessions, plugEv y ∈ hist → y.arrival ≤ x.arrival) →
    (∀ y ∈ cfg.sessions, y.departure ≤ x.arrival → unplugEv y ∈ hist) →
    (net.plugin s x).2 = none ∧ P (hist ++ [plugEv x]) (net.plugin s x).1
  unplug : ∀ hist s, ∀ x ∈ cfg.sessions, P hist s → plugEv x ∈ hist → unplugEv x ∉ hist →
    (net.unplug s x).2 = none ∧ P (hist ++ [unplugEv x]) (net.unplug s x).1
  recomp : ∀ hist s, ∀ r ∈ cfg.recomputes, P hist s → P (hist ++ [recEv r]) s
  post : ∀ hist t s, P hist s → (post t s).2 = none ∧ P hist (post t s).1

theorem NoFailH.toNetInv {σ : Type} {net : NetOps σ} {post : Nat → σ → σ × Option Err} {cfg : Cfg}
    {P : List Event → σ → Prop} (h : NoFailH net post cfg P) : NetInv net post cfg P :=
  ⟨fun hist s x hx hp hn _ _ => h.plugin hist s x hx hp hn, h.unplug, h.recomp, h.post⟩

section
variable {σ : Type} {cfg : Cfg} {ops : QOps} {good : List Event → Prop} {net : NetOps σ}
  {post : Nat → σ → σ × Option Err} {P : List Event → σ → Prop}

/-- the state while the events `todo` of period `t` are still to be processed: the history followed by `todo` is the
    duplicate-free, key-sorted enumeration of what is done and what is due (`HistOK`); queue and `ev_history` keys
    account for the events worked off -/
structure During (cfg : Cfg) (good : List Event → Prop) (P : List Event → σ → Prop) (t : Int) (todo : List Event)
    (g : CoreG σ) : Prop where
  cur : ∀ e ∈ todo, Cur cfg t e
  hist : HistOK cfg t todo g.core.eventHist
  pend : PendOK cfg t todo g.core.pending
  evh : EvhOK g.core
  good : good g.core.pending
  net : P g.core.eventHist g.net

/-- `i`, `v`: iteration counter and call log, which no event touches -/
theorem stepG_ok (hq : ValidQ cfg) (hops : ops.Ok good) (hnet : NetInv net post cfg P) (t : Int) (i : Nat)
    (v : List Nat) (e : Event) (rest : List Event) (g : CoreG σ)
    (h : During cfg good P t (e :: rest) g ∧ g.core.iter = i ∧ g.core.invoked = v) :
    Ends (fun g' => During cfg good P t rest g' ∧ g'.core.iter = i ∧ g'.core.invoked = v) (fun _ _ => False)
      (stepG ops net cfg e g) := by
  obtain ⟨⟨hc, hH, hP, hE, hG, hN⟩, hi, hv⟩ := h
  have hn := (List.nodup_append.1 hH.1).2.1
  have hs := (List.pairwise_append.1 hH.2.2).2.1
  have hc' : ∀ e ∈ rest, Cur cfg t e := fun d hd => hc d (List.mem_cons_of_mem _ hd)
  have hcur := hc e (by simp)
  have hH' := hH.step
  have hnew := hH.head_not_mem
  have hmem := hH.mem_iff hc
  rcases hcur with ⟨x, hx, rfl, hxa⟩ | ⟨x, hx, rfl, hxa, hxd⟩ | ⟨r, hr, rfl, hrt⟩
  · -- the history holds what is due before `plugEv x` in the key order: earlier periods, and this period's unplugs
    have hA : ∀ y ∈ cfg.sessions, plugEv y ∈ g.core.eventHist → y.arrival ≤ x.arrival := by
      intro y _ hm
      rcases (hmem _).1 hm with hd | ⟨hcu, _⟩
      · have : y.arrival < t := hd.ts_lt
        omega
      · have : y.arrival = t := hcu.ts_eq
        omega
    have hB : ∀ y ∈ cfg.sessions, y.departure ≤ x.arrival → unplugEv y ∈ g.core.eventHist := by
      intro y hy hd
      have := hq.arr_lt_dep y hy
      rcases lt_or_eq_of_le (hxa ▸ hd) with h | h
      · exact (hmem _).2 (Or.inl (Or.inr (Or.inl ⟨y, hy, rfl, h⟩)))
      · refine (hmem _).2 (Or.inr ⟨Or.inr (Or.inl ⟨y, hy, rfl, by omega, h⟩), ?_⟩)
        intro hm
        rcases List.mem_cons.1 hm with hm | hm
        · exact unplugEv_ne_plugEv _ _ hm
        · exact no_unplug_after_plugin hs hxa h hm
    obtain ⟨hnf, hnp⟩ := hnet.plugin g.core.eventHist g.net x hx hN hnew hA hB
    obtain ⟨hpp, hpg⟩ := hops.push g.core.pending (unplugEv x) hG
    rw [stepG_plugin (ops := ops) hq hx g _ (Prod.ext rfl hnf : net.plugin g.net x = (_, none))]
    exact .ok ⟨⟨hc', hH', (hP.step_plugin hq hx hxa hn).perm hpp, hE.plugin x _ _ rfl rfl, hpg, hnp⟩, hi, hv⟩
  · have hin : plugEv x ∈ g.core.eventHist := (hmem _).2 (Or.inl (Or.inl ⟨x, hx, rfl, hxa⟩))
    obtain ⟨hnf, hnp⟩ := hnet.unplug g.core.eventHist g.net x hx hN hin hnew
    rw [stepG_unplug (ops := ops) hq hx g _ (Prod.ext rfl hnf : net.unplug g.net x = (_, none))]
    exact .ok ⟨⟨hc', hH', hP.step_other (fun z => plugEv_ne_unplugEv z x),
      (by unfold EvhOK at hE ⊢; simp [hE, unplugEv]), hG, hnp⟩, hi, hv⟩
  · rw [stepG_rec (cfg := cfg) (ops := ops) (net := net) r g]
    exact .ok ⟨⟨hc', hH', hP.step_other (fun z => plugEv_ne_recEv z r),
      (by unfold EvhOK at hE ⊢; simp [hE, recEv]), hG, hnet.recomp _ _ r hr hN⟩, hi, hv⟩

theorem eventsStageG_ok (hq : ValidQ cfg) (hops : ops.Ok good) (hnet : NetInv net post cfg P) {t : Nat}
    {g : CoreG σ} (hI : InvG cfg t g.core) (hG : good g.core.pending) (hN : P g.core.eventHist g.net) :
    ∃ g1, eventsStageG ops net cfg g = (g1, none) ∧ g1.core.invoked = g.core.invoked ∧ MidG cfg t g1.core ∧
      good g1.core.pending ∧ P g1.core.eventHist g1.net := by
  have hiter := hI.iter
  subst hiter
  obtain ⟨hc, hH, hP, hG'⟩ :=
    hops.pop_period hI.pend_nodup hI.pend_iff hI.hist_nodup hI.hist_iff hI.hist_sorted hG
  have h := foldE_ends (f := stepG ops net cfg) (Q := fun _ _ => False)
    (P := fun rest g' => During cfg good P g.core.iter rest g' ∧ g'.core.iter = g.core.iter ∧
      g'.core.invoked = g.core.invoked)
    (stepG_ok hq hops hnet g.core.iter g.core.iter g.core.invoked) (ops.pop g.core.iter g.core.pending).1
    { g with core := { g.core with pending := (ops.pop g.core.iter g.core.pending).2 } }
    ⟨⟨fun e he => (hc e).1 he, hH, hP, hI.evh, hG', hN⟩, rfl, rfl⟩
  rw [← processAllG_eq] at h
  rcases hr : eventsStageG ops net cfg g with ⟨g1, _ | e⟩
  · obtain ⟨hD, hi, hv⟩ := h.ok_of hr
    exact ⟨g1, rfl, hv, ⟨hi, hD.hist, hD.pend, hD.evh⟩, hD.good, hD.net⟩
  · exact (h.err_of hr).elim

end

theorem NetOps.NoFail.toH {σ : Type} {net : NetOps σ} {cfg : Cfg} {P : σ → Prop} (h : net.NoFail cfg P) :
    NoFailH net noPost cfg (fun _ s => P s) where
  plugin := fun _ s x hx hp _ => h.plugin s x hx hp
  unplug := fun _ s x hx hp _ _ => h.unplug s x hx hp
  recomp := fun _ _ _ _ hp => hp
  post := fun _ _ _ hp => ⟨rfl, hp⟩

theorem bodyGP_noPost {σ : Type} (ops : QOps) (net : NetOps σ) (cfg : Cfg)
    (sched apply : CoreG σ → Option Err) (g : CoreG σ) :
    bodyGP ops net noPost cfg sched apply g = bodyG ops net cfg sched apply g := by
  unfold bodyGP noPost
  rcases bodyG ops net cfg sched apply g with ⟨g', _ | e⟩ <;> rfl

theorem NoFailH.comap {σ τ : Type} (π : τ → σ) {net : NetOps σ} {post : Nat → σ → σ × Option Err}
    {cfg : Cfg} {P : List Event → σ → Prop} (h : NoFailH net post cfg P) {net' : NetOps τ}
    {post' : Nat → τ → τ × Option Err}
    (hpl : ∀ s x, (π (net'.plugin s x).1, (net'.plugin s x).2) = net.plugin (π s) x)
    (hun : ∀ s x, (π (net'.unplug s x).1, (net'.unplug s x).2) = net.unplug (π s) x)
    (hpost : ∀ hist t s, P hist (π s) → (post' t s).2 = none ∧ P hist (π (post' t s).1)) :
    NoFailH net' post' cfg (fun hist s => P hist (π s)) where
  plugin := fun hist s x hx hP hnew => by
    have := h.plugin hist (π s) x hx hP hnew
    rwa [← hpl] at this
  unplug := fun hist s x hx hP hin hnew => by
    have := h.unplug hist (π s) x hx hP hin hnew
    rwa [← hun] at this
  recomp := fun hist s r hr hP => h.recomp hist (π s) r hr hP
  post := hpost

end Acn.EventCore
