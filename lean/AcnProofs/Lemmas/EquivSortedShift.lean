/-
  Time shift × the modelled algorithms: `Sorted.scheduleCall` sees time only through `arrival` /
  `estimated_departure` of the sessions and the current period; with all three moved by `k` the sort keys
  compare alike (`estimated_departure − now` is what LLF reads), the remaining times are the same, and nothing
  else of the call reads them.  This is the naturality of the call (`scheduleCall_mvS`, `uncontrolled_mvS`) for
  the relabelling that moves no station (`Moves.id`), in both preprocessing modes.
-/
import AcnProofs.Lemmas.EquivSortedRampdown
import AcnProofs.Lemmas.EquivSimShift

set_option linter.unusedSectionVars false

namespace Acn.SimSorted
open Acn.Sim Acn.Sorted Acn.SimShift

variable {K : Type} [Field K] [LinearOrder K] [IsStrictOrderedRing K] [HasExp K]

theorem sessionOfEv_shift (inf : K) (k now : Nat) (e : Evse.Ev K) :
    sessionOfEv inf (now + k) (shiftEvK k e) = mvS id k (sessionOfEv inf now e) := by
  unfold sessionOfEv mvS shiftEvK remainingTime
  simp only
  have h1 : e.departure + (k : Int) - (e.arrival + (k : Int)) = e.departure - e.arrival := by omega
  have h2 : e.departure + (k : Int) - ((now + k : Nat) : Int) = e.departure - (now : Int) := by push_cast; omega
  rw [h1, h2]
  rfl

theorem active_shift (inf : K) {k : Nat} {v v' : View K} (hv : ViewShift k v v') :
    v'.active.map (sessionOfEv inf v'.iter) = (v.active.map (sessionOfEv inf v.iter)).map (mvS id k) := by
  rw [hv.active, hv.iter, List.map_map, List.map_map]
  apply List.map_congr_left
  intro e _
  exact sessionOfEv_shift inf k v.iter e

theorem uncontrolledSched_shiftInvariant (k : Nat) (inf : K) (cfg : Cfg K) :
    SchedShiftInvariant k (uncontrolledSched inf cfg) (uncontrolledSched inf (shiftCfgS k cfg)) := by
  intro v v' hv
  unfold uncontrolledSched
  have hinf : infraOf inf (shiftCfgS k cfg) = infraOf inf cfg := rfl
  -- `mapInfra` with the identity is the infrastructure itself, by `rfl`
  have hres : resolve (infraOf inf cfg) ((v.active.map (sessionOfEv inf v.iter)).map (mvS id k)) =
      (resolve (infraOf inf cfg) (v.active.map (sessionOfEv inf v.iter))).map (List.map (mvS id k)) :=
    (resolve_mvS (Moves.id _) k (infraOf inf cfg) rfl (fun _ => by simp) _).1
  simp only [hinf, active_shift inf hv, hres]
  cases resolve (infraOf inf cfg) (v.active.map (sessionOfEv inf v.iter)) with
  | error e => rfl
  | ok l =>
    have hu : uncontrolled (infraOf inf cfg) (l.map (mvS id k)) = uncontrolled (infraOf inf cfg) l :=
      uncontrolled_mvS (Moves.id 0) k (infraOf inf cfg) l (fun _ _ => trivial)
    simp only [Except.map, hu]

/-- the sorting-based algorithms (greedy and round robin, every sort, interruptible or
    `uninterrupted_charging`, no estimator) depend on the view through relative time only -/
theorem sortedSched_shiftInvariant_any [HasCeilNat K] (k : Nat) (net : NetInfo K) (inf : K) (cfg : Cfg K)
    (scfg : Config K) :
    SchedShiftInvariant k (sortedSched net inf cfg scfg) (sortedSched net inf (shiftCfgS k cfg) scfg) := by
  intro v v' hv
  unfold sortedSched
  have hinf : infraOf inf (shiftCfgS k cfg) = infraOf inf cfg := rfl
  have hper : (shiftCfgS k cfg).period = cfg.period := rfl
  have htime : ((v'.iter : Nat) : Int) = (v.iter : Int) + (k : Int) := by rw [hv.iter]; push_cast; rfl
  have hallow : (infraOf inf cfg).allow.length = (infraOf inf cfg).ids.length := by simp [infraOf]
  have h1 : (scheduleCall (feasOf net) { scfg with estimate := false } (infraOf inf cfg) cfg.period ((v.iter : Int) + k)
        (fun _ => none) { upTh := 0, downTh := 0, upInc := 0, bounds := [] }
        ((v.active.map (sessionOfEv inf v.iter)).map (mvS id k))).result =
      (scheduleCall (feasOf net) { scfg with estimate := false } (infraOf inf cfg) cfg.period (v.iter : Int)
        (fun _ => none) { upTh := 0, downTh := 0, upInc := 0, bounds := [] }
        (v.active.map (sessionOfEv inf v.iter))).result.map (fun x => x) :=
    (scheduleCall_mvS (Moves.id _) k (infraOf inf cfg) (feasOf net) (feasOf net) (fun _ _ => rfl) rfl hallow
      (fun _ => by simp) { scfg with estimate := false } cfg.period (v.iter : Int) (fun _ => none)
      (RdEquiv.refl _) (v.active.map (sessionOfEv inf v.iter))).1.1
  simp only [hinf, hper, active_shift inf hv, htime, h1]
  cases (scheduleCall (feasOf net) { scfg with estimate := false } (infraOf inf cfg) cfg.period (v.iter : Int)
      (fun _ => none) { upTh := 0, downTh := 0, upInc := 0, bounds := [] }
      (v.active.map (sessionOfEv inf v.iter))).result <;> rfl

end Acn.SimSorted
