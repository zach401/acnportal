/-
  Helper lemmas for C17: the 28-digit `Decimal` hour value of `get_tariff` compares with half-hour breakpoints exactly
  as the whole-second time of day does.  On the 48 half hours it is exact (a kernel-checked table); at every other
  second it is within 1.2·10⁻²⁶ of the exact rational, which is at least 1/3600 away from a breakpoint.
-/
import AcnModel.Tariff
import AcnProofs.Lemmas.TariffRound
import Mathlib.Tactic

namespace Acn.C17
open Acn.Tariff

def secOfDay (h m s : Nat) : Nat := 3600 * h + 60 * m + s

/-- executable form of "the rounded hour value lies in the same half hour as the exact one":
    with `t = c·10^e` (`e ≤ 0`) the rounded value, `T = secOfDay h m s` and `F = ⌊T / 1800⌋`,  `F/2 ≤ t < (F+1)/2`. -/
def flipOk (h m s : Nat) : Bool :=
  match targetHour h m s with
  | ⟨c, e⟩ =>
    let F := secOfDay h m s / 1800
    decide (e ≤ 0) && decide (F * 10 ^ (-e).toNat ≤ 2 * c) && decide (2 * c < (F + 1) * 10 ^ (-e).toNat)

theorem toRat_of_nonpos (c : Nat) (e : Int) (he : e ≤ 0) :
    Dec.toRat ⟨c, e⟩ = (c : ℚ) / ((10 ^ (-e).toNat : Nat) : ℚ) := by
  unfold Dec.toRat
  by_cases h0 : 0 ≤ e
  · have : e = 0 := le_antisymm he h0
    subst this
    simp
  · simp [h0]

theorem half_le_iff (k c P : Nat) (hP : 0 < P) :
    (k : ℚ) / 2 ≤ (c : ℚ) / (P : ℚ) ↔ k * P ≤ 2 * c := by
  rw [div_le_div_iff₀ (by norm_num) (by exact_mod_cast hP), mul_comm (c : ℚ)]
  exact_mod_cast Iff.rfl

theorem no_flip_of_flipOk (h m s : Nat) (hok : flipOk h m s = true) (k : Nat) :
    (k : ℚ) / 2 ≤ (targetHour h m s).toRat ↔ 1800 * k ≤ secOfDay h m s := by
  unfold flipOk at hok
  generalize targetHour h m s = t at hok ⊢
  obtain ⟨c, e⟩ := t
  simp only [Bool.and_eq_true, decide_eq_true_eq] at hok
  obtain ⟨⟨he, h1⟩, h2⟩ := hok
  rw [toRat_of_nonpos c e he, half_le_iff k c _ (by positivity)]
  set P := 10 ^ (-e).toNat with hPdef
  have hP : 0 < P := by positivity
  set F := secOfDay h m s / 1800 with hF
  constructor
  · intro hk
    have : k * P < (F + 1) * P := lt_of_le_of_lt hk h2
    have hkF : k < F + 1 := Nat.lt_of_mul_lt_mul_right this
    have : k ≤ F := by omega
    have := (Nat.le_div_iff_mul_le (by norm_num : 0 < 1800)).mp this
    omega
  · intro hk
    have : k ≤ F := (Nat.le_div_iff_mul_le (by norm_num : 0 < 1800)).mpr (by omega)
    exact le_trans (Nat.mul_le_mul_right P this) h1

/-- a value within a second of the exact time of day cannot flip a comparison with a half-hour
    breakpoint, at an instant that is not itself a half hour (the contract the harness checks on
    CPython's `Decimal` for all 86 400 seconds of the day) -/
theorem no_flip_of_close (x : ℚ) (T k : Nat) (hclose : |x - (T : ℚ) / 3600| < 1 / 3600)
    (hoff : T % 1800 ≠ 0) : (k : ℚ) / 2 ≤ x ↔ 1800 * k ≤ T := by
  rw [abs_lt] at hclose
  constructor
  · intro hk
    by_contra hlt
    have hq : ((T + 1 : Nat) : ℚ) ≤ ((1800 * k : Nat) : ℚ) := by
      exact_mod_cast (by omega : T + 1 ≤ 1800 * k)
    push_cast at hq
    linarith [hclose.2]
  · intro hk
    have hq : ((1800 * k + 1 : Nat) : ℚ) ≤ ((T : Nat) : ℚ) := by
      exact_mod_cast (by omega : 1800 * k + 1 ≤ T)
    push_cast at hq
    linarith [hclose.1]

/-- kernel-checked table: the 48 half hours of the day, where the value has to be exact -/
theorem flipOk_on_half_hours : ∀ h < 24, (flipOk h 0 0 && flipOk h 30 0) = true := by decide +kernel

/-- kernel-checked: one second before and after every half hour, the instants nearest to a
    breakpoint; `decimal_no_flip` does not rest on this table (it has these seconds from
    `target_hour_close`) -/
theorem flipOk_around_half_hours :
    ∀ h < 24, (flipOk h 0 1 && flipOk h 29 59 && flipOk h 30 1 && flipOk h 59 59) = true := by
  decide +kernel

/-! ### the hour value of every whole second is within 1.2·10⁻²⁶ of the exact rational -/

/-- `Decimal(hour) + Decimal(minute) / 60` -/
def hourX (h m : Nat) : Dec := Dec.add (Dec.ofNat h) (Dec.div (Dec.ofNat m) (Dec.ofNat 60))

/-- `Decimal(second) / 3600` -/
def hourB (s : Nat) : Dec := Dec.div (Dec.ofNat s) (Dec.ofNat 3600)

theorem targetHour_eq (h m s : Nat) : targetHour h m s = Dec.add (hourX h m) (hourB s) := rfl

/-- `second / 3600`: a numerator below `10²` over a four-digit denominator is rounded at `10⁻²⁹` or finer
    (`div_ofNat_close`), half a unit of which is well within `10⁻²⁷` -/
theorem hourB_close (s : Nat) (hs : s < 60) : |(hourB s).toRat - (s : ℚ) / 3600| ≤ 1 / 10 ^ 27 :=
  (div_ofNat_close s 3600 2 (by norm_num) (by omega)).trans
    (by rw [show ndigits 3600 = 4 by decide]; norm_num [decPrec])

/-- `hour + minute / 60`: the hour is exact, the quotient (two-digit denominator) is within `5·10⁻²⁸`, and their
    sum, below `10²`, is rounded at `10⁻²⁶` or finer (`add_approx`): `0 + 5·10⁻²⁸ + 5·10⁻²⁷ ≤ 6·10⁻²⁷` -/
theorem hourX_close (h m : Nat) (hh : h < 24) (hm : m < 60) :
    |(hourX h m).toRat - ((h : ℚ) + (m : ℚ) / 60)| ≤ 6 / 10 ^ 27 := by
  by_cases h0 : h = 0 ∧ m = 0
  · -- the sum is zero: `add_approx` (a positive sum) does not apply, the value is exact
    obtain ⟨rfl, rfl⟩ := h0
    have : hourX 0 0 = ⟨0, 0⟩ := by decide +kernel
    rw [this]; norm_num [Dec.toRat]
  have err := div_ofNat_close m 60 2 (by norm_num) (by omega)
  rw [show ndigits 60 = 2 by decide] at err
  have hT : (1 : ℚ) ≤ 60 * h + m := by exact_mod_cast (show 1 ≤ 60 * h + m by omega)
  have hh' : (h : ℚ) ≤ 23 := by exact_mod_cast (show h ≤ 23 by omega)
  have hm' : (m : ℚ) ≤ 59 := by exact_mod_cast (show m ≤ 59 by omega)
  have hε : (0 : ℚ) + 1 / 2 * 10 ^ (((2 : ℕ) : ℤ) - ((2 : ℕ) : ℤ) - decPrec + 1) < 1 / 60 := by norm_num [decPrec]
  exact (add_approx (Dec.ofNat h) _ 2 (a := h) (εx := 0) (by rw [ofNat_toRat, sub_self, abs_zero]) err
    (hε.trans_le (by linarith only [hT])) (by linarith only [hε, hh', hm'])).trans (by norm_num [decPrec])

/-- the operands of the final `Dec.add` are within `6·10⁻²⁷` and `10⁻²⁷`, their exact sum lies in `(0, 10²)`, so
    the sum is rounded at `10⁻²⁶` or finer (`add_approx`): `6·10⁻²⁷ + 10⁻²⁷ + 5·10⁻²⁷ = 12·10⁻²⁷` -/
theorem target_hour_close (h m s : Nat) (hh : h < 24) (hm : m < 60) (hs : s < 60)
    (hT : 1 ≤ secOfDay h m s) :
    |(targetHour h m s).toRat - (secOfDay h m s : ℚ) / 3600| ≤ 12 / 10 ^ 27 := by
  have hsplit : (secOfDay h m s : ℚ) / 3600 = ((h : ℚ) + (m : ℚ) / 60) + (s : ℚ) / 3600 := by
    unfold secOfDay; push_cast; ring
  have hT1 : (1 : ℚ) ≤ secOfDay h m s := by exact_mod_cast hT
  have hT2 : (secOfDay h m s : ℚ) ≤ 86400 := by
    exact_mod_cast (show secOfDay h m s ≤ 86400 by unfold secOfDay; omega)
  have hε : (6 / 10 ^ 27 + 1 / 10 ^ 27 : ℚ) < 1 / 3600 := by norm_num
  rw [targetHour_eq, hsplit]
  refine (add_approx _ _ 2 (hourX_close h m hh hm) (hourB_close s hs) ?_ ?_).trans (by norm_num [decPrec])
  · rw [← hsplit]; exact hε.trans_le (by linarith only [hT1])
  · rw [← hsplit]; linarith only [hε, hT2]

end Acn.C17
