/-
  Helper lemmas for C10 (Sim level): `network.update_pilots` under a permutation of the station
  order.  `setPilotAt` is split into what it READS (`plan`: validity of the pilot, the charge of the
  occupant) and what it WRITES (`eff`: one cell of `evsePilot`, one EV record, the draw counter);
  two calls for different stations commute (`setPilotAt_comm`), hence the station loop over any two listings of
  the (number, station) pairs returns the same state or raises in both (`updList_reorder`).
-/
import AcnProofs.Lemmas.LedgerStep
import AcnProofs.Lemmas.EventCoreSim
import AcnProofs.Lemmas.EquivPilots
import AcnProofs.Lemmas.SimStages2

set_option linter.unusedSectionVars false

namespace Acn.SimEquiv
open Acn.Sim Acn.EventCore Acn.Evse Acn.Ledger Acn.Steps

variable {K : Type} [Field K] [LinearOrder K] [IsStrictOrderedRing K] [HasExp K]

/-- what `EVSE.set_pilot` decides from the values it reads: error, or the charged occupant (if any)
    together with "a noise draw was consumed" -/
def plan (cfg : Cfg K) (st : Station K) (p : K) (occEv : Option (Ev K)) (ν : K) :
    Except EventCore.Err (Option (Ev K × Bool)) :=
  if validRate (atolOf cfg st.kind) cfg.atolFinite st.kind p then
    match occEv with
    | none => .ok none
    | some e =>
      match e.charge p st.voltage cfg.period ν with
      | .error _ => .error .valueError
      | .ok e' => .ok (some (e', drawsNoise e.batt p st.voltage cfg.period))
  else .error .invalidRate

def eff (s : State K) (i : Nat) (p : K) (u : Option (Ev K × Bool)) : State K :=
  { s with evsePilot := s.evsePilot.set i p,
           evs := match u with
             | some (e', _) => replaceEv s.evs e'
             | none => s.evs,
           noiseIdx := if (match u with | some (_, b) => b | none => false) then s.noiseIdx + 1 else s.noiseIdx }

theorem setPilotAt_plan (cfg : Cfg K) (s : State K) (i : Nat) (st : Station K) :
    setPilotAt cfg s i st =
      match plan cfg st (s.pilots.get i s.core.iter) (occupantEv s st.id) (noiseAt cfg s.noiseIdx) with
      | .ok u => (eff s i (s.pilots.get i s.core.iter) u, none)
      | .error e => (s, some e) := by
  unfold setPilotAt plan Evse.setPilot eff
  simp only
  by_cases hv : validRate (atolOf cfg st.kind) cfg.atolFinite st.kind (s.pilots.get i s.core.iter) = true
  · simp only [hv, if_true]
    cases hocc : occupantEv s st.id with
    | none => simp
    | some e =>
      simp only
      cases hc : e.charge (s.pilots.get i s.core.iter) st.voltage cfg.period (noiseAt cfg s.noiseIdx) with
      | error x => simp
      | ok e' => simp
  · simp [hv]

theorem plan_session {cfg : Cfg K} {s : State K} {st : Station K} {p ν : K} {e' : Ev K} {b : Bool}
    (h : plan cfg st p (occupantEv s st.id) ν = .ok (some (e', b))) :
    ∃ x, s.core.occ st.id = some x ∧ e'.session = x.id := by
  unfold plan at h
  split at h
  · cases he : occupantEv s st.id with
    | none => simp [he] at h
    | some e =>
      obtain ⟨x, hx, hs⟩ := occupantEv_session he
      simp only [he] at h
      split at h
      · simp at h
      · rename_i e1 hc
        simp only [Except.ok.injEq, Option.some.injEq, Prod.mk.injEq] at h
        exact ⟨x, hx, by rw [← h.1, charge_session hc, hs]⟩
  · simp at h

/-- the errors `EVSE.set_pilot` can raise -/
def IsPilotErr (e : EventCore.Err) : Prop := e = .invalidRate ∨ e = .valueError

/-- what a call at another station reads of its occupant is not the record this plan writes -/
theorem occupantEv_eff {cfg : Cfg K} {s : State K} {a : Station K} {p ν : K} {u : Option (Ev K × Bool)}
    (hpa : plan cfg a p (occupantEv s a.id) ν = .ok u) {b : String}
    (hocc : ∀ x y, s.core.occ a.id = some x → s.core.occ b = some y → x.id ≠ y.id) (i : Nat) (q : K) :
    occupantEv (eff s i q u) b = occupantEv s b := by
  rw [occupantEv_eq, occupantEv_eq]
  show (match s.core.occ b with | some y => evIn (eff s i q u).evs y.id | none => none) = _
  cases hy : s.core.occ b with
  | none => rfl
  | some y =>
    cases u with
    | none => rfl
    | some w =>
      obtain ⟨x, hx, hs⟩ := plan_session hpa
      exact evIn_replace_other s.evs w.1 y.id (by rw [hs]; exact fun e => hocc x y hx hy e.symm)

theorem replaceEv_comm (evs : List (Ev K)) (a b : Ev K) (h : a.session ≠ b.session) :
    replaceEv (replaceEv evs a) b = replaceEv (replaceEv evs b) a := by
  unfold replaceEv
  rw [List.map_map, List.map_map]
  apply List.map_congr_left
  intro d _
  simp only [Function.comp]
  by_cases h1 : d.session = a.session
  · have h2 : ¬ d.session = b.session := fun hb => h (h1.symm.trans hb)
    have h3 : ¬ a.session = b.session := h
    simp [h1, h3]
  · by_cases h2 : d.session = b.session
    · have h3 : ¬ b.session = a.session := fun hb => h hb.symm
      simp [h2, h3]
    · simp [h1, h2]

theorem eff_comm (s : State K) {i j : Nat} (hij : i ≠ j) (p q : K) (u v : Option (Ev K × Bool))
    (h : ∀ a ba b bb, u = some (a, ba) → v = some (b, bb) → a.session ≠ b.session) :
    eff (eff s i p u) j q v = eff (eff s j q v) i p u := by
  unfold eff
  simp only
  congr 1
  · cases u with
    | none => rfl
    | some a =>
      cases v with
      | none => rfl
      | some b =>
        obtain ⟨a, ba⟩ := a
        obtain ⟨b, bb⟩ := b
        exact replaceEv_comm s.evs a b (h a ba b bb rfl rfl)
  · exact List.set_comm p q hij
  · cases u with
    | none => cases v <;> rfl
    | some a =>
      cases v with
      | none => rfl
      | some b =>
        obtain ⟨a, ba⟩ := a
        obtain ⟨b, bb⟩ := b
        cases ba <;> cases bb <;> simp

/-- the random draws form a constant stream (the stream is consumed in station order, so only a
    constant one is independent of the registration order) -/
def ConstNoise (cfg : Cfg K) : Prop := ∀ i j, noiseAt cfg i = noiseAt cfg j

theorem setPilotAt_eff (cfg : Cfg K) (hn : ConstNoise cfg) {s : State K} {a : Station K} {p ν : K}
    {u : Option (Ev K × Bool)} (hpa : plan cfg a p (occupantEv s a.id) ν = .ok u) (b : Station K)
    (hocc : ∀ x y, s.core.occ a.id = some x → s.core.occ b.id = some y → x.id ≠ y.id) (i j : Nat) (q : K) :
    setPilotAt cfg (eff s i q u) j b =
      match plan cfg b (s.pilots.get j s.core.iter) (occupantEv s b.id) (noiseAt cfg s.noiseIdx) with
      | .ok v => (eff (eff s i q u) j (s.pilots.get j s.core.iter) v, none)
      | .error e => (eff s i q u, some e) := by
  rw [setPilotAt_plan, occupantEv_eff hpa hocc, hn (eff s i q u).noiseIdx s.noiseIdx]
  rfl

theorem setPilotAt_comm (cfg : Cfg K) (hn : ConstNoise cfg) {s s1 s2 : State K} {i j : Nat} {a b : Station K}
    (hij : i ≠ j)
    (hocc : ∀ x y, s.core.occ a.id = some x → s.core.occ b.id = some y → x.id ≠ y.id)
    (h1 : setPilotAt cfg s i a = (s1, none)) (h2 : setPilotAt cfg s1 j b = (s2, none)) :
    ∃ s1', setPilotAt cfg s j b = (s1', none) ∧ setPilotAt cfg s1' i a = (s2, none) := by
  rw [setPilotAt_plan] at h1
  cases hpa : plan cfg a (s.pilots.get i s.core.iter) (occupantEv s a.id) (noiseAt cfg s.noiseIdx) with
  | error e => simp [hpa] at h1
  | ok u =>
    simp only [hpa, Prod.mk.injEq, and_true] at h1
    subst h1
    rw [setPilotAt_eff cfg hn hpa b hocc] at h2
    cases hpb : plan cfg b (s.pilots.get j s.core.iter) (occupantEv s b.id) (noiseAt cfg s.noiseIdx) with
    | error e => simp [hpb] at h2
    | ok v =>
      simp only [hpb, Prod.mk.injEq, and_true] at h2
      refine ⟨eff s j (s.pilots.get j s.core.iter) v, by rw [setPilotAt_plan, hpb], ?_⟩
      rw [setPilotAt_eff cfg hn hpb a (fun y x hy hx e => hocc x y hx hy e.symm), hpa, ← h2]
      simp only [Prod.mk.injEq, and_true]
      -- the two writes commute: they go to different cells and to the records of different sessions
      apply (eff_comm s hij _ _ u v _).symm
      intro ea ba eb bb hu hv
      subst hu hv
      obtain ⟨x, hx, hsx⟩ := plan_session hpa
      obtain ⟨y, hy, hsy⟩ := plan_session hpb
      rw [hsx, hsy]
      exact hocc x y hx hy

/-! ### the station loop over an arbitrary list of (station number, station) pairs -/

def updList (cfg : Cfg K) : List (Nat × Station K) → State K → State K × Option EventCore.Err
  | [], s => (s, none)
  | (i, st) :: rest, s =>
    match setPilotAt cfg s i st with
    | (s', none) => updList cfg rest s'
    | (s', some e) => (s', some e)

def Apart (occ : String → Option Session) (a b : Nat × Station K) : Prop :=
  a.1 ≠ b.1 ∧ ∀ x y, occ a.2.id = some x → occ b.2.id = some y → x.id ≠ y.id

theorem Apart.symm {occ : String → Option Session} {a b : Nat × Station K} (h : Apart occ a b) : Apart occ b a :=
  ⟨fun e => h.1 e.symm, fun x y hx hy e => h.2 y x hy hx e.symm⟩

theorem updList_eq (cfg : Cfg K) : ∀ (l : List (Nat × Station K)) (s : State K),
    updList cfg l s = foldE (fun (p : Nat × Station K) s => setPilotAt cfg s p.1 p.2) l s :=
  foldE_unique (fun _ => rfl) fun p l s => by
    rw [updList]
    rcases setPilotAt cfg s p.1 p.2 with ⟨s2, _ | e⟩ <;> rfl

theorem updatePilotsFrom_eq (cfg : Cfg K) (d : Station K) (sts : List (Station K)) (i : Nat) (s : State K) :
    updatePilotsFrom cfg i sts s =
      updList cfg ((List.range sts.length).map fun k => (i + k, sts.getD k d)) s := by
  have e : ((List.range sts.length).map fun k => (i + k, sts.getD k d)) = (sts.zipIdx i).map fun p => (p.2, p.1) := by
    apply List.ext_getElem (by simp)
    intro n h1 h2
    simp only [List.length_map, List.length_range] at h1
    simp [List.getD_eq_getElem?_getD, h1]
  rw [updatePilotsFrom_foldE, updList_eq, e, foldE_map]

theorem updList_core (cfg : Cfg K) : ∀ (l : List (Nat × Station K)) (s : State K), (updList cfg l s).1.core = s.core := by
  intro l s
  rw [updList_eq]
  exact foldE_proj (·.core) (fun p a => setPilotAt_core cfg a p.1 p.2) l s

theorem updList_ends (cfg : Cfg K) (l : List (Nat × Station K)) (s : State K) :
    Ends (fun r => PilotsFrame s r) (fun r e => IsPilotErr e ∧ PilotsFrame s r) (updList cfg l s) := by
  rw [updList_eq]
  refine foldE_ends (P := fun _ a => PilotsFrame s a) (fun p _ a ha => ?_) l s (.refl s)
  have hf' := ha.trans (setPilotAt_frame cfg a p.1 p.2)
  rcases hs : setPilotAt cfg a p.1 p.2 with ⟨a1, _ | e1⟩
  · rw [hs] at hf'; exact .ok hf'
  · rw [hs] at hf'; exact .err ⟨setPilotAt_err hs, hf'⟩

/-- THE REORDERING of the station loop: over two listings of stations that are `Apart` the loop returns the same
    state, or raises in both (the stations before the offender have charged, and "before" is the listing order: the
    two aborts agree only on what the loop does not write).  The calls commute (`setPilotAt_comm`), so this is
    `foldE_perm_out`; what a raise looks like is `updList_ends` of each loop. -/
theorem updList_reorder (cfg : Cfg K) (hn : ConstNoise cfg) {l l' : List (Nat × Station K)} (hp : l.Perm l')
    {s : State K} (hpw : l.Pairwise (Apart s.core.occ)) :
    Out (fun r r' => r = r' ∧ PilotsFrame s r)
      (fun r e r' e' => (IsPilotErr e ∧ PilotsFrame s r) ∧ IsPilotErr e' ∧ PilotsFrame s r')
      (updList cfg l s) (updList cfg l' s) := by
  have h : Out Eq (fun _ _ _ _ => True) (updList cfg l s) (updList cfg l' s) := by
    rw [updList_eq, updList_eq]
    exact foldE_perm_out (f := fun (p : Nat × Station K) s => setPilotAt cfg s p.1 p.2)
      (I := fun a => a.core = s.core) (fun _ _ h => h.symm)
      (fun p a a1 ha h1 => by rw [← ha, ← setPilotAt_core cfg a p.1 p.2, h1])
      (fun p q a a1 a2 hc ha h1 h2 => setPilotAt_comm cfg hn hc.1 (ha ▸ hc.2) h1 h2) hp rfl hpw
  exact (h.ends (updList_ends cfg l s) (updList_ends cfg l' s)).mono (fun _ _ h => ⟨h.1, h.2.1⟩) fun _ _ _ _ h => h.2

end Acn.SimEquiv
