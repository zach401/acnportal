/-
  The loop head: the invariant `Inv` at the head of period `t` (queue = what the period expects, history = what
  is done, occupancy = who is connected), the initial state, and the horizon — the period at which the queue runs
  empty, so that the loop guard at a loop head is `t < horizon`.  Nothing here looks inside a period.
-/
import AcnProofs.Lemmas.EventCoreQueue

namespace Acn.EventCore
open Acn

/-- `ev_history` keys = sessions of the plug-in entries of `event_history`, in order -/
def EvhOK (c : Core) : Prop :=
  c.evHist = (c.eventHist.filter (fun e => e.kind == .plugin)).map (·.sess)

/-- the loop invariant at the head of period `t` -/
structure Inv (cfg : Cfg) (t : Nat) (c : Core) : Prop where
  iter : c.iter = t
  pend_nodup : c.pending.Nodup
  pend_mem : ∀ e, e ∈ c.pending ↔ Expected cfg t e
  occ : ∀ st x, c.occ st = some x ↔
    x ∈ cfg.sessions ∧ x.station = st ∧ x.arrival < t ∧ (t : Int) ≤ x.departure
  resolve : c.resolve = false
  hist_nodup : c.eventHist.Nodup
  hist_mem : ∀ e, e ∈ c.eventHist ↔ Done cfg t e
  hist_sorted : c.eventHist.Pairwise (fun a b => a.keyLe b = true)
  evh : EvhOK c

section
variable {cfg : Cfg} {ops : QOps} {good : List Event → Prop}

theorem EvhOK.plugin {c : Core} (h : EvhOK c) (x : Session) (hist' : List Event) (evh' : List String)
    (h1 : hist' = c.eventHist ++ [plugEv x]) (h2 : evh' = c.evHist ++ [x.id]) :
    evh' = (hist'.filter (fun e => e.kind == .plugin)).map (·.sess) := by
  subst h1 h2
  unfold EvhOK at h
  simp [h, plugEv]

theorem events_nodup (hv : ValidQ cfg) : (events cfg).Nodup := by
  have hS := List.Nodup.of_map _ hv.ids_nodup
  refine List.nodup_append.2 ⟨List.nodup_append.2 ⟨?_, ?_, ?_⟩, ?_, ?_⟩
  · exact (List.nodup_map_iff_inj_on hS).2 fun x hx y hy h => plugEv_inj hv hx hy h
  · exact (List.nodup_map_iff_inj_on hS).2 fun x hx y hy h => unplugEv_inj hv hx hy h
  · intro a ha b hb
    obtain ⟨x, _, rfl⟩ := List.mem_map.1 ha
    obtain ⟨y, _, rfl⟩ := List.mem_map.1 hb
    simp
  · exact (List.nodup_map_iff_inj_on (List.Nodup.of_map _ hv.tags_nodup)).2 fun x hx y hy h => recEv_inj hv hx hy h
  · intro a ha b hb
    obtain ⟨r, _, rfl⟩ := List.mem_map.1 hb
    rcases List.mem_append.1 ha with ha | ha <;> obtain ⟨x, _, rfl⟩ := List.mem_map.1 ha <;> simp

theorem initPending_nodup (hv : ValidQ cfg) : (initPending cfg).Nodup :=
  (events_nodup hv).sublist (((List.sublist_append_left _ _).append_right _))

theorem mem_initPending_iff (hv : ValidQ cfg) (e : Event) : e ∈ initPending cfg ↔ Expected cfg 0 e := by
  unfold initPending Expected
  simp only [List.mem_append, List.mem_map]
  constructor
  · rintro (⟨x, hx, rfl⟩ | ⟨r, hr, rfl⟩)
    · exact Or.inl ⟨x, hx, rfl, hv.arr_nonneg x hx⟩
    · exact Or.inr (Or.inr ⟨r, hr, rfl, hv.rec_nonneg r hr⟩)
  · rintro (⟨x, hx, rfl, _⟩ | ⟨x, hx, rfl, h, _⟩ | ⟨r, hr, rfl, _⟩)
    · exact Or.inl ⟨x, hx, rfl⟩
    · have := hv.arr_nonneg x hx; omega
    · exact Or.inr ⟨r, hr, rfl⟩

theorem events_ts_nonneg (hv : ValidQ cfg) {e : Event} (h : e ∈ events cfg) : 0 ≤ e.ts := by
  rcases mem_events.1 h with ⟨x, hx, rfl⟩ | ⟨x, hx, rfl⟩ | ⟨r, hr, rfl⟩
  · exact hv.arr_nonneg x hx
  · exact le_of_lt (lt_of_le_of_lt (hv.arr_nonneg x hx) (hv.arr_lt_dep x hx))
  · exact hv.rec_nonneg r hr

theorem not_done_zero (hv : ValidQ cfg) (e : Event) : ¬ Done cfg 0 e := fun h =>
  absurd (events_ts_nonneg hv (done_iff.1 h).1) (not_le.2 (done_iff.1 h).2)

theorem init_inv (hv : Valid cfg) : Inv cfg 0 (init cfg) := by
  refine ⟨rfl, initPending_nodup hv.toQ, mem_initPending_iff hv.toQ, ?_, rfl, by simp [init], ?_, by simp [init],
    by simp [init, EvhOK]⟩
  · intro st x
    simp only [init, Nat.cast_zero]
    constructor
    · intro h; exact absurd h (by simp)
    · rintro ⟨hx, _, h, _⟩
      have := hv.arr_nonneg x hx; omega
  · intro e
    simpa [init] using not_done_zero hv.toQ e

theorem init_inv_of_perm (hv : Valid cfg) {q : List Event} (hp : q.Perm (initPending cfg)) :
    Inv cfg 0 { init cfg with pending := q } :=
  have h0 := init_inv hv
  ⟨rfl, hp.nodup_iff.2 h0.pend_nodup, fun e => hp.mem_iff.trans (h0.pend_mem e), h0.occ, rfl, h0.hist_nodup,
    h0.hist_mem, h0.hist_sorted, h0.evh⟩

theorem initQ_inv (hv : Valid cfg) (hq : ops.Ok good) : Inv cfg 0 (initQ ops cfg) ∧ good (initQ ops cfg).pending :=
  ⟨init_inv_of_perm hv (hq.build (initPending cfg)).1, (hq.build (initPending cfg)).2⟩

/-- all timestamps at which something is unplugged or recomputed -/
def tsList (cfg : Cfg) : List Int := cfg.sessions.map (·.departure) ++ cfg.recomputes.map (·.1)

/-- the largest timestamp of any event of the run (−1 when there is no event at all) -/
def maxTs (cfg : Cfg) : Int := (tsList cfg).foldr max (-1)

/-- the iteration at which `run()` returns: one period after the last event -/
def horizon (cfg : Cfg) : Nat := (maxTs cfg + 1).toNat

theorem le_foldr_max {l : List Int} {a b : Int} (h : a ∈ l) : a ≤ l.foldr max b := List.le_max_of_le' b h le_rfl

theorem foldr_max_mem (l : List Int) (b : Int) : l.foldr max b = b ∨ l.foldr max b ∈ l := by
  induction l with
  | nil => simp
  | cons x xs ih =>
    simp only [List.foldr_cons]
    rcases max_choice x (xs.foldr max b) with h | h
    · exact Or.inr (by rw [h]; simp)
    · rw [h]; rcases ih with h' | h'
      · exact Or.inl h'
      · exact Or.inr (List.mem_cons_of_mem _ h')

theorem base_le_foldr_max (l : List Int) (b : Int) : b ≤ l.foldr max b := by
  induction l with
  | nil => simp
  | cons x xs ih => exact le_trans ih (le_max_right _ _)

theorem neg_one_le_maxTs (cfg : Cfg) : -1 ≤ maxTs cfg := base_le_foldr_max _ _

theorem dep_le_maxTs {x : Session} (hx : x ∈ cfg.sessions) : x.departure ≤ maxTs cfg :=
  le_foldr_max (List.mem_append_left _ (List.mem_map.2 ⟨x, hx, rfl⟩))

theorem rec_le_maxTs {r : Int × String} (hr : r ∈ cfg.recomputes) : r.1 ≤ maxTs cfg :=
  le_foldr_max (List.mem_append_right _ (List.mem_map.2 ⟨r, hr, rfl⟩))

theorem dep_lt_horizon {x : Session} (hx : x ∈ cfg.sessions) : x.departure < horizon cfg := by
  have := dep_le_maxTs hx
  have := neg_one_le_maxTs cfg
  unfold horizon; omega

theorem rec_lt_horizon {r : Int × String} (hr : r ∈ cfg.recomputes) : r.1 < horizon cfg := by
  have := rec_le_maxTs hr
  have := neg_one_le_maxTs cfg
  unfold horizon; omega

theorem events_ts_lt_horizon (hv : ValidQ cfg) {e : Event} (h : e ∈ events cfg) : e.ts < horizon cfg := by
  rcases mem_events.1 h with ⟨x, hx, rfl⟩ | ⟨x, hx, rfl⟩ | ⟨r, hr, rfl⟩
  · exact lt_trans (hv.arr_lt_dep x hx) (dep_lt_horizon hx)
  · exact dep_lt_horizon hx
  · exact rec_lt_horizon hr

theorem done_horizon (hv : ValidQ cfg) (e : Event) : Done cfg (horizon cfg) e ↔ e ∈ events cfg :=
  done_iff.trans (and_iff_left_of_imp (events_ts_lt_horizon hv))

theorem expected_le_maxTs (hv : ValidQ cfg) {t : Int} {e : Event} (h : Expected cfg t e) : t ≤ maxTs cfg := by
  rcases h with ⟨x, hx, rfl, h⟩ | ⟨x, hx, rfl, _, h⟩ | ⟨r, hr, rfl, h⟩
  · have := hv.arr_lt_dep x hx; have := dep_le_maxTs hx; omega
  · have := dep_le_maxTs hx; omega
  · have := rec_le_maxTs hr; omega

theorem exists_expected {t : Int} (h0 : 0 ≤ t) (h : t ≤ maxTs cfg) : ∃ e, Expected cfg t e := by
  rcases foldr_max_mem (tsList cfg) (-1) with hm | hm
  · unfold maxTs at h; omega
  · rcases List.mem_append.1 hm with hm | hm
    · obtain ⟨x, hx, hxe⟩ := List.mem_map.1 hm
      have hd : t ≤ x.departure := by rw [hxe]; exact h
      by_cases ha : x.arrival < t
      · exact ⟨_, Or.inr (Or.inl ⟨x, hx, rfl, ha, hd⟩)⟩
      · exact ⟨_, Or.inl ⟨x, hx, rfl, by omega⟩⟩
    · obtain ⟨r, hr, hre⟩ := List.mem_map.1 hm
      exact ⟨_, Or.inr (Or.inr ⟨r, hr, rfl, by rw [hre]; exact h⟩)⟩

theorem expected_ne_nil_iff (hv : ValidQ cfg) {t : Nat} {pend : List Event}
    (hpm : ∀ e, e ∈ pend ↔ Expected cfg t e) : pend ≠ [] ↔ t < horizon cfg := by
  have hm := neg_one_le_maxTs cfg
  unfold horizon
  constructor
  · intro h
    obtain ⟨e, he⟩ := List.exists_mem_of_ne_nil _ h
    have := expected_le_maxTs hv ((hpm e).1 he)
    omega
  · intro h hnil
    obtain ⟨e, he⟩ := exists_expected (cfg := cfg) (t := t) (by omega) (by omega)
    have := (hpm e).2 he
    rw [hnil] at this
    simp at this

theorem guard_iff_pending {c : Core} (h : c.resolve = false) : guard c = true ↔ c.pending ≠ [] := by
  simp [guard, h]

theorem Inv.guard_iff (hv : Valid cfg) {t : Nat} {c : Core} (hI : Inv cfg t c) :
    guard c = true ↔ t < horizon cfg :=
  (guard_iff_pending hI.resolve).trans (expected_ne_nil_iff hv.toQ hI.pend_mem)

theorem Inv.pending_nil (hv : Valid cfg) {c : Core} (hI : Inv cfg (horizon cfg) c) : c.pending = [] := by
  by_contra h
  exact absurd ((expected_ne_nil_iff hv.toQ hI.pend_mem).1 h) (lt_irrefl _)

theorem le_foldl_max (l : List Int) (b a : Int) (h : a ∈ l ∨ a ≤ b) : a ≤ l.foldl max b := by
  obtain ⟨-, h2, h3⟩ := foldl_max_spec id l b
  exact h.elim (h3 a) (le_trans · h2)

theorem horizon_le_fuelFor (cfg : Cfg) : horizon cfg ≤ fuelFor cfg := by
  unfold horizon fuelFor
  simp only
  have key : maxTs cfg ≤ ((cfg.sessions.map fun x => max x.arrival x.departure) ++
      cfg.recomputes.map (·.1)).foldl max 0 := by
    rcases foldr_max_mem (tsList cfg) (-1) with h | h
    · unfold maxTs; rw [h]
      exact le_trans (by decide) (le_foldl_max _ 0 0 (Or.inr le_rfl))
    · unfold maxTs
      rcases List.mem_append.1 h with h' | h'
      · obtain ⟨x, hx, hxe⟩ := List.mem_map.1 h'
        rw [← hxe]
        exact le_trans (le_max_right x.arrival x.departure)
          (le_foldl_max _ 0 _ (Or.inl (List.mem_append_left _ (List.mem_map.2 ⟨x, hx, rfl⟩))))
      · exact le_foldl_max _ 0 _ (Or.inl (List.mem_append_right _ h'))
  omega


end
end Acn.EventCore
