/-
  The ledger law of one `charge` call, for every battery model, and of `EV.charge`; sequences
  of calls.

  Pure algebra: the two-stage laws are never looked into — only that the code computes the
  returned rate and the stored charge from the SAME power / dsoc value (`BattAlg.Delivers`).
  `HasExp K` is an arbitrary function here.
-/
import AcnProofs.Lemmas.BatteryAlg
import AcnProofs.Lemmas.Evse

set_option linter.unusedSectionVars false

namespace Acn.Ledger
open Acn Acn.Battery Acn.Evse Acn.BattAlg

variable {K : Type} [Field K] [LinearOrder K] [IsStrictOrderedRing K]

/-- energy [kWh] carried by current `r` [A] at voltage `V` [V] during one period of `T` minutes,
    with the operation order of ev.py:142 -/
def energy (r V T : K) : K := (r * V) / (1000 : K) * (T / (60 : K))

theorem energy_zero (V T : K) : energy 0 V T = 0 := by simp [energy]

theorem energy_of_power (P T : K) {V : K} (hV : V ≠ 0) : energy (P * 1000 / V) V T = P * (T / 60) := by
  unfold energy
  rw [div_mul_cancel₀ _ hV, mul_div_cancel_right₀ _ (by norm_num)]

theorem ledger_of_delivers {b b' : Batt K} {V T r : K} (h : Delivers b V T b' r) :
    b'.charge - b.charge = energy r V T := by
  rw [h.charge_eq, h.rate_eq, energy_of_power _ _ h.V_pos.ne', add_sub_cancel_left]

section
variable [HasExp K]

theorem charge_guards {b b' : Batt K} {pilot V T ν r : K} (h : Battery.charge b pilot V T ν = .ok (b', r)) :
    0 < V ∧ 0 < T :=
  ⟨(charge_delivers h).V_pos, (charge_delivers h).T_pos⟩

theorem ev_charge_ledger {e e' : Ev K} {pilot V T ν : K} (h : e.charge pilot V T ν = .ok e') :
    e'.delivered - e.delivered = energy e'.rate V T ∧
    e'.batt.charge - e.batt.charge = energy e'.rate V T ∧
    e'.session = e.session ∧ e'.station = e.station ∧ e'.arrival = e.arrival ∧
    e'.departure = e.departure ∧ e'.requested = e.requested := by
  obtain ⟨b', r, hb, rfl⟩ := Ev.charge_ok h
  refine ⟨?_, ledger_of_delivers (charge_delivers hb), rfl, rfl, rfl, rfl, rfl⟩
  show e.delivered + r * V / ((1000 : ℕ) : K) * (T / ((60 : ℕ) : K)) - e.delivered = energy r V T
  rw [add_sub_cancel_left, Nat.cast_ofNat, Nat.cast_ofNat]
  rfl

/-- one call `ev.charge(pilot, V, T)` together with the normal draw `ν` it may consume -/
structure Call (K : Type) where
  pilot : K
  V : K
  T : K
  ν : K

/-- a whole history of `charge` calls on one EV; a call that raises (the `ValueError` guards,
    a zero division) has written nothing (every raise precedes the first write), the history goes on -/
def chargeSeq (e : Ev K) : List (Call K) → Ev K
  | [] => e
  | c :: cs =>
    match e.charge c.pilot c.V c.T c.ν with
    | .ok e' => chargeSeq e' cs
    | .error _ => chargeSeq e cs

def energyLog (e : Ev K) : List (Call K) → List K
  | [] => []
  | c :: cs =>
    match e.charge c.pilot c.V c.T c.ν with
    | .ok e' => energy e'.rate c.V c.T :: energyLog e' cs
    | .error _ => energyLog e cs

theorem chargeSeq_ledger (cs : List (Call K)) : ∀ e : Ev K,
    (chargeSeq e cs).delivered - e.delivered = (energyLog e cs).sum ∧
    (chargeSeq e cs).batt.charge - e.batt.charge = (energyLog e cs).sum := by
  induction cs with
  | nil => intro e; simp [chargeSeq, energyLog]
  | cons c cs ih =>
    intro e
    unfold chargeSeq energyLog
    cases hc : e.charge c.pilot c.V c.T c.ν with
    | error x => simpa using ih e
    | ok e' =>
      obtain ⟨h1, h2, _⟩ := ev_charge_ledger hc
      obtain ⟨i1, i2⟩ := ih e'
      simp only [List.sum_cons]
      constructor
      · linear_combination i1 + h1
      · linear_combination i2 + h2

end
end Acn.Ledger
