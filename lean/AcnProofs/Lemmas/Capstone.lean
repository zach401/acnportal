/-
  Capstone helpers:
    * `RunAccounts` — everything C01, C02 and C18 say about the state a COMPLETE simulation leaves behind, as one
      record, and `complete_run_accounts`: it holds for every `Valid` scenario, every scheduler, every run that
      raised nothing (composition of `C01.sim_run_C01`, `Ledger.resumed_rinv`, `C02.*`, `C18Sim.*`);
    * `site_column_within_ratings` / `simple_column_within_cap` — a pilot column that passes the algorithm-side
      feasibility check (`SimSorted.feasOf`, the predicate of C07's `ColOk`) of a site network / a `simple_acn`
      network keeps every transformer within its rating (C06 `alg1_eq_net` + C16).
-/
import AcnProofs.C18Sim
import AcnProofs.C16
import AcnProofs.C16Simple
import AcnProofs.Lemmas.FeasAgree

set_option linter.unusedSectionVars false

namespace Acn.Capstone
open Acn Acn.Analysis Acn.AnalysisSim Acn.Sim Acn.Ledger Acn.EventCore Finset

section accounts
variable {K : Type} [Field K] [LinearOrder K] [IsStrictOrderedRing K] [HasExp K]

/-- what a complete run leaves behind: termination and event discipline (C01), connection intervals (C01/C02),
    energy ledger (C02), analysis = ledger (C18).  `start` is the simulation's start instant on the time axis of
    `datetimes_array` (minutes). -/
structure RunAccounts (cfg : Cfg K) (s : State K) (start : K) : Prop where
  /-- C01: the event queue is empty … -/
  queue_empty : s.core.pending = []
  /-- … after exactly `horizon` = (last event time + 1) periods … -/
  iter_eq : s.core.iter = horizon cfg.core
  /-- … with every station vacated; -/
  vacant : ∀ st, s.core.occ st = none
  /-- one plug-in (at the arrival) and one unplug (at the departure) per session in `event_history`, key-sorted -/
  once : ∀ x ∈ cfg.core.sessions,
    s.core.eventHist.filter (fun e => e.kind == .plugin && e.sess == x.id) = [plugEv x] ∧
    s.core.eventHist.filter (fun e => e.kind == .unplug && e.sess == x.id) = [unplugEv x]
  sorted : s.core.eventHist.Pairwise (fun a b => a.keyLe b = true)
  /-- the occupancy snapshot every period takes at `post_charging_update`: station number `i` holds session `id`
      in period `τ` iff `τ` is a simulated period and `id` is a session of that station with
      `arrival ≤ τ < departure` — every session is connected in exactly `[arrival, departure)` -/
  connected : ∀ τ i id, occAt s.occLog τ i = some id ↔
    τ < horizon cfg.core ∧ ∃ st e, cfg.stations[i]? = some st ∧ e ∈ cfg.evs ∧ e.session = id ∧
      e.station = st.id ∧ e.arrival ≤ (τ : Int) ∧ (τ : Int) < e.departure
  /-- C02: each session's energy counter = Σ over its connection interval of its station's recorded rate
      · V / 1000 · period / 60, = the charge its battery gained -/
  session_energy : ∀ id e0 e, evIn cfg.evs id = some e0 → evIn s.evs id = some e →
    e.delivered - e0.delivered =
      ∑ τ ∈ Finset.Ico e0.arrival.toNat e0.departure.toNat,
        s.rates.get (stationIndex cfg e0.station) τ * volt cfg (stationIndex cfg e0.station) / 1000
          * (cfg.period / 60) ∧
    e.delivered - e0.delivered = e.batt.charge - e0.batt.charge
  /-- C18: `ev_history` holds every EV of the scenario; `total_energy_delivered(sim)` = Σ of the session counters
      = the integral of `aggregate_power(sim)` over the horizon -/
  history : (histEvs s).Perm (allEvs s)
  total_eq_counters : totalDeliveredSim s = (s.evs.map (·.delivered)).sum
  total_eq_integral : totalDeliveredSim s =
    ∑ τ ∈ range (horizon cfg.core), (aggregatePowerSim cfg s).getD τ 0 * (cfg.period / 60)
  /-- `Simulator.peak` bounds `aggregate_current(sim)`; `datetimes_array(sim)` has one entry per period, no warning -/
  peak : 0 ≤ s.peak ∧ ∀ t, (aggregateCurrentSim s).getD t 0 ≤ s.peak
  datetimes : (datetimesSim start cfg s).length = horizon cfg.core ∧ warnsUnfinished s = false

/-- C01 ∘ C02 ∘ C18 on one complete run -/
theorem complete_run_accounts (cfg : Cfg K) (hn : StationsNodup cfg) (hv : Valid cfg.core)
    (hfresh : ∀ e ∈ cfg.evs, e.delivered = 0) (start : K)
    (sched : View K → Except EventCore.Err (Schedule K)) (n : Nat) (hN : horizon cfg.core ≤ n)
    (s : State K) (h : Sim.run cfg sched n (Sim.init cfg) = (s, none)) : RunAccounts cfg s start := by
  have hid : (cfg.evs.map (·.session)).Nodup := by
    have := hv.ids_nodup
    simpa [Cfg.core, sessionOf, List.map_map, Function.comp_def] using this
  have c01 := C01.sim_run_C01 cfg sched hv n hN (by rw [h])
  rw [h] at c01
  obtain ⟨k1, k2, k3, k4, k5⟩ := c01
  have hI := resumed_rinv hn hv (Resumed.of_run h)
  obtain ⟨t1, t2⟩ := C18Sim.sim_total_energy_complete cfg hn hid hfresh hv sched n hN s h
  obtain ⟨p0, p1, _⟩ := C18Sim.sim_peak_is_max_aggregate_current cfg hn sched n s h
  refine ⟨k1, k2, k3, k4, k5, ?_, ?_, t1, ?_, t2, ⟨p0, p1⟩, C18Sim.sim_datetimes_complete start cfg hv sched n hN s h⟩
  · intro τ i id
    rw [hI.log τ i id, k2]
    constructor
    · rintro ⟨hτ, st, x, hst, hx, hxi, hxs, ha, hd⟩
      obtain ⟨e, he, rfl⟩ := List.mem_map.1 hx
      exact ⟨hτ, st, e, hst, he, hxi, hxs, ha, hd⟩
    · rintro ⟨hτ, st, e, hst, he, hxi, hxs, ha, hd⟩
      exact ⟨hτ, st, sessionOf e, hst, List.mem_map.2 ⟨e, he, rfl⟩, hxi, hxs, ha, hd⟩
  · intro id e0 e h0 he
    exact ⟨C02.session_energy_interval_complete cfg hn hv sched n hN s h id e0 e h0 he,
      C02.sim_energy_eq_battery_gain cfg hn sched n s h id e0 e h0 he⟩
  · unfold totalDeliveredSim
    rw [totalDelivered_perm t1]
    exact (C18Sim.sim_total_energy_eq_integral cfg hn hid hfresh sched n s h).1

end accounts

/-! ### feasible column ⇒ transformer within its rating

  C16 speaks of schedule matrices (one row per station); a single column `x` is the one-period matrix
  `x.map fun v => [v]`. -/

section ratings
open Acn.Feas Acn.Sites Acn.Gen.Sites

variable {K : Type} [Field K] [LinearOrder K] [IsStrictOrderedRing K]

/-- what the sorted algorithms see of a site network `T` (constraint matrix, limits, phasors of `netOf`) -/
def siteNetInfo (T : Topo) (r vt rt : K) (caps : List K) : SimSorted.NetInfo K :=
  { M := (netOf T r caps).M, lims := (netOf T r caps).lims, cos := (netOf T r caps).c, sin := (netOf T r caps).s,
    vt := vt, rt := rt }

theorem groupSum_zero (E : List Nat) (x : List K) (hx : ∀ j, x.getD j 0 = 0) : groupSum E x = 0 := by
  unfold groupSum
  rw [sumK_eq_sum]
  apply List.sum_eq_zero
  intro v hv
  obtain ⟨j, _, rfl⟩ := List.mem_map.1 hv
  exact hx j

/-- a NON-EMPTY rate vector `x` (one entry per station of `T`) that passes the algorithm-side check of the site
    network, or is all zero: every transformer's summed current, at 120·r volts (r·r = 3), is at most the
    transformer's capacity parameter [kW → W] plus the declared tolerance -/
theorem site_column_within_ratings (T : Topo) (hT : topoOk T = true) (r vt rt : K) (hr : r * r = 3)
    (hvt : 0 ≤ vt) (caps : List K) (hcaps : ∀ c ∈ caps, 0 ≤ c) (x : List K) (hlen : x.length = nStations T)
    (hne : x ≠ [])
    (hx : SimSorted.feasOf (siteNetInfo T r vt rt caps) x = true ∨ ∀ j, x.getD j 0 = 0)
    (xf : Xfmr) (hxf : xf ∈ T.xfmrs) :
    ∃ k ops, xfmrCap T xf = some (k, ops) ∧
      120 * r * groupSum xf.sec.evses x
        ≤ caps.getD k 0 * 1000 + 360 * tolOf vt rt (caps.getD k 0 * 1000 / 360) := by
  have hS : (x.map fun v => [v]).length = nStations T := by rw [List.length_map, hlen]
  have hc : Sites.period (x.map fun v => [v]) 0 = x := col_singletons x
  rcases hx with hx | hx
  · have hfe : feasible T r vt rt caps (x.map fun v => [v]) = true := by
      unfold feasible
      simp only
      rw [← alg1_eq_net _ _ _ _ _ _ x hne]
      exact hx
    obtain ⟨k, ops, h1, h2⟩ := C16.site_power_bound T hT xf hxf r vt rt hr caps _ hS hfe 0
      (by rw [periods_singletons hne]; exact Nat.one_pos)
    rw [hc] at h2
    exact ⟨k, ops, h1, h2⟩
  · have G := SitesMain.topoFacts_of T hT
    obtain ⟨_, k, ops, N, D, hcap, _⟩ := SitesXfmr.xfmrFacts_of T xf (G.xf xf hxf)
    refine ⟨k, ops, hcap, ?_⟩
    rw [groupSum_zero _ _ hx, mul_zero]
    exact add_nonneg (mul_nonneg (getD_nonneg hcaps k) (by norm_num))
      (mul_nonneg (by norm_num) (tolOf_nonneg hvt rt _))

end ratings

section simple
open Acn.Feas Acn.SimpleAcn Acn.Gen.SimpleAcn Acn.SimpleAcnLemmas

variable {K : Type} [Field K] [LinearOrder K] [IsStrictOrderedRing K]

/-- what the sorted algorithms see of `simple_acn(ids, voltage, cap)`: one row of ones, limit `cap/voltage·1000` A -/
def simpleNetInfo (n : Nat) (voltage cap vt rt : K) : SimSorted.NetInfo K :=
  { M := [List.replicate n 1], lims := [cap / voltage * 1000], cos := List.replicate n 1,
    sin := List.replicate n 0, vt := vt, rt := rt }

/-- the network-side check of `simple_acn` IS `netFeasible` on these arrays -/
theorem simpleFeasible_eq (ids : List String) (voltage cap vt rt : K) (hv : voltage ≠ 0) (S : List (List K)) :
    simpleFeasible ids voltage cap vt rt S = .ok (netFeasible [List.replicate ids.length 1] [cap / voltage * 1000]
      (List.replicate ids.length 1) (List.replicate ids.length 0) vt rt S) := by
  simp only [simpleFeasible, C16.simple_acn_structure ids voltage cap hv, bind, Except.bind, netFeasible0]
  rw [if_pos (by simp [isZero_zero])]
  simp only [List.map_const', List.length_replicate]

/-- a non-empty rate vector that passes the algorithm-side check of a `simple_acn` network, or is all zero, draws at
    most the aggregate capacity [kW] plus the declared tolerance -/
theorem simple_column_within_cap (ids : List String) (voltage cap vt rt : K) (hv : 0 < voltage) (hcap : 0 ≤ cap)
    (hvt : 0 ≤ vt) (x : List K) (hlen : x.length = ids.length) (hne : x ≠ [])
    (hx : SimSorted.feasOf (simpleNetInfo ids.length voltage cap vt rt) x = true ∨ ∀ j, x.getD j 0 = 0) :
    voltage * (x.sum) / 1000 ≤ cap + voltage * max vt (rt * (cap / voltage * 1000)) / 1000 := by
  have hS : (x.map fun v => [v]).length = ids.length := by rw [List.length_map, hlen]
  have hpow : powerKW voltage (x.map fun v => [v]) 0 = voltage * x.sum / 1000 := by
    unfold powerKW total
    rw [col_singletons, sumK_eq_sum, Nat.cast_ofNat]
  rcases hx with hx | hx
  · have hfe : simpleFeasible ids voltage cap vt rt (x.map fun v => [v]) = .ok true := by
      rw [simpleFeasible_eq ids voltage cap vt rt hv.ne', ← alg1_eq_net _ _ _ _ _ _ x hne]
      exact congrArg Except.ok hx
    have := C16.simple_acn_power_le_cap ids voltage cap vt rt hv _ hS hfe 0
      (by rw [periods_singletons hne]; exact Nat.one_pos)
    rw [hpow] at this
    exact this
  · rw [sum_eq_sum_getD x _ rfl, Finset.sum_eq_zero fun j _ => hx j, mul_zero, zero_div]
    exact add_nonneg hcap (div_nonneg (mul_nonneg hv.le (le_trans hvt (le_max_left _ _))) (by norm_num))

end simple

end Acn.Capstone
