/-
  The specification side of the data-client theorems of C20: a run of the (fake) paginated server as an inductive
  relation (`Run`), which the pagination loop `collect` follows exactly, and what `parse_dates` owes a document field
  by field (`FieldOk`, `DocOk`), which `parseFields` delivers.
-/
import AcnModel.DataClient

namespace Acn.DataClient

variable {α β : Type}

/-- Starting at `url`, following `next` links on the (fake) server `fetch` visits exactly the pages
    `ps` and ends in state `e`: `none` — the last page has `_links` without `next`;
    `some err` — a request failed (`ps` are the pages served before it) or the last page served
    has no usable `_links`. -/
inductive Run (base : String) (fetch : String → Resp α) : String → List (Page α) → Option Err → Prop
  | last {u : String} {p : Page α} : fetch u = .page p → p.next = .last → Run base fetch u [p] none
  | broken {u : String} {p : Page α} :
      fetch u = .page p → p.next = .broken → Run base fetch u [p] (some .keyError)
  | fail {u : String} {e : Err} : fetch u = .fail e → Run base fetch u [] (some e)
  | cons {u h : String} {p : Page α} {ps : List (Page α)} {e : Option Err} :
      fetch u = .page p → p.next = .next h → Run base fetch (base ++ h) ps e →
      Run base fetch u (p :: ps) e

/-- a finite chain `p₀ … p_n` of pages, the last one without `next` -/
def Chain (base : String) (fetch : String → Resp α) (u : String) (ps : List (Page α)) : Prop :=
  Run base fetch u ps none

/-- the URLs a client following the links must request on a run through pages `ps` from `u`:
    the start URL, then `base ++ href` of every `next` link (with `ps = []` the single request
    that failed) -/
def runUrls (base : String) : String → List (Page α) → List String
  | u, [] => [u]
  | u, p :: ps =>
    u :: (match p.next with
          | .next h => runUrls base (base ++ h) ps
          | _ => [])

theorem yieldAll_ok (conv : α → Except Err β) (f : α → β) (l : List α)
    (h : ∀ a ∈ l, conv a = .ok (f a)) : yieldAll conv l = (l.map f, none) := by
  induction l with
  | nil => rfl
  | cons a as ih =>
    have ha := h a (List.mem_cons_self ..)
    have := ih (fun x hx => h x (List.mem_cons_of_mem _ hx))
    simp [yieldAll, ha, this]

/-- at most one request per page and one more (the request that fails) -/
theorem runUrls_length_le (base : String) : ∀ (u : String) (ps : List (Page α)),
    (runUrls base u ps).length ≤ ps.length + 1 := by
  intro u ps
  induction ps generalizing u with
  | nil => simp [runUrls]
  | cons p ps ih =>
    cases hn : p.next with
    | next hr => have := ih (base ++ hr); simp [runUrls, hn]; omega
    | last => simp [runUrls, hn]
    | broken => simp [runUrls, hn]

theorem runUrls_length_chain {base : String} {fetch : String → Resp α} {u : String}
    {ps : List (Page α)} (h : Chain base fetch u ps) : (runUrls base u ps).length = ps.length := by
  unfold Chain at h
  generalize he : (none : Option Err) = e at h
  induction h with
  | last hf hn => simp [runUrls, hn]
  | broken hf hn => cases he
  | fail hf => cases he
  | cons hf hn _ ih => simp [runUrls, hn, ih he]

/-- `g p` is what the items of page `p` convert to; a page may be empty -/
theorem collect_run {base : String} {fetch : String → Resp α} (conv : α → Except Err β)
    (g : Page α → List β) {u : String} {ps : List (Page α)} {e : Option Err}
    (h : Run base fetch u ps e) :
    ∀ fuel : Nat, (runUrls base u ps).length ≤ fuel →
      (∀ p ∈ ps, yieldAll conv p.items = (g p, none)) →
      collect base fetch conv fuel u =
        { urls := runUrls base u ps, items := ps.flatMap g, stop := e } := by
  induction h with
  | @last u p hf hn =>
    intro fuel hfuel hy
    cases fuel with
    | zero => simp [runUrls] at hfuel
    | succ n => simp [collect, hf, hy p (List.mem_singleton.mpr rfl), hn, runUrls]
  | @broken u p hf hn =>
    intro fuel hfuel hy
    cases fuel with
    | zero => simp [runUrls] at hfuel
    | succ n => simp [collect, hf, hy p (List.mem_singleton.mpr rfl), hn, runUrls]
  | @fail u e hf =>
    intro fuel hfuel _
    cases fuel with
    | zero => simp [runUrls] at hfuel
    | succ n => simp [collect, hf, runUrls]
  | @cons u hr p ps e hf hn _ ih =>
    intro fuel hfuel hy
    cases fuel with
    | zero => simp [runUrls] at hfuel
    | succ n =>
      have hlen : (runUrls base (base ++ hr) ps).length ≤ n := by
        simp [runUrls, hn] at hfuel; exact hfuel
      have := ih n hlen (fun q hq => hy q (List.mem_cons_of_mem _ hq))
      simp [collect, hf, hy p (List.mem_cons_self ..), hn, runUrls, this]

open Acn.HttpDate in
/-- what `parse_dates` has to do to one field of a document whose zone has offset function `off` -/
inductive FieldOk (off : Instant → Int) : String × Val → String × PVal → Prop
  | date {k s : String} {t : Instant} :
      parseRfc1123 s = some t → FieldOk off (k, .str s) (k, .date (toZone off t))
  | keep {k s : String} : parseRfc1123 s = none → FieldOk off (k, .str s) (k, .str s)
  | stamps {k : String} {l : List String} {ts : List Instant} :
      l.map parseRfc1123 = ts.map some → FieldOk off (k, .ts l) (k, .ts (ts.map (toZone off)))
  | other {k : String} : FieldOk off (k, .other) (k, .other)

open Acn.HttpDate in
/-- field-by-field: same keys, same order, every field converted as `FieldOk` says -/
inductive DocOk (off : Instant → Int) : Doc → PDoc → Prop
  | nil : DocOk off [] []
  | cons {f : String × Val} {g : String × PVal} {d : Doc} {pd : PDoc} :
      FieldOk off f g → DocOk off d pd → DocOk off (f :: d) (g :: pd)

open Acn.HttpDate in
theorem parseStamps_ok (off : Instant → Int) (l : List String) (as : List Aware)
    (h : parseStamps off l = .ok as) :
    ∃ ts : List Instant, l.map parseRfc1123 = ts.map some ∧ as = ts.map (toZone off) := by
  induction l generalizing as with
  | nil => simp [parseStamps] at h; subst h; exact ⟨[], rfl, rfl⟩
  | cons s ss ih =>
    unfold parseStamps at h
    cases hp : parseRfc1123 s with
    | none => simp [parseHttpDate, hp] at h
    | some t =>
      simp only [parseHttpDate, hp, Option.map_some] at h
      cases hr : parseStamps off ss with
      | error e => simp [hr] at h
      | ok as' =>
        simp only [hr, Except.ok.injEq] at h
        obtain ⟨ts, h1, h2⟩ := ih as' hr
        exact ⟨t :: ts, by simp [hp, h1], by rw [← h, h2]; rfl⟩

open Acn.HttpDate in
theorem parseFields_ok (off : Instant → Int) (d : Doc) (pd : PDoc) (h : parseFields off d = .ok pd) :
    DocOk off d pd := by
  induction d generalizing pd with
  | nil => simp [parseFields] at h; subst h; exact .nil
  | cons f rest ih =>
    obtain ⟨k, v⟩ := f
    unfold parseFields at h
    cases hr : parseFields off rest with
    | error e =>
      cases v with
      | str s => cases hp : parseHttpDate off s <;> simp [hp, hr] at h
      | ts l => cases hs : parseStamps off l <;> simp [hs, hr] at h
      | other => simp [hr] at h
    | ok r =>
      have ihr := ih r hr
      cases v with
      | str s =>
        cases hp : parseRfc1123 s with
        | none =>
          simp [parseHttpDate, hp, hr] at h; subst h
          exact .cons (.keep hp) ihr
        | some t =>
          simp [parseHttpDate, hp, hr] at h; subst h
          exact .cons (.date hp) ihr
      | ts l =>
        cases hs : parseStamps off l with
        | error e => simp [hs] at h
        | ok as =>
          simp [hs, hr] at h; subst h
          obtain ⟨ts, h1, h2⟩ := parseStamps_ok off l as hs
          subst h2
          exact .cons (.stamps h1) ihr
      | other =>
        simp [hr] at h; subst h
        exact .cons .other ihr

end Acn.DataClient
