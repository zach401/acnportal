/-
  For the StochasticNetwork invariant (C19).  How `filter` / `countP` over a duplicate-free list
  react when the predicate changes at a single element; then the operations of the model on explicit
  inputs — when they succeed and with which state —, and what each of them leaves alone: the ghost
  flags `arrived` / `departed` (and, but for the early-departure step, `early`), the draw counter,
  the constructor flag.
-/
import AcnModel.Stochastic
import Mathlib.Tactic

namespace Acn.Stoch

variable {α : Type} [DecidableEq α]

theorem filter_update_erase (l : List α) (p p' : α → Bool) (x : α) (hn : l.Nodup)
    (hx : p' x = false) (ho : ∀ y ∈ l, y ≠ x → p' y = p y) :
    l.filter p' = (l.filter p).erase x := by
  rw [(hn.filter p).erase_eq_filter, List.filter_filter]
  apply List.filter_congr
  intro y hy
  by_cases h : y = x
  · subst h; simp [hx]
  · simp [ho y hy h, h]

omit [DecidableEq α] in
theorem filter_append_new (l : List α) (p p' : α → Bool) (x : α)
    (ho : ∀ y ∈ l, p' y = p y) :
    (l ++ [x]).filter p' = l.filter p ++ (if p' x then [x] else []) := by
  rw [List.filter_append, List.filter_congr ho]
  by_cases h : p' x <;> simp [h]

theorem countP_update_inc (l : List α) (p p' : α → Bool) (x : α) (hn : l.Nodup) (hx : x ∈ l)
    (h0 : p x = false) (h1 : p' x = true) (ho : ∀ y ∈ l, y ≠ x → p' y = p y) :
    l.countP p' = l.countP p + 1 := by
  -- read backwards, the change switches the predicate off at `x`
  have hx' : x ∈ l.filter p' := List.mem_filter.2 ⟨hx, h1⟩
  rw [List.countP_eq_length_filter, List.countP_eq_length_filter,
    filter_update_erase l p' p x hn h0 fun y hy hne => (ho y hy hne).symm, List.length_erase_of_mem hx']
  have := List.length_pos_of_mem hx'
  omega

omit [DecidableEq α] in
theorem countP_same (l : List α) (p p' : α → Bool) (ho : ∀ y ∈ l, p' y = p y) :
    l.countP p' = l.countP p := by
  apply List.countP_congr
  intro y hy
  simp [ho y hy]

omit [DecidableEq α] in
theorem countP_append_new (l : List α) (p p' : α → Bool) (x : α) (ho : ∀ y ∈ l, p' y = p y) :
    (l ++ [x]).countP p' = l.countP p + (if p' x then 1 else 0) := by
  rw [List.countP_append, countP_same l p p' ho]
  by_cases h : p' x <;> simp [h]

theorem attach_eq (s : Net) (x : Sess) (st : Station) (h1 : (s.ev x).station = some st)
    (h2 : st ∈ s.stations) (h3 : s.occ st = none) :
    s.attach x = .ok ((s.setOcc st (some x)).modEv x (fun r => { r with plugged := true })) := by
  simp [Net.attach, h1, h2, h3]

theorem attach_ok {s s1 : Net} {x : Sess} (hs : s.attach x = .ok s1) :
    ∃ st, (s.ev x).station = some st ∧ st ∈ s.stations ∧ s.occ st = none ∧
      s1 = (s.setOcc st (some x)).modEv x (fun r => { r with plugged := true }) := by
  unfold Net.attach at hs
  split at hs
  · cases hs
  · rename_i st hst
    split at hs
    · rename_i hm
      split at hs
      · rename_i ho; cases hs; exact ⟨st, hst, hm, ho, rfl⟩
      · cases hs
    · cases hs

/-- the head `y` of the queue takes the station `st`: the state `admitNext` produces -/
def Net.seat (s : Net) (st : Station) (y : Sess) (w : List Sess) : Net :=
  { s with
    occ := fun t => if t = st then some y else s.occ t,
    waiting := w,
    ev := fun z => if z = y then { s.ev y with station := some st, plugged := true } else s.ev z,
    swaps := s.swaps + 1 }

theorem admitNext_nil {s : Net} (st : Station) (hw : s.waiting = []) : s.admitNext st = .ok s := by
  simp only [Net.admitNext, hw]

theorem admitNext_cons (s : Net) (st : Station) (y : Sess) (w : List Sess) (hw : s.waiting = y :: w)
    (h2 : st ∈ s.stations) (h3 : s.occ st = none) : s.admitNext st = .ok (s.seat st y w) := by
  unfold Net.admitNext
  rw [hw]
  simp only
  rw [attach_eq _ y st (by simp [Net.modEv]) (by simpa [Net.modEv] using h2) (by simpa [Net.modEv] using h3)]
  simp only [bind, Except.bind, pure, Except.pure, Net.modEv, Net.setOcc, Net.seat]
  congr 2
  funext z
  by_cases h : z = y <;> simp [h]

theorem admitNext_ok {s s1 : Net} {st : Station} (hs : s.admitNext st = .ok s1) :
    (s.waiting = [] ∧ s1 = s) ∨ ∃ y w, s.waiting = y :: w ∧ s1 = s.seat st y w := by
  cases hw : s.waiting with
  | nil => rw [admitNext_nil st hw] at hs; cases hs; exact Or.inl ⟨rfl, rfl⟩
  | cons y w =>
    refine Or.inr ⟨y, w, rfl, ?_⟩
    have h0 := hs
    simp only [Net.admitNext, hw, bind, Except.bind] at hs
    split at hs
    · cases hs
    · rename_i s3 h3
      obtain ⟨st', h1, h2, h3', -⟩ := attach_ok h3
      simp only [Net.modEv, if_true, Option.some.injEq] at h1 h2 h3'
      subst h1
      rw [admitNext_cons s st y w hw h2 h3'] at h0
      cases h0; rfl

theorem unplug_of_mem {s : Net} {x : Sess} (st? : Option Station) (hx : x ∈ s.waiting) :
    s.unplug st? x =
      .ok { s with waiting := s.waiting.erase x, neverCharged := s.neverCharged + 1 } := by
  simp only [Net.unplug, if_pos hx]

theorem unplug_of_ne {s : Net} {x : Sess} {st : Station} (hx : x ∉ s.waiting) (hm : st ∈ s.stations)
    (ho : s.occ st ≠ some x) : s.unplug (some st) x = .ok s := by
  simp only [Net.unplug, if_neg hx, if_pos hm]
  split
  · rfl
  · rename_i z hz
    rw [if_neg (fun (e : x = z) => ho (e ▸ hz))]

theorem unplug_of_occ {s : Net} {x : Sess} {st : Station} (hx : x ∉ s.waiting) (hm : st ∈ s.stations)
    (ho : s.occ st = some x) : s.unplug (some st) x = (s.setOcc st none).admitNext st := by
  simp only [Net.unplug, if_neg hx, if_pos hm, ho, if_true]

theorem unplug_ok {s s1 : Net} {st? : Option Station} {x : Sess} (hs : s.unplug st? x = .ok s1) :
    (x ∈ s.waiting ∧
      s1 = { s with waiting := s.waiting.erase x, neverCharged := s.neverCharged + 1 }) ∨
    (x ∉ s.waiting ∧ ∃ st, st? = some st ∧ st ∈ s.stations ∧
      ((s.occ st ≠ some x ∧ s1 = s) ∨
       (s.occ st = some x ∧ (s.setOcc st none).admitNext st = .ok s1))) := by
  by_cases hx : x ∈ s.waiting
  · rw [unplug_of_mem st? hx] at hs; cases hs; exact Or.inl ⟨hx, rfl⟩
  · refine Or.inr ⟨hx, ?_⟩
    cases st? with
    | none => simp [Net.unplug, hx] at hs
    | some st =>
      by_cases hm : st ∈ s.stations
      · refine ⟨st, rfl, hm, ?_⟩
        by_cases ho : s.occ st = some x
        · rw [unplug_of_occ hx hm ho] at hs; exact Or.inr ⟨ho, hs⟩
        · rw [unplug_of_ne hx hm ho] at hs; cases hs; exact Or.inl ⟨ho, rfl⟩
      · simp [Net.unplug, hx, hm] at hs

theorem earlyStep_nil {s : Net} (x : Sess) (hw : s.waiting = []) : s.earlyStep x = .ok s := by
  simp [Net.earlyStep, hw, pure, Except.pure]

/-- the part of an EV record the network operations leave alone -/
def SameFlags (s s1 : Net) : Prop :=
  ∀ u, (s1.ev u).arrived = (s.ev u).arrived ∧ (s1.ev u).departed = (s.ev u).departed ∧
    (s1.ev u).early = (s.ev u).early

theorem SameFlags.refl (s : Net) : SameFlags s s := fun _ => ⟨rfl, rfl, rfl⟩

theorem SameFlags.trans {a b c : Net} (h1 : SameFlags a b) (h2 : SameFlags b c) : SameFlags a c :=
  fun u => ⟨(h2 u).1.trans (h1 u).1, (h2 u).2.1.trans (h1 u).2.1, (h2 u).2.2.trans (h1 u).2.2⟩

theorem attach_frame {s s1 : Net} {x : Sess} (hs : s.attach x = .ok s1) :
    SameFlags s s1 ∧ s1.draws = s.draws ∧ s1.earlyDeparture = s.earlyDeparture ∧
      s1.waiting = s.waiting := by
  obtain ⟨st, -, -, -, rfl⟩ := attach_ok hs
  refine ⟨fun u => ?_, rfl, rfl, rfl⟩
  simp only [Net.modEv, Net.setOcc]
  split <;> exact ⟨rfl, rfl, rfl⟩

theorem admitNext_frame {s s1 : Net} {st : Station} (hs : s.admitNext st = .ok s1) :
    SameFlags s s1 ∧ s1.draws = s.draws ∧ s1.earlyDeparture = s.earlyDeparture ∧
      s1.waiting = s.waiting.tail := by
  rcases admitNext_ok hs with ⟨hw, rfl⟩ | ⟨y, w, hw, rfl⟩
  · exact ⟨SameFlags.refl _, rfl, rfl, by rw [hw]; rfl⟩
  · refine ⟨fun u => ?_, rfl, rfl, by rw [hw]; rfl⟩
    simp only [Net.seat]
    split
    · rename_i h; rw [h]; exact ⟨rfl, rfl, rfl⟩
    · exact ⟨rfl, rfl, rfl⟩

theorem unplug_frame {s s1 : Net} {st? : Option Station} {x : Sess}
    (hs : s.unplug st? x = .ok s1) :
    SameFlags s s1 ∧ s1.draws = s.draws ∧ s1.earlyDeparture = s.earlyDeparture := by
  rcases unplug_ok hs with ⟨-, rfl⟩ | ⟨-, st, -, -, ⟨-, rfl⟩ | ⟨-, h⟩⟩
  · exact ⟨SameFlags.refl _, rfl, rfl⟩
  · exact ⟨SameFlags.refl _, rfl, rfl⟩
  · obtain ⟨h1, h2, h3, -⟩ := admitNext_frame h
    exact ⟨h1, h2, h3⟩

theorem plugin_frame {cs : Nat → Nat} {s s1 : Net} {x : Sess} (hs : s.plugin cs x = .ok s1) :
    SameFlags s s1 ∧ s1.earlyDeparture = s.earlyDeparture := by
  unfold Net.plugin at hs
  split at hs
  · cases hs
    refine ⟨fun u => ?_, rfl⟩
    simp only [Net.modEv]
    split <;> exact ⟨rfl, rfl, rfl⟩
  · obtain ⟨h1, -, h3, -⟩ := attach_frame hs
    refine ⟨fun u => ?_, h3⟩
    rw [(h1 u).1, (h1 u).2.1, (h1 u).2.2]
    simp only [Net.modEv]
    split <;> exact ⟨rfl, rfl, rfl⟩

/-- the early-departure step sets `early`, and nothing else of what `unplug` leaves alone -/
theorem earlyStep_frame {s s1 : Net} {x : Sess} (hs : s.earlyStep x = .ok s1) :
    (∀ u, (s1.ev u).arrived = (s.ev u).arrived ∧ (s1.ev u).departed = (s.ev u).departed) ∧
      s1.draws = s.draws ∧ s1.earlyDeparture = s.earlyDeparture := by
  unfold Net.earlyStep at hs
  split at hs
  · cases hs; exact ⟨fun _ => ⟨rfl, rfl⟩, rfl, rfl⟩
  · cases h2 : s.unplug (s.ev x).station x with
    | error e => rw [h2] at hs; cases hs
    | ok s2 =>
      rw [h2] at hs; cases hs
      obtain ⟨hf, hd, he⟩ := unplug_frame h2
      refine ⟨fun u => ?_, hd, he⟩
      rw [← (hf u).1, ← (hf u).2.1]
      simp only [Net.modEv]
      split <;> exact ⟨rfl, rfl⟩

theorem processEvent_ok {cs : Nat → Nat} {s s1 : Net} {e : Event}
    (hs : s.processEvent cs e = .ok s1) :
    (e.kind = .recompute ∧ s1 = s) ∨
    (e.kind = .unplug ∧ ∃ s2, s.unplug (s.ev e.sess).station e.sess = .ok s2 ∧
      s1 = s2.modEv e.sess (fun r => { r with departed := true })) ∨
    (e.kind = .plugin ∧ ∃ s2, s.plugin cs e.sess = .ok s2 ∧
      s1 = { s2.modEv e.sess (fun r => { r with arrived := true }) with
             arrivals := if e.sess ∈ s2.arrivals then s2.arrivals else s2.arrivals ++ [e.sess] }) := by
  simp only [Net.processEvent] at hs
  cases hk : e.kind with
  | recompute => simp only [hk, pure, Except.pure] at hs; cases hs; exact Or.inl ⟨rfl, rfl⟩
  | unplug =>
    simp only [hk, bind, Except.bind, pure, Except.pure] at hs
    cases h2 : s.unplug (s.ev e.sess).station e.sess with
    | error er => rw [h2] at hs; cases hs
    | ok s2 => rw [h2] at hs; cases hs; exact Or.inr (Or.inl ⟨rfl, s2, rfl, rfl⟩)
  | plugin =>
    simp only [hk, bind, Except.bind, pure, Except.pure] at hs
    cases h2 : s.plugin cs e.sess with
    | error er => rw [h2] at hs; cases hs
    | ok s2 => rw [h2] at hs; cases hs; exact Or.inr (Or.inr ⟨rfl, s2, rfl, rfl⟩)

theorem processEvent_earlyDeparture {cs : Nat → Nat} {s s1 : Net} {e : Event}
    (hs : s.processEvent cs e = .ok s1) : s1.earlyDeparture = s.earlyDeparture := by
  rcases processEvent_ok hs with ⟨-, rfl⟩ | ⟨-, s2, h2, rfl⟩ | ⟨-, s2, h2, rfl⟩
  · rfl
  · exact (unplug_frame h2).2.2
  · exact (plugin_frame h2).2

theorem Net.run_cons {cs : Nat → Nat} {s s' : Net} {st : Step} {r : List Step} :
    s.run cs (st :: r) = .ok s' ↔ ∃ s1, s.step cs st = .ok s1 ∧ s1.run cs r = .ok s' := by
  simp only [Net.run, List.foldlM_cons, bind, Except.bind]
  cases s.step cs st with
  | error e => simp
  | ok s1 => simp

end Acn.Stoch
