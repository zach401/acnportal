/-
  Helper lemmas for C11, spec layer: what `QSpec.Cur` (the relation of `get_current_events`) implies, the
  serialised form, and `pickFirst` and `get_last_timestamp` as folds that keep a best value.
-/
import AcnProofs.Lemmas.QueueOrder
import AcnProofs.Lemmas.Basic

namespace Acn

namespace QSpec

theorem filter_erase_of_false (p : Event → Bool) (q : List Event) (e : Event) (hp : p e = false) :
    (q.erase e).filter p = q.filter p := by
  rw [← List.erase_filter, List.erase_of_not_mem]
  simp [hp]

theorem IsMin.ts_le {q : List Event} {e : Event} (h : IsMin q e) : ∀ x ∈ q, e.ts ≤ x.ts :=
  fun x hx => ts_le_of_keyLe (h.2 x hx)

/-- `get_current_events(t)` returns exactly the pending events with `ts ≤ t`, sorted by key,
    and leaves exactly the others (in their insertion order) -/
theorem pickFirst_isMin (x : Event) (xs : List Event) : IsMin (x :: xs) (pickFirst x xs) := by
  obtain ⟨⟨z, hz, h1⟩, h2⟩ := foldl_best (r := KeyLe) keyLt_irrefl (fun a b c h1 h2 => keyLe_trans a b c h1 h2)
    id (fun best y => y.keyLt best = true) (fun _ _ => keyLt_swo.le_of_lt)
    (fun _ _ => (Bool.not_eq_true _).mp) x xs (pickFirst x xs) rfl
  exact ⟨h1 ▸ hz, h2⟩

theorem Cur.spec {t : Int} {q es q' : List Event} (h : Cur t q es q') :
    es.Perm (q.filter (fun e => decide (e.ts ≤ t))) ∧ es.Pairwise KeyLe ∧
    q' = q.filter (fun e => !decide (e.ts ≤ t)) := by
  induction h with
  | stopEmpty => simp
  | @stopLater q e hmin hlt =>
    have hall : ∀ x ∈ q, t < x.ts := fun x hx => lt_of_lt_of_le hlt (IsMin.ts_le hmin x hx)
    refine ⟨?_, List.Pairwise.nil, ?_⟩
    · rw [List.filter_eq_nil_iff.mpr]
      intro x hx; simpa using hall x hx
    · rw [eq_comm, List.filter_eq_self]
      intro x hx; simpa using hall x hx
  | @pop q e es q' hmin hle _ ih =>
    obtain ⟨ih1, ih2, ih3⟩ := ih
    refine ⟨?_, ?_, ?_⟩
    · have hp : q.Perm (e :: q.erase e) := List.perm_cons_erase hmin.1
      have := hp.filter (fun e => decide (e.ts ≤ t))
      refine List.Perm.trans ?_ this.symm
      rw [List.filter_cons_of_pos (by simpa using hle)]
      exact List.Perm.cons _ ih1
    · rw [List.pairwise_cons]
      refine ⟨?_, ih2⟩
      intro x hx
      have : x ∈ q.erase e := by
        have := (ih1.subset hx); exact (List.mem_filter.mp this).1
      exact hmin.2 x (List.mem_of_mem_erase this)
    · rw [ih3]; exact filter_erase_of_false _ q e (by simpa using hle)

theorem Cur.subset_left {t : Int} {q es q' : List Event} (h : Cur t q es q') : ∀ x ∈ es, x ∈ q :=
  fun x hx => (List.mem_filter.mp (h.spec.1.subset hx)).1

theorem Cur.ts_le {t : Int} {q es q' : List Event} (h : Cur t q es q') : ∀ x ∈ es, x.ts ≤ t := by
  intro _ hx; simpa using (List.mem_filter.mp (h.spec.1.subset hx)).2

theorem Cur.rest {t : Int} {q es q' : List Event} (h : Cur t q es q') :
    ∀ x ∈ q', x ∈ q ∧ t < x.ts := by
  intro x hx; rw [h.spec.2.2] at hx
  have := List.mem_filter.mp hx
  exact ⟨this.1, by simpa using this.2⟩

end QSpec

theorem fromWire_toWire (l : List Event) : fromWire (toWire l) = l := by
  rw [fromWire, toWire, List.map_map]
  exact List.map_id _

theorem toWire_ts (l : List Event) : ∀ p ∈ toWire l, p.1 = p.2.ts := by
  intro p hp
  obtain ⟨e, _, rfl⟩ := List.mem_map.mp hp
  rfl

theorem lastTsList_spec (q : List Event) :
    (lastTsList q = none ↔ q = []) ∧
    ∀ m, lastTsList q = some m ↔ (∃ x ∈ q, x.ts = m) ∧ ∀ x ∈ q, x.ts ≤ m := by
  cases q with
  | nil => simp [lastTsList]
  | cons x xs =>
    obtain ⟨⟨z, hz, h1⟩, h2⟩ := foldl_best (r := fun a b : Int => b ≤ a) (fun _ => le_rfl)
      (fun _ _ _ h1 h2 => le_trans h2 h1) Event.ts (fun b y => b < y.ts) (fun _ _ => le_of_lt)
      (fun _ _ => not_lt.mp) x xs _ rfl
    refine ⟨by simp [lastTsList], fun m => ?_⟩
    simp only [lastTsList, Option.some.injEq]
    constructor
    · rintro rfl
      exact ⟨⟨z, hz, h1.symm⟩, h2⟩
    · rintro ⟨⟨y, hy, rfl⟩, hmax⟩
      exact le_antisymm (h1 ▸ hmax z hz) (h2 y hy)

theorem lastTsList_perm {q q' : List Event} (h : q.Perm q') : lastTsList q = lastTsList q' := by
  cases hq : lastTsList q with
  | none =>
    have := ((lastTsList_spec q).1.mp hq); subst this
    have := List.nil_perm.mp h; subst this; rfl
  | some m =>
    symm
    rw [(lastTsList_spec q').2 m]
    obtain ⟨⟨x, hx, hxm⟩, hmax⟩ := ((lastTsList_spec q).2 m).mp hq
    exact ⟨⟨x, h.subset hx, hxm⟩, fun y hy => hmax y (h.symm.subset hy)⟩

end Acn
