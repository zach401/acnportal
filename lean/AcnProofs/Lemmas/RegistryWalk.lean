/-
  The memoised post-order walk `visit` (`_to_registry` / `_build_from_id`).  Invariant `CtxOK`: the context holds every
  object at most once, each entry is the store's, and the context is closed under references (children are entered
  before their parent).  `Walked st ctx js ctx'` is what walking the ids `js` does to a context: it has grown, by
  objects below `js` only, keeps the invariant and holds all of `js`; the memo hit, the fold over the children and the
  entry of the object behind them each have it (`Walked.hit`, `.cons`, `.enter`), and `visit_walked` only follows the
  control flow.  Fuel: `size + 1` is enough for every acyclic store.
-/
import AcnModel.Registry
import AcnProofs.Lemmas.Assoc
import Mathlib.Tactic

namespace Acn.Registry

theorem mem_of_get {st : Store} {i : Id} {o : Obj} (h : st.get i = some o) : (i, o) ∈ st :=
  Assoc.mem_of_lookup h

theorem key_of_get {st : Store} {i : Id} {o : Obj} (h : st.get i = some o) : i ∈ st.keys :=
  List.mem_map.2 ⟨(i, o), mem_of_get h, rfl⟩

theorem get_of_mem_nodup {st : Store} (hn : st.keys.Nodup) {i : Id} {o : Obj} (h : (i, o) ∈ st) :
    st.get i = some o :=
  (Assoc.lookup_eq_some hn i o).2 h

theorem keys_append (a b : Store) : (a ++ b).keys = a.keys ++ b.keys := by simp [Store.keys]

theorem exists_of_key {st : Store} {i : Id} (h : i ∈ st.keys) : ∃ o, (i, o) ∈ st := by
  obtain ⟨p, hp, rfl⟩ := List.mem_map.1 h
  exact ⟨p.2, hp⟩

theorem Reach.trans {st : Store} {a b c : Id} (h : Reach st a b) (h' : Reach st b c) : Reach st a c := by
  induction h with
  | refl _ => exact h'
  | step hg hj _ ih => exact Reach.step hg hj (ih h')

def Acyclic (st : Store) : Prop :=
  ∃ rank : Id → Nat, ∀ i o, st.get i = some o → ∀ j ∈ o.refs, rank j < rank i

/-- no dangling reference below `root` (true of a live Python heap) -/
def Closed (st : Store) (root : Id) : Prop := ∀ j, Reach st root j → (st.get j).isSome = true

theorem Reach.rank_le {st : Store} {rank : Id → Nat}
    (hr : ∀ i o, st.get i = some o → ∀ j ∈ o.refs, rank j < rank i) {a b : Id} (h : Reach st a b) :
    rank b ≤ rank a := by
  induction h with
  | refl _ => exact le_rfl
  | step hg hj _ ih => exact le_trans ih (le_of_lt (hr _ _ hg _ hj))

theorem Acyclic.no_back {st : Store} (h : Acyclic st) {i j : Id} {o : Obj} (hg : st.get i = some o)
    (hj : j ∈ o.refs) : ¬ Reach st j i := by
  obtain ⟨rank, hr⟩ := h
  intro hre
  have := hre.rank_le hr
  have := hr i o hg j hj
  omega

structure CtxOK (st ctx : Store) : Prop where
  nodup : ctx.keys.Nodup
  sub : ∀ i o, (i, o) ∈ ctx → st.get i = some o
  closed : ∀ i o, (i, o) ∈ ctx → ∀ j ∈ o.refs, j ∈ ctx.keys

theorem CtxOK.nil (st : Store) : CtxOK st [] := ⟨by simp [Store.keys], by simp, by simp⟩

theorem CtxOK.snoc {st ctx : Store} (hc : CtxOK st ctx) {i : Id} {o : Obj} (hi : i ∉ ctx.keys)
    (ho : st.get i = some o) (hkids : ∀ j ∈ o.refs, j ∈ ctx.keys) : CtxOK st (ctx ++ [(i, o)]) where
  nodup := by
    rw [keys_append]
    exact List.nodup_append.2 ⟨hc.nodup, List.nodup_singleton _, fun a ha b hb => by
      rw [show b = i from List.mem_singleton.1 hb]; rintro rfl; exact hi ha⟩
  sub a q hq := by
    rcases List.mem_append.1 hq with hq | hq
    · exact hc.sub a q hq
    · cases List.mem_singleton.1 hq; exact ho
  closed a q hq x hx := by
    rw [keys_append]
    rcases List.mem_append.1 hq with hq | hq
    · exact List.mem_append_left _ (hc.closed a q hq x hx)
    · cases List.mem_singleton.1 hq; exact List.mem_append_left _ (hkids x hx)

theorem visit_succ (st : Store) (f : Nat) (i : Id) (ctx : Store) :
    visit st (f + 1) i ctx =
      if ctx.keys.contains i then .ok ctx
      else match st.get i with
        | none => .error (.missing i)
        | some o =>
          match visitList (visit st f) o.refs ctx with
          | .error e => .error e
          | .ok ctx' => .ok (ctx' ++ [(i, o)]) := rfl

def Walked (st ctx : Store) (js : List Id) (ctx' : Store) : Prop :=
  ∃ new, ctx' = ctx ++ new ∧ CtxOK st ctx' ∧ (∀ j ∈ js, j ∈ ctx'.keys) ∧
    ∀ j' ∈ Store.keys new, ∃ j ∈ js, Reach st j j'

section walked
variable {st ctx c1 c2 : Store} {i j : Id} {js : List Id} {o : Obj}

theorem Walked.ok (h : Walked st ctx js c1) : CtxOK st c1 := h.choose_spec.2.1

theorem Walked.nil (hc : CtxOK st ctx) : Walked st ctx [] ctx :=
  ⟨[], by simp, hc, by simp, by simp [Store.keys]⟩

theorem Walked.hit (hc : CtxOK st ctx) (h : i ∈ ctx.keys) : Walked st ctx [i] ctx :=
  ⟨[], by simp, hc, by simpa using h, by simp [Store.keys]⟩

theorem Walked.cons (h1 : Walked st ctx [j] c1) (h2 : Walked st c1 js c2) : Walked st ctx (j :: js) c2 := by
  obtain ⟨n1, rfl, -, hj1, hr1⟩ := h1
  obtain ⟨n2, rfl, hc2, hj2, hr2⟩ := h2
  refine ⟨n1 ++ n2, by rw [List.append_assoc], hc2, fun x hx => ?_, fun j' hj' => ?_⟩
  · rcases List.mem_cons.1 hx with rfl | hx
    · rw [keys_append]; exact List.mem_append_left _ (hj1 x List.mem_cons_self)
    · exact hj2 x hx
  · rw [keys_append, List.mem_append] at hj'
    rcases hj' with hj' | hj'
    · obtain ⟨x, hx, hxr⟩ := hr1 j' hj'
      exact ⟨j, List.mem_cons_self, List.mem_singleton.1 hx ▸ hxr⟩
    · obtain ⟨x, hx, hxr⟩ := hr2 j' hj'
      exact ⟨x, List.mem_cons_of_mem _ hx, hxr⟩

theorem Walked.enter (hac : Acyclic st) (h : Walked st ctx o.refs c1) (ho : st.get i = some o) (hi : i ∉ ctx.keys) :
    Walked st ctx [i] (c1 ++ [(i, o)]) := by
  obtain ⟨new, rfl, hc1, hj1, hr1⟩ := h
  have hi' : i ∉ (ctx ++ new).keys := by
    rw [keys_append, List.mem_append]
    rintro (h | h)
    · exact hi h
    · obtain ⟨j, hj, hre⟩ := hr1 i h
      exact hac.no_back ho hj hre
  refine ⟨new ++ [(i, o)], by rw [List.append_assoc], hc1.snoc hi' ho hj1, fun x hx => ?_, fun j' hj' => ?_⟩
  · rw [List.mem_singleton.1 hx, keys_append]
    exact List.mem_append_right _ (by simp [Store.keys])
  · refine ⟨i, List.mem_singleton_self i, ?_⟩
    rw [keys_append, List.mem_append] at hj'
    rcases hj' with hj' | hj'
    · obtain ⟨j, hj, hre⟩ := hr1 j' hj'
      exact Reach.step ho hj hre
    · obtain rfl : j' = i := by simpa [Store.keys] using hj'
      exact Reach.refl _

theorem visitList_walked (v : Id → Store → Except Err Store) :
    ∀ (js : List Id) (ctx : Store), (∀ j ∈ js, ∀ c, CtxOK st c → ∃ c', v j c = .ok c' ∧ Walked st c [j] c') →
      CtxOK st ctx → ∃ c', visitList v js ctx = .ok c' ∧ Walked st ctx js c'
  | [], ctx, _, hc => ⟨ctx, rfl, .nil hc⟩
  | j :: js, ctx, hv, hc => by
    obtain ⟨c1, e1, w1⟩ := hv j List.mem_cons_self ctx hc
    obtain ⟨c2, e2, w2⟩ := visitList_walked v js c1 (fun x hx => hv x (List.mem_cons_of_mem _ hx)) w1.ok
    exact ⟨c2, by simp only [visitList, e1, e2], w1.cons w2⟩

/-- `S` holds whatever is below `i`, i.e. all that may still be entered; fuel beyond its length suffices -/
theorem visit_walked (hac : Acyclic st) :
    ∀ (f : Nat) (i : Id) (ctx : Store) (S : List Id), CtxOK st ctx → (∀ j, Reach st i j → j ∈ S) →
      S.length < f → (∀ j, Reach st i j → (st.get j).isSome = true) →
      ∃ c', visit st f i ctx = .ok c' ∧ Walked st ctx [i] c'
  | 0, _, _, _, _, _, hf, _ => absurd hf (Nat.not_lt_zero _)
  | f + 1, i, ctx, S, hc, hR, hf, hcl => by
    rw [visit_succ]
    by_cases hmem : i ∈ ctx.keys
    · exact ⟨ctx, by simp [hmem], .hit hc hmem⟩
    · obtain ⟨o, ho⟩ := Option.isSome_iff_exists.1 (hcl i (Reach.refl i))
      have hiS : i ∈ S := hR i (Reach.refl i)
      rw [if_neg (by simpa using hmem), ho]
      -- children: `i` is not below them, so the list of what may still be entered shrinks by `i`
      obtain ⟨c1, e1, w1⟩ := visitList_walked (visit st f) o.refs ctx
        (fun j hj c hcj => visit_walked hac f j c (S.erase i) hcj
          (fun j' hj' => (List.mem_erase_of_ne (by rintro rfl; exact hac.no_back ho hj hj')).2
            (hR j' (Reach.step ho hj hj')))
          (by rw [List.length_erase_of_mem hiS]; have := List.length_pos_of_mem hiS; omega)
          (fun j' hj' => hcl j' (Reach.step ho hj hj'))) hc
      exact ⟨_, by simp only [e1], w1.enter hac ho hmem⟩

end walked

theorem visitList_congr {v v' : Id → Store → Except Err Store} :
    ∀ (js : List Id) (ctx : Store), (∀ j ∈ js, ∀ c, v j c = v' j c) → visitList v js ctx = visitList v' js ctx
  | [], _, _ => rfl
  | j :: js, ctx, h => by
    simp only [visitList]
    rw [h j List.mem_cons_self ctx]
    rcases v' j ctx with e | c
    · rfl
    · exact visitList_congr js c (fun x hx => h x (List.mem_cons_of_mem _ hx))

theorem visit_congr (st st' : Store) : ∀ (f : Nat) (i : Id) (ctx : Store),
    (∀ j, Reach st i j → st.get j = st'.get j) → visit st f i ctx = visit st' f i ctx
  | 0, _, _, _ => rfl
  | f + 1, i, ctx, h => by
    rw [visit_succ, visit_succ, ← h i (Reach.refl i)]
    rcases ho : st.get i with _ | o
    · rfl
    · simp only []
      rw [visitList_congr o.refs ctx (fun j hj c =>
        visit_congr st st' f j c (fun j' hj' => h j' (Reach.step ho hj hj')))]

theorem visitList_mono {v v' : Id → Store → Except Err Store}
    (h : ∀ j c r, v j c = .ok r → v' j c = .ok r) :
    ∀ (js : List Id) (ctx r : Store), visitList v js ctx = .ok r → visitList v' js ctx = .ok r
  | [], _, _, hr => hr
  | j :: js, ctx, r, hr => by
    simp only [visitList] at hr ⊢
    rcases hv : v j ctx with e | c
    · rw [hv] at hr; cases hr
    · rw [hv] at hr
      rw [h j ctx c hv]
      exact visitList_mono h js c r hr

theorem visit_mono (st : Store) : ∀ (f f' : Nat), f ≤ f' → ∀ (i : Id) (ctx r : Store),
    visit st f i ctx = .ok r → visit st f' i ctx = .ok r
  | 0, _, _, _, _, _, h => by cases h
  | f + 1, 0, hle, _, _, _, _ => absurd hle (by omega)
  | f + 1, f' + 1, hle, i, ctx, r, h => by
    rw [visit_succ] at h ⊢
    split at h
    · rename_i hc; rw [if_pos hc]; exact h
    · rename_i hc
      rw [if_neg hc]
      rcases ho : st.get i with _ | o
      · rw [ho] at h; cases h
      · rw [ho] at h
        simp only [] at h ⊢
        rcases hk : visitList (visit st f) o.refs ctx with e | c
        · rw [hk] at h; cases h
        · rw [hk] at h
          rw [visitList_mono (fun j c r hr => visit_mono st f f' (by omega) j c r hr) o.refs ctx c hk]
          exact h

end Acn.Registry
