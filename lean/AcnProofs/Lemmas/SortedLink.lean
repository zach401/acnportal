/-
  Link lemmas between one `schedule()` call and the simulator: what `resolve` does, which fields
  preprocessing keeps and which bounds it establishes, where every entry of a returned array lies
  (`GrantOk`, uniformly for both algorithms; `AllocOk`, what either loop returns), and the whole call
  with an ARBITRARY estimator (`Sorted.scheduleCallEst`: order, `AllocOk`, side conditions on the queue,
  and `scheduleCallEst_spec`, the returned array station by station).
  The rampdown call `Sorted.scheduleCall` is the instance `scheduleCall_eq_scheduleCallEst` (`Lemmas/SortedEst`).
-/
import AcnProofs.Lemmas.SortedRR
import AcnProofs.Lemmas.SortedEst

set_option linter.unusedSectionVars false

namespace Acn.Sorted
open Acn

theorem findIdx?_some_spec (ids : List String) (st : String) (i : Nat) (h : ids.findIdx? (· == st) = some i) :
    i < ids.length ∧ ids.getD i "" = st := by
  obtain ⟨hi, hp, -⟩ := List.findIdx?_eq_some_iff_getElem.1 h
  exact ⟨hi, by rw [List.getD_eq_getElem _ _ hi]; exact eq_of_beq hp⟩

section
variable {K : Type} [Field K] [LinearOrder K] [IsStrictOrderedRing K]

theorem resolve_spec (infra : Infra K) : ∀ (raw l : List (Session K)), resolve infra raw = .ok l →
    List.Forall₂ (fun s s' => ∃ i, i < infra.ids.length ∧ infra.ids.getD i "" = s.station ∧
      s' = { s with idx := i }) raw l := by
  intro raw l h
  refine ((mapM_ok_iff _ _ _).1 h).imp fun s s' hs => ?_
  cases hf : infra.ids.findIdx? (· == s.station) with
  | none => rw [hf] at hs; cases hs
  | some i =>
    rw [hf] at hs; cases hs
    obtain ⟨h1, h2⟩ := findIdx?_some_spec infra.ids s.station i hf
    exact ⟨i, h1, h2, rfl⟩

theorem forall₂_mem_right' {α β : Type} {R : α → β → Prop} {l₁ : List α} {l₂ : List β}
    (h : List.Forall₂ R l₁ l₂) : ∀ b ∈ l₂, ∃ a ∈ l₁, R a b := forall₂_mem_right h

/-- what preprocessing WITHOUT estimator does to a session -/
def Derived (infra : Infra K) (period : K) (s0 s : Session K) : Prop :=
  s.idx = s0.idx ∧ s.station = s0.station ∧ s.requested = s0.requested ∧ s.delivered = s0.delivered ∧
  ((s.minRate = s0.minRate ∧ s.maxRate = min s0.maxRate (infra.maxPilot.getD s0.idx 0)) ∨
   (s.minRate = 0 ∧ s.maxRate = 0) ∨
   (infra.minPilot.getD s0.idx 0 ≤ rap infra period s0 ∧
    s.minRate = max (infra.minPilot.getD s0.idx 0) s0.minRate ∧
    s.maxRate = max (min s0.maxRate (infra.maxPilot.getD s0.idx 0)) s.minRate))

theorem preprocess_derived (feas : List K → Bool) (cfg : Config K) (infra : Infra K) (period : K)
    (prev : String → Option (K × K)) (rd : Rampdown K) (l : List (Session K))
    (hest : cfg.estimate = false) :
    ∀ s ∈ (preprocess feas cfg infra period prev rd l).1, ∃ s0 ∈ l, Derived infra period s0 s := by
  have h1 := estInput_spec infra period l
  unfold preprocess
  simp only [hest, Bool.false_eq_true, if_false]
  intro s hs
  by_cases hun : cfg.uninterrupted = true
  · simp only [hun, if_true] at hs
    obtain ⟨s1, hs1, hrel⟩ := forall₂_mem_right (applyMinimumRate_rel feas infra period _) s hs
    rw [mem_sortBy] at hs1
    obtain ⟨s0, h0, rfl⟩ := h1 s1 hs1
    obtain ⟨g1, _, g2, g4, g5, hc⟩ := hrel.fields
    refine ⟨s0, h0, g1, g2, g4, g5, ?_⟩
    rcases hc with hz | ⟨hrap, g3, g6⟩
    · exact Or.inr (Or.inl hz)
    · exact Or.inr (Or.inr ⟨hrap, g3, by rw [g6]; simp⟩)
  · simp only [hun, Bool.false_eq_true, if_false] at hs
    obtain ⟨s0, h0, rfl⟩ := h1 s hs
    exact ⟨s0, h0, rfl, rfl, rfl, rfl, Or.inl ⟨rfl, by simp⟩⟩

/-- what holds of the entry `r` an allocation loop leaves at the station of the preprocessed session `s`.  Continuous
    station: `0 ≤ r ≤ max_pilot`, GIVEN the bounds preprocessing establishes (the four premises; `grant_to_station`,
    `Lemmas/SortedSchedSafe`, has them from `DerivedW`).  Finite-rate station: 0 or one of its levels.  Both: at most
    `max lb (min max_rate remaining_amp_periods)`. -/
def GrantOk (infra : Infra K) (period : K) (s : Session K) (r : K) : Prop :=
  (infra.cont.getD s.idx true = true → 0 ≤ s.maxRate → s.minRate ≤ s.maxRate →
      s.maxRate ≤ infra.maxPilot.getD s.idx 0 → 0 ≤ rap infra period s →
      0 ≤ r ∧ r ≤ infra.maxPilot.getD s.idx 0) ∧
  (infra.cont.getD s.idx true = false → r = 0 ∨ r ∈ infra.allow.getD s.idx []) ∧
  r ≤ max (lbOf s) (min s.maxRate (rap infra period s))

theorem sortingAlgorithm_grants (feas : List K → Bool) (fuel : Nat) (eps : K) (heps : 0 ≤ eps)
    (infra : Infra K) (period : K) (queue : List (Session K)) (sch : List K)
    (hnd : (queue.map (·.idx)).Nodup) (hidx : ∀ s ∈ queue, s.idx < infra.ids.length)
    (h : sortingAlgorithm feas fuel eps infra period queue = .ok sch) :
    (∀ s ∈ queue, ∃ r, sch[s.idx]? = some r ∧ GrantOk infra period s r) ∧
    (∀ j, j < infra.ids.length → (∀ t ∈ queue, t.idx ≠ j) → sch[j]? = some 0) := by
  refine ⟨fun s hs => ?_, (sortingAlgorithm_inactive feas fuel eps infra period queue sch h).2⟩
  obtain ⟨pre, post, rfl⟩ := List.append_of_mem hs
  obtain ⟨cur, r, hr, hget, _⟩ := greedyLoop_sequential feas fuel eps infra period s post pre _ sch hnd
    (fun t ht => by rw [initSchedule_len]; exact hidx t ht) (sortingAlgorithm_ok h).2
  obtain ⟨hc, hd⟩ := greedyRate_range feas fuel eps heps infra period cur s r hr
  have hub : ubOf infra period s = min s.maxRate (rap infra period s) := by unfold ubOf; simp
  refine ⟨r, hget, ?_, ?_, ?_⟩
  · intro hcont h0 hmm hmp hrap
    obtain ⟨h1, h2⟩ := hc hcont
    have hub0 : 0 ≤ ubOf infra period s := by rw [hub]; exact le_min h0 hrap
    have hlbm : lbOf s ≤ s.maxRate := by unfold lbOf; simp; exact ⟨h0, hmm⟩
    have hubm : ubOf infra period s ≤ s.maxRate := by rw [hub]; exact min_le_left _ _
    constructor
    · rcases h1 with rfl | h1
      · exact hub0
      · exact le_trans (lbOf_nonneg s) h1
    · exact le_trans h2 (le_trans (max_le hlbm hubm) hmp)
  · intro hfin
    rcases hd hfin with h0 | hm
    · left; exact h0
    · right; exact (mem_levelsIn.mp hm).1
  · rw [← hub]
    cases hcont : infra.cont.getD s.idx true
    · rcases hd hcont with h0 | hm
      · rw [h0]; exact le_max_of_le_left (lbOf_nonneg s)
      · exact le_max_of_le_right (mem_levelsIn.mp hm).2.2
    · exact (hc hcont).2

theorem sortingAlgorithm_feasible (feas : List K → Bool) (fuel : Nat) (eps : K) (infra : Infra K) (period : K)
    (queue : List (Session K)) (sch : List K)
    (hnd : (queue.map (·.idx)).Nodup) (hok : ∀ s ∈ queue, LbOk infra period s)
    (h : sortingAlgorithm feas fuel eps infra period queue = .ok sch) : feas sch = true := by
  obtain ⟨hfe, hl⟩ := sortingAlgorithm_ok h
  exact greedyLoop_inv feas fuel eps infra period queue _ sch hfe hnd (initSchedule_lb _ queue hnd) hok hl

theorem mem_rrLevels [HasCeilNat K] {infra : Infra K} {period inc : K} {s : Session K} {a : K}
    (h : a ∈ rrLevels infra period inc s) :
    (infra.cont.getD s.idx true = false → a ∈ infra.allow.getD s.idx []) ∧ lbOf s ≤ a ∧
    a ≤ min (min s.maxRate (infra.maxPilot.getD s.idx 0)) (rap infra period s) := by
  unfold rrLevels at h
  simp only [List.mem_filter, decide_eq_true_eq] at h
  obtain ⟨⟨hbase, hlb⟩, hub⟩ := h
  refine ⟨fun hfin => ?_, hlb, by unfold rrUb at hub; simpa using hub⟩
  rw [hfin] at hbase
  simpa using hbase

theorem roundRobin_grants [HasCeilNat K] (feas : List K → Bool) (infra : Infra K) (period inc : K)
    (queue : List (Session K)) (st : RRState K)
    (hnd : (queue.map (·.idx)).Nodup) (hidx : ∀ s ∈ queue, s.idx < infra.ids.length)
    (hlen : infra.allow.length = infra.ids.length)
    (h : roundRobin feas (rrLevels infra period inc) infra queue = .ok st) :
    (∀ s ∈ queue, ∃ r, st.sched[s.idx]? = some r ∧ GrantOk infra period s r) ∧
    (∀ j, j < infra.ids.length → (∀ t ∈ queue, t.idx ≠ j) → st.sched[j]? = some 0) := by
  obtain ⟨_, _, ho, hv⟩ := roundRobin_spec feas _ infra queue st h hidx hlen
  constructor
  · intro s hs
    obtain ⟨r, hget, hr⟩ := hv hnd s hs
    refine ⟨r, hget, ?_⟩
    rcases hr with rfl | hm
    · refine ⟨fun _ h0 _ hmp _ => ⟨le_refl _, le_trans h0 hmp⟩, fun _ => Or.inl rfl, ?_⟩
      exact le_max_of_le_left (lbOf_nonneg s)
    · obtain ⟨hbase, hlb, hub'⟩ := mem_rrLevels hm
      refine ⟨fun _ _ _ _ _ => ⟨le_trans (lbOf_nonneg s) hlb, ?_⟩, fun hfin => Or.inr (hbase hfin), ?_⟩
      · exact le_trans hub' (le_trans (min_le_left _ _) (min_le_right _ _))
      · refine le_max_of_le_right (le_min ?_ ?_)
        · exact le_trans hub' (le_trans (min_le_left _ _) (min_le_left _ _))
        · exact le_trans hub' (min_le_right _ _)
  · intro j hj hne
    rw [ho j hne]; simp [hj]

theorem scheduleCallEst_order [HasCeilNat K] (feas : List K → Bool) (cfg : Config K) (infra : Infra K)
    (period : K) (time : Int) (est : List (Session K) → Session K → Option K)
    (raw l : List (Session K)) (hres : resolve infra raw = .ok l) :
    (scheduleCallEst feas cfg infra period time est raw).order =
      sortSessions cfg.sort infra period time (preprocessEst feas cfg infra period est l) ∧
    (scheduleCallEst feas cfg infra period time est raw).estIn = estInput infra period l := by
  unfold scheduleCallEst
  simp only [hres]
  cases cfg.algo with
  | greedy => exact ⟨rfl, rfl⟩
  | roundRobin =>
    simp only
    split <;> exact ⟨rfl, rfl⟩

theorem scheduleCallEst_resolve_error [HasCeilNat K] (feas : List K → Bool) (cfg : Config K)
    (infra : Infra K) (period : K) (time : Int) (est : List (Session K) → Session K → Option K)
    (raw : List (Session K)) (e : Err) (hres : resolve infra raw = .error e) :
    (scheduleCallEst feas cfg infra period time est raw).result = .error e := by
  unfold scheduleCallEst
  simp only [hres]

theorem scheduleCallEst_alloc [HasCeilNat K] (feas : List K → Bool) (cfg : Config K) (infra : Infra K)
    (period : K) (time : Int) (est : List (Session K) → Session K → Option K)
    (raw : List (Session K)) (sch : List K)
    (h : (scheduleCallEst feas cfg infra period time est raw).result = .ok sch) :
    sortingAlgorithm feas cfg.fuel cfg.eps infra period
        (scheduleCallEst feas cfg infra period time est raw).order = .ok sch ∨
    ∃ st, roundRobin feas (rrLevels infra period cfg.inc) infra
        (scheduleCallEst feas cfg infra period time est raw).order = .ok st ∧ st.sched = sch := by
  rw [scheduleCallEst_result] at h
  cases hres : resolve infra raw with
  | error e => rw [hres] at h; cases h
  | ok l =>
    rw [(scheduleCallEst_order feas cfg infra period time est raw l hres).1]
    simp only [hres, allocResult] at h
    cases hal : cfg.algo with
    | greedy => exact Or.inl (by simpa only [hal] using h)
    | roundRobin =>
      simp only [hal] at h
      cases hrr : roundRobin feas (rrLevels infra period cfg.inc) infra
          (sortSessions cfg.sort infra period time (preprocessEst feas cfg infra period est l)) with
      | error e => rw [hrr] at h; cases h
      | ok st => rw [hrr] at h; cases h; exact Or.inr ⟨st, rfl, rfl⟩

structure AllocOk (feas : List K → Bool) (eps : K) (infra : Infra K) (period : K)
    (queue : List (Session K)) (sch : List K) : Prop where
  length : sch.length = infra.ids.length
  feasible : (∀ s ∈ queue, LbOk infra period s) → feas sch = true
  /-- the bisection stays inside `[lb, max lb ub]` only for `eps ≥ 0` -/
  grant : 0 ≤ eps → ∀ s ∈ queue, ∃ r, sch[s.idx]? = some r ∧ GrantOk infra period s r
  zero : ∀ j, j < infra.ids.length → (∀ t ∈ queue, t.idx ≠ j) → sch[j]? = some 0

theorem sortingAlgorithm_allocOk (feas : List K → Bool) (fuel : Nat) (eps : K)
    (infra : Infra K) (period : K) (queue : List (Session K)) (sch : List K)
    (hnd : (queue.map (·.idx)).Nodup) (hidx : ∀ s ∈ queue, s.idx < infra.ids.length)
    (h : sortingAlgorithm feas fuel eps infra period queue = .ok sch) :
    AllocOk feas eps infra period queue sch :=
  have hz := sortingAlgorithm_inactive feas fuel eps infra period queue sch h
  ⟨hz.1, fun hok => sortingAlgorithm_feasible feas fuel eps infra period queue sch hnd hok h,
   fun heps => (sortingAlgorithm_grants feas fuel eps heps infra period queue sch hnd hidx h).1, hz.2⟩

theorem roundRobin_allocOk [HasCeilNat K] (feas : List K → Bool) (eps : K) (infra : Infra K)
    (period inc : K) (queue : List (Session K)) (st : RRState K)
    (hnd : (queue.map (·.idx)).Nodup) (hidx : ∀ s ∈ queue, s.idx < infra.ids.length)
    (hlen : infra.allow.length = infra.ids.length)
    (h : roundRobin feas (rrLevels infra period inc) infra queue = .ok st) :
    AllocOk feas eps infra period queue st.sched :=
  have hg := roundRobin_grants feas infra period inc queue st hnd hidx hlen h
  have hs := roundRobin_spec feas _ infra queue st h hidx hlen
  ⟨hs.2.1, fun _ => hs.1, fun _ => hg.1, hg.2⟩

theorem scheduleCallEst_allocOk [HasCeilNat K] (feas : List K → Bool) (cfg : Config K) (infra : Infra K)
    (period : K) (time : Int) (est : List (Session K) → Session K → Option K)
    (raw : List (Session K)) (sch : List K) (hlen : infra.allow.length = infra.ids.length)
    (hnd : ((scheduleCallEst feas cfg infra period time est raw).order.map (·.idx)).Nodup)
    (hidx : ∀ s ∈ (scheduleCallEst feas cfg infra period time est raw).order, s.idx < infra.ids.length)
    (h : (scheduleCallEst feas cfg infra period time est raw).result = .ok sch) :
    AllocOk feas cfg.eps infra period (scheduleCallEst feas cfg infra period time est raw).order sch := by
  rcases scheduleCallEst_alloc feas cfg infra period time est raw sch h with hg | ⟨st, hrr, rfl⟩
  · exact sortingAlgorithm_allocOk feas cfg.fuel cfg.eps infra period _ sch hnd hidx hg
  · exact roundRobin_allocOk feas cfg.eps infra period cfg.inc _ st hnd hidx hlen hrr

theorem scheduleCallEst_lbOk [HasCeilNat K] (feas : List K → Bool) (cfg : Config K) (infra : Infra K)
    (period : K) (time : Int) (est : List (Session K) → Session K → Option K)
    (raw l : List (Session K)) (hres : resolve infra raw = .ok l)
    (hinf : InfraOk infra) (hmin : ∀ s ∈ l, s.minRate ≤ 0) :
    ∀ s ∈ (scheduleCallEst feas cfg infra period time est raw).order, LbOk infra period s := by
  intro s hs
  rw [(scheduleCallEst_order feas cfg infra period time est raw l hres).1] at hs
  unfold sortSessions at hs
  rw [mem_sortBy] at hs
  exact preprocessEst_lbOk feas cfg infra period est l hinf hmin s hs

theorem scheduleCallEst_queue [HasCeilNat K] (feas : List K → Bool) (cfg : Config K) (infra : Infra K)
    (period : K) (time : Int) (est : List (Session K) → Session K → Option K)
    (raw l : List (Session K)) (hres : resolve infra raw = .ok l) (hndl : (l.map (·.idx)).Nodup) :
    ((scheduleCallEst feas cfg infra period time est raw).order.map (·.idx)).Nodup ∧
    (∀ s ∈ (scheduleCallEst feas cfg infra period time est raw).order, s.idx < infra.ids.length) ∧
    (∀ s ∈ (scheduleCallEst feas cfg infra period time est raw).order,
      s ∈ preprocessEst feas cfg infra period est l ∧ ∃ s0 ∈ l, DerivedW infra period s0 s) := by
  obtain ⟨hord, _⟩ := scheduleCallEst_order feas cfg infra period time est raw l hres
  have hF := resolve_spec infra raw l hres
  have hmem : ∀ s ∈ (scheduleCallEst feas cfg infra period time est raw).order,
      s ∈ preprocessEst feas cfg infra period est l ∧ ∃ s0 ∈ l, DerivedW infra period s0 s := by
    intro s hs
    rw [hord] at hs
    unfold sortSessions at hs
    rw [mem_sortBy] at hs
    exact ⟨hs, preprocessEst_derivedW feas cfg infra period est l s hs⟩
  refine ⟨?_, ?_, hmem⟩
  · rw [hord]; exact order_idx_nodup_est feas cfg infra period time est l hndl
  · intro s hs
    obtain ⟨_, s0, hs0, hd⟩ := hmem s hs
    obtain ⟨_, _, i, hi, _, rfl⟩ := forall₂_mem_right hF s0 hs0
    rw [hd.1]; exact hi

/-- entry `j` of a returned array: the 0 of `np.zeros`, or the grant of the one queued session that
    sits at station `j`, which preprocessing derived from a resolved session -/
def StationGrant (infra : Infra K) (period : K) (l order : List (Session K)) (sch : List K) (j : Nat) :
    Prop :=
  sch[j]? = some 0 ∨
  ∃ s ∈ order, s.idx = j ∧ (∃ s0 ∈ l, DerivedW infra period s0 s) ∧
    ∃ r, sch[j]? = some r ∧ GrantOk infra period s r

/-- the whole call, read by station as the simulator reads it: the resolved sessions sit at distinct
    stations; feasibility needs in addition `min_rates ≤ 0` and a well-formed infrastructure -/
theorem scheduleCallEst_spec [HasCeilNat K] (feas : List K → Bool) (cfg : Config K)
    (infra : Infra K) (period : K) (time : Int) (est : List (Session K) → Session K → Option K)
    (raw l : List (Session K)) (sch : List K)
    (hres : resolve infra raw = .ok l) (hlen : infra.allow.length = infra.ids.length)
    (hndl : (l.map (·.idx)).Nodup)
    (h : (scheduleCallEst feas cfg infra period time est raw).result = .ok sch) :
    sch.length = infra.ids.length ∧
    (InfraOk infra → (∀ s ∈ l, s.minRate ≤ 0) → feas sch = true) ∧
    (0 ≤ cfg.eps → ∀ j, j < infra.ids.length →
      StationGrant infra period l (scheduleCallEst feas cfg infra period time est raw).order sch j) := by
  obtain ⟨hnd, hidx, hmem⟩ := scheduleCallEst_queue feas cfg infra period time est raw l hres hndl
  have hA := scheduleCallEst_allocOk feas cfg infra period time est raw sch hlen hnd hidx h
  refine ⟨hA.length, fun hinf hmin => hA.feasible
    (scheduleCallEst_lbOk feas cfg infra period time est raw l hres hinf hmin), fun heps j hj => ?_⟩
  by_cases hq : ∃ s ∈ (scheduleCallEst feas cfg infra period time est raw).order, s.idx = j
  · obtain ⟨s, hs, rfl⟩ := hq
    exact Or.inr ⟨s, hs, rfl, (hmem s hs).2, hA.grant heps s hs⟩
  · exact Or.inl (hA.zero j hj fun t ht htj => hq ⟨t, ht, htj⟩)

/-- a preprocessed session's bounds never exceed its EVSE's maximum pilot, whatever the estimator
    answered: `enforce_pilot_limit` comes first, the estimator can only lower `max_rates`, and the
    uninterrupted-charging minimum is the EVSE's own minimum pilot -/
theorem derivedW_le_maxPilot (infra : Infra K) (period : K) (s0 s : Session K)
    (hd : DerivedW infra period s0 s) (hmin0 : s0.minRate ≤ 0)
    (h0 : 0 ≤ infra.maxPilot.getD s0.idx 0)
    (hmm : infra.minPilot.getD s0.idx 0 ≤ infra.maxPilot.getD s0.idx 0) :
    lbOf s ≤ infra.maxPilot.getD s.idx 0 ∧ s.maxRate ≤ infra.maxPilot.getD s.idx 0 := by
  obtain ⟨hidx, _, _, hc⟩ := hd
  rw [hidx]
  have hm0 : s0.minRate ≤ infra.maxPilot.getD s0.idx 0 := le_trans hmin0 h0
  unfold lbOf
  simp only [pyMax_eq_max]
  rcases hc with ⟨h1, h2, _⟩ | ⟨h1, h2⟩ | ⟨_, h1, _, h3⟩
  · rw [h1]
    exact ⟨max_le h0 hm0, le_trans h2 (max_le (min_le_right _ _) hm0)⟩
  · rw [h1, h2]; exact ⟨max_le h0 h0, h0⟩
  · have hs : s.minRate ≤ infra.maxPilot.getD s0.idx 0 := by rw [h1]; exact max_le hmm hm0
    exact ⟨max_le h0 hs, le_trans h3 (max_le (min_le_right _ _) hs)⟩

theorem scheduleCall_grants [HasCeilNat K] (feas : List K → Bool) (cfg : Config K) (heps : 0 ≤ cfg.eps)
    (infra : Infra K) (period : K) (time : Int) (prev : String → Option (K × K)) (rd : Rampdown K)
    (raw l : List (Session K)) (sch : List K)
    (hres : resolve infra raw = .ok l) (hlen : infra.allow.length = infra.ids.length)
    (hnd : ((scheduleCall feas cfg infra period time prev rd raw).order.map (·.idx)).Nodup)
    (hidx : ∀ s ∈ (scheduleCall feas cfg infra period time prev rd raw).order, s.idx < infra.ids.length)
    (h : (scheduleCall feas cfg infra period time prev rd raw).result = .ok sch) :
    (scheduleCall feas cfg infra period time prev rd raw).order =
      sortSessions cfg.sort infra period time (preprocess feas cfg infra period prev rd l).1 ∧
    (∀ s ∈ (scheduleCall feas cfg infra period time prev rd raw).order,
      ∃ r, sch[s.idx]? = some r ∧ GrantOk infra period s r) ∧
    (∀ j, j < infra.ids.length →
      (∀ t ∈ (scheduleCall feas cfg infra period time prev rd raw).order, t.idx ≠ j) → sch[j]? = some 0) := by
  obtain ⟨hr, _, ho, _⟩ := scheduleCall_eq_scheduleCallEst feas cfg infra period time prev rd raw
  rw [ho] at hnd hidx ⊢
  rw [hr] at h
  have hA := scheduleCallEst_allocOk feas cfg infra period time _ raw sch hlen hnd hidx h
  refine ⟨?_, hA.grant heps, hA.zero⟩
  rw [(scheduleCallEst_order feas cfg infra period time _ raw l hres).1, preprocess_eq_preprocessEst]

end
end Acn.Sorted
