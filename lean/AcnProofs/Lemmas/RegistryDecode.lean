/-
  The decoder of the concrete codec: for every lawful scalar codec (`Lawful`), a lookup function that agrees with the
  encoded store on the ids of the layout (`Agrees`) decodes to the state exactly when the state is well-formed
  (`decode_iff`), so `WF` is the domain on which `decode ∘ encode = id`.  One lemma per class of object says what its `_from_dict` returns on the encoded object, for
  ANY state, reading the attributes back in the order of the decoder; one iff per component of the state says when
  that is the component.
-/
import AcnProofs.Lemmas.RegistryCodec

namespace Acn.RegistrySim
open Acn Acn.EventCore Acn.Sim Acn.Registry
variable {K : Type}

/-- the parsers invert the renderings -/
structure Lawful (sh : Show K) (rd : Read K) : Prop where
  num : ∀ x, rd.num ("f:" ++ sh.num x) = some x
  mat : ∀ m, rd.mat ("m:" ++ sh.mat m) = some m
  int : ∀ n : Int, rd.int ("i:" ++ toString n) = some n
  nat : ∀ n : Nat, rd.nat ("i:" ++ toString n) = some n
  str : ∀ x, rd.str ("s:" ++ x) = some x
  int_null : rd.int "null" = none

theorem some_bind {α β : Type} (a : α) (f : α → Option β) : (some a >>= f) = f a := rfl

/-! Reading one attribute back.  The hypothesis `attr o k = some _` is a lookup in a literal attribute list and
holds by `rfl` for every encoded object; the tag and the parser are undone by `Lawful`. -/
section read
variable {sh : Show K} {rd : Read K} (hl : Lawful sh rd) {o : Obj} {k : String}

theorem read_ref {i : Nat} (h : attr o k = some (.ref i)) : getR o k = some i := by
  rw [getR, h]; rfl

theorem read_list {l : List Item} (h : attr o k = some (.list l)) : getL o k = some l := by
  rw [getL, h]; rfl

include hl

theorem read_num {x : K} (h : attr o k = some (sF sh x)) : (getS o k).bind rd.num = some x := by
  rw [getS, h]; exact hl.num x

theorem read_mat {m : Pilots.Mat K} (h : attr o k = some (.scalar ("m:" ++ sh.mat m))) :
    (getS o k).bind rd.mat = some m := by
  rw [getS, h]; exact hl.mat m

theorem read_int {n : Int} (h : attr o k = some (sI n)) : (getS o k).bind rd.int = some n := by
  rw [getS, h]; exact hl.int n

theorem read_nat {n : Nat} (h : attr o k = some (sN n)) : (getS o k).bind rd.nat = some n := by
  rw [getS, h]; exact hl.nat n

theorem read_str {x : String} (h : attr o k = some (sS x)) : (getS o k).bind rd.str = some x := by
  rw [getS, h]; exact hl.str x

end read

/-- the process-level data of a state (what `Ambient` carries past the JSON document) -/
def ambOf (s : State K) : Ambient := ⟨s.core.invoked, s.noiseIdx, s.occLog⟩

def setAmb (amb : Ambient) (s : State K) : State K :=
  { s with core := { s.core with invoked := amb.invoked }, noiseIdx := amb.noiseIdx, occLog := amb.occLog }

theorem setAmb_ambOf (s : State K) : setAmb (ambOf s) s = s := rfl

/-- WELL-FORMED simulator state: what `decode ∘ encode = id` needs, and nothing else.
    * `evsLen`, `pilotLen`: the decoder reads `cfg.evs.length` EV objects and one pilot per registered EVSE;
    * `occReg`: only registered stations are occupied (the JSON has no place for any other occupant);
    * `occEv`: the occupant of a station IS the EV object of its session (`EVSE._ev`): the static fields agree;
    * `pend`, `hist`, `evh`: every plug-in / unplug event and every `ev_history` key has an EV object. -/
structure WF (cfg : Cfg K) (s : State K) : Prop where
  evsLen : s.evs.length = cfg.evs.length
  pilotLen : s.evsePilot.length = cfg.stations.length
  occReg : ∀ st x, s.core.occ st = some x → ∃ stn ∈ cfg.stations, stn.id = st
  occEv : ∀ st x, s.core.occ st = some x → (evOf s x.id).map sessionOf = some x
  pend : ∀ e ∈ s.core.pending, e.kind ≠ .recompute → (evOf s e.sess).isSome = true
  hist : ∀ e ∈ s.core.eventHist, e.kind ≠ .recompute → (evOf s e.sess).isSome = true
  evh : ∀ sid ∈ s.core.evHist, (evOf s sid).isSome = true

/-- the session ids through which `to_json` reaches EV objects: `ev_history`, the EV events (pending and
    past), the occupants of the registered stations -/
def refSessions (cfg : Cfg K) (s : State K) : List String :=
  s.core.evHist ++ ((s.core.pending ++ s.core.eventHist).filter fun e => e.kind != .recompute).map (·.sess)
    ++ cfg.stations.filterMap fun st => (s.core.occ st.id).map (·.id)

/-- every EV object is referenced (otherwise `to_json` does not write it and `from_json` cannot restore it) -/
def AllRef (cfg : Cfg K) (s : State K) : Prop :=
  ∀ j, j < s.evs.length → ∃ sid ∈ refSessions cfg s, evIdx s sid = some j

theorem evIdxFrom_spec : ∀ (es : List (Evse.Ev K)) (sid : String) (n : Nat),
    evIdxFrom es sid n = (es.find? fun e => e.session == sid).map fun _ => n + es.findIdx (fun e => e.session == sid)
  | [], _, _ => rfl
  | e :: es, sid, n => by
    simp only [evIdxFrom, List.find?_cons, List.findIdx_cons]
    by_cases h : e.session = sid
    · simp [h]
    · have hb : (e.session == sid) = false := by simpa using h
      rw [if_neg h, hb, evIdxFrom_spec es sid (n + 1)]
      simp only [cond_false]
      cases es.find? fun e => e.session == sid <;> simp; omega

theorem evIdxFrom_get : ∀ (es : List (Evse.Ev K)) (sid : String) (n : Nat),
    (es.find? fun e => e.session == sid) = (evIdxFrom es sid n).bind fun j => es[j - n]?
  | [], _, _ => rfl
  | e :: es, sid, n => by
    simp only [evIdxFrom, List.find?_cons]
    by_cases h : e.session = sid
    · simp [h]
    · have hb : (e.session == sid) = false := by simpa using h
      rw [if_neg h, hb, evIdxFrom_get es sid (n + 1)]
      simp only
      cases hk : evIdxFrom es sid (n + 1) with
      | none => rfl
      | some j =>
        have := (evIdxFrom_bound es sid (n + 1) j hk).1
        simp only [Option.bind_some]
        have : j - n = (j - (n + 1)) + 1 := by omega
        rw [this, List.getElem?_cons_succ]

theorem evOf_eq (s : State K) (sid : String) : evOf s sid = (evIdx s sid).bind fun j => s.evs[j]? := by
  unfold evOf evIdx
  rw [evIdxFrom_get s.evs sid 0]
  rfl

theorem evOf_session {s : State K} {sid : String} {e : Evse.Ev K} (h : evOf s sid = some e) : e.session = sid := by
  unfold evOf at h
  have := List.find?_some h
  simpa using this

theorem evOf_of_mem {s : State K} (hn : (s.evs.map (·.session)).Nodup) {e : Evse.Ev K} (he : e ∈ s.evs) :
    evOf s e.session = some e :=
  find?_key_of_nodup (fun d : Evse.Ev K => d.session) hn he

theorem evIdx_of_evOf {s : State K} {sid : String} {e : Evse.Ev K} (h : evOf s sid = some e) (d : Evse.Ev K) :
    ∃ j, evIdx s sid = some j ∧ j < s.evs.length ∧ s.evs.getD j d = e := by
  rw [evOf_eq] at h
  cases hk : evIdx s sid with
  | none => rw [hk] at h; simp at h
  | some j =>
    rw [hk] at h
    simp only [Option.bind_some] at h
    have hb := evIdxFrom_bound s.evs sid 0 j hk
    exact ⟨j, rfl, by omega, by simp [List.getD, h]⟩

theorem evOf_isSome (s : State K) (sid : String) : (evOf s sid).isSome = (evIdx s sid).isSome := by
  rw [evOf_eq]
  cases h : evIdx s sid with
  | none => rfl
  | some j => simp [List.getElem?_eq_getElem (evIdx_lt h)]

theorem evIdx_session {s : State K} {sid : String} {j : Nat} (h : evIdx s sid = some j) (d : Evse.Ev K) :
    (s.evs.getD j d).session = sid := by
  have hj := evIdx_lt h
  rw [List.getD_eq_getElem _ _ hj]
  exact evOf_session (by rw [evOf_eq, h, Option.bind_some, List.getElem?_eq_getElem hj])

theorem sequence_eq_some {α : Type} : ∀ {l : List (Option α)} {r : List α}, sequence l = some r ↔ l = r.map some
  | [], r => by cases r <;> simp [sequence]
  | none :: xs, r => by cases r <;> simp [sequence]
  | some a :: xs, [] => by simp only [sequence]; cases sequence xs <;> simp
  | some a :: xs, b :: bs => by
    have ih := @sequence_eq_some α xs bs
    simp only [List.map_cons, List.cons.injEq, Option.some.injEq, ← ih, sequence]
    cases sequence xs <;> simp

theorem sequence_range_iff {α : Type} (d : α) (n : Nat) (f : Nat → Option α) (r : List α) :
    sequence ((List.range n).map f) = some r ↔ r.length = n ∧ ∀ p, p < n → f p = some (r.getD p d) := by
  rw [sequence_eq_some]
  constructor
  · intro h
    have hl : r.length = n := by simpa using (congrArg List.length h).symm
    refine ⟨hl, fun p hp => ?_⟩
    have := congrArg (·[p]?) h
    simpa [hp, List.getD_eq_getElem _ _ (hl ▸ hp), List.getElem?_eq_getElem (hl ▸ hp)] using this
  · rintro ⟨rfl, h⟩
    refine List.ext_getElem (by simp) fun p h1 h2 => ?_
    have hp : p < r.length := by simpa using h1
    rw [List.getElem_map, List.getElem_map, List.getElem_range, h p hp, List.getD_eq_getElem _ _ hp]

theorem forall_getD_iff {α : Type} (l : List α) (d : α) (P : α → Prop) :
    (∀ p, p < l.length → P (l.getD p d)) ↔ ∀ a ∈ l, P a :=
  ⟨fun h a ha => by obtain ⟨p, hp, rfl⟩ := List.getElem_of_mem ha; exact List.getD_eq_getElem l d hp ▸ h p hp,
   fun h p hp => h _ (getD_mem _ _ hp)⟩

theorem filterMap_ref_pairs {α : Type} (a : α → String) (b : α → Nat) : ∀ l : List α,
    (l.flatMap fun x => [Item.scalar (a x), Item.ref (b x)]).filterMap itemRef = l.map b
  | [] => rfl
  | x :: xs => by
    simp only [List.flatMap_cons, List.filterMap_append, filterMap_ref_pairs a b xs, List.map_cons]
    rfl

theorem filterMap_scalar_pairs {α : Type} (a : α → String) (c : α → Item) : ∀ l : List α,
    (∀ x ∈ l, ∃ i, c x = .ref i) →
    (l.flatMap fun x => [Item.scalar (a x), c x]).filterMap itemScalar = l.map a
  | [], _ => rfl
  | x :: xs, h => by
    obtain ⟨i, hi⟩ := h x (by simp)
    simp only [List.flatMap_cons, List.filterMap_append,
      filterMap_scalar_pairs a c xs (fun y hy => h y (by simp [hy])), List.map_cons, hi]
    simp [itemScalar]

theorem filterMap_ref_refs {α : Type} (b : α → Nat) (l : List α) :
    (l.map fun x => Item.ref (b x)).filterMap itemRef = l.map b := by
  induction l with
  | nil => rfl
  | cons x xs ih => simp [itemRef, ih]

/-- `filterMap itemScalar` keeps one item per key plus one per unresolved reference -/
theorem length_scalar_pairs {α : Type} (a : α → String) (c : α → Item) : ∀ l : List α,
    ((l.flatMap fun x => [Item.scalar (a x), c x]).filterMap itemScalar).length =
      l.length + l.countP (fun x => (itemScalar (c x)).isSome)
  | [] => rfl
  | x :: xs => by
    simp only [List.flatMap_cons, List.filterMap_append, List.length_append, length_scalar_pairs a c xs,
      List.length_cons, List.countP_cons]
    cases hc : c x <;> simp [List.filterMap_cons, itemScalar] <;> omega

section objAt
variable (sh : Show K) (cfg : Cfg K) (s : State K)

theorem battId_lt {j : Nat} (hj : j < s.evs.length) : (layout cfg s).battId j < (layout cfg s).size :=
  Slot.id_lt _ (σ := .batt j) hj

end objAt

section attrs
variable (sh : Show K) (rd : Read K) (cfg : Cfg K) (s : State K)

theorem sim_network : getR (simObj sh cfg s) "network" = some 1 := read_ref rfl

theorem sim_queue : getR (simObj sh cfg s) "event_queue" = some 2 := read_ref rfl

theorem sim_evHist : getL (simObj sh cfg s) "ev_history" =
    some (s.core.evHist.flatMap fun sid => [.scalar ("s:" ++ sid), evRefItem (layout cfg s) s sid]) := read_list rfl

theorem sim_eventHist : getL (simObj sh cfg s) "event_history" =
    some ((List.range s.core.eventHist.length).map fun h => .ref ((layout cfg s).bH + h)) := read_list rfl

theorem queue_queue : getL (queueObj cfg s) "_queue" =
    some ((List.range s.core.pending.length).flatMap fun p =>
      [.scalar ("i:" ++ toString ((s.core.pending.getD p default).ts)), .ref ((layout cfg s).bP + p)]) := read_list rfl

theorem net_evses : getL (netObj cfg) "_EVSEs" =
    some ((List.range cfg.stations.length).flatMap fun i =>
      [.scalar ("s:" ++ ((cfg.stations.getD i ⟨"", .finite [], cfg.period⟩).id)), .ref (3 + i)]) := read_list rfl

variable {sh rd}

theorem sim_iter (hl : Lawful sh rd) : (getS (simObj sh cfg s) "_iteration").bind rd.nat = some s.core.iter :=
  read_nat hl rfl

theorem sim_resolve : rdBool (simObj sh cfg s) "_resolve" = some s.core.resolve := by
  have h : getS (simObj sh cfg s) "_resolve" = some (if s.core.resolve then "b:true" else "b:false") := rfl
  rw [rdBool, h]
  cases s.core.resolve <;> rfl

theorem sim_lastUpd (hl : Lawful sh rd) :
    rdOptInt rd (simObj sh cfg s) "_last_schedule_update" = some s.core.lastUpd := by
  have h : attr (simObj sh cfg s) "_last_schedule_update" = some (sOI s.core.lastUpd) := rfl
  rw [rdOptInt, getS, h]
  cases s.core.lastUpd with
  | none => simp only [sOI, sNull, scalarOf, Option.bind_some, hl.int_null]; rfl
  | some n => simp only [sOI, sI, scalarOf, Option.bind_some, hl.int n]

theorem sim_peak (hl : Lawful sh rd) : (getS (simObj sh cfg s) "peak").bind rd.num = some s.peak :=
  read_num hl rfl

theorem sim_pilots (hl : Lawful sh rd) : (getS (simObj sh cfg s) "pilot_signals").bind rd.mat = some s.pilots :=
  read_mat hl rfl

theorem sim_rates (hl : Lawful sh rd) : (getS (simObj sh cfg s) "charging_rates").bind rd.mat = some s.rates :=
  read_mat hl rfl

theorem evse_pilot (hl : Lawful sh rd) (i : Nat) :
    (getS (evseObj sh cfg s i) "_current_pilot").bind rd.num = some (s.evsePilot.getD i cfg.period) := by
  unfold evseObj
  simp only []
  split <;> simp [getS, attr, scalarOf, List.lookup_cons, sF, hl.num]

theorem evse_ev (i : Nat) :
    getR (evseObj sh cfg s i) "_ev" =
      match s.core.occ (cfg.stations.getD i ⟨"", .finite [], cfg.period⟩).id with
      | some x => (evIdx s x.id).map (layout cfg s).evId
      | none => none := by
  have key : ∀ (v : Val) (rest : List (String × Val)) (c : String) (a b : Val),
      getR { cls := c, attrs := [("_station_id", a), ("_current_pilot", b), ("is_continuous", sStatic), ("_ev", v)] ++ rest }
        "_ev" = refOf v := by
    intro v rest c a b
    simp [getR, attr, List.lookup_cons]
  unfold evseObj
  simp only []
  split <;> rw [key] <;>
    (cases s.core.occ (cfg.stations.getD i ⟨"", .finite [], cfg.period⟩).id with
     | none => rfl
     | some x => simp only [evRefVal]; cases evIdx s x.id <;> rfl)

end attrs

theorem calcOf_name (c : Battery.Calc) : calcOf (calcName c) = some c := by
  cases c <;> rfl

theorem decodeBatt_of {sh : Show K} {rd : Read K} (hl : Lawful sh rd) (b : Battery.Batt K)
    (g : Nat → Option Obj) (i : Nat) (hg : g i = some (battObjOf sh b)) : decodeBatt rd g i = some b := by
  obtain ⟨cap, ch, ini, mp, pw, two, nl, ts, cm⟩ := b
  unfold decodeBatt
  rw [hg, some_bind]
  -- `simp` only settles the class test; the eight attributes are then read in the order of the decoder
  cases two
  all_goals
    simp only [battObjOf, some_bind, Bool.false_eq_true, if_false, if_true, String.reduceEq]
    rw [read_num hl rfl, read_num hl rfl, read_num hl rfl, read_num hl rfl, read_num hl rfl,
      read_num hl rfl, read_num hl rfl, read_str hl rfl, Option.bind_some, calcOf_name]
    rfl

theorem decodeEv_of {sh : Show K} {rd : Read K} (hl : Lawful sh rd) (l : Layout) (j : Nat) (e : Evse.Ev K)
    (g : Nat → Option Obj) (hg : g (l.evId j) = some (evObjOf sh l j e))
    (hb : g (l.battId j) = some (battObjOf sh e.batt)) : decodeEv rd g (l.evId j) = some e := by
  unfold decodeEv
  rw [hg, some_bind, read_int hl rfl, read_int hl rfl, read_str hl rfl, read_str hl rfl, read_num hl rfl,
    read_int hl rfl, read_num hl rfl, read_num hl rfl, read_ref rfl, Option.bind_some, decodeBatt_of hl _ g _ hb]
  rfl

/-- an EV event whose session has no EV object is written with `ev` = `null`, which `decodeEvent` does not read back -/
theorem decodeEvent_enc {sh : Show K} {rd : Read K} (hl : Lawful sh rd) (l : Layout) (s : State K) (e : Event)
    (g : Nat → Option Obj) (i : Nat) (hg : g i = some (eventObj l s e))
    (hev : ∀ j, evIdx s e.sess = some j → ∃ ev, g (l.evId j) = some (evObjOf sh l j ev) ∧ ev.session = e.sess) :
    decodeEvent rd g i = if e.kind ≠ .recompute ∧ evIdx s e.sess = none then none else some e := by
  obtain ⟨ts, kind, sess⟩ := e
  unfold decodeEvent
  rw [hg, some_bind]
  cases kind with
  | recompute =>
    rw [read_int hl rfl, some_bind]
    simp only [eventObj, String.reduceEq, if_true]
    rw [read_str hl rfl]
    rfl
  | plugin | unplug =>
    rw [read_int hl rfl, some_bind]
    simp only [eventObj, String.reduceEq, if_false, if_true, some_bind]
    cases hidx : evIdx s sess with
    | none => rw [evRefVal, hidx]; rfl
    | some j =>
      obtain ⟨ev, hgj, rfl⟩ := hev j hidx
      rw [evRefVal, hidx, read_ref rfl, Option.bind_some, hgj, some_bind, read_str hl rfl]
      rfl

theorem stationIdxFrom_some (d : Station K) : ∀ (sts : List (Station K)) (id : String) (n i : Nat),
    stationIdxFrom sts id n = some i → n ≤ i ∧ i - n < sts.length ∧ (sts.getD (i - n) d).id = id
  | [], _, _, _, h => by simp [stationIdxFrom] at h
  | st :: rest, id, n, i, h => by
    simp only [stationIdxFrom] at h
    split at h
    · cases h
      simp [*]
    · obtain ⟨h1, h2, h3⟩ := stationIdxFrom_some d rest id (n + 1) i h
      have e : i - n = (i - (n + 1)) + 1 := by omega
      refine ⟨by omega, by simp only [List.length_cons]; omega, ?_⟩
      rw [e, List.getD_cons_succ]
      exact h3

theorem stationIdxFrom_none : ∀ (sts : List (Station K)) (id : String) (n : Nat),
    stationIdxFrom sts id n = none → ∀ st ∈ sts, st.id ≠ id
  | [], _, _, _ => by simp
  | st :: rest, id, n, h => by
    simp only [stationIdxFrom] at h
    split at h
    · cases h
    · intro x hx
      rcases List.mem_cons.1 hx with rfl | hx
      · assumption
      · exact stationIdxFrom_none rest id (n + 1) h x hx

section whole
variable {sh : Show K} {rd : Read K} {cfg : Cfg K} {s : State K}

theorem g_ev (g : Nat → Option Obj) (hg : Agrees sh cfg s g) {j : Nat} (hj : j < s.evs.length) :
    g ((layout cfg s).evId j) = some (evObjOf sh (layout cfg s) j (s.evs.getD j (defaultEv cfg))) :=
  hg.slot (σ := .ev j) hj

theorem decode_evs (hl : Lawful sh rd) (cfg : Cfg K) (s : State K) (g : Nat → Option Obj) (hg : Agrees sh cfg s g) :
    sequence ((List.range s.evs.length).map fun j => decodeEv rd g (3 + cfg.stations.length + 2 * j)) = some s.evs :=
  (sequence_range_iff (defaultEv cfg) _ _ _).2 ⟨rfl, fun j hj =>
    decodeEv_of hl (layout cfg s) j _ g (g_ev g hg hj) (hg.slot (σ := .batt j) hj)⟩

theorem decodeEvent_at (hl : Lawful sh rd) (g : Nat → Option Obj) (hg : Agrees sh cfg s g) (e : Event) (i : Nat)
    (hi : g i = some (eventObj (layout cfg s) s e)) :
    decodeEvent rd g i = some e ↔ (e.kind ≠ .recompute → (evOf s e.sess).isSome = true) := by
  rw [decodeEvent_enc hl _ s e g i hi fun j hj => ⟨_, g_ev g hg (evIdx_lt hj), evIdx_session hj _⟩, evOf_isSome]
  cases evIdx s e.sess <;> simp

theorem decodeEvents_iff (hl : Lawful sh rd) (g : Nat → Option Obj) (hg : Agrees sh cfg s g) (evs : List Event)
    (base : Nat)
    (hgp : ∀ p, p < evs.length → g (base + p) = some (eventObj (layout cfg s) s (evs.getD p default))) :
    sequence (((List.range evs.length).map fun p => base + p).map (decodeEvent rd g)) = some evs ↔
      ∀ e ∈ evs, e.kind ≠ .recompute → (evOf s e.sess).isSome = true := by
  rw [List.map_map, sequence_range_iff default, ← forall_getD_iff evs default]
  simp only [true_and, Function.comp]
  exact forall₂_congr fun p hp => decodeEvent_at hl g hg _ _ (hgp p hp)

theorem decodeOcc_enc (hl : Lawful sh rd) (g : Nat → Option Obj) (hg : Agrees sh cfg s g) (st : String) :
    decodeOcc rd cfg g st =
      (stationIdxFrom cfg.stations st 0).bind fun _ => (s.core.occ st).bind fun x => (evOf s x.id).map sessionOf := by
  unfold decodeOcc
  cases hidx : stationIdxFrom cfg.stations st 0 with
  | none => rfl
  | some i =>
    obtain ⟨_, hi, hid⟩ := stationIdxFrom_some ⟨"", .finite [], cfg.period⟩ cfg.stations st 0 i hidx
    simp only [Nat.sub_zero] at hi hid
    have hgi : g (3 + i) = some (evseObj sh cfg s i) := hg.slot (σ := .evse i) hi
    have hev := evse_ev (sh := sh) cfg s i
    rw [hid] at hev
    rw [some_bind, hgi, some_bind, hev, Option.bind_some]
    cases s.core.occ st with
    | none => rfl
    | some x =>
      simp only [Option.bind_some, evOf_eq]
      cases hj : evIdx s x.id with
      | none => rfl
      | some j =>
        have hjl := evIdx_lt hj
        simp only [Option.map_some, Option.bind_some, List.getElem?_eq_getElem hjl]
        rw [g_ev g hg hjl, some_bind, read_str hl rfl, some_bind, read_str hl rfl, some_bind, read_int hl rfl,
          some_bind, read_int hl rfl, List.getD_eq_getElem _ _ hjl]
        rfl

theorem decodeOcc_iff (hl : Lawful sh rd) (g : Nat → Option Obj) (hg : Agrees sh cfg s g) (st : String) :
    decodeOcc rd cfg g st = s.core.occ st ↔
      ∀ x, s.core.occ st = some x → (∃ stn ∈ cfg.stations, stn.id = st) ∧ (evOf s x.id).map sessionOf = some x := by
  rw [decodeOcc_enc hl g hg]
  cases hidx : stationIdxFrom cfg.stations st 0 with
  | none =>
    have hno := stationIdxFrom_none cfg.stations st 0 hidx
    cases s.core.occ st with
    | none => simp
    | some x =>
      exact ⟨fun h => (nomatch h), fun h => by obtain ⟨⟨stn, hm, hid⟩, _⟩ := h x rfl; exact absurd hid (hno stn hm)⟩
  | some i =>
    obtain ⟨_, hi, hid⟩ := stationIdxFrom_some ⟨"", .finite [], cfg.period⟩ cfg.stations st 0 i hidx
    simp only [Nat.sub_zero] at hi hid
    have hreg : ∃ stn ∈ cfg.stations, stn.id = st := ⟨_, getD_mem _ _ hi, hid⟩
    cases s.core.occ st <;> simp [hreg]

/-- a key of `ev_history` without EV object leaves a second scalar (`null` for the reference): the lengths differ -/
theorem evHist_iff (hl : Lawful sh rd) (l : Layout) (s : State K) (sids : List String) :
    sequence (((sids.flatMap fun sid => [Item.scalar ("s:" ++ sid), evRefItem l s sid]).filterMap itemScalar).map
      rd.str) = some sids ↔ ∀ sid ∈ sids, (evOf s sid).isSome = true := by
  simp only [evOf_isSome]
  constructor
  · intro h sid hsid
    have hlen := congrArg List.length (sequence_eq_some.1 h)
    rw [List.length_map, List.length_map, length_scalar_pairs] at hlen
    have := List.countP_eq_zero.1 (Nat.add_eq_left.1 hlen) sid hsid
    cases hj : evIdx s sid with
    | some j => rfl
    | none => simp [evRefItem, hj, itemScalar] at this
  · intro h
    rw [filterMap_scalar_pairs, List.map_map]
    · exact sequence_eq_some.2 (List.map_congr_left fun a _ => hl.str a)
    intro sid hsid
    obtain ⟨j, hj⟩ := Option.isSome_iff_exists.1 (h sid hsid)
    exact ⟨l.evId j, by simp [evRefItem, hj]⟩

theorem pilots_iff (hl : Lawful sh rd) (g : Nat → Option Obj) (hg : Agrees sh cfg s g) :
    sequence (((List.range cfg.stations.length).map fun i => 3 + i).map fun i =>
      (g i).bind fun o => (getS o "_current_pilot").bind rd.num) = some s.evsePilot ↔
      s.evsePilot.length = cfg.stations.length := by
  rw [List.map_map, sequence_range_iff cfg.period]
  refine and_iff_left fun p hp => ?_
  have hgp : g (3 + p) = some (evseObj sh cfg s p) := hg.slot (σ := .evse p) hp
  simp only [Function.comp]
  rw [hgp, Option.bind_some, evse_pilot cfg s hl]

theorem evs_iff (hl : Lawful sh rd) (g : Nat → Option Obj) (hg : Agrees sh cfg s g) :
    sequence ((List.range cfg.evs.length).map fun j => decodeEv rd g (3 + cfg.stations.length + 2 * j)) =
      some s.evs ↔ s.evs.length = cfg.evs.length :=
  ⟨fun h => ((sequence_range_iff (defaultEv cfg) _ _ _).1 h).1, fun h => h ▸ decode_evs hl cfg s g hg⟩

theorem decode_iff (hl : Lawful sh rd) (amb : Ambient) (g : Nat → Option Obj) (hg : Agrees sh cfg s g) :
    decode rd cfg amb g = some (setAmb amb s) ↔ WF cfg s := by
  have h0 : g root = some (simObj sh cfg s) := hg.slot (σ := .sim) trivial
  have h1 : g 1 = some (netObj cfg) := hg.slot (σ := .net) trivial
  have h2 : g 2 = some (queueObj cfg s) := hg.slot (σ := .queue) trivial
  have hIds : (getL (netObj cfg) "_EVSEs").map (fun l => l.filterMap itemRef) =
      some ((List.range cfg.stations.length).map fun i => 3 + i) := by
    rw [net_evses, Option.map_some, filterMap_ref_pairs]
  have hB := decodeEvents_iff hl g hg s.core.eventHist _ fun p hp => hg.slot (σ := .hist p) hp
  have hC := decodeEvents_iff hl g hg s.core.pending _ fun p hp => hg.slot (σ := .pend p) hp
  unfold decode
  -- the scalar attributes of the Simulator, then the five lists
  rw [h0, some_bind, sim_network, Option.bind_some, h1, some_bind, sim_queue, Option.bind_some, h2, some_bind,
    sim_iter cfg s hl, some_bind, sim_resolve, some_bind, sim_lastUpd cfg s hl, some_bind, sim_peak cfg s hl, some_bind,
    sim_pilots cfg s hl, some_bind, sim_rates cfg s hl, some_bind, sim_evHist, Option.bind_some, sim_eventHist,
    Option.bind_some, queue_queue, Option.bind_some, filterMap_ref_refs, filterMap_ref_pairs, hIds]
  constructor
  · intro h
    obtain ⟨a1, hA, h⟩ := Option.bind_eq_some_iff.1 h
    obtain ⟨a2, hB', h⟩ := Option.bind_eq_some_iff.1 h
    obtain ⟨a3, hC', h⟩ := Option.bind_eq_some_iff.1 h
    rw [some_bind] at h
    obtain ⟨a4, hD, h⟩ := Option.bind_eq_some_iff.1 h
    obtain ⟨a5, hE, h⟩ := Option.bind_eq_some_iff.1 h
    simp only [Option.pure_def, Option.some.injEq] at h
    obtain rfl : a1 = s.core.evHist := congrArg (fun x : State K => x.core.evHist) h
    obtain rfl : a2 = s.core.eventHist := congrArg (fun x : State K => x.core.eventHist) h
    obtain rfl : a3 = s.core.pending := congrArg (fun x : State K => x.core.pending) h
    obtain rfl : a4 = s.evsePilot := congrArg (fun x : State K => x.evsePilot) h
    obtain rfl : a5 = s.evs := congrArg (fun x : State K => x.evs) h
    have hO := fun st => (decodeOcc_iff hl g hg st).1 (congrFun (congrArg (fun x : State K => x.core.occ) h) st)
    exact ⟨(evs_iff hl g hg).1 hE, (pilots_iff hl g hg).1 hD, fun st x ho => (hO st x ho).1, fun st x ho => (hO st x ho).2,
      hC.1 hC', hB.1 hB', (evHist_iff hl _ s _).1 hA⟩
  · intro hwf
    rw [(evHist_iff hl _ s _).2 hwf.evh, some_bind, hB.2 hwf.hist, some_bind, hC.2 hwf.pend, some_bind, some_bind,
      (pilots_iff hl g hg).2 hwf.pilotLen, some_bind]
    show (sequence (List.map (fun j => decodeEv rd g (3 + cfg.stations.length + 2 * j)) (List.range cfg.evs.length)) >>= _) = _
    rw [(evs_iff hl g hg).2 hwf.evsLen, some_bind,
      funext fun st => (decodeOcc_iff hl g hg st).2 fun x ho => ⟨hwf.occReg st x ho, hwf.occEv st x ho⟩]
    rfl

theorem decode_of (hl : Lawful sh rd) (hwf : WF cfg s) (g : Nat → Option Obj) (hg : Agrees sh cfg s g) :
    decode rd cfg (ambOf s) g = some s :=
  (decode_iff hl (ambOf s) g hg).2 hwf

end whole

end Acn.RegistrySim
