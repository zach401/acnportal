/-
  Greedy allocation loop (`sorting_algorithm`): the feasible-schedule invariant for an arbitrary
  feasibility predicate, and where every entry of the result comes from (the loop cut at the pass that
  serves a session, `greedyLoop_split`; what a stretch of the loop leaves alone, `greedyLoop_frame`).
-/
import AcnProofs.Lemmas.SortedBasic

set_option linter.unusedSectionVars false

namespace Acn.Sorted
open Acn

variable {K : Type} [Field K] [LinearOrder K] [IsStrictOrderedRing K]

/-- What the discrete branch needs of a session's lower bound: a finite-rate station's `lb` is 0
    (so the untested fallback `0` re-assigns the value already there) or one of its own levels within
    `[lb, ub]` (so the walk reaches the incoming, feasible value before it can fall back). -/
def LbOk (infra : Infra K) (period : K) (s : Session K) : Prop :=
  infra.cont.getD s.idx true = true ∨ lbOf s = 0 ∨
    lbOf s ∈ levelsIn infra s.idx (lbOf s) (ubOf infra period s)

theorem mem_levelsIn {infra : Infra K} {i : Nat} {lb ub a : K} :
    a ∈ levelsIn infra i lb ub ↔ a ∈ infra.allow.getD i [] ∧ lb ≤ a ∧ a ≤ ub := by
  simp only [levelsIn, List.mem_filter, Bool.and_eq_true, decide_eq_true_eq]

/-- What a returned grant is.  Continuous station (`max_feasible_rate`): the schedule passed the check, and the grant is
    `ub`, which passes, or the value of the bisection.  Finite-rate station: the first level of `[lb, ub]`, from the top
    down, that passes, or 0 (with no level in range the source returns 0 before any check: the walk down no levels). -/
theorem greedyRate_ok {feas : List K → Bool} {fuel : Nat} {eps : K} {infra : Infra K} {period : K}
    {sched : List K} {s : Session K} {r : K} (h : greedyRate feas fuel eps infra period sched s = .ok r) :
    (infra.cont.getD s.idx true = true ∧ feas sched = true ∧
      (r = ubOf infra period s ∧ feas (sched.set s.idx r) = true ∨
        r = bisect feas sched s.idx eps fuel (lbOf s) (ubOf infra period s))) ∨
    (infra.cont.getD s.idx true = false ∧
      r = walkDown feas sched s.idx (levelsIn infra s.idx (lbOf s) (ubOf infra period s)).reverse) := by
  unfold greedyRate at h
  simp only at h
  split at h
  · rename_i hc
    unfold maxFeasibleRate at h
    split at h
    · cases h
    · rename_i h0
      refine Or.inl ⟨hc, by simpa using h0, ?_⟩
      split at h <;> cases h
      · rename_i hub
        exact Or.inl ⟨rfl, hub⟩
      · exact Or.inr rfl
  · rename_i hc
    refine Or.inr ⟨by simpa using hc, ?_⟩
    split at h
    · rename_i hemp
      cases h
      rw [List.isEmpty_iff.mp hemp]; rfl
    · unfold discreteMax at h
      split at h <;> cases h
      rfl

theorem greedyRate_safe (feas : List K → Bool) (fuel : Nat) (eps : K) (infra : Infra K) (period : K)
    (sched : List K) (s : Session K) (r : K)
    (hf : feas sched = true) (hlb : sched.set s.idx (lbOf s) = sched) (hok : LbOk infra period s)
    (h : greedyRate feas fuel eps infra period sched s = .ok r) :
    feas (sched.set s.idx r) = true := by
  -- the grant passed the check, or it is the `lb` the station holds already
  rcases greedyRate_ok h with ⟨_, _, ⟨_, hub⟩ | rfl⟩ | ⟨hc, rfl⟩
  · exact hub
  · rcases bisect_cases feas sched s.idx eps fuel (lbOf s) (ubOf infra period s) with hb | hb
    · rw [hb, hlb]; exact hf
    · exact hb
  · rcases walkDown_cases feas sched s.idx
        (levelsIn infra s.idx (lbOf s) (ubOf infra period s)).reverse with ⟨_, h2⟩ | ⟨h1, h2⟩
    · exact h2
    · -- no level of `[lb, ub]` passed: `lb`, which passes, is not one of them, so (`LbOk`) it is 0, the fallback
      rw [h1]
      rcases hok with hc' | h0 | hmem
      · exact nomatch hc'.symm.trans hc
      · rw [← h0, hlb]; exact hf
      · have := h2 (lbOf s) (List.mem_reverse.mpr hmem)
        rw [hlb, hf] at this; cases this

theorem greedyRate_range (feas : List K → Bool) (fuel : Nat) (eps : K) (heps : 0 ≤ eps)
    (infra : Infra K) (period : K) (sched : List K) (s : Session K) (r : K)
    (h : greedyRate feas fuel eps infra period sched s = .ok r) :
    (infra.cont.getD s.idx true = true →
        (r = ubOf infra period s ∨ lbOf s ≤ r) ∧ r ≤ max (lbOf s) (ubOf infra period s)) ∧
    (infra.cont.getD s.idx true = false →
        r = 0 ∨ r ∈ levelsIn infra s.idx (lbOf s) (ubOf infra period s)) := by
  rcases greedyRate_ok h with ⟨hc, _, ⟨rfl, _⟩ | rfl⟩ | ⟨hc, rfl⟩
  · exact ⟨fun _ => ⟨Or.inl rfl, le_max_right _ _⟩, fun hn => nomatch hc.symm.trans hn⟩
  · have := bisect_range feas sched s.idx eps heps fuel (lbOf s) (ubOf infra period s)
    exact ⟨fun _ => ⟨Or.inr this.1, this.2⟩, fun hn => nomatch hc.symm.trans hn⟩
  · refine ⟨fun hn => (nomatch hn.symm.trans hc), fun _ => ?_⟩
    rcases walkDown_cases feas sched s.idx
        (levelsIn infra s.idx (lbOf s) (ubOf infra period s)).reverse with ⟨h1, _⟩ | ⟨h1, _⟩
    · exact Or.inr (List.mem_reverse.mp h1)
    · exact Or.inl h1

theorem greedyLoop_inv (feas : List K → Bool) (fuel : Nat) (eps : K) (infra : Infra K) (period : K) :
    ∀ (q : List (Session K)) (sch final : List K),
      feas sch = true →
      (q.map (·.idx)).Nodup →
      (∀ s ∈ q, sch.set s.idx (lbOf s) = sch) →
      (∀ s ∈ q, LbOk infra period s) →
      greedyLoop feas fuel eps infra period q sch = .ok final → feas final = true := by
  intro q
  induction q with
  | nil =>
    intro sch final hf _ _ _ h
    simp only [greedyLoop] at h
    cases h; exact hf
  | cons s rest ih =>
    intro sch final hf hnd hlb hok h
    cases hgr : greedyRate feas fuel eps infra period sch s with
    | error e => simp [greedyLoop, hgr] at h
    | ok r =>
      simp only [greedyLoop, hgr] at h
      rw [List.map_cons, List.nodup_cons] at hnd
      apply ih (sch.set s.idx r) final _ hnd.2 _ _ h
      · exact greedyRate_safe feas fuel eps infra period sch s r hf (hlb s List.mem_cons_self)
          (hok s List.mem_cons_self) hgr
      · intro t ht
        have hne : s.idx ≠ t.idx := by
          intro heq
          exact hnd.1 (List.mem_map.mpr ⟨t, ht, heq.symm⟩)
        exact set_noop_of_comm sch s.idx t.idx r (lbOf t) hne (hlb t (List.mem_cons_of_mem _ ht))
      · intro t ht; exact hok t (List.mem_cons_of_mem _ ht)

/-! ### the loop as a whole: it is a loop of point updates (`writes`) whose value is computed from the array so far
  and may raise -/

theorem greedyLoop_append (feas : List K → Bool) (fuel : Nat) (eps : K) (infra : Infra K) (period : K)
    (pre post : List (Session K)) : ∀ sch : List K,
    greedyLoop feas fuel eps infra period (pre ++ post) sch =
      greedyLoop feas fuel eps infra period pre sch >>= greedyLoop feas fuel eps infra period post := by
  induction pre with
  | nil => exact fun _ => rfl
  | cons s t ih =>
    intro sch
    simp only [List.cons_append, greedyLoop]
    cases greedyRate feas fuel eps infra period sch s with
    | error e => rfl
    | ok r => exact ih _

theorem greedyLoop_frame (feas : List K → Bool) (fuel : Nat) (eps : K) (infra : Infra K) (period : K)
    (q : List (Session K)) : ∀ (sch final : List K), greedyLoop feas fuel eps infra period q sch = .ok final →
      final.length = sch.length ∧ ∀ j, (∀ t ∈ q, t.idx ≠ j) → final[j]? = sch[j]? := by
  induction q with
  | nil =>
    intro sch final h
    cases h
    exact ⟨rfl, fun _ _ => rfl⟩
  | cons s t ih =>
    intro sch final h
    simp only [greedyLoop] at h
    cases hgr : greedyRate feas fuel eps infra period sch s with
    | error e => simp [hgr] at h
    | ok r =>
      simp only [hgr] at h
      obtain ⟨hl, ho⟩ := ih _ _ h
      exact ⟨hl.trans (List.length_set ..), fun j hj =>
        (ho j fun u hu => hj u (List.mem_cons_of_mem _ hu)).trans (List.getElem?_set_ne (hj s List.mem_cons_self))⟩

theorem greedyLoop_split {feas : List K → Bool} {fuel : Nat} {eps : K} {infra : Infra K} {period : K}
    {pre post : List (Session K)} {s : Session K} {sch final : List K}
    (h : greedyLoop feas fuel eps infra period (pre ++ s :: post) sch = .ok final) :
    ∃ cur r, greedyLoop feas fuel eps infra period pre sch = .ok cur ∧
      greedyRate feas fuel eps infra period cur s = .ok r ∧
      greedyLoop feas fuel eps infra period post (cur.set s.idx r) = .ok final := by
  rw [greedyLoop_append] at h
  cases hpre : greedyLoop feas fuel eps infra period pre sch with
  | error e => rw [hpre] at h; cases h
  | ok cur =>
    rw [hpre] at h
    change greedyLoop feas fuel eps infra period (s :: post) cur = .ok final at h
    simp only [greedyLoop] at h
    cases hgr : greedyRate feas fuel eps infra period cur s with
    | error e => simp [hgr] at h
    | ok r => exact ⟨cur, r, rfl, hgr, by simpa only [hgr] using h⟩

/-- the schedule on which session `s` of `pre ++ s :: post` is served: sessions of `pre` already at
    their FINAL values, everything else as in the incoming schedule -/
theorem greedyLoop_sequential (feas : List K → Bool) (fuel : Nat) (eps : K) (infra : Infra K) (period : K)
    (s : Session K) (post : List (Session K)) :
    ∀ (pre : List (Session K)) (sch final : List K),
      ((pre ++ s :: post).map (·.idx)).Nodup →
      (∀ t ∈ pre ++ s :: post, t.idx < sch.length) →
      greedyLoop feas fuel eps infra period (pre ++ s :: post) sch = .ok final →
      ∃ cur r, greedyRate feas fuel eps infra period cur s = .ok r ∧ final[s.idx]? = some r ∧
        cur.length = sch.length ∧ (∀ t ∈ pre, cur[t.idx]? = final[t.idx]?) ∧
        (∀ j, (∀ t ∈ pre, t.idx ≠ j) → cur[j]? = sch[j]?) := by
  intro pre sch final hnd hidx h
  obtain ⟨cur, r, hpre, hgr, hrest⟩ := greedyLoop_split h
  obtain ⟨hl, hpreF⟩ := greedyLoop_frame feas fuel eps infra period pre sch cur hpre
  obtain ⟨_, hpostF⟩ := greedyLoop_frame feas fuel eps infra period post _ final hrest
  rw [List.map_append, List.map_cons, List.nodup_append, List.nodup_cons] at hnd
  obtain ⟨_, ⟨hs, _⟩, hdis⟩ := hnd
  -- what the rest of the loop leaves alone: the station of `s` and those of `pre`
  refine ⟨cur, r, hgr, ?_, hl, fun t ht => ?_, hpreF⟩
  · rw [hpostF _ fun t ht e => hs (List.mem_map.2 ⟨t, ht, e⟩),
      List.getElem?_set_self (by rw [hl]; exact hidx s (by simp))]
  · have hne : ∀ u ∈ s :: post, u.idx ≠ t.idx := fun u hu e =>
      hdis t.idx (List.mem_map.2 ⟨t, ht, rfl⟩) u.idx (List.mem_map.2 ⟨u, hu, rfl⟩) e.symm
    rw [hpostF _ fun u hu => hne u (List.mem_cons_of_mem _ hu), List.getElem?_set_ne (hne s List.mem_cons_self)]

/-! ### "Start each EV at its lower bound", and `sorting_algorithm` around the loop -/

theorem initSchedule_eq (n : Nat) (q : List (Session K)) :
    initSchedule n q = writes (·.idx) lbOf q (List.replicate n 0) := rfl

theorem initSchedule_len (m : Nat) (q : List (Session K)) : (initSchedule m q).length = m := by
  rw [initSchedule_eq, length_writes, List.length_replicate]

theorem initSchedule_other (n : Nat) (q : List (Session K)) {j : Nat} (hj : ∀ s ∈ q, s.idx ≠ j) :
    (initSchedule n q)[j]? = (List.replicate n (0 : K))[j]? :=
  getElem?_writes_of_ne _ _ q _ hj

theorem initSchedule_lb (n : Nat) (q : List (Session K)) (hnd : (q.map (·.idx)).Nodup) :
    ∀ s ∈ q, (initSchedule n q).set s.idx (lbOf s) = initSchedule n q :=
  fun _ hs => writes_own (fun s : Session K => s.idx) lbOf hnd hs _

theorem sortingAlgorithm_ok {feas : List K → Bool} {fuel : Nat} {eps : K} {infra : Infra K} {period : K}
    {queue : List (Session K)} {sch : List K} (h : sortingAlgorithm feas fuel eps infra period queue = .ok sch) :
    feas (initSchedule infra.ids.length queue) = true ∧
    greedyLoop feas fuel eps infra period queue (initSchedule infra.ids.length queue) = .ok sch := by
  unfold sortingAlgorithm at h
  simp only at h
  split at h
  · cases h
  · rename_i hfe
    exact ⟨by simpa using hfe, h⟩

theorem sortingAlgorithm_inactive (feas : List K → Bool) (fuel : Nat) (eps : K) (infra : Infra K)
    (period : K) (queue : List (Session K)) (sch : List K)
    (h : sortingAlgorithm feas fuel eps infra period queue = .ok sch) :
    sch.length = infra.ids.length ∧
    ∀ j, j < infra.ids.length → (∀ t ∈ queue, t.idx ≠ j) → sch[j]? = some 0 := by
  obtain ⟨hl, ho⟩ := greedyLoop_frame feas fuel eps infra period queue _ sch (sortingAlgorithm_ok h).2
  refine ⟨hl.trans (initSchedule_len _ _), fun j hj hne => ?_⟩
  rw [ho j hne, initSchedule_other _ _ hne]
  simp [hj]

end Acn.Sorted
