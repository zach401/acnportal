/-
  Calendar facts used by C17: every day number maps to a (month, day) of the 366-entry table
  and to a weekday in 0..6, so the finite table of `total_unambiguous_<file>` covers every
  real date (all 14 calendar types).
-/
import AcnModel.Tariff
import AcnProofs.Lemmas.CalendarCivil

namespace Acn.C17
open Acn.Calendar Acn.Tariff

theorem monthLen366_eq (m : Nat) : (monthLen366 m : Int) = monthLen true m := by
  simp only [monthLen366, monthLen, beq_iff_eq, Bool.or_eq_true, ↓reduceIte]
  repeat' split
  all_goals omega

theorem mem_days366 (m d : Nat) (h1 : 1 ≤ m) (h2 : m ≤ 12) (h3 : 1 ≤ d) (h4 : d ≤ monthLen366 m) :
    (m, d) ∈ days366 := by
  simp only [days366, List.mem_flatMap, List.mem_range, List.mem_map, Prod.mk.injEq]
  exact ⟨m - 1, by omega, d - 1, by rw [show m - 1 + 1 = m by omega]; omega, by omega, by omega⟩

/-- `civilFromDays` returns a date that exists in its year (`civil_valid`), and no month is longer than in a leap
    year -/
theorem civil_in_table (z : Int) :
    ((civilFromDays z).2.1.toNat, (civilFromDays z).2.2.toNat) ∈ days366 := by
  obtain ⟨h1, h2, h3, h4⟩ := civil_valid z
  have hlen := monthLen366_eq (civilFromDays z).2.1.toNat
  rw [Int.toNat_of_nonneg (by omega)] at hlen
  have := (monthLen_le (isLeap (civilFromDays z).1) (civilFromDays z).2.1).2.1
  rw [daysInMonth_eq] at h4
  apply mem_days366 <;> omega

theorem fields_in_table (t : Int) :
    (fieldsOf t).md ∈ days366 ∧ (fieldsOf t).wd < 7 ∧
    (fieldsOf t).h < 24 ∧ (fieldsOf t).m < 60 ∧ (fieldsOf t).s < 60 := by
  refine ⟨civil_in_table _, ?_, ?_, ?_, ?_⟩ <;> simp only [fieldsOf, weekday] <;> omega

end Acn.C17
