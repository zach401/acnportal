/-
  The simulator loop with a stateful scheduler (`AcnModel/SimSortedRd.lean: runSt`):
    * one period of `runSt` IS one period of `Sim.run` under the scheduler frozen at the current
      state (`bodySt_fst`), and the state it leaves is the old one or one the scheduler returned
      (`bodySt_state`); `runSt` coincides with `Sim.run` for a scheduler that ignores the state
      (`runSt_lift`);
    * `prevOf_total`: the `prev_rate[session_id]` lookup of `SimpleRampdown` cannot miss.
  What holds of one period of `Sim.run` for every scheduler thus holds of one period of `runSt`; the
  run-level safety of the sorted algorithms as stateful schedulers is `Lemmas/SortedSimSafe.lean`.
-/
import AcnModel.SimSortedRd
import AcnProofs.Lemmas.SimStages2
import AcnProofs.Lemmas.Assoc

set_option linter.unusedSectionVars false

namespace Acn.SimSortedRd
open Acn Acn.EventCore Acn.Sim Acn.Steps

section generic
variable {K : Type} [Add K] [Sub K] [Mul K] [Div K] [Neg K] [LT K] [LE K]
  [DecidableLT K] [DecidableLE K] [OfNat K 0] [OfNat K 1] [NatCast K] [HasExp K]
variable {σ : Type}

theorem schedStageSt_frozen (cfg : Cfg K) (sched : σ → View K → Except EventCore.Err (Schedule K × σ))
    (st : σ) (s : State K) :
    Sim.schedStage cfg (frozen sched st) s =
      match schedStageSt cfg sched st s with
      | .error e => .error e
      | .ok (m, _) => .ok m := by
  unfold Sim.schedStage schedStageSt frozen
  split
  · rfl
  · cases hs : sched st (view cfg s) with
    | error e => rfl
    | ok p =>
      obtain ⟨sch, st'⟩ := p
      simp only
      cases Pilots.updateSchedules (cfg.stations.map (·.id)) s.pilots s.core.iter
        ((lastTs s.core.pending).map Int.toNat) sch <;> rfl

theorem schedStageSt_state (cfg : Cfg K) (sched : σ → View K → Except EventCore.Err (Schedule K × σ))
    (st : σ) (s : State K) (m : Pilots.Mat K) (st' : σ)
    (h : schedStageSt cfg sched st s = .ok (m, st')) :
    ∃ sch, sched st (view cfg s) = .ok (sch, st') := by
  unfold schedStageSt at h
  split at h
  · cases h
  · cases hs : sched st (view cfg s) with
    | error e => rw [hs] at h; cases h
    | ok p =>
      obtain ⟨sch, st2⟩ := p
      rw [hs] at h
      simp only at h
      split at h
      · cases h
      · cases h; exact ⟨sch, rfl⟩

/-- one split of the period for both halves: the simulator's half is `Sim.body` under the frozen scheduler, the
    scheduler's half is the old state or the one the call returned -/
theorem bodySt_frozen (cfg : Cfg K) (sched : σ → View K → Except EventCore.Err (Schedule K × σ))
    (st : σ) (s : State K) :
    (bodySt cfg sched st s).1 = Sim.body cfg (frozen sched st) s ∧
    ((bodySt cfg sched st s).2 = st ∨ ∃ v sch, sched st v = .ok (sch, (bodySt cfg sched st s).2)) := by
  unfold bodySt Sim.body
  rcases eventsStage cfg s with ⟨s1, _ | e⟩
  · simp only
    split
    · rw [schedStageSt_frozen]
      cases hs : schedStageSt cfg sched st { s1 with core := markInvoked s1.core } with
      | error e => exact ⟨rfl, .inl rfl⟩
      | ok p =>
        obtain ⟨sch, h⟩ := schedStageSt_state cfg sched st _ p.1 p.2 hs
        exact ⟨rfl, .inr ⟨_, sch, h⟩⟩
    · exact ⟨rfl, .inl rfl⟩
  · exact ⟨rfl, .inl rfl⟩

theorem bodySt_fst (cfg : Cfg K) (sched : σ → View K → Except EventCore.Err (Schedule K × σ))
    (st : σ) (s : State K) :
    (bodySt cfg sched st s).1 = Sim.body cfg (frozen sched st) s :=
  (bodySt_frozen cfg sched st s).1

theorem bodySt_state (cfg : Cfg K) (sched : σ → View K → Except EventCore.Err (Schedule K × σ))
    (st : σ) (s : State K) :
    (bodySt cfg sched st s).2 = st ∨
    ∃ v sch, sched st v = .ok (sch, (bodySt cfg sched st s).2) :=
  (bodySt_frozen cfg sched st s).2

theorem frozen_lift (sched : View K → Except EventCore.Err (Schedule K)) (st : σ) :
    frozen (lift (σ := σ) sched) st = sched := by
  funext v
  unfold frozen lift
  cases sched v <;> rfl

theorem bodySt_lift (cfg : Cfg K) (sched : View K → Except EventCore.Err (Schedule K)) (st : σ)
    (s : State K) : bodySt cfg (lift sched) st s = (Sim.body cfg sched s, st) := by
  have h1 := bodySt_fst cfg (lift (σ := σ) sched) st s
  rw [frozen_lift] at h1
  have h2 : (bodySt cfg (lift sched) st s).2 = st := by
    rcases bodySt_state cfg (lift (σ := σ) sched) st s with h | ⟨v, sch, h⟩
    · exact h
    · unfold lift at h
      cases hv : sched v with
      | error e => rw [hv] at h; cases h
      | ok x =>
        rw [hv] at h
        simp only [Except.ok.injEq, Prod.mk.injEq] at h
        exact h.2.symm
  exact Prod.ext h1 h2

theorem runSt_lift (cfg : Cfg K) (sched : View K → Except EventCore.Err (Schedule K)) :
    ∀ (n : Nat) (st : σ) (s : State K),
      runSt cfg (lift sched) n st s = (Sim.run cfg sched n s, st) := by
  intro n
  induction n with
  | zero => intro st s; rfl
  | succ n ih =>
    intro st s
    unfold runSt Sim.run
    split
    · rw [bodySt_lift]
      cases hb : Sim.body cfg sched s with
      | mk s' err =>
        cases err with
        | none => simp only; exact ih st s'
        | some e => rfl
    · rfl

theorem runSt_congr (cfg : Cfg K) (f g : σ → View K → Except EventCore.Err (Schedule K × σ))
    (h : ∀ st v, f st v = g st v) (n : Nat) (st : σ) (s : State K) :
    runSt cfg f n st s = runSt cfg g n st s := by
  have : f = g := by funext st v; exact h st v
  rw [this]

end generic

theorem dictGet_isSome_iff {V : Type} (d : List (String × V)) (k : String) :
    (dictGet d k).isSome = true ↔ ∃ v, (k, v) ∈ d := by
  rw [dictGet, Assoc.lookup_isSome]
  simp [Assoc.keys]

/-- both dicts `SimpleRampdown` reads are built from the same `_active_evs`: a session that has a
    previous pilot has a previous rate, so `prevOf`'s last branch is not reachable on a simulator view -/
theorem prevOf_total {K : Type} [Add K] [Sub K] [Mul K] [Div K] [Neg K] [LT K] [LE K]
    [DecidableLT K] [DecidableLE K] [OfNat K 0] [OfNat K 1] [NatCast K] [HasExp K]
    (cfg : Sim.Cfg K) (s : Sim.State K) (sid : String)
    (h : (dictGet (Sim.view cfg s).lastPilots sid).isSome = true) :
    (dictGet ((Sim.view cfg s).active.map fun e => (e.session, e.rate)) sid).isSome = true := by
  rw [dictGet_isSome_iff] at h ⊢
  obtain ⟨p, hp⟩ := h
  have hp' : (sid, p) ∈ Sim.lastApplied cfg s := hp
  unfold Sim.lastApplied at hp'
  split at hp'
  · rw [List.mem_filterMap] at hp'
    obtain ⟨e, he, hm⟩ := hp'
    split at hm
    · simp only [Option.some.injEq, Prod.mk.injEq] at hm
      refine ⟨e.rate, ?_⟩
      show (sid, e.rate) ∈ (Sim.activeEvs cfg s).map fun e => (e.session, e.rate)
      rw [List.mem_map]
      exact ⟨e, he, by rw [hm.1]⟩
    · cases hm
  · simp at hp'

end Acn.SimSortedRd
