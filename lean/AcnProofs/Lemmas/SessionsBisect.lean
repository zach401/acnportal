/-
  For C15: `delta_soc_from_init_soc` is decreasing and loses at most one unit per
  unit of initial SoC.  Hence `binsearch` as `_get_init_cap` calls it never runs out of recursion
  depth once the fuel exceeds log₂((1 − ts + m·T)/tol); the energy a fitted battery takes over the
  stay is decreasing in its initial SoC (maximality of the returned initial charge); and a negative
  answer of `_get_init_cap` means that the capacity is too small (minimality on the ladder).
-/
import AcnModel.Sessions
import AcnProofs.Lemmas.SessionsFit

set_option linter.unusedSectionVars false

namespace Acn.SessionsFit
open Acn.Sessions Real Acn.BattFlow

/-- With `a = e^{−(x−c)/κ} ≤ 1` and `e = e^{−(y−x)/κ} ∈ [1 − (y−x)/κ, 1]` the difference
    `hExp x − hExp y` is `(y − x) − κ·a·(1 − e)`, and `0 ≤ κ·a·(1 − e) ≤ y − x`. -/
theorem hExp_lip {c κ x y : ℝ} (hκ : 0 < κ) (hcx : c ≤ x) (hxy : x ≤ y) :
    hExp c κ y ≤ hExp c κ x ∧ hExp c κ x - hExp c κ y ≤ y - x := by
  have ht : 0 ≤ (y - x) / κ := div_nonneg (sub_nonneg.2 hxy) hκ.le
  have ha1 : exp (-((x - c) / κ)) ≤ 1 :=
    exp_le_one_iff.2 (neg_nonpos.2 (div_nonneg (sub_nonneg.2 hcx) hκ.le))
  have ha0 := (exp_pos (-((x - c) / κ))).le
  have he1 : exp (-((y - x) / κ)) ≤ 1 := exp_le_one_iff.2 (neg_nonpos.2 ht)
  have he2 := Real.one_sub_le_exp_neg ((y - x) / κ)
  have hsplit : exp (-((y - c) / κ)) = exp (-((x - c) / κ)) * exp (-((y - x) / κ)) := by
    rw [← exp_add]; congr 1; ring
  have hhi : κ * (exp (-((x - c) / κ)) * (1 - exp (-((y - x) / κ)))) ≤ y - x :=
    calc _ ≤ κ * ((y - x) / κ) := mul_le_mul_of_nonneg_left
          ((mul_le_of_le_one_left (sub_nonneg.2 he1) ha1).trans (by linarith only [he2])) hκ.le
      _ = y - x := mul_div_cancel₀ _ hκ.ne'
  have hlo : 0 ≤ κ * (exp (-((x - c) / κ)) * (1 - exp (-((y - x) / κ)))) :=
    mul_nonneg hκ.le (mul_nonneg ha0 (sub_nonneg.2 he1))
  unfold hExp
  rw [hsplit]
  constructor
  · linarith only [hhi]
  · linarith only [hlo]

variable {m T ts : ℝ}

theorem delta_lip (hm : 0 < m) (hts : ts < 1) {x y : ℝ} (hxy : x ≤ y) :
    deltaSocFrom m T ts y ≤ deltaSocFrom m T ts x ∧
      deltaSocFrom m T ts x - deltaSocFrom m T ts y ≤ y - x := by
  have hκ : 0 < 1 - ts := by linarith
  rcases le_or_gt y (ts - m * T) with hy | hy
  · rw [delta_linear hm hy, delta_linear hm (le_trans hxy hy)]
    constructor <;> linarith
  · rcases le_or_gt x (ts - m * T) with hx | hx
    · -- across the kink `c = ts − m·T`, where `hExp c (1 − ts) c = m·T`
      have hk : hExp (ts - m * T) (1 - ts) (ts - m * T) = m * T := by unfold hExp; simp
      rw [delta_linear hm hx, delta_exp hm hy]
      have := hExp_lip (c := ts - m * T) hκ (le_refl _) hy.le
      constructor <;> linarith [this.1, this.2]
    · rw [delta_exp hm hx, delta_exp hm hy]
      exact hExp_lip hκ hx.le hxy

theorem getInitCap_no_recursion {mr tol E V P cap : ℝ} (hmr : 0 < mr) (hV : 0 < V) (hP : 0 < P)
    (hc : 0 < cap) (hts : ts < 1) (hT : 0 < T) (hE : 0 ≤ E) (n : Nat)
    (hw : 1 - ts + fitM mr V P cap * T < tol * 2 ^ (n + 1)) :
    getInitCap mr ts tol (n + 1) E T V P cap ≠ .error .recursion := by
  have hm := fitM_pos hmr hV hP hc
  unfold getInitCap
  rw [closed_eq]
  simp only
  split
  · exact fun h => nomatch h
  · split
    · exact fun h => nomatch h
    · rename_i hncl hfeas
      have hmT : 0 < fitM mr V P cap * T := mul_pos hm hT
      -- the bracket `[ts − m·T, 1]` brackets the target: at SoC 1 nothing is taken, …
      have hub : deltaSocFrom (fitM mr V P cap) T ts 1 ≤ E / cap := by
        rw [delta_exp hm (by linarith)]
        unfold hExp
        have := mul_pos (sub_pos.2 hts) (Real.exp_pos (-((1 - (ts - fitM mr V P cap * T)) / (1 - ts))))
        linarith [div_nonneg hE hc.le]
      -- … and at its lower end as much as from empty, or the full rate throughout
      have hlb : E / cap ≤ deltaSocFrom (fitM mr V P cap) T ts (ts - fitM mr V P cap * T) := by
        have h0 := not_lt.mp hfeas
        rcases le_or_gt (ts - fitM mr V P cap * T) 0 with hneg | hpos
        · exact le_trans h0 (delta_lip hm hts hneg).1
        · rwa [delta_linear hm le_rfl, ← delta_linear hm hpos.le]
      obtain ⟨s, hs⟩ := binsearch_terminates (deltaSocFrom (fitM mr V P cap) T ts) (E / cap) tol
        (ts - fitM mr V P cap * T) 1 (fun x y _ hxy _ => delta_lip hm hts hxy) n
        (ts - fitM mr V P cap * T) 1 le_rfl (by linarith) le_rfl (by linarith) hub hlb
      rw [hs]
      exact fun h => nomatch h

theorem battCapFn_no_recursion {mr tol E V P : ℝ} (hmr : 0 < mr) (hV : 0 < V) (hP : 0 < P)
    (hts : ts < 1) (hT : 0 < T) (hE : 0 ≤ E) (n : Nat) :
    ∀ caps : List ℝ, (∀ c ∈ caps, 0 < c ∧ 1 - ts + fitM mr V P c * T < tol * 2 ^ (n + 1)) →
      battCapFn caps mr ts tol (n + 1) E T V P ≠ .error .recursion := by
  intro caps
  induction caps with
  | nil => intro _; simp [battCapFn]
  | cons c cs ih =>
    intro hall
    have hc := hall c List.mem_cons_self
    have ih' := ih (fun c' hc' => hall c' (List.mem_cons_of_mem _ hc'))
    rw [battCapFn]
    split
    · exact ih'
    · have hg := getInitCap_no_recursion (E := E) hmr hV hP hc.1 hts hT hE n hc.2
      split
      · rename_i e he
        intro h
        injection h with h
        subst h
        exact hg he
      · split
        · simp
        · exact ih'

theorem taken_strict_above_ts (hm : 0 < m) (hT : 0 < T) (hts : ts < 1) {x y : ℝ} (hx : ts ≤ x)
    (hxy : x < y) : taken m ts T y < taken m ts T x := by
  rw [taken_ramp hm hts (hx.trans hxy.le), taken_ramp hm hts hx]
  exact mul_lt_mul_of_pos_right (by linarith) (sub_pos.2 (expQ_lt_one hm hT hts))

theorem taken_antitone (hm : 0 < m) (hT : 0 < T) (hts : ts < 1) {x y : ℝ} (hxy : x ≤ y) :
    taken m ts T y ≤ taken m ts T x := by
  have below : ∀ {x y : ℝ}, x ≤ y → y ≤ ts → taken m ts T y ≤ taken m ts T x := by
    intro x y hxy hy
    rw [← delta_eq_taken hm hT hts hy, ← delta_eq_taken hm hT hts (hxy.trans hy)]
    exact (delta_lip hm hts hxy).1
  have above : ∀ {x y : ℝ}, ts ≤ x → x ≤ y → taken m ts T y ≤ taken m ts T x := by
    intro x y hx hxy
    rcases eq_or_lt_of_le hxy with rfl | hlt
    · exact le_rfl
    · exact (taken_strict_above_ts hm hT hts hx hlt).le
  rcases le_total y ts with hy | hy
  · exact below hxy hy
  · rcases le_total ts x with hx | hx
    · exact above hx hxy
    · exact (above le_rfl hy).trans (below hx le_rfl)

theorem getInitCap_neg {mr tol E V P cap i : ℝ} {fuel : Nat} (hmr : 0 < mr) (hV : 0 < V)
    (hP : 0 < P) (hc : 0 < cap) (hts0 : 0 < ts) (hts : ts < 1) (hT : 0 < T) (htol0 : 0 < tol)
    (h : getInitCap mr ts tol fuel E T V P cap = .ok i) (hi : i < 0) :
    taken (fitM mr V P cap) ts T 0 < E / cap + tol := by
  have hm := fitM_pos hmr hV hP hc
  rw [← delta_eq_taken hm hT hts hts0.le]
  cases getInitCap_spec (closed_eq mr ts E T V P cap) (mul_pos hm hT).le hts.le h with
  | closed hcl hi' =>
    rw [hi'] at hi
    exact absurd hi (not_lt.2 (mul_nonneg (hts0.le.trans hcl) hc.le))
  | infeasible _ hinf _ => linarith
  | bisect s _ _ _ _ htol hi' =>
    -- a negative SoC from the bisection: from empty the battery takes no more than from there
    rw [hi'] at hi
    have hs0 : s < 0 := by
      by_contra hns
      exact absurd hi (not_lt.2 (mul_nonneg (not_lt.1 hns) hc.le))
    have := (delta_lip (T := T) hm hts hs0.le).1
    linarith [(abs_lt.1 htol).2]

end Acn.SessionsFit
