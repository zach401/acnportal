/-
  T1c (DESIGN §17), stateful methods — `ChargingNetwork.plugin` / `unplug` / `get_ev` / `active_evs` refine the network
  of the run-loop model, by proof (group NetOps; property C01).

  `AcnModel/Gen/CodeNetOps.lean` is regenerated on every run from acnportal/acnsim/network/charging_network.py:
  `self._EVSEs` is an insertion-ordered association list `station id ↦ Evse.Evse K` (`PyNet K`), `d[k]` is a lookup
  that raises `KeyError`, `d[k].plugin(ev)` calls the TRANSLATED `BaseEVSE.plugin` on the element and writes the
  element back, `x.ev.session_id` on an empty EVSE is `AttributeError`; `warnings.warn` is skipped.

  The hand model the C01 / C19 theorems are about keeps only the occupancy map (`EventCore.chargingNet` on
  `String → Option Session`), so the ties are REFINEMENTS through the abstraction `occOf` (who occupies a station)
  and `stationsOf` (the registered ids): same outcome (done / `KeyError` / `StationOccupiedError`), same occupancy
  afterwards — also at a raise —, stations unchanged.  In particular the session-id guard of `unplug`: the EVSE is
  vacated exactly when its occupant has the given session id; a stale unplug event changes nothing; none of the
  translated `AttributeError` / inner `KeyError` paths is reachable.  `active_evs` is the filter `Sim.isActive` over
  the occupants in `_EVSEs` order and never raises.

  Each of `plugin` / `unplug` is unfolded once, into the equation of what it computes (`net_plugin_eq`,
  `net_unplug_eq`); the refinement, the stations and the deprecated call form are read off that equation.  The
  translated `BaseEVSE.plugin` / `unplug` inside them are unfolded with them: the module imports `Gen/CodeNetOps`
  (which contains `Gen/CodeEvseOps`), the hand model and Lemmas/CodePreludeDict, and no other `CodeTie*` module.
-/
import AcnModel.Gen.CodeNetOps
import AcnModel.EventCoreG
import AcnModel.Sim
import AcnProofs.Lemmas.CodePreludeDict

set_option linter.unusedSectionVars false

namespace Acn.CodeTie
open Acn Acn.Battery Acn.Evse Acn.Gen.Code Acn.EventCore

section
variable {K : Type} [Add K] [Sub K] [Mul K] [Div K] [Neg K] [LT K] [LE K]
  [DecidableLT K] [DecidableLE K] [OfNat K 0] [OfNat K 1] [NatCast K] [HasExp K]

/-- `network.station_ids` -/
def stationsOf (n : PyNet K) : List String := n.evses.map (·.1)

/-- which session occupies a station: `_EVSEs[st].ev`, as the static record of its session -/
def occOf (n : PyNet K) : String → Option Session :=
  fun st => (dictGet? n.evses st).bind (fun s => s.ev.map Sim.sessionOf)

/-- the model's error classes as abstractions of the Python exceptions of `plugin` / `unplug` -/
def coreErrOfPy : PyErr → EventCore.Err
  | .StationOccupiedError => .stationOccupied
  | .KeyError => .keyError
  | .IndexError => .indexError
  | .InvalidRateError => .invalidRate
  | _ => .valueError

theorem occOf_set (n : PyNet K) (k : String) (v : Evse K) :
    occOf { n with evses := dictSet n.evses k v } = setOcc (occOf n) k (v.ev.map Sim.sessionOf) :=
  Dict.view_set (fun s : Evse K => s.ev.map (Sim.sessionOf (K := K))) n.evses k v

theorem contains_stations (n : PyNet K) (k : String) :
    (stationsOf n).contains k = (dictGet? n.evses k).isSome := by
  rw [Bool.eq_iff_iff, List.contains_iff_mem]
  exact (Dict.get_isSome_iff n.evses k).symm

/-- what a translated method reports to the run loop: `none`, or the model's class of the exception -/
def coreOutcome : Except PyErr Unit → Option EventCore.Err
  | .ok _ => none
  | .error e => some (coreErrOfPy e)

theorem stations_set (n : PyNet K) {k : String} {v0 : Evse K} (v : Evse K) (hg : dictGet? n.evses k = some v0) :
    stationsOf { n with evses := dictSet n.evses k v } = stationsOf n :=
  Dict.set_keys_of_get v hg

/-- an occupied EVSE is written back as it was (`BaseEVSE.plugin` raises before it assigns), so the network is
    unchanged -/
theorem net_plugin_eq (n : PyNet K) (ev : Ev K) (sid : Option String) :
    net_plugin n ev sid =
      match dictGet? n.evses ev.station with
      | none => (n, .error .KeyError)
      | some v =>
        match v.ev with
        | none => ({ n with evses := dictSet n.evses ev.station { v with ev := some ev } }, .ok ())
        | some _ => (n, .error .StationOccupiedError) := by
  unfold net_plugin
  cases hg : dictGet? n.evses ev.station with
  | none => rfl
  | some v =>
    simp only [Option.isSome_some, if_true, evse_plugin]
    cases hv : v.ev with
    | none => rfl
    | some e0 => simp [Dict.set_same hg]

theorem net_unplug_eq (n : PyNet K) (st : String) (sid : Option String) :
    net_unplug n st sid =
      match dictGet? n.evses st with
      | none => (n, .error .KeyError)
      | some v =>
        (if sid.all (fun id => v.ev.any (fun e => id = e.session)) then
           { n with evses := dictSet n.evses st (evse_unplug v) } else n, .ok ()) := by
  unfold net_unplug
  cases hg : dictGet? n.evses st with
  | none => rfl
  | some v =>
    simp only [Option.isSome_some, if_true]
    cases sid with
    | none => rfl
    | some id =>
      cases hv : v.ev with
      | none => simp
      | some e0 => by_cases hid : id = e0.session <;> simp [hid]

/-- `ChargingNetwork.plugin(ev)` refines `chargingNet.plugin` on the occupancy map: same outcome (plugged in /
    `KeyError` / `StationOccupiedError`) and the same occupancy afterwards — also when it raises -/
theorem net_plugin_tie (n : PyNet K) (ev : Ev K) (sid : Option String) :
    (chargingNet (stationsOf n)).plugin (occOf n) (Sim.sessionOf ev) =
      (occOf (net_plugin n ev sid).1, coreOutcome (net_plugin n ev sid).2) := by
  show (if (stationsOf n).contains ev.station = true then
          (match occOf n ev.station with
           | some _ => (occOf n, some EventCore.Err.stationOccupied)
           | none => (setOcc (occOf n) ev.station (some (Sim.sessionOf ev)), none))
        else (occOf n, some EventCore.Err.keyError)) = _
  rw [net_plugin_eq, contains_stations]
  cases hg : dictGet? n.evses ev.station with
  | none => rfl
  | some v =>
    have ho : occOf n ev.station = v.ev.map Sim.sessionOf := Dict.view_of_get hg
    rw [ho]
    dsimp only
    cases hv : v.ev with
    | none => simp only [occOf_set]; rfl
    | some e0 => rfl

theorem net_plugin_stations (n : PyNet K) (ev : Ev K) (sid : Option String) :
    stationsOf (net_plugin n ev sid).1 = stationsOf n := by
  rw [net_plugin_eq]
  cases hg : dictGet? n.evses ev.station with
  | none => rfl
  | some v =>
    dsimp only
    cases hv : v.ev with
    | none => exact stations_set n _ hg
    | some e0 => rfl

/-- `ChargingNetwork.unplug(station_id, session_id)` with the session id the Simulator passes refines
    `chargingNet.unplug`: the EVSE is vacated exactly when its occupant has that session id -/
theorem net_unplug_tie (n : PyNet K) (x : Session) :
    (chargingNet (stationsOf n)).unplug (occOf n) x =
      (occOf (net_unplug n x.station (some x.id)).1, coreOutcome (net_unplug n x.station (some x.id)).2) := by
  show (if (stationsOf n).contains x.station = true then
          ((match occOf n x.station with
            | some y => if y.id == x.id then setOcc (occOf n) x.station none else occOf n
            | none => occOf n), none)
        else (occOf n, some EventCore.Err.keyError)) = _
  rw [net_unplug_eq, contains_stations]
  cases hg : dictGet? n.evses x.station with
  | none => rfl
  | some v =>
    have ho : occOf n x.station = v.ev.map Sim.sessionOf := Dict.view_of_get hg
    rw [ho]
    dsimp only
    cases hv : v.ev with
    | none => rfl
    | some e0 =>
      -- the model compares `occupant.id == x.id`, the code `session_id == occupant.session_id`
      by_cases hid : x.id = e0.session
      · simp [hid, occOf_set, Sim.sessionOf, evse_unplug, coreOutcome]
      · simp [hid, Ne.symm hid, Sim.sessionOf, coreOutcome]

theorem net_unplug_stations (n : PyNet K) (st : String) (sid : Option String) :
    stationsOf (net_unplug n st sid).1 = stationsOf n := by
  rw [net_unplug_eq]
  cases hg : dictGet? n.evses st with
  | none => rfl
  | some v =>
    show stationsOf (if _ then _ else n) = _
    split
    · exact stations_set n _ hg
    · rfl

/-- without a session id (deprecated form) the EVSE is vacated unconditionally -/
theorem net_unplug_none (n : PyNet K) (st : String) (h : (stationsOf n).contains st = true) :
    (net_unplug n st none).2 = .ok () ∧ occOf (net_unplug n st none).1 = setOcc (occOf n) st none := by
  rw [net_unplug_eq]
  rw [contains_stations] at h
  cases hg : dictGet? n.evses st with
  | none => rw [hg] at h; cases h
  | some v => exact ⟨rfl, occOf_set n st (evse_unplug v)⟩

/-- `ChargingNetwork.get_ev`: `KeyError` exactly for an unregistered station, otherwise the occupant -/
theorem net_get_ev_tie (n : PyNet K) (st : String) :
    net_get_ev n st =
      if (stationsOf n).contains st then .ok ((dictGet? n.evses st).bind (·.ev)) else .error .KeyError := by
  unfold net_get_ev
  rw [contains_stations]
  cases hg : dictGet? n.evses st <;> rfl

theorem net_get_ev_occ (n : PyNet K) (st : String) (r : Option (Ev K)) (h : net_get_ev n st = .ok r) :
    occOf n st = r.map Sim.sessionOf := by
  rw [net_get_ev_tie] at h
  by_cases hc : (stationsOf n).contains st = true
  · rw [if_pos hc] at h
    cases h
    simp only [occOf]
    cases dictGet? n.evses st <;> rfl
  · rw [if_neg hc] at h
    cases h

/-- `ChargingNetwork.active_evs`: the occupants, in `_EVSEs` order, that are not fully charged (`Sim.isActive`
    at the literal threshold of `EV.fully_charged`); the translated comprehension never raises -/
theorem net_active_evs_tie (cfg : Sim.Cfg K) (hε : cfg.fullEps = ((1 : Nat) : K) / ((1000 : Nat) : K)) (n : PyNet K) :
    net_active_evs n =
      .ok ((dictValues n.evses).filterMap fun s =>
        match s.ev with
        | some e => if Sim.isActive cfg e then some (some e) else none
        | none => none) := by
  unfold net_active_evs
  rw [Dict.pyComp_total _ (fun s => match s.ev with
        | some e => if Sim.isActive cfg e then some (some e) else none
        | none => none)]
  intro s
  cases hv : s.ev with
  | none => rfl
  | some e =>
    simp only [Option.isSome_some, Sim.isActive, hε, Bool.not_not]
    by_cases ha : ((1 : Nat) : K) / ((1000 : Nat) : K) < e.requested - e.delivered <;> simp [ha]

end

/-- every target of this group was translated in this run -/
theorem all_translated_netops : translatedNetOps = ["net_plugin", "net_unplug", "net_get_ev", "net_active_evs"] := rfl

end Acn.CodeTie
