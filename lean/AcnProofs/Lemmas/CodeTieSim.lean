/-
  T1c (DESIGN §17), group Sim (property C05) — `EV.fully_charged` (acnportal/acnsim/models/ev.py, with
  `remaining_demand` inlined) and the condition under which `Simulator.run` (simulator.py) calls the scheduler, as
  translated into `AcnModel/Gen/CodeSim.lean`, equal the negation of `Sim.isActive` at the literal threshold and
  `EventCore.needsSched`, for every input and at every carrier `K`.
-/
import AcnModel.Gen.CodeSim
import AcnModel.Sim

set_option linter.unusedSectionVars false

namespace Acn.CodeTie
open Acn Acn.Evse

section
variable {K : Type} [Add K] [Sub K] [Mul K] [Div K] [Neg K] [LT K] [LE K]
  [DecidableLT K] [DecidableLE K] [OfNat K 0] [OfNat K 1] [NatCast K] [HasExp K]

theorem ev_fully_charged_tie (cfg : Sim.Cfg K) (e : Ev K)
    (h : cfg.fullEps = ((1 : Nat) : K) / ((1000 : Nat) : K)) :
    Gen.Code.ev_fully_charged e = !Sim.isActive cfg e := by
  unfold Gen.Code.ev_fully_charged Sim.isActive
  rw [h]

end

theorem sim_needs_schedule_tie (mr : Option Nat) (c : EventCore.Core) :
    Gen.Code.sim_needs_schedule c.resolve mr c.lastUpd c.iter = EventCore.needsSched mr c := by
  unfold Gen.Code.sim_needs_schedule EventCore.needsSched
  cases mr <;> cases c.lastUpd <;> simp

/-- every target of this group was translated in this run -/
theorem all_translated_sim : Gen.Code.translatedSim = ["ev_fully_charged", "sim_needs_schedule"] := rfl

end Acn.CodeTie
