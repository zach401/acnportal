/-
  Transformers, pods and panels of an accepted topology: the bound of the secondary rows as a function of the
  capacity; a pod row's magnitude is the plain sum of its same-angle currents; `I_pa = ¼(I_a − I_c)` etc. column
  by column (`primaryOk`), hence a primary aggregate is a quarter of the difference of two secondary ones: its
  magnitude is at most half the secondary bound, and its square is again a quadratic of the three line-pair sums.
-/
import AcnProofs.Lemmas.SitesMain

namespace Acn.SitesXfmr
open Acn.Feas Acn.Sites Acn.Gen.Sites Acn.SitesFeas Acn.SitesTopo Acn.SitesMain
variable {K : Type} [Field K] [LinearOrder K] [IsStrictOrderedRing K]
set_option linter.unusedSectionVars false

structure XfmrFacts (T : Topo) (x : Xfmr) : Prop where
  tri : tripleOk T x.sec = true
  cap : ∃ k ops N D, xfmrCap T x = some (k, ops) ∧ limOf T x.sec.a = .ofCap k ops ∧
    limOf T x.sec.b = .ofCap k ops ∧ limOf T x.sec.c = .ofCap k ops ∧
    normOps ops = some (N, D, false) ∧ D ≠ 0 ∧ N * 360 = 1000 * D

theorem xfmrCap_some (T : Topo) (x : Xfmr) (k : Nat) (ops : List Op) (h : xfmrCap T x = some (k, ops)) :
    limOf T x.sec.a = .ofCap k ops := by
  unfold xfmrCap at h
  cases hl : limOf T x.sec.a <;> simp_all

theorem xfmrFacts_of (T : Topo) (x : Xfmr) (h : xfmrOk T x = true) : XfmrFacts T x := by
  unfold xfmrOk at h
  simp only [Bool.and_eq_true] at h
  obtain ⟨⟨⟨⟨h1, _⟩, _⟩, _⟩, h5⟩ := h
  refine ⟨h1, ?_⟩
  cases hc : xfmrCap T x with
  | none => simp [hc] at h5
  | some v =>
    obtain ⟨k, ops⟩ := v
    simp only [hc, Bool.and_eq_true, decide_eq_true_eq, beq_iff_eq] at h5
    obtain ⟨⟨⟨⟨_, hb⟩, hcc⟩, hn⟩, _⟩ := h5
    cases hno : normOps ops with
    | none => simp [hno] at hn
    | some w =>
      obtain ⟨N, D, odd⟩ := w
      simp only [hno, Bool.and_eq_true, decide_eq_true_eq, Bool.not_eq_true', ne_eq] at hn
      obtain ⟨⟨hodd, hD⟩, hN⟩ := hn
      subst hodd
      exact ⟨k, ops, N, D, rfl, xfmrCap_some T x k ops hc, hb, hcc, hno, hD, hN⟩

theorem secondary_bound (T : Topo) (x : Xfmr) (h : xfmrOk T x = true) (r vt rt : K) (hr : r * r = 3)
    (caps : List K) :
    ∃ k ops, xfmrCap T x = some (k, ops) ∧ tripleOk T x.sec = true ∧ ∀ i ∈ [x.sec.a, x.sec.b, x.sec.c],
      boundOf T r vt rt caps i = caps.getD k 0 * 1000 / 360 + tolOf vt rt (caps.getD k 0 * 1000 / 360) := by
  obtain ⟨htri, k, ops, N, D, hcap, hla, hlb, hlc, hn, _, hN⟩ := xfmrFacts_of T x h
  obtain ⟨hDK, hev⟩ := evalOps_norm r hr ops N D false hn
  have hNK : (N : K) * 360 = 1000 * (D : K) := by exact_mod_cast congrArg (Int.cast (R := K)) hN
  have hL : limK r caps (.ofCap k ops) = caps.getD k 0 * 1000 / 360 := by
    simp only [limK, hev, Bool.false_eq_true, if_false, mul_one]
    field_simp
    linear_combination (caps.getD k 0) * hNK
  refine ⟨k, ops, hcap, htri, fun i hi => ?_⟩
  simp only [List.mem_cons, List.not_mem_nil, or_false] at hi
  rcases hi with rfl | rfl | rfl <;> simp only [boundOf, hla, hlb, hlc, hL]

theorem constLim_eq_some (l : Lim) (n : Int) (d : Nat) : constLim l = some (n, d) ↔ l = .const n d := by
  cases l <;> simp [constLim]

structure PodFacts (T : Topo) (p : Pod) : Prop where
  hrow : p.row < T.rows.length
  lt : ∀ j ∈ p.evses, j < nStations T
  nodup : p.evses.Nodup
  same : ∃ a0, lineAngle a0 = true ∧ ∀ j ∈ p.evses, angleOf T j = a0
  co : ∀ j, j < nStations T → coeff (rowOf T p.row) j = ((if p.evses.contains j then 1 else 0), 1)
  rating : ∃ n d, limOf T p.row = .const n d

theorem podFacts_of (T : Topo) (G : TopoFacts T) (p : Pod) (h : podOk T p = true) : PodFacts T p := by
  unfold podOk at h
  simp only [Bool.and_eq_true, List.all_eq_true, decide_eq_true_eq, List.mem_range, beq_iff_eq] at h
  obtain ⟨⟨⟨⟨⟨h1, h2⟩, h3⟩, h4⟩, h5⟩, h6⟩ := h
  refine ⟨h1, h2, h3, ?_, h5, ?_⟩
  · split at h4
    · simp at h4
    · rename_i j0 tl heq
      rw [List.all_eq_true] at h4
      refine ⟨angleOf T j0, G.ang j0 (h2 j0 (by rw [heq]; simp)), ?_⟩
      intro j hj
      simpa using h4 j hj
  · cases hp : podRating T p with
    | none => simp [hp] at h6
    | some q => exact ⟨q.1, q.2, (constLim_eq_some _ _ _).mp hp⟩

theorem unit_phasor (r : K) (hr : r * r = 3) (a : Int × Nat) (ha : lineAngle a = true) :
    cosK r a * cosK r a + sinK (K := K) a * sinK a = 1 := by
  obtain ⟨c1, c2, c3⟩ := cosK_line r
  obtain ⟨s1, s2, s3⟩ := sinK_line (K := K)
  rcases lineAngle_cases a ha with rfl | rfl | rfl
  · rw [c1, s1]; linear_combination hr / 4
  · rw [c2, s2]; norm_num
  · rw [c3, s3]; linear_combination hr / 4

theorem pod_pt (v c : K) (e : Bool) : (ratK (if e then 1 else 0) 1 : K) * (v * c) = (if e then v else 0) * c := by
  cases e <;> simp [ratK_eq]

/-- `φ` is cos or sin: all EVSEs of a pod share the angle `a0`, so either coordinate of its aggregate is the plain sum
    times `φ a0` -/
theorem pod_agg (T : Topo) (p : Pod) (P : PodFacts T p) (a0 : Int × Nat)
    (hsame : ∀ j ∈ p.evses, angleOf T j = a0) (φ : Int × Nat → K) (c v : List K)
    (hφ : ∀ j, j < nStations T → c.getD j 0 = φ (angleOf T j)) :
    aggRe (denseRow (nStations T) (rowOf T p.row)) v c = groupSum p.evses v * φ a0 := by
  rw [aggRe_denseRow, groupSum_eq p.evses (nStations T) _ P.nodup P.lt, Finset.sum_mul]
  apply Finset.sum_congr rfl
  intro j hj
  have hj := Finset.mem_range.mp hj
  rw [P.co j hj, hφ j hj, pod_pt]
  by_cases hc : p.evses.contains j = true
  · rw [hsame j (by simpa using hc)]
  · have hn : j ∉ p.evses := by simpa using hc
    simp [hn]

theorem pod_current_sq (T : Topo) (G : TopoFacts T) (p : Pod) (P : PodFacts T p)
    (r : K) (hr : r * r = 3) (caps v : List K) :
    aggSq T r caps p.row v = groupSum p.evses v * groupSum p.evses v := by
  obtain ⟨a0, ha0, hsame⟩ := P.same
  have hre : rowRe T r p.row v = _ := pod_agg T p P a0 hsame (cosK r) _ v
    fun j hj => getD_angles T (cosK r) j (by rw [G.angLen]; exact hj)
  have him : rowIm T p.row v = _ := pod_agg T p P a0 hsame sinK _ v
    fun j hj => getD_angles T sinK j (by rw [G.angLen]; exact hj)
  rw [aggSq_eq T r caps v _ P.hrow, hre, him, SitesAlg.same_angle_sq _ _ _ (unit_phasor r hr a0 ha0)]

theorem panelFacts_of (T : Topo) (p : Panel) (h : panelOk T p = true) :
    tripleOk T p.lines = true ∧ ∃ n d, panelRating T p = some (n, d) ∧
      limOf T p.lines.a = .const n d ∧ limOf T p.lines.b = .const n d ∧ limOf T p.lines.c = .const n d := by
  unfold panelOk at h
  simp only [Bool.and_eq_true] at h
  obtain ⟨h1, h2⟩ := h
  refine ⟨h1, ?_⟩
  cases hp : panelRating T p with
  | none => simp [hp] at h2
  | some q =>
    obtain ⟨n, d⟩ := q
    refine ⟨n, d, rfl, ?_⟩
    unfold panelRating at hp
    split at hp
    · rename_i q hq
      split at hp
      · rename_i hcond
        obtain rfl := Option.some.inj hp
        simp only [Bool.and_eq_true, beq_iff_eq, constLim_eq_some] at hcond hq
        exact ⟨hq, hcond.1, hcond.2⟩
      · simp at hp
    · simp at hp

theorem panel_bound (T : Topo) (p : Panel) (h : panelOk T p = true) (r vt rt : K) (caps : List K) :
    ∃ n d, panelRating T p = some (n, d) ∧ tripleOk T p.lines = true ∧ ∀ i ∈ [p.lines.a, p.lines.b, p.lines.c],
      boundOf T r vt rt caps i = ratK n d + tolOf vt rt (ratK n d) := by
  obtain ⟨htri, n, d, hr', hla, hlb, hlc⟩ := panelFacts_of T p h
  refine ⟨n, d, hr', htri, fun i hi => ?_⟩
  simp only [List.mem_cons, List.not_mem_nil, or_false] at hi
  rcases hi with rfl | rfl | rfl <;> simp only [boundOf, hla, hlb, hlc, limK]

theorem primary_pt (p a c : Int × Nat) (hp : 0 < p.2) (ha : a.2 = 1) (hc : c.2 = 1)
    (h : turns * p.1 * (a.2 : Int) * (c.2 : Int) = (a.1 * (c.2 : Int) - c.1 * (a.2 : Int)) * (p.2 : Int)) :
    (ratK p.1 p.2 : K) = (ratK a.1 a.2 - ratK c.1 c.2) / 4 := by
  rw [ha, hc] at h
  simp only [turns, Nat.cast_one, mul_one] at h
  have hK : (4 : K) * (p.1 : K) = ((a.1 : K) - (c.1 : K)) * (p.2 : K) := by exact_mod_cast congrArg (Int.cast (R := K)) h
  have hp' : ((p.2 : Nat) : K) ≠ 0 := by exact_mod_cast (Nat.pos_iff_ne_zero.mp hp)
  rw [ratK_eq, ratK_eq, ratK_eq, ha, hc]
  field_simp
  simp only [Nat.cast_one]
  linear_combination hK

theorem primary_lt (T : Topo) (pri xa xc : Nat) (h : primaryOk T pri xa xc = true) : pri < T.rows.length := by
  unfold primaryOk at h
  simp only [Bool.and_eq_true, decide_eq_true_eq] at h
  exact h.1

/-- real or imaginary part alike: `c` is the list of the cosines or of the sines -/
theorem primary_agg (T : Topo) (pri xa xc : Nat) (h : primaryOk T pri xa xc = true)
    (hden : ∀ j, j < nStations T → (coeff (rowOf T xa) j).2 = 1 ∧ (coeff (rowOf T xc) j).2 = 1)
    (x c : List K) :
    aggRe (denseRow (nStations T) (rowOf T pri)) x c
      = (aggRe (denseRow (nStations T) (rowOf T xa)) x c - aggRe (denseRow (nStations T) (rowOf T xc)) x c) / 4 := by
  unfold primaryOk at h
  simp only [Bool.and_eq_true, List.all_eq_true, decide_eq_true_eq, List.mem_range] at h
  rw [aggRe_denseRow, aggRe_denseRow, aggRe_denseRow, ← Finset.sum_sub_distrib,
    Finset.sum_div]
  apply Finset.sum_congr rfl
  intro j hj
  have hj := Finset.mem_range.mp hj
  rw [primary_pt _ _ _ (h.2 j hj).1 (hden j hj).1 (hden j hj).2 (h.2 j hj).2]
  ring

theorem quarter_diff_sq (ra ia rc ic m : K) (ha : ra * ra + ia * ia ≤ m * m) (hc : rc * rc + ic * ic ≤ m * m) :
    4 * (((ra - rc) / 4) * ((ra - rc) / 4) + ((ia - ic) / 4) * ((ia - ic) / 4)) ≤ m * m := by
  -- (a − c)² ≤ 2a² + 2c²
  linarith [mul_self_nonneg (ra + rc), mul_self_nonneg (ia + ic)]

theorem triple_den (T : Topo) (tr : Triple) (F : TripleFacts T tr) (j : Nat) (hj : j < nStations T) :
    (coeff (rowOf T tr.a) j).2 = 1 ∧ (coeff (rowOf T tr.b) j).2 = 1 ∧ (coeff (rowOf T tr.c) j).2 = 1 := by
  rw [F.ca j hj, F.cb j hj, F.cc j hj]; exact ⟨rfl, rfl, rfl⟩

theorem primary_aggSq (T : Topo) (pri xa xc : Nat)
    (h : primaryOk T pri xa xc = true)
    (hden : ∀ j, j < nStations T → (coeff (rowOf T xa) j).2 = 1 ∧ (coeff (rowOf T xc) j).2 = 1)
    (r : K) (caps x : List K) :
    aggSq T r caps pri x =
      (rowRe T r xa x - rowRe T r xc x) / 4 * ((rowRe T r xa x - rowRe T r xc x) / 4) +
      (rowIm T xa x - rowIm T xc x) / 4 * ((rowIm T xa x - rowIm T xc x) / 4) := by
  rw [aggSq_eq T r caps x _ (primary_lt T pri xa xc h),
    show rowRe T r pri x = _ from primary_agg T pri xa xc h hden x _,
    show rowIm T pri x = _ from primary_agg T pri xa xc h hden x _]
  rfl

theorem primary_implied_row (T : Topo) (pri xa xc : Nat)
    (h : primaryOk T pri xa xc = true) (hxa : xa < T.rows.length) (hxc : xc < T.rows.length)
    (hden : ∀ j, j < nStations T → (coeff (rowOf T xa) j).2 = 1 ∧ (coeff (rowOf T xc) j).2 = 1)
    (r : K) (caps x : List K) (m : K)
    (ha : aggSq T r caps xa x ≤ m * m) (hc : aggSq T r caps xc x ≤ m * m) :
    4 * aggSq T r caps pri x ≤ m * m := by
  rw [aggSq_eq T r caps x _ hxa] at ha
  rw [aggSq_eq T r caps x _ hxc] at hc
  rw [primary_aggSq T pri xa xc h hden r caps x]
  exact quarter_diff_sq _ _ _ _ m ha hc

theorem xfmr_primaryOk (T : Topo) (x : Xfmr) (h : xfmrOk T x = true) :
    primaryOk T x.pa x.sec.a x.sec.c = true ∧ primaryOk T x.pb x.sec.b x.sec.a = true ∧
    primaryOk T x.pc x.sec.c x.sec.b = true := by
  unfold xfmrOk at h
  simp only [Bool.and_eq_true] at h
  exact ⟨h.1.1.1.2, h.1.1.2, h.1.2⟩

/-- where the quadratics come from: `I_pa = ¼(I_a − I_c)` etc. with the 120° forms of `I_a, I_b, I_c` (`aggA_re` …) -/
theorem primary_current_sq (T : Topo) (G : TopoFacts T) (x : Xfmr) (hx : xfmrOk T x = true)
    (r : K) (hr : r * r = 3) (caps v : List K) :
    let X := gsum T x.sec.evses angAB v
    let Y := gsum T x.sec.evses angBC v
    let Z := gsum T x.sec.evses angCA v
    aggSq T r caps x.pa v = (X * X + Y * Y + 4 * (Z * Z) - X * Y + 2 * (X * Z) + 2 * (Y * Z)) / 16 ∧
    aggSq T r caps x.pb v = (4 * (X * X) + Y * Y + Z * Z + 2 * (X * Y) + 2 * (X * Z) - Y * Z) / 16 ∧
    aggSq T r caps x.pc v = (X * X + 4 * (Y * Y) + Z * Z + 2 * (X * Y) - X * Z + 2 * (Y * Z)) / 16 := by
  intro X Y Z
  have F := tripleFacts_of T x.sec (xfmrFacts_of T x hx).tri
  obtain ⟨p1, p2, p3⟩ := xfmr_primaryOk T x hx
  have d := triple_den T x.sec F
  refine ⟨?_, ?_, ?_⟩
  · rw [primary_aggSq T _ _ _ p1 (fun j hj => ⟨(d j hj).1, (d j hj).2.2⟩) r caps v,
      aggA_re T _ F G r v, aggA_im T _ F G v, aggC_re T _ F G r v, aggC_im T _ F G v]
    linear_combination ((X + 2 * Z) * (X + 2 * Z) / 64) * hr
  · rw [primary_aggSq T _ _ _ p2 (fun j hj => ⟨(d j hj).2.1, (d j hj).1⟩) r caps v,
      aggA_re T _ F G r v, aggA_im T _ F G v, aggB_re T _ F G r v, aggB_im T _ F G v]
    linear_combination ((2 * X + Z) * (2 * X + Z) / 64) * hr
  · rw [primary_aggSq T _ _ _ p3 (fun j hj => ⟨(d j hj).2.2, (d j hj).2.1⟩) r caps v,
      aggB_re T _ F G r v, aggB_im T _ F G v, aggC_re T _ F G r v, aggC_im T _ F G v]
    linear_combination ((X - Z) * (X - Z) / 64) * hr

end Acn.SitesXfmr
