/-
  C19 end to end: the StochasticNetwork model never raises inside the run loop (`NoFailH` for
  `stochasticNet` / `stochasticPost`, with the C19 invariant as the history-indexed predicate),
  and what the loop's invariant says about the history at the horizon.

  `Hosts π cs net post`: the state `σ` of a run loop carries a stochastic network at `π : σ → Net` —
  its network operations act on that component as `stochasticNet cs` does and its per-period hook
  acts on it as `Net.post full` for SOME `fully_charged` predicate, which may depend on the period
  and on the whole state (supplied, read off a ledger, computed from the energies).
  `Hosts.noFail`: the network never makes a host's loop raise, and `LoopInv` holds of the component
  all along, so `runGP_spec` / `runGM_spec` / `runGM_last` apply to every host.
-/
import AcnModel.StochasticLoop
import AcnProofs.Lemmas.EventCoreNetH
import AcnProofs.Lemmas.StochasticRun

namespace Acn.Stoch
open Acn Acn.EventCore

/-- the loop's predicate on (event_history, network state); `early` is the constructor's
    `early_departure`, which nothing in the loop writes -/
structure LoopInv (cfg : Cfg) (early : Bool) (hist : List Event) (s : Net) : Prop where
  inv : Inv s
  track : Track hist s
  evs : ∀ e ∈ hist, e.kind ≠ .recompute →
    ∃ y ∈ cfg.sessions, e = EventCore.plugEv y ∨ e = EventCore.unplugEv y
  flag : s.earlyDeparture = early

theorem evs_append {cfg : Cfg} {hist : List Event} {e : Event}
    (h : ∀ e ∈ hist, e.kind ≠ .recompute →
      ∃ y ∈ cfg.sessions, e = EventCore.plugEv y ∨ e = EventCore.unplugEv y)
    (he : e.kind ≠ .recompute → ∃ y ∈ cfg.sessions, e = EventCore.plugEv y ∨ e = EventCore.unplugEv y) :
    ∀ a ∈ hist ++ [e], a.kind ≠ .recompute →
      ∃ y ∈ cfg.sessions, a = EventCore.plugEv y ∨ a = EventCore.unplugEv y := by
  intro a ha hk
  rcases List.mem_append.1 ha with ha | ha
  · exact h a ha hk
  · rw [List.mem_singleton.1 ha] at hk ⊢; exact he hk

theorem stochastic_noFail (cfg : Cfg) (hq : ValidQ cfg) (cs : Nat → Nat) (full : Nat → Sess → Bool)
    (early : Bool) : NoFailH (stochasticNet cs) (stochasticPost full) cfg (LoopInv cfg early) where
  plugin := by
    intro hist s x hx hP hnew
    have ha : (s.ev x.id).arrived = false := by
      by_contra hc
      obtain ⟨a, ha, hk, hs⟩ := (hP.track.arrived_iff x.id).1 (by simpa using hc)
      obtain ⟨y, hy, hay⟩ := hP.evs a ha (by rw [hk]; simp)
      rcases hay with rfl | rfl
      · have := id_inj hq hy hx (by simpa [EventCore.plugEv] using hs)
        subst this; exact hnew ha
      · simp [EventCore.unplugEv] at hk
    obtain ⟨s1, h1, hi1, tr1⟩ := step_ev_plugin (cs := cs) (e := EventCore.plugEv x) hP.inv hP.track rfl ha
    refine ⟨by simp [stochasticNet, liftOp, h1], ?_⟩
    simp only [stochasticNet, liftOp, h1]
    exact ⟨hi1, tr1, evs_append hP.evs (fun _ => ⟨x, hx, Or.inl rfl⟩),
      (processEvent_earlyDeparture h1).trans hP.flag⟩
  unplug := by
    intro hist s x hx hP hin hnew
    have ha : (s.ev x.id).arrived = true :=
      (hP.track.arrived_iff x.id).2 ⟨_, hin, rfl, rfl⟩
    have hd : (s.ev x.id).departed = false := by
      by_contra hc
      obtain ⟨a, ha', hk, hs⟩ := (hP.track.departed_iff x.id).1 (by simpa using hc)
      obtain ⟨y, hy, hay⟩ := hP.evs a ha' (by rw [hk]; simp)
      rcases hay with rfl | rfl
      · simp [EventCore.plugEv] at hk
      · have := id_inj hq hy hx (by simpa [EventCore.unplugEv] using hs)
        subst this; exact hnew ha'
    obtain ⟨s1, h1, hi1, tr1⟩ :=
      step_ev_unplug (cs := cs) (e := EventCore.unplugEv x) hP.inv hP.track rfl ha hd
    refine ⟨by simp [stochasticNet, liftOp, h1], ?_⟩
    simp only [stochasticNet, liftOp, h1]
    exact ⟨hi1, tr1, evs_append hP.evs (fun _ => ⟨x, hx, Or.inr rfl⟩),
      (processEvent_earlyDeparture h1).trans hP.flag⟩
  recomp := by
    intro hist s r _ hP
    exact ⟨hP.inv, hP.track.snoc (e := recEv r) (fun _ => by simp [recEv]) (fun _ => by simp [recEv]),
      evs_append hP.evs (fun h => absurd rfl h), hP.flag⟩
  post := by
    intro hist t s hP
    obtain ⟨s1, h1, hi1, hf, he, -⟩ := hP.inv.post (full t)
    refine ⟨by simp [stochasticPost, liftOp, h1], ?_⟩
    simp only [stochasticPost, liftOp, h1]
    exact ⟨hi1, hP.track.congr hf, hP.evs, he.trans hP.flag⟩

structure Hosts {σ : Type} (π : σ → Net) (cs : Nat → Nat) (net : NetOps σ)
    (post : Nat → σ → σ × Option EventCore.Err) : Prop where
  plugin : ∀ s x, (π (net.plugin s x).1, (net.plugin s x).2) = (stochasticNet cs).plugin (π s) x
  unplug : ∀ s x, (π (net.unplug s x).1, (net.unplug s x).2) = (stochasticNet cs).unplug (π s) x
  post : ∀ t s, ∃ full, (π (post t s).1, (post t s).2) = liftOp (π s) ((π s).post full)

theorem Hosts.noFail {σ : Type} {π : σ → Net} {cs : Nat → Nat} {net : NetOps σ}
    {post : Nat → σ → σ × Option EventCore.Err} (h : Hosts π cs net post) (cfg : Cfg) (hq : ValidQ cfg)
    (early : Bool) : NoFailH net post cfg (fun hist s => LoopInv cfg early hist (π s)) :=
  (stochastic_noFail cfg hq cs (fun _ _ => false) early).comap π h.plugin h.unplug fun hist t s hP => by
    obtain ⟨full, hf⟩ := h.post t s
    have := (stochastic_noFail cfg hq cs (fun _ => full) early).post hist t (π s) hP
    rw [stochasticPost, ← hf] at this
    exact this

/-- the network alone, `fully_charged` supplied per period -/
theorem hosts_id (cs : Nat → Nat) (full : Nat → Sess → Bool) :
    Hosts id cs (stochasticNet cs) (stochasticPost full) :=
  ⟨fun _ _ => rfl, fun _ _ => rfl, fun t _ => ⟨full t, rfl⟩⟩

/-- any energy ledger threaded next to the network state, `fully_charged` read off the ledger -/
theorem hosts_ledger {L : Type} (cs : Nat → Nat) (led : Ledger L) :
    Hosts Prod.fst cs (stochasticNetL (L := L) cs) (stochasticPostL led) :=
  ⟨fun _ _ => rfl, fun _ _ => rfl, fun t s => ⟨led.full (led.charge t s.1 s.2), rfl⟩⟩

theorem loopInv_init (cfg : Cfg) (hst : cfg.stations.Nodup) (early : Bool) :
    LoopInv cfg early [] (net0 cfg early) :=
  ⟨Inv.init _ _ _ hst, Track.init _ _ _, fun e he => by simp at he, rfl⟩

theorem hist_complete_at_horizon {cfg : Cfg} {c : Core}
    (hI : InvG cfg (EventCore.horizon cfg) c) :
    ∀ e ∈ c.eventHist, e.kind = .plugin → ∃ u ∈ c.eventHist, u.kind = .unplug ∧ u.sess = e.sess := by
  intro e he hk
  rcases (hI.hist_mem e).1 he with ⟨x, hx, rfl, _⟩ | ⟨x, _, rfl, _⟩ | ⟨r, _, rfl, _⟩
  · exact ⟨EventCore.unplugEv x,
      (hI.hist_mem _).2 (Or.inr (Or.inl ⟨x, hx, rfl, horizon_relabel (cfg := cfg) ▸ dep_lt_horizon hx⟩)), rfl, rfl⟩
  · simp [EventCore.unplugEv] at hk
  · simp [recEv] at hk

end Acn.Stoch
