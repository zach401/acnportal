/-
  C17 — obligations on the REGENERATED data of tariff file `sce_tou_ev_8_oct_2018.json`
  (`AcnModel/Gen/Tariffs.lean`, rewritten from the working tree on every run).
  One module per file: if this file's data breaks an obligation, only this module fails.
-/
import AcnModel.Gen.Tariffs
import AcnProofs.C17

namespace Acn.C17
open Acn.Tariff Acn.Gen.Tariffs

/-- the loader accepts the file (masks are legal, every breakpoint list starts at 0) -/
theorem loads_sce_tou_ev_8_oct_2018 : loadsOk sce_tou_ev_8_oct_2018 = true := by decide +kernel

/-- on every (month, day) of the complete 366-day table and every weekday exactly one schedule
    of the loaded file is valid — no gap, no ambiguity, for all 14 calendar types -/
theorem total_unambiguous_sce_tou_ev_8_oct_2018 :
    ∀ md ∈ days366, ∀ wd < 7, countValid (loadedOf sce_tou_ev_8_oct_2018) md wd = 1 :=
  table_of_scan _ none _ (fun _ => nofun) (by decide +kernel)

/-- every breakpoint list is strictly increasing, starts at 0 and sits on half hours -/
theorem breakpoints_ok_sce_tou_ev_8_oct_2018 : ∀ sch ∈ loadedOf sce_tou_ev_8_oct_2018, breakpointsOk sch = true := by
  decide +kernel

/-- `get_tariff` and `get_demand_charge` succeed at EVERY instant (any year, any second) -/
theorem tariff_total_sce_tou_ev_8_oct_2018 (t : Int) :
    (∃ r, getTariffAt (loadedOf sce_tou_ev_8_oct_2018) t = .ok r) ∧ (∃ d, getDemandAt (loadedOf sce_tou_ev_8_oct_2018) t = .ok d) :=
  tariff_total_of_table _ total_unambiguous_sce_tou_ev_8_oct_2018 breakpoints_ok_sce_tou_ev_8_oct_2018 t

/-- at EVERY instant the price is the rate of the unique valid schedule at the greatest breakpoint
    `k/2 h` with `1800·k ≤ seconds since midnight` -/
theorem tariff_spec_sce_tou_ev_8_oct_2018 (t : Int) :
    ∃ sch ∈ loadedOf sce_tou_ev_8_oct_2018, selectSchedule (loadedOf sce_tou_ev_8_oct_2018) (fieldsOf t).md (fieldsOf t).wd = .ok sch ∧
      ∃ p ∈ sch.tariffs, ∃ kp : Nat, getTariffAt (loadedOf sce_tou_ev_8_oct_2018) t = .ok p.2 ∧ p.1 = (kp : ℚ) / 2 ∧
        1800 * kp ≤ secOfDay (fieldsOf t).h (fieldsOf t).m (fieldsOf t).s ∧
        ∀ q ∈ sch.tariffs, ∀ kq : Nat, q.1 = (kq : ℚ) / 2 →
          1800 * kq ≤ secOfDay (fieldsOf t).h (fieldsOf t).m (fieldsOf t).s → kq ≤ kp :=
  get_tariff_at_spec _ total_unambiguous_sce_tou_ev_8_oct_2018 breakpoints_ok_sce_tou_ev_8_oct_2018 t

example : 2 ≤ (loadedOf sce_tou_ev_8_oct_2018).length := by decide +kernel

end Acn.C17
