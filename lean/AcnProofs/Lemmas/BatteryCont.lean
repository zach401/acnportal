/-
  The closed form of `Linear2StageBattery._charge` (`Battery.contSoc`) in terms of the
  normalised flow `W` of `BatteryFlow.lean`, and the consequences at the level of SoC:
  bounds, semigroup (period splitting), monotonicity, the differential law.

  `flowSoc p κ s t` is the SoC after time `t` (in periods) from SoC `s`, for a pilot rate `p`
  (SoC per period, already clamped at the maximum rate) and `κ = max_rate / (1 − transition_soc)`.
-/
import AcnProofs.Lemmas.BatteryAlg
import AcnProofs.Lemmas.BatteryFlow

namespace Acn.BattFlow
open Real Set Filter Topology Acn.Battery

theorem W_nonneg {w θ : ℝ} (hw : 0 ≤ w) : 0 ≤ W w θ := by
  rcases eq_or_lt_of_le hw with h | h
  · rw [← h, W_ramp (by norm_num)]; simp
  · exact (W_pos h).le

noncomputable def flowSoc (p κ s t : ℝ) : ℝ := 1 - p / κ * W (κ * (1 - s) / p) (κ * t)

section flow
variable {p κ s t : ℝ}

/-- `p / κ` is the unit in which `w = κ (1 − s) / p` measures the remaining SoC -/
theorem unscale (hp : 0 < p) (hκ : 0 < κ) (x : ℝ) : p / κ * (κ * x / p) = x := by field_simp

theorem flowSoc_zero (hp : 0 < p) (hκ : 0 < κ) : flowSoc p κ s 0 = s := by
  unfold flowSoc; rw [mul_zero, W_zero, unscale hp hκ, sub_sub_cancel]

/-- the normalised remaining SoC after `t` -/
theorem flowSoc_w (hp : 0 < p) (hκ : 0 < κ) :
    κ * (1 - flowSoc p κ s t) / p = W (κ * (1 - s) / p) (κ * t) := by
  unfold flowSoc; field_simp; ring

theorem flowSoc_semigroup (hp : 0 < p) (hκ : 0 < κ) {a b : ℝ} (ha : 0 ≤ a) (hb : 0 ≤ b) :
    flowSoc p κ (flowSoc p κ s a) b = flowSoc p κ s (a + b) := by
  have h := flowSoc_w (s := s) (t := a) hp hκ
  unfold flowSoc at h ⊢
  rw [h, W_semigroup _ (mul_nonneg hκ.le ha) (mul_nonneg hκ.le hb), mul_add]

theorem flowSoc_bounds (hp : 0 < p) (hκ : 0 < κ) (hs : s ≤ 1) (ht : 0 ≤ t) :
    s ≤ flowSoc p κ s t ∧ flowSoc p κ s t - s ≤ p * t ∧ flowSoc p κ s t ≤ 1 := by
  have hw : 0 ≤ κ * (1 - s) / p := div_nonneg (mul_nonneg hκ.le (sub_nonneg.mpr hs)) hp.le
  have hθ : 0 ≤ κ * t := mul_nonneg hκ.le ht
  have hc : 0 ≤ p / κ := (div_pos hp hκ).le
  -- `W_le`, `W_ge`, `W_nonneg` scaled by `p/κ`
  have h1 := mul_le_mul_of_nonneg_left (W_le hw hθ) hc
  have h2 := mul_le_mul_of_nonneg_left (W_ge hw hθ) hc
  have h3 := mul_nonneg hc (W_nonneg (θ := κ * t) hw)
  have e2 : p / κ * (κ * t) = p * t := by field_simp
  rw [unscale hp hκ] at h1
  rw [mul_sub, unscale hp hκ, e2] at h2
  unfold flowSoc
  exact ⟨by linarith, by linarith, by linarith⟩

theorem flowSoc_mono_t (hp : 0 < p) (hκ : 0 < κ) (hs : s ≤ 1) {t1 t2 : ℝ} (h1 : 0 ≤ t1)
    (h12 : t1 ≤ t2) : flowSoc p κ s t1 ≤ flowSoc p κ s t2 := by
  have e : t2 = t1 + (t2 - t1) := by ring
  rw [e, ← flowSoc_semigroup hp hκ h1 (by linarith)]
  exact (flowSoc_bounds hp hκ (flowSoc_bounds hp hκ hs h1).2.2 (by linarith)).1

theorem flowSoc_mono_p {p1 p2 : ℝ} (hp1 : 0 < p1) (h12 : p1 ≤ p2) (hκ : 0 < κ) (ht : 0 ≤ t) :
    flowSoc p1 κ s t ≤ flowSoc p2 κ s t := by
  have hp2 : 0 < p2 := lt_of_lt_of_le hp1 h12
  rcases le_or_gt (κ * (1 - s)) 0 with hc | hc
  · have w1 : κ * (1 - s) / p1 ≤ 1 := le_trans (div_nonpos_of_nonpos_of_nonneg hc hp1.le) zero_le_one
    have w2 : κ * (1 - s) / p2 ≤ 1 := le_trans (div_nonpos_of_nonpos_of_nonneg hc hp2.le) zero_le_one
    unfold flowSoc
    rw [W_ramp w1, W_ramp w2]
    apply le_of_eq; field_simp
  · -- the SoC still missing after `t` is `1 - s` times the ratio `W w θ / w` at `w = κ (1 - s) / p`
    have hs : 0 < 1 - s := (pos_iff_pos_of_mul_pos hc).mp hκ
    have e : ∀ p, 0 < p → flowSoc p κ s t = 1 - (1 - s) * (W (κ * (1 - s) / p) (κ * t) / (κ * (1 - s) / p)) :=
      fun p hp => by unfold flowSoc; field_simp
    rw [e p1 hp1, e p2 hp2]
    exact sub_le_sub_left (mul_le_mul_of_nonneg_left (W_ratio_monotoneOn (mul_nonneg hκ.le ht)
      (div_pos hc hp2) (div_pos hc hp1) (div_le_div_of_nonneg_left hc.le hp1 h12)) hs.le) 1

/-- the closed form solves the documented law `ds/dt = min p (κ (1 − s))` -/
theorem flowSoc_hasDerivAt (hp : 0 < p) (hκ : 0 < κ) (ht : 0 ≤ t) :
    HasDerivAt (fun τ => flowSoc p κ s τ) (min p (κ * (1 - flowSoc p κ s t))) t := by
  have hW := W_hasDerivAt (κ * (1 - s) / p) (mul_nonneg hκ.le ht)
  have hk : HasDerivAt (fun τ : ℝ => κ * τ) κ t := by
    simpa using (hasDerivAt_id t).const_mul κ
  have hc := hW.comp t hk
  have h1 := (hc.const_mul (p / κ)).const_sub 1
  have hval : min p (κ * (1 - flowSoc p κ s t)) =
      -(p / κ * (-(min 1 (W (κ * (1 - s) / p) (κ * t))) * κ)) := by
    have : κ * (1 - flowSoc p κ s t) = p * W (κ * (1 - s) / p) (κ * t) := by
      unfold flowSoc; field_simp; ring
    rw [this]
    have : p = p * 1 := (mul_one p).symm
    conv_lhs => rw [this, mul_assoc, one_mul, ← mul_min_of_nonneg _ _ hp.le]
    field_simp
  rw [hval]
  exact h1

end flow

/-! ### `contSoc` is the flow -/

theorem contPd_eq (pd0 md : ℝ) : (if md < pd0 then md else pd0) = min pd0 md := by
  rw [← pyMin_eq_min]; rfl

/-- `battery.py:240-275`, regime by regime.  With `p = min pilot_dsoc max_dsoc` and
    `κ = max_dsoc/(1−ts)` the code's `pilot_transition_soc` is `1 − p/κ`; below it the SoC rises
    at the rate `p` (for the whole period, or until it crosses), above it the remaining SoC decays
    at the rate `κ`. -/
theorem contSoc_regimes {s ts pd0 md : ℝ} (hmd : 0 < md) (hpd : 0 < pd0) (hts : ts < 1) :
    contSoc s ts pd0 md =
      if s < 1 - min pd0 md / (md / (1 - ts)) then
        if s + min pd0 md ≤ 1 - min pd0 md / (md / (1 - ts)) then s + min pd0 md
        else 1 - (min pd0 md / (md / (1 - ts))) *
          exp (-(md / (1 - ts)) * (s + min pd0 md - (1 - min pd0 md / (md / (1 - ts)))) / min pd0 md)
      else 1 - (1 - s) * exp (-(md / (1 - ts))) := by
  have hp : 0 < min pd0 md := lt_min hpd hmd
  have hκ : 0 < md / (1 - ts) := div_pos hmd (sub_pos.mpr hts)
  have hpts : ts + (min pd0 md - md) / md * (ts - 1) = 1 - min pd0 md / (md / (1 - ts)) := by
    rw [BattAlg.contPts_eq hmd.ne', div_div_eq_mul_div, mul_div_right_comm]
  unfold contSoc
  simp only [contPd_eq, hpts, HasExp.exp]
  generalize min pd0 md = p at hp ⊢
  generalize md / (1 - ts) = κ at hκ ⊢
  have e0 : 1 - p / κ - 1 = -(p / κ) := by ring
  have e1 : ∀ x : ℝ, x / -(p / κ) = -κ * x / p := fun x => by field_simp
  rw [e0, e1, e1, mul_div_cancel_right₀ _ hp.ne', add_comm p s]
  refine ite_congr rfl (fun _ => ite_congr ?_ (fun _ => rfl) fun _ => ?_) fun _ => ?_
  · rw [one_le_div hp, le_sub_iff_add_le, add_comm p s]
  · ring
  · ring

/-- `battery.py:240-275` for one period: the three branches are the three regimes of the flow -/
theorem contSoc_eq_flow {s ts pd0 md : ℝ} (hmd : 0 < md) (hpd : 0 < pd0) (hts : ts < 1) :
    contSoc s ts pd0 md = flowSoc (min pd0 md) (md / (1 - ts)) s 1 := by
  have hp : 0 < min pd0 md := lt_min hpd hmd
  have hκ : 0 < md / (1 - ts) := div_pos hmd (sub_pos.mpr hts)
  rw [contSoc_regimes hmd hpd hts]
  unfold flowSoc
  generalize min pd0 md = p at hp ⊢
  generalize md / (1 - ts) = κ at hκ ⊢
  -- `w` is the remaining SoC in units of `p/κ`
  have hw := unscale hp hκ (1 - s)
  have hwlt : 1 < κ * (1 - s) / p ↔ s < 1 - p / κ := by
    rw [lt_div_iff₀ hp, one_mul, lt_sub_comm, div_lt_iff₀ hκ, mul_comm]
  rw [mul_one]
  split_ifs with h h2
  · have hθ : κ ≤ κ * (1 - s) / p - 1 := by
      have h2' : p ≤ (1 - s - p) * κ := by rw [← div_le_iff₀ hκ]; linarith
      rw [le_sub_iff_add_le, le_div_iff₀ hp]
      linarith
    rw [W_lin (hwlt.mpr h) hθ, mul_sub, hw, div_mul_cancel₀ _ hκ.ne']
    ring
  · have hθ : κ * (1 - s) / p - 1 < κ := by
      have h2' : (1 - s - p) * κ < p := by rw [← lt_div_iff₀ hκ]; linarith
      rw [sub_lt_iff_lt_add, div_lt_iff₀ hp]
      linarith
    rw [W_cross (hwlt.mpr h) hθ]
    congr 3
    field_simp
    ring
  · rw [W_ramp (not_lt.mp (hwlt.not.mpr h)), ← mul_assoc, hw]

/-- … and for an elapsed time `t` (both SoC rates are proportional to the period length) -/
theorem contSoc_eq_flow_t {s ts p0 m t : ℝ} (hm : 0 < m) (hp0 : 0 < p0) (hts : ts < 1)
    (ht : 0 < t) : contSoc s ts (p0 * t) (m * t) = flowSoc (min p0 m) (m / (1 - ts)) s t := by
  have h1ts : 0 < 1 - ts := by linarith
  rw [contSoc_eq_flow (mul_pos hm ht) (mul_pos hp0 ht) hts]
  have hp : 0 < min p0 m := lt_min hp0 hm
  unfold flowSoc
  rw [← min_mul_of_nonneg _ _ ht.le]
  have e1 : min p0 m * t / (m * t / (1 - ts)) = min p0 m / (m / (1 - ts)) := by field_simp
  have e2 : m * t / (1 - ts) * (1 - s) / (min p0 m * t) = m / (1 - ts) * (1 - s) / min p0 m := by
    field_simp
  rw [e1, e2, mul_one]; congr 2; ring_nf

end Acn.BattFlow
