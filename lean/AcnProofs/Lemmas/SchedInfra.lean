/-
  What the constraint containers of the network model of C12 (`Network.Net`) hold after "register every station,
  then add the constraints" — the history by which every simulator of the harness (and of the tutorials) builds
  its network (C05, infrastructure view).
-/
import AcnModel.SchedView
import AcnProofs.Lemmas.NetworkOps
import Mathlib.Tactic

namespace Acn.Sim
open Acn Acn.Network

variable {K : Type}

theorem run_nil [OfNat K 0] (n : Net K) : Net.run n [] = n := rfl

theorem _root_.Acn.Network.Net.run_cons [OfNat K 0] (n : Net K) (o : Op K) (os : List (Op K)) :
    Net.run n (o :: os) = Net.run (n.step o).1 os := rfl

theorem run_registers [OfNat K 0] : ∀ (ids : List String) (n : Net K), n.matrix = none →
    (∀ s ∈ ids, s ∉ n.stations) → ids.Nodup →
    Net.run n (ids.map Op.register) = { n with stations := n.stations ++ ids } := by
  intro ids
  induction ids with
  | nil => intro n _ _ _; simp [run_nil]
  | cons s rest ih =>
    intro n hm hfresh hnd
    rw [List.map_cons, Net.run_cons]
    have hs : s ∉ n.stations := hfresh s (by simp)
    have hstep : (n.step (Op.register s)).1 = { n with stations := n.stations ++ [s] } := by
      simp [Net.step, Net.register, hm, hs]
    have hfresh' : ∀ t ∈ rest, t ∉ ({ n with stations := n.stations ++ [s] } : Net K).stations := by
      intro t ht
      simp only [List.mem_append, List.mem_singleton, not_or]
      exact ⟨hfresh t (by simp [ht]), fun h => (List.nodup_cons.1 hnd).1 (h ▸ ht)⟩
    rw [hstep, ih { n with stations := n.stations ++ [s] } hm hfresh' (List.nodup_cons.1 hnd).2]
    simp

theorem run_register_stations [OfNat K 0] (cfg : Cfg K) (hnd : (cfg.stations.map (·.id)).Nodup) :
    Net.run Net.init (cfg.stations.map fun st => Op.register (K := K) st.id) =
      ⟨cfg.stations.map (·.id), none, [], []⟩ := by
  have hmap : (cfg.stations.map fun st => Op.register (K := K) st.id) =
      (cfg.stations.map (·.id)).map Op.register := by simp
  rw [hmap, run_registers _ Net.init rfl (by simp [Net.init]) hnd]
  simp [Net.init]

theorem addConstraint_ok [OfNat K 0] (n : Net K) (c : Current K) (l : K) (nm : Option String)
    (hlen : (n.matrix.getD []).length = n.index.length) (hk : ∀ k ∈ c.keys, k ∈ n.stations) :
    (n.addConstraint c l nm).1.stations = n.stations ∧
    (n.addConstraint c l nm).1.matrix = some (n.matrix.getD [] ++ [Net.row n.stations c]) ∧
    (n.addConstraint c l nm).1.magnitudes = n.magnitudes ++ [l] ∧
    (n.addConstraint c l nm).1.index = n.index ++ [Net.resolveName n.index nm] := by
  rw [addConstraint_eq, if_pos hk, if_pos hlen]
  exact ⟨rfl, rfl, rfl, rfl⟩

theorem run_adds [OfNat K 0] : ∀ (cs : List (Current K × K × Option String)) (n : Net K),
    (n.matrix.getD []).length = n.index.length →
    (∀ c ∈ cs, ∀ k ∈ c.1.keys, k ∈ n.stations) →
    (Net.run n (cs.map fun c => Op.add c.1 c.2.1 c.2.2)).stations = n.stations ∧
    (Net.run n (cs.map fun c => Op.add c.1 c.2.1 c.2.2)).matrix.getD [] =
      n.matrix.getD [] ++ cs.map (fun c => Net.row n.stations c.1) ∧
    (Net.run n (cs.map fun c => Op.add c.1 c.2.1 c.2.2)).magnitudes = n.magnitudes ++ cs.map (·.2.1) ∧
    (Net.run n (cs.map fun c => Op.add c.1 c.2.1 c.2.2)).index =
      cs.foldl (fun ix c => ix ++ [Net.resolveName ix c.2.2]) n.index := by
  intro cs
  induction cs with
  | nil => intro n _ _; simp [run_nil]
  | cons c rest ih =>
    intro n hlen hk
    rw [List.map_cons, Net.run_cons]
    obtain ⟨a1, a2, a3, a4⟩ := addConstraint_ok n c.1 c.2.1 c.2.2 hlen (hk c (by simp))
    have hstep : (n.step (Op.add c.1 c.2.1 c.2.2)).1 = (n.addConstraint c.1 c.2.1 c.2.2).1 := rfl
    rw [hstep]
    obtain ⟨i1, i2, i3, i4⟩ := ih (n.addConstraint c.1 c.2.1 c.2.2).1
      (by rw [a2, a4]; simp [hlen])
      (fun d hd k hkk => by rw [a1]; exact hk d (by simp [hd]) k hkk)
    refine ⟨i1.trans a1, ?_, ?_, ?_⟩
    · rw [i2, a2, a1]; simp
    · rw [i3, a3]; simp
    · rw [i4, a4]; rfl

theorem resolved_length (cs : List (Current K × K × Option String)) (ix : List String) :
    (cs.foldl (fun ix c => ix ++ [Net.resolveName ix c.2.2]) ix).length = ix.length + cs.length := by
  induction cs generalizing ix with
  | nil => rfl
  | cons c rest ih =>
    rw [List.foldl_cons, ih, List.length_append, List.length_singleton, List.length_cons]
    omega

theorem resolved_named (cs : List (Current K × K × Option String)) (ix : List String)
    (hsome : ∀ c ∈ cs, c.2.2.isSome) (hnd : (ix ++ cs.filterMap (·.2.2)).Nodup) :
    cs.foldl (fun ix c => ix ++ [Net.resolveName ix c.2.2]) ix = ix ++ cs.filterMap (·.2.2) := by
  induction cs generalizing ix with
  | nil => rw [List.foldl_nil, List.filterMap_nil, List.append_nil]
  | cons c rest ih =>
    obtain ⟨s, hs⟩ := Option.isSome_iff_exists.1 (hsome c List.mem_cons_self)
    have hfm : (c :: rest).filterMap (·.2.2) = s :: rest.filterMap (·.2.2) := List.filterMap_cons_some hs
    rw [hfm] at hnd ⊢
    have hnotin : s ∉ ix := fun h => (List.nodup_append.1 hnd).2.2 s h s List.mem_cons_self rfl
    -- a given name that is free is taken as it is
    have hres : Net.resolveName ix c.2.2 = s := by
      rw [hs]
      exact if_neg hnotin
    rw [List.foldl_cons, hres, ih _ (fun d hd => hsome d (List.mem_cons_of_mem _ hd))
      (by rwa [List.append_assoc, List.singleton_append]), List.append_assoc, List.singleton_append]

end Acn.Sim
