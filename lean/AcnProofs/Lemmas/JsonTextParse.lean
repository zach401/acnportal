/-
  The round trip `parse (render v) = some v` — `json.loads(json.dumps(v)) = v` — by mutual structural induction over
  values, element lists and member lists.
-/
import AcnProofs.Lemmas.JsonTextDoc
namespace Acn.JsonText

theorem parseVal_atom (f : Nat) (c : Char) (r : List Char) (h1 : c ≠ '"') (h2 : c ≠ '[') (h3 : c ≠ '{') :
    parseVal (f + 1) (c :: r) = parseAtom (c :: r) := by
  rw [parseVal]; simp [h1, h2, h3]

theorem parseVal_numTok (f : Nat) {t : List Char} (rest : List Char) (hs : startsNum t = true) :
    parseVal (f + 1) (t ++ rest) = parseAtom (t ++ rest) := by
  obtain ⟨c, r, rfl, hp⟩ := startsNum_head t hs
  exact parseVal_atom _ _ _ hp.2.2.1 hp.2.2.2.1 hp.2.2.2.2.1

theorem parseVal_str (f : Nat) (r r' s : List Char) (h : scanStr none r = some (s, r')) :
    parseVal (f + 1) ('"' :: r) = some (.str (String.ofList s), r') := by
  rw [parseVal]; simp [h]

theorem parseVal_arr_nil (f : Nat) (r r2 : List Char) (h : skipWs r = ']' :: r2) :
    parseVal (f + 1) ('[' :: r) = some (.arr [], r2) := by
  rw [parseVal]; simp [h]

theorem parseVal_arr_cons (f : Nat) (r r2 r3 r4 : List Char) (c2 : Char) (v : JVal) (l : List JVal)
    (h : skipWs r = c2 :: r2) (hc : c2 ≠ ']') (hv : parseVal f (c2 :: r2) = some (v, r3))
    (ht : parseTail f r3 = some (l, r4)) :
    parseVal (f + 1) ('[' :: r) = some (.arr (v :: l), r4) := by
  rw [parseVal]; simp [h, hc, hv, ht]

theorem parseVal_obj_nil (f : Nat) (r r2 : List Char) (h : skipWs r = '}' :: r2) :
    parseVal (f + 1) ('{' :: r) = some (.obj [], r2) := by
  rw [parseVal]; simp [h]

theorem parseVal_obj_cons (f : Nat) (r r2 r3 r4 : List Char) (c2 : Char) (kv : String × JVal)
    (l : List (String × JVal))
    (h : skipWs r = c2 :: r2) (hc : c2 ≠ '}') (hv : parseMember f (c2 :: r2) = some (kv, r3))
    (ht : parseMTail f r3 = some (l, r4)) :
    parseVal (f + 1) ('{' :: r) = some (.obj (kv :: l), r4) := by
  rw [parseVal]; simp [h, hc, hv, ht]

theorem parseTail_end (f : Nat) (cs r : List Char) (h : skipWs cs = ']' :: r) :
    parseTail (f + 1) cs = some ([], r) := by
  rw [parseTail]; simp [h]

theorem parseTail_more (f : Nat) (cs r r' r'' : List Char) (v : JVal) (l : List JVal)
    (h : skipWs cs = ',' :: r) (hv : parseVal f (skipWs r) = some (v, r')) (ht : parseTail f r' = some (l, r'')) :
    parseTail (f + 1) cs = some (v :: l, r'') := by
  rw [parseTail]; simp [h, hv, ht]

theorem parseMTail_end (f : Nat) (cs r : List Char) (h : skipWs cs = '}' :: r) :
    parseMTail (f + 1) cs = some ([], r) := by
  rw [parseMTail]; simp [h]

theorem parseMTail_more (f : Nat) (cs r r' r'' : List Char) (kv : String × JVal) (l : List (String × JVal))
    (h : skipWs cs = ',' :: r) (hv : parseMember f (skipWs r) = some (kv, r'))
    (ht : parseMTail f r' = some (l, r'')) :
    parseMTail (f + 1) cs = some (kv :: l, r'') := by
  rw [parseMTail]; simp [h, hv, ht]

theorem parseMember_ok (f : Nat) (r0 r1 r2 r3 k : List Char) (v : JVal)
    (hk : scanStr none r0 = some (k, r1)) (hc : skipWs r1 = ':' :: r2)
    (hv : parseVal f (skipWs r2) = some (v, r3)) :
    parseMember (f + 1) ('"' :: r0) = some ((String.ofList k, v), r3) := by
  rw [parseMember]; simp [hk, hc, hv]


theorem delim_renderTail (l : List JVal) (rest : List Char) : Delim (renderTail l ++ ']' :: rest) := by
  cases l <;> exact delim_cons _ _ (by decide)

theorem delim_renderMTail (l : List (String × JVal)) (rest : List Char) : Delim (renderMTail l ++ '}' :: rest) := by
  rcases l with _ | ⟨⟨_, _⟩, _⟩ <;> exact delim_cons _ _ (by decide)

theorem skipWs_space_render {v : JVal} (hw : v.wf = true) (tail : List Char) :
    skipWs (' ' :: (render v ++ tail)) = render v ++ tail := by
  obtain ⟨c, t, h, hws, _⟩ := render_head v hw
  rw [skipWs_space, h, List.cons_append, skipWs_of_head _ _ hws]

theorem parseMember_render {f : Nat} {k : String} {v : JVal} {tail : List Char} (hw : v.wf = true)
    (hv : parseVal f (render v ++ tail) = some (v, tail)) :
    parseMember (f + 1) ('"' :: (escape k.toList ++ '"' :: ':' :: ' ' :: (render v ++ tail))) = some ((k, v), tail) := by
  rw [parseMember_ok f _ _ _ _ _ v (scanStr_escape k.toList _) (skipWs_of_head _ _ (by decide))
    (by rw [skipWs_space_render hw]; exact hv), String.ofList_toList]

theorem JVal.cost_pos (v : JVal) : 1 ≤ v.cost := by
  cases v <;> simp [JVal.cost]

theorem costList_pos (l : List JVal) : 1 ≤ costList l := by
  cases l <;> simp only [costList] <;> omega

theorem costMembers_pos (l : List (String × JVal)) : 1 ≤ costMembers l := by
  rcases l with _ | ⟨⟨_, _⟩, _⟩ <;> simp only [costMembers] <;> omega

mutual
theorem parseVal_render : ∀ (v : JVal) (f : Nat) (rest : List Char), v.wf = true → v.cost ≤ f → Delim rest →
    parseVal f (render v ++ rest) = some (v, rest)
  | v, 0, _, _, hc, _ => absurd hc (by have := v.cost_pos; omega)
  | .null, f' + 1, rest, _, hc, _ => by
    simp only [render, List.cons_append]
    rw [parseVal_atom _ _ _ (by decide) (by decide) (by decide)]
    exact parseAtom_null rest
  | .bool true, f' + 1, rest, _, hc, _ => by
    simp only [render, if_true, List.cons_append]
    rw [parseVal_atom _ _ _ (by decide) (by decide) (by decide)]
    exact parseAtom_true rest
  | .bool false, f' + 1, rest, _, hc, _ => by
    simp only [render, Bool.false_eq_true, if_false, List.cons_append]
    rw [parseVal_atom _ _ _ (by decide) (by decide) (by decide)]
    exact parseAtom_false rest
  | .int n, f' + 1, rest, _, hc, hd => by
    rw [render, parseVal_numTok f' rest (isIntTok_numTok (isIntTok_renderInt n)).2]
    exact parseAtom_int n rest hd
  | .num t, f' + 1, rest, hw, hc, hd => by
    have hw' : isFloatTok t = true := hw
    rw [render, parseVal_numTok f' rest (isFloatTok_numTok hw').2]
    exact parseAtom_float t rest hw' hd
  | .str s, f' + 1, rest, _, hc, _ => by
    simp only [render, renderStr, List.cons_append, List.append_assoc, List.nil_append]
    rw [parseVal_str _ _ _ _ (scanStr_escape s.toList rest), String.ofList_toList]
  | .arr [], f' + 1, rest, _, hc, _ => by
    simp only [render, List.cons_append, List.nil_append]
    exact parseVal_arr_nil _ _ _ (skipWs_of_head _ _ (by decide))
  | .arr (v :: l), f' + 1, rest, hw, hc, hd => by
    simp only [JVal.wf, wfList, Bool.and_eq_true] at hw
    simp only [JVal.cost, costList] at hc
    obtain ⟨c, t, h, hws, h1⟩ := render_head v hw.1
    have hv := parseVal_render v f' (renderTail l ++ ']' :: rest) hw.1 (by omega) (delim_renderTail l rest)
    have ht := parseTail_render l f' rest hw.2 (by omega)
    simp only [render, List.cons_append, List.append_assoc, List.nil_append]
    rw [h] at hv ⊢
    exact parseVal_arr_cons _ _ _ _ _ _ _ _ (skipWs_of_head _ _ hws) h1 hv ht
  | .obj [], f' + 1, rest, _, hc, _ => by
    simp only [render, List.cons_append, List.nil_append]
    exact parseVal_obj_nil _ _ _ (skipWs_of_head _ _ (by decide))
  | .obj ((k, v) :: l), f' + 1, rest, hw, hc, hd => by
    simp only [JVal.wf, wfMembers, Bool.and_eq_true] at hw
    simp only [JVal.cost, costMembers] at hc
    have hf2 : 1 ≤ f' := by omega
    obtain ⟨f'', rfl⟩ := Nat.exists_eq_add_one.2 hf2
    have hv := parseVal_render v f'' (renderMTail l ++ '}' :: rest) hw.1 (by omega) (delim_renderMTail l rest)
    have ht := parseMTail_render l (f'' + 1) rest hw.2 (by omega)
    simp only [render, renderStr, List.cons_append, List.append_assoc, List.nil_append]
    exact parseVal_obj_cons _ _ _ _ _ _ _ _ (skipWs_of_head _ _ (by decide)) (by decide)
      (parseMember_render hw.1 hv) ht
theorem parseTail_render : ∀ (l : List JVal) (f : Nat) (rest : List Char), wfList l = true → costList l ≤ f →
    parseTail f (renderTail l ++ ']' :: rest) = some (l, rest)
  | l, 0, _, _, hc => absurd hc (by have := costList_pos l; omega)
  | [], f' + 1, rest, _, hc => by
    simp only [renderTail, List.nil_append]
    exact parseTail_end _ _ _ (skipWs_of_head _ _ (by decide))
  | v :: l, f' + 1, rest, hw, hc => by
    simp only [wfList, Bool.and_eq_true] at hw
    simp only [costList] at hc
    have hv := parseVal_render v f' (renderTail l ++ ']' :: rest) hw.1 (by omega) (delim_renderTail l rest)
    have ht := parseTail_render l f' rest hw.2 (by omega)
    simp only [renderTail, List.cons_append, List.append_assoc]
    refine parseTail_more _ _ _ _ _ _ _ (skipWs_of_head _ _ (by decide)) ?_ ht
    rw [skipWs_space_render hw.1]
    exact hv
theorem parseMTail_render : ∀ (l : List (String × JVal)) (f : Nat) (rest : List Char), wfMembers l = true →
    costMembers l ≤ f → parseMTail f (renderMTail l ++ '}' :: rest) = some (l, rest)
  | l, 0, _, _, hc => absurd hc (by have := costMembers_pos l; omega)
  | [], f' + 1, rest, _, hc => by
    simp only [renderMTail, List.nil_append]
    exact parseMTail_end _ _ _ (skipWs_of_head _ _ (by decide))
  | (k, v) :: l, f' + 1, rest, hw, hc => by
    simp only [wfMembers, Bool.and_eq_true] at hw
    simp only [costMembers] at hc
    have hf2 : 1 ≤ f' := by omega
    obtain ⟨f'', rfl⟩ := Nat.exists_eq_add_one.2 hf2
    have hv := parseVal_render v f'' (renderMTail l ++ '}' :: rest) hw.1 (by omega) (delim_renderMTail l rest)
    have ht := parseMTail_render l (f'' + 1) rest hw.2 (by omega)
    simp only [renderMTail, renderStr, List.cons_append, List.append_assoc, List.nil_append]
    refine parseMTail_more _ _ _ _ _ (k, v) _ (skipWs_of_head _ _ (by decide)) ?_ ht
    rw [skipWs_space, skipWs_of_head _ _ (by decide)]
    exact parseMember_render hw.1 hv
end

end Acn.JsonText
