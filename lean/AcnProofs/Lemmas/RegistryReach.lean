/-
  `AllRef` (every EV object is referenced) is equivalent to the JSON round trip finding every EV: if it holds, every
  object of the encoded store is reachable from the Simulator (`reach_all`), so the dumped and loaded `context_dict`
  agrees with the encoded store on the whole layout; conversely a reachable EV object is reached through
  `ev_history`, an EV event or a station (`ref_of_reach`, `allRef_of_roundtrip`).
-/
import AcnProofs.Lemmas.RegistryDecode

namespace Acn.RegistrySim
open Acn Acn.EventCore Acn.Sim Acn.Registry
variable {K : Type}

theorem Reach.edge (sh : Show K) {cfg : Cfg K} {s : State K} {σ τ : Slot} (hσ : σ.ok (layout cfg s))
    (h : Reach (encode sh cfg s) root (σ.id (layout cfg s))) (he : Edge cfg s σ τ) :
    Reach (encode sh cfg s) root (τ.id (layout cfg s)) :=
  h.trans (Reach.step ((agrees_encode sh cfg s).slot hσ) ((mem_refs_slot sh cfg s σ).2 ⟨τ, he, rfl⟩) (Reach.refl _))

theorem edge_ev_iff {cfg : Cfg K} {s : State K} {j : Nat} :
    (∃ σ, σ.ok (layout cfg s) ∧ Edge cfg s σ (.ev j)) ↔ ∃ sid ∈ refSessions cfg s, evIdx s sid = some j := by
  simp only [refSessions, List.mem_append, List.mem_map, List.mem_filter, List.mem_filterMap, bne_iff_ne]
  constructor
  · rintro ⟨σ, hσ, he⟩
    cases he with
    | sim_ev hs hk => exact ⟨_, .inl (.inl hs), hk⟩
    | evse_ev hx hk => exact ⟨_, .inr ⟨_, getD_mem _ _ hσ, by rw [hx]; rfl⟩, hk⟩
    | pend_ev hkind hk => exact ⟨_, .inl (.inr ⟨_, ⟨.inl (getD_mem _ _ hσ), hkind⟩, rfl⟩), hk⟩
    | hist_ev hkind hk => exact ⟨_, .inl (.inr ⟨_, ⟨.inr (getD_mem _ _ hσ), hkind⟩, rfl⟩), hk⟩
  · rintro ⟨sid, (hsid | ⟨e, ⟨he, hk⟩, rfl⟩) | ⟨st, hst, hocc⟩, hidx⟩
    · exact ⟨.sim, trivial, .sim_ev hsid hidx⟩
    · rcases he with he | he <;> obtain ⟨p, hp, rfl⟩ := List.getElem_of_mem he <;>
        rw [← List.getD_eq_getElem _ default hp] at hk hidx
      · exact ⟨.pend p, hp, .pend_ev hk hidx⟩
      · exact ⟨.hist p, hp, .hist_ev hk hidx⟩
    · obtain ⟨i, hi, rfl⟩ := List.getElem_of_mem hst
      obtain ⟨x, hx, rfl⟩ := Option.map_eq_some_iff.1 hocc
      exact ⟨.evse i, hi, .evse_ev (by rwa [List.getD_eq_getElem _ _ hi]) hidx⟩

theorem reach_all (sh : Show K) (cfg : Cfg K) (s : State K) (hr : AllRef cfg s) :
    ∀ i, i < (layout cfg s).size → Reach (encode sh cfg s) root i := by
  have r0 : Reach (encode sh cfg s) root (Slot.sim.id (layout cfg s)) := Reach.refl _
  have rN := Reach.edge sh (σ := .sim) trivial r0 .sim_net
  have rQ := Reach.edge sh (σ := .sim) trivial r0 .sim_queue
  -- all but the EVs and their batteries hang under the Simulator by one or two edges
  have hi : ∀ σ : Slot, σ.ok (layout cfg s) → 2 < σ.rank → Reach (encode sh cfg s) root (σ.id (layout cfg s)) := by
    intro σ hσ hrk
    cases σ with
    | sim => exact r0
    | net => exact rN
    | queue => exact rQ
    | evse i => exact Reach.edge sh (σ := .net) trivial rN (.net_evse hσ)
    | pend p => exact Reach.edge sh (σ := .queue) trivial rQ (.queue_pend hσ)
    | hist h => exact Reach.edge sh (σ := .sim) trivial r0 (.sim_hist hσ)
    | ev _ | batt _ => simp [Slot.rank] at hrk
  -- an EV under the object that `AllRef` names
  have rEv : ∀ j, j < s.evs.length → Reach (encode sh cfg s) root ((Slot.ev j).id (layout cfg s)) := fun j hj => by
    obtain ⟨σ, hσ, he⟩ := edge_ev_iff.2 (hr j hj)
    exact Reach.edge sh hσ (hi σ hσ he.rank_lt) he
  refine forall_slot _ fun σ hσ => ?_
  cases σ with
  | ev j => exact rEv j hσ
  | batt j => exact Reach.edge sh (σ := .ev j) hσ (rEv j hσ) .ev_batt
  | _ => exact hi _ hσ (by simp [Slot.rank])

theorem allRef_of_nodup {cfg : Cfg K} {s : State K} (hn : (s.evs.map (·.session)).Nodup)
    (hall : ∀ e ∈ s.evs, e.session ∈ refSessions cfg s) : AllRef cfg s := by
  intro j hj
  refine ⟨s.evs[j].session, hall _ (List.getElem_mem hj), ?_⟩
  obtain ⟨j', h1, h2, h3⟩ := evIdx_of_evOf (evOf_of_mem hn (List.getElem_mem hj)) s.evs[j]
  rw [List.getD_eq_getElem _ _ h2] at h3
  rw [h1, (List.Nodup.getElem_inj_iff (hn.of_map _)).1 h3]

theorem Reach.last {st : Store} {a b : Nat} (h : Reach st a b) :
    a = b ∨ ∃ (i : Nat) (o : Obj), Reach st a i ∧ st.get i = some o ∧ b ∈ o.refs := by
  induction h with
  | refl _ => exact Or.inl rfl
  | @step i j k o hg hj hjk ih =>
    right
    rcases ih with rfl | ⟨i', o', h1, h2, h3⟩
    · exact ⟨i, o, Reach.refl i, hg, hj⟩
    · exact ⟨i', o', Reach.step hg hj h1, h2, h3⟩

theorem ref_of_reach (sh : Show K) (cfg : Cfg K) (s : State K) {j : Nat} (hj : j < s.evs.length)
    (h : Reach (encode sh cfg s) root ((layout cfg s).evId j)) : ∃ sid ∈ refSessions cfg s, evIdx s sid = some j := by
  have hσj : (Slot.ev j).ok (layout cfg s) := hj
  rcases Reach.last h with h0 | ⟨i, o, hri, hgi, hmem⟩
  · exact absurd (Slot.id_inj (layout cfg s) (σ := .sim) trivial hσj h0) (by simp)
  · have hi := id_slotOf _ (reach_lt sh cfg s (root_lt cfg s) hri)
    rw [get_encode, if_pos (reach_lt sh cfg s (root_lt cfg s) hri), objAt_eq] at hgi
    cases hgi
    obtain ⟨τ, he, hτ⟩ := (mem_refs_slot sh cfg s _).1 hmem
    obtain rfl : Slot.ev j = τ := Slot.id_inj _ hσj (he.ok hi.2) hτ
    exact edge_ev_iff.1 ⟨_, hi.2, he⟩

theorem decode_reads_evs {rd : Read K} {cfg : Cfg K} {amb : Ambient} {g : Nat → Option Obj} {s' : State K}
    (h : decode rd cfg amb g = some s') :
    s'.evs.length = cfg.evs.length ∧ ∀ j, j < cfg.evs.length → (g (3 + cfg.stations.length + 2 * j)).isSome = true := by
  unfold decode at h
  -- the EV list is the fifteenth thing `decode` reads
  iterate 14 obtain ⟨_, _, h⟩ := Option.bind_eq_some_iff.1 h
  simp only [] at h
  obtain ⟨evs, hE, h⟩ := Option.bind_eq_some_iff.1 h
  simp only [Option.pure_def, Option.some.injEq] at h
  have e5 : evs = s'.evs := congrArg (fun x : State K => x.evs) h
  subst e5
  obtain ⟨h1, h2⟩ := (sequence_range_iff (defaultEv cfg) _ _ _).1 hE
  refine ⟨h1, fun j hj => ?_⟩
  have := h2 j hj
  unfold decodeEv at this
  cases hg : g (3 + cfg.stations.length + 2 * j) with
  | some o => rfl
  | none => rw [hg] at this; cases this

theorem allRef_of_roundtrip {sh : Show K} {rd : Read K} {cfg : Cfg K} {s s' : State K} {amb : Ambient} {ctx : Store}
    (hd : dump (encode sh cfg s) root = .ok ctx) (h : decode rd cfg amb ctx.get = some s')
    (hlen : s'.evs.length = s.evs.length) : AllRef cfg s := by
  obtain ⟨ctx', hd', hs⟩ := dump_spec (encode_acyclic sh cfg s) (encode_closed sh cfg s)
  rw [hd] at hd'
  cases hd'
  obtain ⟨h1, h2⟩ := decode_reads_evs h
  intro j hj
  have hsome := h2 j (by omega)
  obtain ⟨o, ho⟩ := Option.isSome_iff_exists.1 hsome
  have hr : Reach (encode sh cfg s) root ((layout cfg s).evId j) := (hs.reach _).1 (key_of_get ho)
  exact ref_of_reach sh cfg s hj hr

end Acn.RegistrySim
