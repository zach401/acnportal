/-
  Interrupted runs of the full simulator model, projected onto the event core: the event core of `Sim.run` with the
  scheduler that raises in period `k` (`Sim.failAt`, ResumeRun.lean) IS `EventCore.run` with `failSchedAt k`
  (ResumeTrigger.lean), whenever the uninterrupted run raises nothing (for the uninterrupted run itself this is
  `Sim.run_core`, EventCoreSim.lean).  So the event-core theorems about abort + resume speak about the full model.

  Last section: the crash of a run from the constructor's state as one named fact (`Crashed`: the injected failure
  fired) with one case theorem (`crash_cases`); `resume_record` is the one place where the case split of the event core
  (`EventCore.resume_invoked`) and that of the full model (`resume_run`) are matched, through the projections.
-/
import AcnProofs.Lemmas.ResumeSt
import AcnProofs.Lemmas.ResumeTrigger

set_option linter.unusedSectionVars false

namespace Acn.Sim
open Acn Acn.EventCore Acn.Steps

variable {K : Type} [Add K] [Sub K] [Mul K] [Div K] [Neg K] [LT K] [LE K]
  [DecidableLT K] [DecidableLE K] [OfNat K 0] [OfNat K 1] [NatCast K] [HasExp K]

/-- in the failing period, when a schedule is needed, the full model aborts (by the injected failure, or — before the
    scheduler is entered — by a `SessionInfo` guard) -/
theorem body_failAt_fires (cfg : Cfg K) (sched : View K → Except Err (Schedule K)) {k : Nat} {s s1 : State K}
    (hk : s.core.iter = k) (he : eventsStage cfg s = (s1, none)) (hn : needsSched cfg.maxRecompute s1.core = true) :
    (body cfg (failAt k sched) s).2 ≠ none := by
  rw [body_eq, he, andThen_ok, if_pos hn, schedSet]
  unfold schedStage
  have hi : s1.core.iter = k := by rw [← hk, ← eventsStage_iter cfg s, he]
  have hv : failAt k sched (view cfg { s1 with core := markInvoked s1.core }) = .error .schedulerFailed := by
    unfold failAt
    have : (view cfg { s1 with core := markInvoked s1.core }).iter = s1.core.iter := rfl
    rw [this, if_pos hi]
  by_cases hany : (activeEvs cfg { s1 with core := markInvoked s1.core }).any (fun e => !sessionInfoOk e) = true
  · simp [hany]
  · simp [hany, hv]

theorem body_failAt_proj (cfg : Cfg K) (sched : View K → Except Err (Schedule K)) (k : Nat) {s s' : State K}
    (hb : body cfg sched s = (s', none)) :
    (body cfg (failAt k sched) s = (s', none) ∧
      EventCore.body cfg.core (failSchedAt k) noFail s.core = (s'.core, none)) ∨
    ∃ t, body cfg (failAt k sched) s = (t, some .schedulerFailed) ∧
      EventCore.body cfg.core (failSchedAt k) noFail s.core = (t.core, some .schedulerFailed) := by
  have hcore : EventCore.body cfg.core noFail noFail s.core = (s'.core, none) := body_core_ok hb
  by_cases hk : s.core.iter = k
  · rcases he : eventsStage cfg s with ⟨s1, _ | err⟩
    · have hp := eventsStage_core_ok he
      rcases body_failAt_eq cfg sched k s with hs | ⟨s1', he', hn, _, hs⟩
      · -- the injected failure is not reached, so no schedule was needed
        have hn : ¬ needsSched cfg.maxRecompute s1.core = true := fun hn =>
          body_failAt_fires cfg sched hk he hn (by rw [hs, hb])
        refine Or.inl ⟨hs.trans hb, Eq.trans (body_congr_sched fun c1 hes hn' => ?_) hcore⟩
        rw [hp] at hes
        cases hes
        exact absurd hn' hn
      · rw [he] at he'
        simp only [Prod.mk.injEq, and_true] at he'
        subst he'
        have hi : s1.core.iter = k := by rw [← hk, ← eventsStage_iter cfg s, he]
        exact Or.inr ⟨_, hs, (EventCore.Pass.schedRaise hp hn (by simp [failSchedAt, markInvoked, hi])).eq⟩
    · rw [body_eq, he, andThen_err] at hb
      cases hb
  · exact Or.inl ⟨(body_failAt_ne cfg sched hk).trans hb, (body_failSched_ne hk).trans hcore⟩

theorem run_failAt_proj (cfg : Cfg K) (sched : View K → Except Err (Schedule K)) (k : Nat) : ∀ (n : Nat) (s : State K),
    (run cfg sched n s).2 = none →
    EventCore.run cfg.core (failSchedAt k) noFail n s.core =
      ((run cfg (failAt k sched) n s).1.core, (run cfg (failAt k sched) n s).2)
  | 0, _, _ => rfl
  | n + 1, s, h => by
    simp only [run, EventCore.run] at h ⊢
    by_cases hg : guard s.core = true
    · simp only [hg, if_true] at h ⊢
      rcases hb : body cfg sched s with ⟨s', _ | e⟩ <;> rw [hb] at h <;> simp only [] at h
      · rcases body_failAt_proj cfg sched k hb with ⟨h1, h2⟩ | ⟨t, h1, h2⟩
        · rw [h1, h2]
          exact run_failAt_proj cfg sched k n s' h
        · rw [h1, h2]
      · cases h
    · simp only [hg] at h ⊢
      rfl

/-! ### the crash of a run from the constructor's state -/

variable {cfg : Cfg K} {sched : View K → Except Err (Schedule K)} {k n : Nat}

/-- the failure injected in period `k` FIRED: the run aborted there, nothing is due in the state it left, and `run()` on
    that state — `k` periods of fuel are used up — ends like the uninterrupted run -/
structure Crashed (cfg : Cfg K) (sched : View K → Except Err (Schedule K)) (k n : Nat) : Prop where
  failed : (run cfg (failAt k sched) n (init cfg)).2 = some .schedulerFailed
  iter : (run cfg (failAt k sched) n (init cfg)).1.core.iter = k
  fresh : Fresh (run cfg (failAt k sched) n (init cfg)).1.core
  obs : ObsEqR (run cfg sched (n - k) (run cfg (failAt k sched) n (init cfg)).1) (run cfg sched n (init cfg))

theorem crash_cases (cfg : Cfg K) (sched : View K → Except Err (Schedule K)) (hS : SessionsOK cfg.core) (k n : Nat) :
    run cfg (failAt k sched) n (init cfg) = run cfg sched n (init cfg) ∨ Crashed cfg sched k n :=
  (resume_run cfg sched k n (init_noOverdue hS) (Nat.zero_le k)).imp_right fun ⟨h1, h2, h3, h4⟩ => ⟨h1, h2, h3, h4⟩

theorem Crashed.of_error (hS : SessionsOK cfg.core) (hok : (run cfg sched n (init cfg)).2 = none) {e : Err}
    (hf : (run cfg (failAt k sched) n (init cfg)).2 = some e) : Crashed cfg sched k n :=
  (crash_cases cfg sched hS k n).resolve_left fun h => by rw [h, hok] at hf; cases hf

theorem Crashed.ok (h : Crashed cfg sched k n) (hok : (run cfg sched n (init cfg)).2 = none) :
    (run cfg sched (n - k) (run cfg (failAt k sched) n (init cfg)).1).2 = none :=
  h.obs.2.trans hok

theorem resume_record (hS : SessionsOK cfg.core) (hok : (run cfg sched n (init cfg)).2 = none) :
    (run cfg (failAt k sched) n (init cfg) = run cfg sched n (init cfg) ∧ k ∉ (run cfg sched n (init cfg)).1.core.invoked) ∨
    (Crashed cfg sched k n ∧ ∃ pre post,
      (run cfg (failAt k sched) n (init cfg)).1.core.invoked = pre ++ [k] ∧
      (run cfg sched n (init cfg)).1.core.invoked = pre ++ [k] ++ post ∧ (∀ t ∈ post, k < t) ∧
      (run cfg sched (n - k) (run cfg (failAt k sched) n (init cfg)).1).1.core.invoked = pre ++ [k] ++ [k] ++ post) := by
  -- the three runs of the event core ARE the event cores of the three runs
  have hcore := resume_invoked cfg.core k n (init_noOverdue hS) (Nat.zero_le k)
  have p0 : EventCore.run cfg.core noFail noFail n (EventCore.init cfg.core) = _ := run_core cfg sched n (init cfg) hok
  have p1 : EventCore.run cfg.core (failSchedAt k) noFail n (EventCore.init cfg.core) = _ :=
    run_failAt_proj cfg sched k n (init cfg) hok
  simp only [p0, p1] at hcore
  rcases crash_cases cfg sched hS k n with h | hc
  · rcases hcore with ⟨_, δ, hd, hk⟩ | ⟨h1, _⟩
    · exact Or.inl ⟨h, by rw [show _ = δ from hd]; exact hk⟩
    · rw [h, hok] at h1; cases h1
  · rcases hcore with ⟨he, _⟩ | ⟨_, _, _, pre, post, h4, h5, h6, h7⟩
    · have := congrArg Prod.snd he
      rw [hc.failed] at this; cases this
    · rw [show n - (k - (EventCore.init cfg.core).iter) = n - k from rfl, run_core cfg sched (n - k) _ (hc.ok hok)] at h7
      exact Or.inr ⟨hc, pre, post, h4, h5, h6, congrArg (fun x => x.1.invoked) h7⟩

end Acn.Sim
