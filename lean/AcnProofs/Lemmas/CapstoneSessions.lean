/-
  Capstone helper: from ACN-Data documents to a scenario that meets C01's hypothesis `Valid`.

  `DocsOk` is the exact condition on the DOCUMENTS (not on the converted sessions) under which the sessions that
  `get_evs` / `generate_events` (model: `Sessions.getEvs`, C15) produce, put on a network whose station ids are
  `stationIds`, satisfy `EventCore.Valid` (`Lemmas/EventCoreInv.lean`): distinct session ids, registered spaces,
  connection not before `start`, connection and disconnection in DIFFERENT periods (C15 `arrival_lt_departure_iff`:
  a same-period session is kept by the converter with `arrival = departure`, and the simulator then raises), a
  `max_len` of at least one period, and no two documents of one space overlapping in period indices.
-/
import AcnProofs.C15
import AcnProofs.Lemmas.EventCoreInv
import AcnModel.Sim
import AcnProofs.Lemmas.BatteryAlg
import AcnProofs.Lemmas.EventCoreRun

namespace Acn.Capstone
open Acn Acn.Sessions Acn.SessionsL Acn.Evse Acn.EventCore

variable {K : Type} [Field K] [LinearOrder K] [IsStrictOrderedRing K] [FloorRing K]

/-- the condition on the documents under which the converted sessions are a `Valid` scenario (`pipeline_valid`) -/
structure DocsOk (stationIds : List String) (start period : K) (maxLen : Option Int) (docs : List (Doc K)) : Prop where
  ids : (docs.map (·.session)).Nodup
  registered : ∀ d ∈ docs, d.space ∈ stationIds
  after_start : ∀ d ∈ docs, start ≤ d.connect
  periods_apart : ∀ d ∈ docs, periodOf period d.connect < periodOf period d.disconnect
  cap_pos : ∀ L, maxLen = some L → 0 < L
  disjoint : ∀ d ∈ docs, ∀ d' ∈ docs, d ≠ d' → d.space = d'.space →
    periodOf period d.disconnect ≤ periodOf period d'.connect ∨
    periodOf period d'.disconnect ≤ periodOf period d.connect

/-- the simulation the pipeline assembles: the network / simulator parameters `net` (stations, period, tolerances,
    `max_recompute`, extra recompute events, noise stream) with the converted sessions as its plug-in events -/
def pipelineCfg (net : Sim.Cfg K) (evs : List (Ev K)) : Sim.Cfg K := { net with evs := evs }

/-- `DocsOk` is `Valid` of the documents' sessions: a fact about the documents alone, before any conversion -/
theorem docSessions_valid {stations : List String} {start period : K} {maxLen : Option Int} {docs : List (Doc K)}
    {recs : List (Int × String)} {mr : Option Nat} (hp : 0 < period)
    (hd : DocsOk stations start period maxLen docs) (htags : (recs.map (·.2)).Nodup) (hrec : ∀ r ∈ recs, 0 ≤ r.1) :
    Valid { stations := stations, sessions := docs.map (docSession period (periodOf period start) maxLen),
            recomputes := recs, maxRecompute := mr } := by
  refine ⟨?_, htags, ?_, ?_, ?_, ?_, hrec⟩
  · rw [List.map_map]; exact hd.ids
  · exact List.forall_mem_map.2 hd.registered
  · exact List.forall_mem_map.2 fun d hdm => sub_nonneg.2 (periodOf_mono hp (hd.after_start d hdm))
  · exact List.forall_mem_map.2 fun d hdm => (docSession_lt_iff ..).2 ⟨hd.periods_apart d hdm, hd.cap_pos⟩
  · refine List.forall_mem_map.2 fun d hdm => List.forall_mem_map.2 fun d' hdm' hxy hsp => ?_
    -- the cap only shortens a stay, so disjoint uncapped stays remain disjoint
    have c1 := capDeparture_le_dep (periodOf period d.connect - periodOf period start)
      (periodOf period d.disconnect - periodOf period start) maxLen
    have c2 := capDeparture_le_dep (periodOf period d'.connect - periodOf period start)
      (periodOf period d'.disconnect - periodOf period start) maxLen
    show capDeparture _ _ _ ≤ _ - _ ∨ capDeparture _ _ _ ≤ _ - _
    rcases hd.disjoint d hdm d' hdm' (fun h => hxy (h ▸ rfl)) hsp with h1 | h1
    · left; omega
    · right; omega

/-- **C15 → C01.**  Documents satisfying `DocsOk`, converted by `get_evs` with ANY battery parameters, `max_len` and
    `force_feasible` setting, on a network with distinct recompute tags at non-negative times: the resulting
    scenario is `Valid`; the session ids are the documents' ids in order; every EV starts fresh. -/
theorem pipeline_valid (net : Sim.Cfg K) (start V mp : K) (maxLen : Option Int) (bp : BattParams K) (ff : Bool)
    (docs : List (Doc K)) (evs : List (Ev K)) (hp : 0 < net.period)
    (hd : DocsOk (net.stations.map (·.id)) start net.period maxLen docs)
    (htags : (net.recomputes.map (·.2)).Nodup) (hrec : ∀ r ∈ net.recomputes, 0 ≤ r.1)
    (h : getEvs start docs net.period V mp maxLen bp ff = .ok evs) :
    Valid (pipelineCfg net evs).core ∧ evs.map (·.session) = docs.map (·.session) ∧
    (∀ e ∈ evs, e.delivered = 0 ∧ e.rate = 0 ∧ e.estDeparture = e.departure) := by
  have hf := (getEvs_ok_iff hp).1 h
  refine ⟨?_, forall₂_map_eq hf fun d e hde => (convertDoc_ok hp hde).session, fun e he => ?_⟩
  · show Valid { stations := _, sessions := evs.map Sim.sessionOf, recomputes := _, maxRecompute := _ }
    rw [getEvs_sessions hp h]
    exact docSessions_valid hp hd htags hrec
  · obtain ⟨d, _, hde⟩ := forall₂_mem_right hf _ he
    exact ⟨(convertDoc_ok hp hde).delivered, (convertDoc_ok hp hde).rate, (convertDoc_ok hp hde).estDeparture⟩

/-- a battery built without `capacity_fn` (capacity = the requested energy, initially empty) for a positive energy
    satisfies C03's invariant -/
theorem mkBattery_default_inv {bp : BattParams K} {E stay V period mp : K} {b : Battery.Batt K}
    (hb : bp.capFn = none) (hts : bp.type = .twoStage → 0 ≤ bp.ts ∧ bp.ts < 1) (hE : 0 < E) (hm : 0 ≤ mp)
    (h : mkBattery bp E stay V period mp = .ok b) : BattAlg.Inv b := by
  obtain ⟨cap, init, hf, h1, h2, h3, h4, -, h7⟩ := mkBattery_ok h
  rw [hb] at hf
  cases hf
  have ht : 0 ≤ b.ts ∧ b.ts < 1 := by
    rcases h7 with h0 | ⟨htwo, h0⟩
    · rw [h0]; exact ⟨le_refl _, zero_lt_one⟩
    · rw [h0]; exact hts htwo
  exact ⟨h1 ▸ hE, h1 ▸ h3 ▸ hE.le, h1 ▸ h2 ▸ hE.le, h4 ▸ hm, ht.1, ht.2⟩

/-- default `battery_params` (`Battery`, capacity = requested energy, initially empty; also the two-stage class
    without `capacity_fn`): positive energies and a positive maximum battery power give batteries that satisfy
    C03's invariant, and nobody has been over-delivered at the start -/
theorem pipeline_batteries (start period V mp : K) (maxLen : Option Int) (bp : BattParams K) (ff : Bool)
    (docs : List (Doc K)) (evs : List (Ev K)) (hp : 0 < period) (hb : bp.capFn = none)
    (hts : bp.type = .twoStage → 0 ≤ bp.ts ∧ bp.ts < 1) (hm : 0 < mp)
    (hk : ∀ d ∈ docs, 0 < d.kWh) (hapart : ∀ d ∈ docs, periodOf period d.connect < periodOf period d.disconnect)
    (hL : ∀ L, maxLen = some L → 0 < L)
    (h : getEvs start docs period V mp maxLen bp ff = .ok evs) :
    ∀ e ∈ evs, BattAlg.Inv e.batt ∧ e.delivered ≤ e.requested ∧ 0 < e.requested := by
  intro e he
  obtain ⟨d, hdm, hde⟩ := forall₂_mem_right ((getEvs_ok_iff hp).1 h) _ he
  have hc := convertDoc_ok hp hde
  have hlt := (C15.arrival_lt_departure_iff d _ period V mp maxLen bp ff e hp hde).2 ⟨hapart d hdm, hL⟩
  have hpos : 0 < e.requested := hc.requested ▸ docEnergy_pos ff (hk d hdm) hm hp (sub_pos.2 hlt)
  exact ⟨mkBattery_default_inv hb hts hpos hm.le hc.batt, by rw [hc.delivered]; exact hpos.le, hpos⟩

/-! ### the example scenario of the capstone files (two stations, three documents; see `AcnProofs/Capstone.lean`) -/

def exNet (K : Type) [Field K] : Sim.Cfg K :=
  { stations := [⟨"CA-1", .cont 0 (some 32), 208⟩, ⟨"CA-2", .finite [0, 8, 16, 24, 32], 208⟩], evs := [],
    recomputes := [], maxRecompute := some 1, period := 5, atolCont := 1 / 1000, atolDeadband := 1 / 1000,
    atolFinite := 1 / 1000, fullEps := 1 / 1000, noise := [] }

def exStart (K : Type) [Field K] : K := 1552204800

def exDocs (K : Type) [Field K] : List (Doc K) :=
  [⟨1552204810, 1552205450, 3, "a", "CA-1"⟩, ⟨1552205500, 1552206050, 1, "b", "CA-1"⟩,
   ⟨1552205110, 1552205800, 2, "c", "CA-2"⟩]

theorem exDocs_kWh_pos (K : Type) [Field K] [LinearOrder K] [IsStrictOrderedRing K] :
    ∀ d ∈ exDocs K, 0 < d.kWh := by
  intro d hd
  simp only [exDocs, List.mem_cons, List.not_mem_nil, or_false] at hd
  rcases hd with rfl | rfl | rfl <;> norm_num

/-- the documents satisfy `DocsOk` — over every ordered field with a floor (ℚ for execution, ℝ for statements 2–3) -/
theorem exDocsOk (K : Type) [Field K] [LinearOrder K] [IsStrictOrderedRing K] [FloorRing K] :
    DocsOk ((exNet K).stations.map (·.id)) (exStart K) (exNet K).period (some 12) (exDocs K) := by
  -- a 5-minute period is 300 s: instant `t` lies in period `a` when `a·300 ≤ t < (a + 1)·300`
  have p1 : periodOf (5 : K) 1552204810 = 5174016 :=
    periodOf_eq_of_mem (by norm_num) (by norm_num) (by norm_num) (by norm_num)
  have p2 : periodOf (5 : K) 1552205450 = 5174018 :=
    periodOf_eq_of_mem (by norm_num) (by norm_num) (by norm_num) (by norm_num)
  have p3 : periodOf (5 : K) 1552205500 = 5174018 :=
    periodOf_eq_of_mem (by norm_num) (by norm_num) (by norm_num) (by norm_num)
  have p4 : periodOf (5 : K) 1552206050 = 5174020 :=
    periodOf_eq_of_mem (by norm_num) (by norm_num) (by norm_num) (by norm_num)
  have p5 : periodOf (5 : K) 1552205110 = 5174017 :=
    periodOf_eq_of_mem (by norm_num) (by norm_num) (by norm_num) (by norm_num)
  have p6 : periodOf (5 : K) 1552205800 = 5174019 :=
    periodOf_eq_of_mem (by norm_num) (by norm_num) (by norm_num) (by norm_num)
  refine ⟨by simp [exDocs], by simp [exDocs, exNet], by norm_num [exDocs, exStart],
    by simp [exDocs, exNet, p1, p2, p3, p4, p5, p6], fun L hL => by cases hL; omega, ?_⟩
  -- only `a` and `b` share a space (CA-1), and `a` has left (period 5174018) when `b` arrives
  intro d hd d' hd' hne hsp
  simp only [exDocs, List.mem_cons, List.not_mem_nil, or_false] at hd hd'
  rcases hd with rfl | rfl | rfl <;> rcases hd' with rfl | rfl | rfl
  · exact absurd rfl hne
  · simp only [exNet, p1, p2, p3, p4]; decide
  · exact absurd hsp (by simp)
  · simp only [exNet, p1, p2, p3, p4]; decide
  · exact absurd rfl hne
  · exact absurd hsp (by simp)
  · exact absurd hsp (by simp)
  · exact absurd hsp (by simp)
  · exact absurd rfl hne

section exec
local instance exExp : HasExp ℚ := ⟨fun x => x⟩

/-- the example scenario, executed: the conversion succeeds, and the run under the fixed schedule (16 A for CA-1,
    8 A for CA-2 in every period) with fuel 10 raises nothing and has its horizon within the fuel -/
theorem exRun : ∃ evs,
    getEvs (exStart ℚ) (exDocs ℚ) (exNet ℚ).period 208 (6656 / 1000) (some 12) defaultParams false = .ok evs ∧
    (Sim.run (pipelineCfg (exNet ℚ) evs) (fun _ => .ok [("CA-1", [16]), ("CA-2", [8])]) 10
      (Sim.init (pipelineCfg (exNet ℚ) evs))).2 = none ∧
    horizon (pipelineCfg (exNet ℚ) evs).core ≤ 10 := by
  have key : (match getEvs (exStart ℚ) (exDocs ℚ) (exNet ℚ).period 208 (6656 / 1000) (some 12) defaultParams false with
     | .ok evs => decide ((Sim.run (pipelineCfg (exNet ℚ) evs) (fun _ => .ok [("CA-1", [16]), ("CA-2", [8])]) 10
         (Sim.init (pipelineCfg (exNet ℚ) evs))).2 = none) && decide (horizon (pipelineCfg (exNet ℚ) evs).core ≤ 10)
     | .error _ => false) = true := by decide +kernel
  cases he : getEvs (exStart ℚ) (exDocs ℚ) (exNet ℚ).period 208 (6656 / 1000) (some 12) defaultParams false with
  | error e => rw [he] at key; cases key
  | ok evs =>
    rw [he] at key
    simp only [Bool.and_eq_true, decide_eq_true_eq] at key
    exact ⟨evs, rfl, key⟩

end exec

end Acn.Capstone
