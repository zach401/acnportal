/-
  Helper lemmas for C12: row selection of `constraint_current`.
-/
import AcnProofs.Lemmas.NetworkAlign
import AcnProofs.Lemmas.Basic

set_option linter.unusedSectionVars false

namespace Acn.Network

section select
variable {α : Type}

/-- `matrix[list(range(len))]` is the matrix -/
theorem mapM_range (rows : List α) :
    (List.range rows.length).mapM (fun i => rows[i]?) = some rows :=
  (mapM_some_iff _ _ _).2 (List.forall₂_iff_get.2 ⟨List.length_range, fun i _ h => by simp [h]⟩)

end select

section
variable {K : Type} [Zero K]

def selName (names : Option (List String)) (t : Constraint K) : Bool :=
  match names with
  | none => true
  | some ns => decide (t.name ∈ ns)

/-- fancy row indexing by the positions of the requested names returns the requested
    constraints' rows in network order -/
theorem mapM_zipIdx_filter {β : Type} (f : Constraint K → β) (names : List String)
    (pre : List β) (cons : List (Constraint K)) :
    ((((cons.map (·.name)).zipIdx pre.length).filter (fun p => decide (p.1 ∈ names))).map
        (·.2)).mapM (fun i => (pre ++ cons.map f)[i]?) =
      some ((cons.filter (fun t => decide (t.name ∈ names))).map f) := by
  induction cons generalizing pre with
  | nil => simp
  | cons t ts ih =>
    have h := ih (pre ++ [f t])
    simp only [List.length_append, List.length_singleton, List.append_assoc, List.singleton_append]
      at h
    by_cases hn : t.name ∈ names
    · simp [List.zipIdx_cons, hn, List.mapM_cons, h]
    · simp [List.zipIdx_cons, hn, h]

theorem select_rows {β : Type} (f : Constraint K → β) (names : Option (List String))
    (cons : List (Constraint K)) :
    (Net.constraintIndices (cons.map (·.name)) names).mapM (fun i => (cons.map f)[i]?) =
      some ((cons.filter (selName names)).map f) := by
  cases names with
  | none =>
    have := mapM_range (cons.map f)
    simp only [List.length_map] at this
    have hf : cons.filter (selName none) = cons := List.filter_eq_self.mpr (fun _ _ => rfl)
    simp only [Net.constraintIndices, List.length_map, this, hf]
  | some ns =>
    have := mapM_zipIdx_filter f ns [] cons
    have hs : (selName (some ns) : Constraint K → Bool) = fun t => decide (t.name ∈ ns) := rfl
    rw [hs]
    simpa [Net.constraintIndices] using this

end

theorem Refines.selected {K : Type} [Zero K] {n : Net K} {sp : Spec K} (h : Refines n sp) (hf : sp.frozen = true)
    (names : Option (List String)) :
    ∃ rows, n.matrix = some rows ∧
      (Net.constraintIndices n.index names).mapM (fun i => rows[i]?) =
        some ((sp.cons.filter (selName names)).map fun t => Net.row sp.stations t.cur) :=
  ⟨_, by rw [h.matrix_eq, hf]; rfl, by rw [h.index]; exact select_rows _ names sp.cons⟩

end Acn.Network
