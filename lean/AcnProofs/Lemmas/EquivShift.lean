/-
  Helper lemmas for C10: the event core under a time shift of `k` periods
  (`shiftCore`), also with a record `V` of earlier scheduler invocations in front (`sh k V`: the idle
  prefix of a shifted run consults the scheduler when `max_recompute` is set).
-/
import AcnProofs.Lemmas.EquivEvents
import AcnProofs.Lemmas.ResumeGhost
import AcnProofs.Lemmas.SimStages

namespace Acn.EventCore
open Acn.Steps

def shiftEv (k : Nat) (e : Event) : Event := { e with ts := e.ts + k }

def shiftSession (k : Nat) (x : Session) : Session :=
  { x with arrival := x.arrival + k, departure := x.departure + k }

def shiftCfg (k : Nat) (cfg : Cfg) : Cfg :=
  { cfg with sessions := cfg.sessions.map (shiftSession k),
             recomputes := cfg.recomputes.map (fun r => (r.1 + (k : Int), r.2)) }

def shiftCore (k : Nat) (c : Core) : Core :=
  { iter := c.iter + k, pending := c.pending.map (shiftEv k),
    occ := fun st => (c.occ st).map (shiftSession k), resolve := c.resolve,
    lastUpd := c.lastUpd.map (· + (k : Int)), eventHist := c.eventHist.map (shiftEv k),
    evHist := c.evHist, invoked := c.invoked.map (· + k) }

theorem initPending_shift (k : Nat) (cfg : Cfg) :
    initPending (shiftCfg k cfg) = (initPending cfg).map (shiftEv k) := by
  simp only [initPending, shiftCfg, List.map_append, List.map_map]
  rfl

theorem core_ext {c d : Core} (h1 : c.iter = d.iter) (h2 : c.pending = d.pending) (h3 : c.occ = d.occ)
    (h4 : c.resolve = d.resolve) (h5 : c.lastUpd = d.lastUpd) (h6 : c.eventHist = d.eventHist)
    (h7 : c.evHist = d.evHist) (h8 : c.invoked = d.invoked) : c = d := by
  cases c; cases d; simp_all

theorem keyLt_shift (k : Nat) (a b : Event) : (shiftEv k a).keyLt (shiftEv k b) = a.keyLt b := by
  rw [Bool.eq_iff_iff, keyLt_iff, keyLt_iff]
  simp [shiftEv]

theorem sortByKey_shift (k : Nat) (l : List Event) :
    sortByKey (l.map (shiftEv k)) = (sortByKey l).map (shiftEv k) := by
  rw [sortByKey_eq, sortByKey_eq]
  exact Sorted.sortBy_map _ _ _ l fun x _ y _ => keyLt_shift k y x

theorem popCurrent_shift (k t : Nat) (p : List Event) :
    popCurrent (t + k) (p.map (shiftEv k)) =
      ((popCurrent t p).1.map (shiftEv k), (popCurrent t p).2.map (shiftEv k)) := by
  unfold popCurrent
  simp only [List.filter_map, Prod.mk.injEq]
  have h : ((fun e : Event => decide (e.ts ≤ ((t + k : Nat) : Int))) ∘ shiftEv k) =
      (fun e : Event => decide (e.ts ≤ (t : Int))) := by
    funext e; simp [shiftEv]
  have h' : ((fun e : Event => !decide (e.ts ≤ ((t + k : Nat) : Int))) ∘ shiftEv k) =
      (fun e : Event => !decide (e.ts ≤ (t : Int))) := by
    funext e; simp [shiftEv]
  rw [h, h', sortByKey_shift]
  exact ⟨rfl, rfl⟩

theorem findSession_shift (k : Nat) (cfg : Cfg) (id : String) :
    findSession (shiftCfg k cfg) id = (findSession cfg id).map (shiftSession k) := by
  unfold findSession shiftCfg
  simp only [List.find?_map]
  rfl

theorem setOcc_shift (k : Nat) (occ : String → Option Session) (s : String) (v : Option Session) :
    setOcc (fun st => (occ st).map (shiftSession k)) s (v.map (shiftSession k)) =
      fun st => (setOcc occ s v st).map (shiftSession k) := by
  funext st
  unfold setOcc
  split <;> rfl

theorem unplugHits_shift (k : Nat) (c : Core) (x : Session) :
    unplugHits (shiftCore k c) (shiftSession k x) = unplugHits c x := by
  unfold unplugHits shiftCore shiftSession
  simp only
  cases c.occ x.station <;> rfl

theorem step_shift (k : Nat) (cfg : Cfg) (e : Event) (c : Core) :
    step (shiftCfg k cfg) (shiftEv k e) (shiftCore k c) = (shiftCore k (step cfg e c).1, (step cfg e c).2) := by
  unfold step process
  have hkind : (shiftEv k e).kind = e.kind := rfl
  have hsess : (shiftEv k e).sess = e.sess := rfl
  have hstn : (shiftCfg k cfg).stations = cfg.stations := rfl
  rw [hkind, hsess, findSession_shift, hstn]
  cases hk : e.kind with
  | recompute => simp [shiftCore, shiftEv]
  | plugin =>
    cases hf : findSession cfg e.sess with
    | none => simp [shiftCore, shiftEv]
    | some x =>
      simp only [Option.map_some]
      have hxs : (shiftSession k x).station = x.station := rfl
      have hxi : (shiftSession k x).id = x.id := rfl
      have hun : unplugEv (shiftSession k x) = shiftEv k (unplugEv x) := rfl
      rw [hxs, hxi, hun]
      by_cases hm : x.station ∈ cfg.stations
      · cases ho : c.occ x.station with
        | some z => simp [hm, ho, shiftCore, shiftEv]
        | none =>
          have := setOcc_shift k c.occ x.station (some x)
          simp only [Option.map_some] at this
          simp [hm, ho, shiftCore, this]
          rfl
      · simp [hm, shiftCore, shiftEv]
  | unplug =>
    cases hf : findSession cfg e.sess with
    | none => simp [shiftCore, shiftEv]
    | some x =>
      simp only [Option.map_some]
      have hxs : (shiftSession k x).station = x.station := rfl
      rw [hxs]
      by_cases hm : x.station ∈ cfg.stations
      · have hu : unplugHits ({ shiftCore k c with eventHist := (shiftCore k c).eventHist ++ [shiftEv k e] } : Core)
            (shiftSession k x) = unplugHits { c with eventHist := c.eventHist ++ [e] } x :=
          unplugHits_shift k { c with eventHist := c.eventHist ++ [e] } x
        rw [hu]
        have := setOcc_shift k c.occ x.station none
        simp only [Option.map_none] at this
        by_cases hh : unplugHits { c with eventHist := c.eventHist ++ [e] } x = true
        · simp [hm, hh, shiftCore, this]
          rfl
        · simp [hm, hh, shiftCore]
          rfl
      · simp [hm, shiftCore, shiftEv]

end Acn.EventCore

namespace Acn.SimShift
open Acn.EventCore Acn.Steps

/-! ### event core: `invoked` is write-only -/

def addInv (V : List Nat) (c : Core) : Core := { c with invoked := V ++ c.invoked }

theorem step_addInv (cfg : EventCore.Cfg) (V : List Nat) (e : Event) (c : Core) :
    EventCore.step cfg e (addInv V c) = (addInv V (EventCore.step cfg e c).1, (EventCore.step cfg e c).2) := by
  rw [show addInv V c = setInv (V ++ c.invoked) c from rfl, step_setInv, addInv, (step_facts e c).2.1]
  rfl

/-- the state `k` periods later in a run whose idle prefix consulted the scheduler in the periods `V`
    (period 0, then every `max_recompute` periods): invocations the original run does not have -/
def sh (k : Nat) (V : List Nat) (c : Core) : Core := addInv V (shiftCore k c)

theorem sh_iter (k : Nat) (V : List Nat) (c : Core) : (sh k V c).iter = c.iter + k := rfl
theorem sh_pending (k : Nat) (V : List Nat) (c : Core) : (sh k V c).pending = c.pending.map (shiftEv k) := rfl

theorem step_sh (k : Nat) (V : List Nat) (cfg : EventCore.Cfg) (e : Event) (c : Core) :
    EventCore.step (shiftCfg k cfg) (shiftEv k e) (sh k V c) =
      (sh k V (EventCore.step cfg e c).1, (EventCore.step cfg e c).2) := by
  unfold sh
  rw [step_addInv, step_shift]

theorem processAll_sh (k : Nat) (V : List Nat) (cfg : EventCore.Cfg) (es : List Event) (c : Core) :
    EventCore.processAll (shiftCfg k cfg) (es.map (shiftEv k)) (sh k V c) =
      (sh k V (EventCore.processAll cfg es c).1, (EventCore.processAll cfg es c).2) := by
  rw [EventCore.processAll_eq, EventCore.processAll_eq, foldE_map]
  exact (foldE_comm (sh k V) (fun e c => (step_sh k V cfg e c).symm) es c).symm

theorem needsSched_sh (k : Nat) (V : List Nat) (mr : Option Nat) (c : Core) :
    needsSched mr (sh k V c) = needsSched mr c := by
  unfold needsSched sh addInv shiftCore
  cases mr with
  | none => rfl
  | some m =>
    simp only
    cases c.lastUpd with
    | none => rfl
    | some u =>
      simp only [Option.map_some]
      congr 1
      rw [Bool.eq_iff_iff]
      simp only [decide_eq_true_eq]
      push_cast
      constructor <;> intro h <;> omega

theorem markInvoked_sh (k : Nat) (V : List Nat) (c : Core) : markInvoked (sh k V c) = sh k V (markInvoked c) := by
  simp [markInvoked, sh, addInv, shiftCore, List.append_assoc]

theorem markScheduled_sh (k : Nat) (V : List Nat) (c : Core) : markScheduled (sh k V c) = sh k V (markScheduled c) := by
  simp [markScheduled, sh, addInv, shiftCore]

theorem advance_sh (k : Nat) (V : List Nat) (c : Core) : advance (sh k V c) = sh k V (advance c) := by
  simp [advance, sh, addInv, shiftCore]; omega

theorem guard_sh (k : Nat) (V : List Nat) (c : Core) : guard (sh k V c) = guard c := by
  simp [EventCore.guard, sh, addInv, shiftCore]

theorem unplugHits_sh (k : Nat) (V : List Nat) (c : Core) (x : Session) :
    unplugHits (sh k V c) (shiftSession k x) = unplugHits c x := by
  rw [← unplugHits_shift k c x]
  rfl

theorem eventsStage_sh (k : Nat) (V : List Nat) (cfg : EventCore.Cfg) (c : Core) :
    EventCore.eventsStage (shiftCfg k cfg) (sh k V c) =
      (sh k V (EventCore.eventsStage cfg c).1, (EventCore.eventsStage cfg c).2) := by
  unfold EventCore.eventsStage
  rw [sh_iter, sh_pending, popCurrent_shift]
  exact processAll_sh k V cfg _ { c with pending := (popCurrent c.iter c.pending).2 }

theorem body_sh (k : Nat) (V : List Nat) (cfg : EventCore.Cfg) {sched sched' apply apply' : Core → Option Err}
    (hs : ∀ c, sched' (sh k V c) = sched c) (ha : ∀ c, apply' (sh k V c) = apply c) (c : Core) :
    EventCore.body (shiftCfg k cfg) sched' apply' (sh k V c) =
      (sh k V (EventCore.body cfg sched apply c).1, (EventCore.body cfg sched apply c).2) := by
  have hfin : ∀ c, (sh k V (finish apply c).1, (finish apply c).2) = finish apply' (sh k V c) := fun c => by
    unfold finish
    rw [ha]
    cases apply c <;> simp [advance_sh]
  have hsch : ∀ c, (sh k V (EventCore.consult sched c).1, (EventCore.consult sched c).2) =
      EventCore.consult sched' (sh k V c) := fun c => by
    unfold EventCore.consult
    rw [markInvoked_sh, hs]
    cases sched (markInvoked c) <;> simp [markScheduled_sh]
  rw [EventCore.body_chain, EventCore.body_chain]
  refine (andThen_comm (sh k V) (eventsStage_sh k V cfg c).symm fun c1 => ?_).symm
  rw [show (shiftCfg k cfg).maxRecompute = cfg.maxRecompute from rfl, needsSched_sh]
  split
  · exact andThen_comm (sh k V) (hsch c1) hfin
  · exact hfin c1

theorem run_sh_from (k : Nat) (V : List Nat) (cfg : EventCore.Cfg) {sched sched' apply apply' : Core → Option Err}
    (hs : ∀ c, sched' (sh k V c) = sched c) (ha : ∀ c, apply' (sh k V c) = apply c) (n : Nat) (c : Core) :
    EventCore.run (shiftCfg k cfg) sched' apply' n (sh k V c) =
      (sh k V (EventCore.run cfg sched apply n c).1, (EventCore.run cfg sched apply n c).2) := by
  rw [EventCore.run_eq, EventCore.run_eq]
  exact (loopE_comm (sh k V) (guard_sh k V) (fun c _ => (body_sh k V cfg hs ha c).symm) n c).symm

end Acn.SimShift

namespace Acn.EventCore
open Acn.SimShift

theorem run_shift_from (k : Nat) (cfg : Cfg) {sched sched' apply apply' : Core → Option Err}
    (hs : ∀ c, sched' (shiftCore k c) = sched c) (ha : ∀ c, apply' (shiftCore k c) = apply c) :
    ∀ (n : Nat) (c : Core), run (shiftCfg k cfg) sched' apply' n (shiftCore k c) =
      (shiftCore k (run cfg sched apply n c).1, (run cfg sched apply n c).2) :=
  run_sh_from k [] cfg hs ha

end Acn.EventCore
