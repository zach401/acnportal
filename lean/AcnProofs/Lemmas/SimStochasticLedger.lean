/-
  C19 × C02: the energy ledger (`Acn.Ledger.LedgerQ`, LedgerStoch.lean) is an invariant of the full
  simulator on the stochastic network (`SimSt.run`): `ledgerJ` satisfies `KeepsJ` (EventCoreGM.lean).
  Events (`EventCore.eventsStageG_frame`, for any loop: what plug-in and unplug leave alone the events stage leaves
  alone), scheduler stage and `post_charging_update` do not touch rates / peak / energies / the occupancy log; the apply stage is `Sim.applyStage`, for which `applyStage_ledgerQ` needs only that
  no session sits on two stations — `Stoch.Inv.occ_inj`, a clause of the loop invariant (C19's `place_unique` states it).
-/
import AcnProofs.Lemmas.SimStochastic
import AcnProofs.Lemmas.LedgerStep

set_option linter.unusedSectionVars false

namespace Acn.EventCore
open Acn

theorem processG_frame {σ α : Type} {ops : QOps} {net : NetOps σ} {cfg : Cfg} (F : σ → α)
    (hp : ∀ s x, F (net.plugin s x).1 = F s) (hu : ∀ s x, F (net.unplug s x).1 = F s)
    (e : Event) (g : CoreG σ) :
    F (processG ops net cfg e g).1.net = F g.net ∧ (processG ops net cfg e g).1.core.iter = g.core.iter := by
  unfold processG
  split
  · split
    · exact ⟨rfl, rfl⟩
    · rename_i x _
      split
      · exact ⟨rfl, rfl⟩
      · rename_i n' heq
        refine ⟨?_, rfl⟩
        have := hp g.net x
        rw [heq] at this
        exact this
  · split
    · exact ⟨rfl, rfl⟩
    · rename_i x _
      split
      · exact ⟨rfl, rfl⟩
      · rename_i n' heq
        refine ⟨?_, rfl⟩
        have := hu g.net x
        rw [heq] at this
        exact this
  · exact ⟨rfl, rfl⟩

theorem eventsStageG_frame {σ α : Type} {ops : QOps} {net : NetOps σ} {cfg : Cfg} (F : σ → α)
    (hp : ∀ s x, F (net.plugin s x).1 = F s) (hu : ∀ s x, F (net.unplug s x).1 = F s) (g : CoreG σ) :
    F (eventsStageG ops net cfg g).1.net = F g.net ∧ (eventsStageG ops net cfg g).1.core.iter = g.core.iter := by
  have hs : ∀ e (g : CoreG σ), F (stepG ops net cfg e g).1.net = F g.net ∧
      (stepG ops net cfg e g).1.core.iter = g.core.iter :=
    fun e g => processG_frame F hp hu e _
  rw [eventsStageG, processAllG_eq]
  exact ⟨Steps.foldE_proj (fun g => F g.net) (fun e g => (hs e g).1) _ _,
    Steps.foldE_proj (·.core.iter) (fun e g => (hs e g).2) _ _⟩

end Acn.EventCore

namespace Acn.SimSt
open Acn Acn.EventCore Acn.Stoch Acn.Ledger

variable {K : Type} [Field K] [LinearOrder K] [IsStrictOrderedRing K] [HasExp K]

def ledgerJ (cfg : Sim.Cfg K) (g : CoreG (St K)) : Prop :=
  LedgerQ cfg g.core.iter g.net.2.rates g.net.2.peak g.net.2.evs g.net.2.occLog

theorem evIn_evsAt {net : Net} {evs : List (Evse.Ev K)} {id : String} {e : Evse.Ev K}
    (he : evIn (evsAt net evs) id = some e) :
    ∃ e1, evIn evs id = some e1 ∧ e = { e1 with station := ((net.ev e1.session).station).getD "" } := by
  unfold evIn evsAt at he
  rw [List.find?_map] at he
  obtain ⟨e1, h1, h2⟩ := Option.map_eq_some_iff.1 he
  exact ⟨e1, h1, h2.symm⟩

theorem LedgerQ.evsAt {cfg : Sim.Cfg K} {t : Nat} {rates : Pilots.Mat K} {peak : K} {evs : List (Evse.Ev K)}
    {log : List (List (Option String))} (h : LedgerQ cfg t rates peak evs log) (net : Net) :
    LedgerQ cfg t rates peak (evsAt net evs) log := by
  refine ⟨h.log_len, h.rates_wf, ?_, ?_, ?_, h.vacant, h.future, h.peak_eq⟩
  · rw [← h.ids]; simp [SimSt.evsAt, List.map_map, Function.comp_def]
  · intro id e0 e h0 he
    obtain ⟨e1, h1, rfl⟩ := evIn_evsAt he
    exact h.gain id e0 e1 h0 h1
  · intro id e0 e h0 he
    obtain ⟨e1, h1, rfl⟩ := evIn_evsAt he
    exact h.sess id e0 e1 h0 h1

theorem distinctOcc_occOf {cfg : Sim.Cfg K} (hst : (cfg.stations.map (·.id)).Nodup) {net : Net}
    (hu : ∀ st st' x, net.occ st = some x → net.occ st' = some x → st = st') :
    DistinctOcc (occOf net) cfg.stations :=
  distinctOcc_of_inj hst fun a b x y hx hy hxy => by
    obtain ⟨za, ha, rfl⟩ := Option.map_eq_some_iff.1 hx
    obtain ⟨zb, hb, rfl⟩ := Option.map_eq_some_iff.1 hy
    exact hu _ _ _ ha ((show za = zb from hxy) ▸ hb)

theorem ledger_keepsJ (cfg : Sim.Cfg K) (hst : (cfg.stations.map (·.id)).Nodup) (cs : Nat → Nat)
    (sched : Sim.View K → Except EventCore.Err (Sim.Schedule K)) (early : Bool) :
    KeepsJ heapQ (netOps cs cfg) (postS cfg) cfg.core (schedS cfg sched) (applyS cfg)
      (fun hist (s : St K) => LoopInv cfg.core early hist s.1) (ledgerJ cfg) where
  events := by
    intro g g1 h hJ
    have hf := eventsStageG_frame (ops := heapQ) (net := netOps cs cfg) (cfg := cfg.core)
      (fun s : St K => ledgerPart s.2) (fun _ _ => rfl) (fun s x => ledgerPart_resetPilot cfg s.2 _) g
    rw [h] at hf
    obtain ⟨h1, h2⟩ := hf
    simp only [ledgerPart, Prod.mk.injEq] at h1
    unfold ledgerJ at hJ ⊢
    rw [h2, h1.1, h1.2.1, h1.2.2.1, h1.2.2.2]
    exact hJ
  flags := by
    intro g c hc hJ
    unfold ledgerJ at hJ ⊢
    simp only [hc]
    exact hJ
  sched := by
    intro g n1 h hJ
    unfold schedS at h
    split at h
    · cases h
    · cases h
      exact hJ
  finish := by
    intro g n1 n2 hP hap hpo hJ
    have hfr : ledgerPart n2.2 = ledgerPart n1.2 := by
      have := postS_ledgerPart cfg g.core.iter n1
      rw [hpo] at this
      exact this
    unfold applyS at hap
    have hr2 : (Sim.applyStage cfg (toSim g)).2 = none := (Prod.mk.inj hap).2
    have hn1 : n1 = (g.net.1, numOf (Sim.applyStage cfg (toSim g)).1) := (Prod.mk.inj hap).1.symm
    have hd : DistinctOcc (toSim g).core.occ cfg.stations :=
      distinctOcc_occOf hst (fun _ _ _ h1 h2 => hP.inv.occ_inj h1 h2)
    have hL := applyStage_ledgerQ (cfg := cfg) (a := toSim g) (s' := (Sim.applyStage cfg (toSim g)).1) hd
      (LedgerQ.evsAt hJ g.net.1) (Prod.ext rfl hr2)
    simp only [ledgerPart, Prod.mk.injEq] at hfr
    unfold ledgerJ
    show LedgerQ cfg (g.core.iter + 1) n2.2.rates n2.2.peak n2.2.evs n2.2.occLog
    rw [hfr.1, hfr.2.1, hfr.2.2.1, hfr.2.2.2, hn1]
    exact hL

theorem ledgerJ_init (cfg : Sim.Cfg K) (early : Bool) : ledgerJ cfg (init cfg early) := by
  have h := (init_ledger cfg)
  unfold Ledger.Inv at h
  exact h.toQ

end Acn.SimSt
