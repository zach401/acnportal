/-
  A permutation `σ` of `0..n-1` as a new order of the stations: `reidx σ l d` is the per-station list `l` read in that
  order (new position `j` holds old entry `σ[j]`).  The list algebra of `reidx`: it is a permutation of the list, it is
  natural in `map` and `zipWith`, and reading / writing the re-indexed list at `j` is reading / writing the list at `σ[j]`.
  The file imports nothing of the simulator.
-/
import AcnProofs.Lemmas.Basic

namespace Acn

def reidx {α : Type} (σ : List Nat) (l : List α) (d : α) : List α := σ.map (fun i => l.getD i d)

theorem reidx_length {α : Type} (σ : List Nat) (l : List α) (d : α) : (reidx σ l d).length = σ.length := by
  simp [reidx]

theorem reidx_perm {α : Type} {σ : List Nat} {l : List α} (d : α) (h : σ.Perm (List.range l.length)) :
    (reidx σ l d).Perm l := by
  have := h.map (fun i => l.getD i d)
  rwa [range_map_getD] at this

theorem reidx_range {α : Type} {l : List α} {n : Nat} (d : α) (h : l.length = n) : reidx (List.range n) l d = l := by
  rw [reidx, ← h, range_map_getD]

theorem zipWith_reidx {α β γ : Type} (f : α → β → γ) (σ : List Nat) (a : List α) (b : List β) (da : α) (db : β) :
    List.zipWith f (reidx σ a da) (reidx σ b db) = σ.map (fun i => f (a.getD i da) (b.getD i db)) := by
  simp [reidx, List.zipWith_map, List.zipWith_self]

namespace SimEquiv

theorem getD_reidx {α : Type} (σ : List Nat) (l : List α) (d : α) (j : Nat) (hj : j < σ.length) :
    (reidx σ l d).getD j d = l.getD (σ.getD j 0) d := by
  unfold reidx
  simp [List.getD_eq_getElem?_getD, hj]

theorem reidx_set {α : Type} (σ : List Nat) (l : List α) (d v : α) (j i : Nat) (hnd : σ.Nodup)
    (hj : j < σ.length) (hσ : σ.getD j 0 = i) (hi : i < l.length) :
    reidx σ (l.set i v) d = (reidx σ l d).set j v := by
  have hσj : σ[j] = i := by rw [← hσ]; simp [List.getD_eq_getElem?_getD, hj]
  apply List.ext_getElem?
  intro k
  simp only [reidx, List.getElem?_map, List.getElem?_set, List.length_map]
  by_cases hk : k < σ.length
  · have hσk : σ[k]? = some σ[k] := List.getElem?_eq_getElem hk
    rw [hσk]
    simp only [Option.map_some]
    by_cases hjk : j = k
    · subst hjk
      simp [hj, hσj, List.getD_eq_getElem?_getD, hi]
    · have hne : i ≠ σ[k] := by
        intro h
        exact hjk ((hnd.getElem_inj_iff).1 (hσj.trans h))
      simp [hjk, List.getD_eq_getElem?_getD, hne]
  · have hσk : σ[k]? = none := by simp; omega
    have hjk : ¬ j = k := by omega
    simp [hσk, hjk]

theorem reidx_map {α β : Type} (f : α → β) (σ : List Nat) (l : List α) (da : α) (db : β)
    (h : ∀ i ∈ σ, i < l.length) : reidx σ (l.map f) db = (reidx σ l da).map f := by
  unfold reidx
  rw [List.map_map]
  apply List.map_congr_left
  intro i hi
  simp [List.getD_eq_getElem?_getD, h i hi]

theorem perm_lt {σ : List Nat} {n : Nat} (h : σ.Perm (List.range n)) : ∀ i ∈ σ, i < n :=
  fun _ hi => List.mem_range.1 (h.mem_iff.1 hi)

theorem perm_nodup {σ : List Nat} {n : Nat} (h : σ.Perm (List.range n)) : σ.Nodup :=
  h.nodup_iff.2 List.nodup_range

theorem perm_length {σ : List Nat} {n : Nat} (h : σ.Perm (List.range n)) : σ.length = n := by
  simpa using h.length_eq

theorem reidx_replicate {α : Type} (σ : List Nat) (n : Nat) (a d : α) (h : ∀ i ∈ σ, i < n) :
    reidx σ (List.replicate n a) d = List.replicate σ.length a := by
  unfold reidx
  rw [List.eq_replicate_iff]
  refine ⟨by simp, ?_⟩
  intro b hb
  obtain ⟨i, hi, rfl⟩ := List.mem_map.1 hb
  simp [List.getD_eq_getElem?_getD, h i hi]

theorem reidx_zipWith {α β γ : Type} (f : α → β → γ) (σ : List Nat) (a : List α) (b : List β) (da : α) (db : β)
    (dc : γ) (ha : ∀ i ∈ σ, i < a.length) (hb : ∀ i ∈ σ, i < b.length) :
    reidx σ (List.zipWith f a b) dc = List.zipWith f (reidx σ a da) (reidx σ b db) := by
  rw [zipWith_reidx]
  exact List.map_congr_left fun i hi => by simp [List.getD_eq_getElem?_getD, ha i hi, hb i hi]

/-- reading the re-indexed list anywhere: past the end of `σ` the index read in `l` is past its end too -/
theorem getD_reidx_any {α : Type} (σ : List Nat) (l : List α) (d : α) (j : Nat) :
    (reidx σ l d).getD j d = l.getD (σ.getD j l.length) d := by
  by_cases hj : j < σ.length
  · simp [reidx, List.getD_eq_getElem?_getD, hj]
  · simp [reidx, List.getD_eq_getElem?_getD, Nat.not_lt.1 hj]

/-- a key that does not occur sends both searches past the end, hence the default `l.length` -/
theorem idxOf_reidx {α : Type} [BEq α] [LawfulBEq α] {σ : List Nat} {l : List α} (d : α)
    (hσ : σ.Perm (List.range l.length)) (hnd : l.Nodup) (a : α) :
    σ.getD ((reidx σ l d).idxOf a) l.length = l.idxOf a := by
  by_cases ha : a ∈ l
  · have hj : (reidx σ l d).idxOf a < (reidx σ l d).length :=
      List.idxOf_lt_length_iff.2 ((reidx_perm d hσ).mem_iff.2 ha)
    have hjσ : (reidx σ l d).idxOf a < σ.length := by rwa [reidx_length] at hj
    have hlt : σ.getD ((reidx σ l d).idxOf a) l.length < l.length := perm_lt hσ _ (getD_mem σ _ hjσ)
    -- the entry found is `l[σ[j]]`, and `a` stands nowhere else in `l`
    have e : l[σ.getD ((reidx σ l d).idxOf a) l.length] = a := by
      rw [← List.getD_eq_getElem l d hlt, ← getD_reidx_any, List.getD_eq_getElem _ d hj]
      exact List.getElem_idxOf hj
    rw [← hnd.idxOf_getElem _ hlt, e]
  · rw [List.idxOf_eq_length ha, List.idxOf_eq_length (fun h => ha ((reidx_perm d hσ).mem_iff.1 h)), reidx_length]
    simp [List.getD_eq_getElem?_getD]

end SimEquiv
end Acn
