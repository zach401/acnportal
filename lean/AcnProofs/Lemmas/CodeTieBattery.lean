/-
  T1c (DESIGN §17), group Battery (properties C02, C03, C14) — `Battery.charge`, `Linear2StageBattery._charge` /
  `_charge_stepwise`, `Battery.reset` (acnportal/acnsim/models/battery.py) and `EV.charge` (models/ev.py), as translated
  into `AcnModel/Gen/CodeBattery.lean`, equal `Battery.idealCharge`, `contCharge`, `stepCharge`, `Battery.reset` and
  `Evse.Ev.charge`, for every input and at every carrier `K`.

  Not translated (recorded in the trusted base): Python's `ZeroDivisionError` on float division —
  the hand models return `zeroDivision` where the implementation raises; the ties are stated for the
  inputs on which the model does not report it.  NaN/inf comparison corner cases are IEEE matters.
-/
import AcnModel.Gen.CodeBattery

set_option linter.unusedSectionVars false

namespace Acn.CodeTie
open Acn Acn.Battery Acn.Evse

section
variable {K : Type} [Add K] [Sub K] [Mul K] [Div K] [Neg K] [LT K] [LE K]
  [DecidableLT K] [DecidableLE K] [OfNat K 0] [OfNat K 1] [NatCast K] [HasExp K]

/-- `Battery.charge` (battery.py) is `Battery.idealCharge`. -/
theorem battery_charge_tie (b : Batt K) (pilot V T : K) :
    Gen.Code.battery_charge b pilot V T = idealCharge b pilot V T := by
  unfold Gen.Code.battery_charge idealCharge
  refine ite_congr rfl (fun _ => rfl) fun _ => ?_
  exact ite_congr rfl (fun _ => rfl) fun _ => rfl

/-- `Linear2StageBattery._charge_stepwise` is `Battery.stepCharge` (where Python's `self._soc`
    does not raise `ZeroDivisionError`). -/
theorem l2s_charge_stepwise_tie (b : Batt K) (pilot V T ν : K) (hz : isZero b.capacity = false) :
    Gen.Code.l2s_charge_stepwise b pilot V T ν = stepCharge b pilot V T ν := by
  unfold Gen.Code.l2s_charge_stepwise stepCharge
  refine ite_congr rfl (fun _ => rfl) fun _ => ?_
  refine ite_congr rfl (fun _ => rfl) fun _ => ?_
  rw [hz, if_neg Bool.false_ne_true]
  rfl

/-- `Linear2StageBattery._charge` is `Battery.contCharge` (where Python's divisions by the capacity
    and by `max_dsoc` do not raise). -/
theorem l2s_charge_tie (b : Batt K) (pilot V T ν : K) (hz : isZero b.capacity = false)
    (hm : isZero (b.maxPower / b.capacity / ((60 : Nat) / T)) = false) :
    Gen.Code.l2s_charge b pilot V T ν = contCharge b pilot V T ν := by
  unfold Gen.Code.l2s_charge contCharge
  -- guard by guard; the model tests `capacity == 0` and `max_dsoc == 0` where Python would raise
  refine ite_congr rfl (fun _ => rfl) fun _ => ?_
  refine ite_congr rfl (fun _ => rfl) fun _ => ?_
  refine ite_congr rfl (fun _ => rfl) fun _ => ?_
  rw [hz, if_neg Bool.false_ne_true]
  refine ite_congr rfl (fun _ => rfl) fun _ => ?_
  show _ = if isZero (b.maxPower / b.capacity / ((60 : Nat) / T)) = true then _ else _
  rw [hm, if_neg Bool.false_ne_true]
  rfl

/-- `Battery.reset` (battery.py:72-89), translated, is the model's `Battery.reset`. -/
theorem battery_reset_tie (b : Batt K) (i : Option K) :
    Gen.Code.battery_reset b i = Battery.reset b i := by
  unfold Gen.Code.battery_reset Battery.reset
  cases i <;> rfl

/-- `EV.charge` is `Evse.Ev.charge` (returned rate = the battery's). -/
theorem ev_charge_tie (e : Ev K) (pilot V T ν : K) :
    (Gen.Code.ev_charge e pilot V T ν).map Prod.fst = e.charge pilot V T ν := by
  unfold Gen.Code.ev_charge Ev.charge
  cases Battery.charge e.batt pilot V T ν with
  | error x => rfl
  | ok p => obtain ⟨b, r⟩ := p; rfl

end

/-- every target of this group was translated in this run -/
theorem all_translated_battery : Gen.Code.translatedBattery = ["battery_charge", "l2s_charge", "l2s_charge_stepwise", "battery_reset", "ev_charge"] := rfl

end Acn.CodeTie
