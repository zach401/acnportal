/-
  Consequences of C07's per-call guarantees inside the shared simulator model (`AcnModel/Sim.lean`):
  a pilot of the shape `pilot_accepted_*` proves is accepted by `EVSE.set_pilot`, so `applyStage`
  raises no `InvalidRateError`; a pilot within the remaining demand (`le_remaining_*`) keeps
  `energy_delivered ≤ requested_energy` through `EV.charge` (`BattReal.ev_rate_le_pilot`).
-/
import AcnProofs.Lemmas.BatteryReal
import AcnProofs.Lemmas.SortedBasic
import AcnProofs.Lemmas.EventCoreSim
import AcnProofs.Lemmas.LedgerSim
import AcnProofs.Lemmas.EvseClass

set_option linter.unusedSectionVars false

namespace Acn.Sorted
open Acn Acn.Evse

section
variable {K : Type} [Field K] [LinearOrder K] [IsStrictOrderedRing K] [HasExp K]

/-- the shape of a pilot that C07's `pilot_accepted_*` / `zero_for_inactive_*` establish, per EVSE
    class: continuous-from-zero — within `[0, max]`; finite — one of the (normalised, 0-containing)
    levels; deadband stations only ever see 0 from these theorems (vacant stations) -/
def Accepts : Evse.Kind K → K → Prop
  | .cont mn mx, p => mn ≤ 0 ∧ 0 ≤ p ∧ (match mx with | none => True | some m => p ≤ m)
  | .finite rates, p => p ∈ rates
  | .deadband _ _, p => p = 0

theorem validRate_of_accepts (atol fa : K) (ha : 0 ≤ atol) (hf : 0 ≤ fa) (k : Evse.Kind K) (p : K)
    (h : Accepts k p) : validRate atol fa k p = true := by
  -- C07's shapes are allowed pilots of their class
  refine validRate_of_allowed (tolOf_nonneg ha hf k) ?_
  cases k with
  | cont mn mx => exact ⟨h.1.trans h.2.1, by cases mx <;> exact h.2.2⟩
  | deadband db mx => exact Or.inl h
  | finite rates => exact h

/-- the tolerances of a simulation are non-negative (they are 1e-3 in the source, `Gen.Consts`) -/
def TolOk (cfg : Sim.Cfg K) : Prop := 0 ≤ cfg.atolCont ∧ 0 ≤ cfg.atolDeadband ∧ 0 ≤ cfg.atolFinite

theorem atolOf_nonneg (cfg : Sim.Cfg K) (h : TolOk cfg) (k : Evse.Kind K) : 0 ≤ Sim.atolOf cfg k := by
  cases k <;> simp [Sim.atolOf, h.1, h.2.1, h.2.2]

theorem setPilotAt_not_invalidRate (cfg : Sim.Cfg K) (htol : TolOk cfg) (s : Sim.State K) (i : Nat)
    (st : Sim.Station K) (h : Accepts st.kind (s.pilots.get i s.core.iter)) :
    (Sim.setPilotAt cfg s i st).2 ≠ some .invalidRate := by
  have hv := validRate_of_accepts (Sim.atolOf cfg st.kind) cfg.atolFinite (atolOf_nonneg cfg htol st.kind)
    htol.2.2 st.kind _ h
  rcases hs : Sim.setPilotAt cfg s i st with ⟨s', err⟩
  cases Sim.SetPilot.of_eq hs with
  | invalid hf => rw [hv] at hf; cases hf
  | chargeRaise _ _ _ => nofun
  | vacant _ _ => nofun
  | charged _ _ _ => nofun

/-- the stations read column `iter` of the pilot matrix, which `update_pilots` does not touch -/
theorem updatePilotsFrom_not_invalidRate (cfg : Sim.Cfg K) (htol : TolOk cfg) (rest : List (Sim.Station K))
    (i : Nat) (s : Sim.State K)
    (h : ∀ k st, rest[k]? = some st → Accepts st.kind (s.pilots.get (i + k) s.core.iter)) :
    (Sim.updatePilotsFrom cfg i rest s).2 ≠ some .invalidRate := by
  rcases hr : Sim.updatePilotsFrom cfg i rest s with ⟨s', _ | e⟩
  · nofun
  · obtain ⟨k, st, a, hk, hf, ha⟩ := Sim.updatePilotsFrom_raise hr
    have hne := setPilotAt_not_invalidRate cfg htol a (i + k) st (by rw [hf.pilots, hf.core]; exact h k st hk)
    rwa [ha] at hne

theorem applyStage_not_invalidRate (cfg : Sim.Cfg K) (htol : TolOk cfg) (s : Sim.State K)
    (h : ∀ k st, cfg.stations[k]? = some st →
      Accepts st.kind ((Sim.widen s).pilots.get k (Sim.widen s).core.iter)) :
    (Sim.applyStage cfg s).2 ≠ some .invalidRate := by
  rcases ha : Sim.applyStage cfg s with ⟨s', err⟩
  cases Sim.Apply.of_eq ha with
  | noColumn _ => nofun
  | pilotsRaise _ hu =>
    have hup := updatePilotsFrom_not_invalidRate cfg htol cfg.stations 0 (Sim.widen s)
      (by intro k st hk; rw [Nat.zero_add]; exact h k st hk)
    rwa [show Sim.updatePilotsFrom cfg 0 cfg.stations (Sim.widen s) = _ from hu] at hup
  | storeRaise _ _ hs => rw [Sim.storeRates_raise hs]; nofun
  | done _ _ _ => nofun

end

/-! ### the energy ledger (ℝ: `Battery.charge` dispatches to the exponential law) -/

theorem charge_le_requested {e e' : Ev ℝ} (hb : BattAlg.Inv e.batt) {pilot V T ν : ℝ}
    (hp : 0 ≤ pilot) (hV : 0 < V) (hT : 0 < T)
    (hrem : pilot ≤ (e.requested - e.delivered) * 1000 / V * 60 / T)
    (h : e.charge pilot V T ν = .ok e') :
    e'.delivered ≤ e.requested ∧ e'.requested = e.requested ∧ e.delivered ≤ e'.delivered ∧
    BattAlg.Inv e'.batt := by
  obtain ⟨h0, h1, h2, h3, h4⟩ := BattReal.ev_rate_le_pilot hb hp h
  have hreq : e'.requested = e.requested := by
    obtain ⟨b', r, -, rfl⟩ := Ev.charge_ok h
    rfl
  refine ⟨?_, hreq, h2, h4⟩
  rw [h3]
  have hk : 0 < V / 1000 * (T / 60) := by positivity
  have h5 : e'.rate * (V / 1000 * (T / 60)) ≤ pilot * (V / 1000 * (T / 60)) :=
    mul_le_mul_of_nonneg_right h1 (le_of_lt hk)
  have h6 : pilot * (V / 1000 * (T / 60)) ≤
      ((e.requested - e.delivered) * 1000 / V * 60 / T) * (V / 1000 * (T / 60)) :=
    mul_le_mul_of_nonneg_right hrem (le_of_lt hk)
  have h7 : ((e.requested - e.delivered) * 1000 / V * 60 / T) * (V / 1000 * (T / 60)) =
      e.requested - e.delivered := by
    field_simp
  have h8 : e'.rate * V / 1000 * (T / 60) = e'.rate * (V / 1000 * (T / 60)) := by ring
  linarith

def LedgerOk (e : Ev ℝ) : Prop := BattAlg.Inv e.batt ∧ e.delivered ≤ e.requested

/-- the remaining demand of an EV in amp-periods at its station (interface.py:573-592) -/
noncomputable def rapEv (cfg : Sim.Cfg ℝ) (st : Sim.Station ℝ) (e : Ev ℝ) : ℝ :=
  (e.requested - e.delivered) * 1000 / st.voltage * 60 / cfg.period

theorem updatePilotsFrom_ledger (cfg : Sim.Cfg ℝ) (hT : 0 < cfg.period) :
    ∀ (rest : List (Sim.Station ℝ)) (i : Nat) (s : Sim.State ℝ),
      (∀ st ∈ rest, 0 < st.voltage) →
      (∀ e ∈ s.evs, LedgerOk e) →
      rest.Pairwise (fun a b => ∀ x y, s.core.occ a.id = some x → s.core.occ b.id = some y → x.id ≠ y.id) →
      (∀ k st, rest[k]? = some st → ∀ e, Sim.occupantEv s st.id = some e →
        0 ≤ s.pilots.get (i + k) s.core.iter ∧ s.pilots.get (i + k) s.core.iter ≤ rapEv cfg st e) →
      ∀ e ∈ (Sim.updatePilotsFrom cfg i rest s).1.evs, LedgerOk e := by
  intro rest i s hV hinv hpw hp
  rcases h : Sim.updatePilotsFrom cfg i rest s with ⟨s', err⟩
  -- whatever the outcome, a record is an old one or an occupant charged once by its own station
  obtain ⟨k, -, hS⟩ := Ledger.updatePilotsFrom_served cfg rest i s s' err h hpw
  refine hS.forall hinv fun e d j st x ν hj hx he hc hPe => ?_
  have hj' : rest[j]? = some st := by
    rw [List.getElem?_take] at hj
    split at hj
    · exact hj
    · cases hj
  have ho : Sim.occupantEv s st.id = some e := by rw [Ledger.occupantEv_eq, hx]; exact he
  obtain ⟨h1, h2, -, h4⟩ := charge_le_requested hPe.1 (hp j st hj' e ho).1 (hV st (List.mem_of_getElem? hj')) hT
    (hp j st hj' e ho).2 hc
  exact ⟨h4, by rw [h2]; exact h1⟩

end Acn.Sorted
