/-
  The event core IN THE MIDDLE OF A PERIOD (for crash / resume reasoning: C02 resumed runs, JSON round trip of any
  reachable state).  A period aborted after its events stage — by the scheduler, by `_update_schedules`, by
  `update_pilots` — leaves the core in a state `Mid cfg t c`: the events of period `t` have been applied (C01's inner
  invariants `HistOK / PendOK` with nothing left to do, occupancy = the connection intervals containing `t`),
  `_iteration` is still `t`.  Re-entering the loop from such a state pops nothing (every pending event lies in the
  future, `mid_eventsStage`), and the rest of the period carries `Mid` to C01's loop invariant at `t + 1` exactly as
  in an uninterrupted period (`mid_finish`; `Mid` is in `EventCoreRun.lean`).  `HeadOrMid` is where
  a simulator object stands between `run()` calls: a period from such a state, whatever its outcome, leads to such a
  state, to a loop head when nothing was raised (`HeadOrMid.body`; `Sim.body_headOrMid` for the full model, through
  `body_core_any`).
-/
import AcnProofs.Lemmas.EventCoreRun
import AcnProofs.Lemmas.EventCoreSimFail

namespace Acn.EventCore

variable {cfg : Cfg}

theorem Mid.pending_future (hv : Valid cfg) {t : Nat} {c : Core} (h : Mid cfg t c) :
    ∀ e ∈ c.pending, (t : Int) < e.ts := by
  intro e he
  rcases (h.pend.2 e).1 he with ⟨_, hlt⟩ | ⟨x, hx, rfl, hxa, _⟩
  · exact hlt
  · have := hv.arr_lt_dep x hx
    show (t : Int) < x.departure
    omega

theorem mid_eventsStage (hv : Valid cfg) {t : Nat} {c : Core} (h : Mid cfg t c) :
    eventsStage cfg c = (c, none) :=
  eventsStage_nothing_due cfg c (h.iter ▸ h.pending_future hv)

/-- The core `c'` after `scheduler.run` / `_update_schedules` / `update_pilots` / `iteration += 1`, relative to the
    core `c1` after the events of the period; `err` is what was raised.  Only the call log and the schedule marks
    change; the counter advances iff nothing was raised, and then `_resolve` is cleared. -/
structure Rest (c1 c' : Core) (err : Option Err) : Prop where
  pending : c'.pending = c1.pending
  occ : c'.occ = c1.occ
  eventHist : c'.eventHist = c1.eventHist
  evHist : c'.evHist = c1.evHist
  raised : err ≠ none → c'.iter = c1.iter
  returned : err = none → c'.iter = c1.iter + 1 ∧ c'.resolve = false

theorem body_rest (cfg : Cfg) (sched apply : Core → Option Err) {c c1 : Core} (h : eventsStage cfg c = (c1, none)) :
    Rest c1 (body cfg sched apply c).1 (body cfg sched apply c).2 := by
  unfold body finish
  rw [h]
  simp only
  split
  · split
    · exact ⟨rfl, rfl, rfl, rfl, fun _ => rfl, fun h => nomatch h⟩
    · split
      · exact ⟨rfl, rfl, rfl, rfl, fun _ => rfl, fun h => nomatch h⟩
      · exact ⟨rfl, rfl, rfl, rfl, fun h => absurd rfl h, fun _ => ⟨rfl, rfl⟩⟩
  · rename_i hn
    split
    · exact ⟨rfl, rfl, rfl, rfl, fun _ => rfl, fun h => nomatch h⟩
    · exact ⟨rfl, rfl, rfl, rfl, fun h => absurd rfl h, fun _ => ⟨rfl, resolve_of_not_needsSched (c := c1) hn⟩⟩

theorem mid_finish (hv : Valid cfg) {t : Nat} {c1 : Core} (h : Mid cfg t c1) (c2 : Core)
    (e1 : c2.iter = t + 1) (e2 : c2.pending = c1.pending) (e3 : c2.occ = c1.occ) (e4 : c2.resolve = false)
    (e5 : c2.eventHist = c1.eventHist) (e6 : c2.evHist = c1.evHist) : Inv cfg (t + 1) c2 := by
  have hG := MidG.next hv.toQ ⟨h.iter, h.hist, h.pend, h.evh⟩ e1 e2 e4 e5 e6
  refine ⟨hG.iter, hG.pend_nodup, hG.pend_iff, fun st x => ?_, hG.resolve, hG.hist_nodup, hG.hist_iff,
    hG.hist_sorted, hG.evh⟩
  rw [e3, h.occ]
  push_cast
  constructor <;> rintro ⟨a, b, c', d⟩ <;> exact ⟨a, b, by omega, by omega⟩

theorem Mid.rest (hv : Valid cfg) {t : Nat} {c1 c' : Core} {err : Option Err} (hM : Mid cfg t c1)
    (h : Rest c1 c' err) : (err = none → Inv cfg c'.iter c') ∧ (err ≠ none → Mid cfg c'.iter c') := by
  refine ⟨fun he => ?_, fun he => ?_⟩
  · obtain ⟨hit, hres⟩ := h.returned he
    rw [hM.iter] at hit
    exact hit ▸ mid_finish hv hM c' hit h.pending h.occ hres h.eventHist h.evHist
  · have hit := h.raised he
    rw [hM.iter] at hit
    refine hit ▸ ⟨hit, h.eventHist ▸ hM.hist, h.pending ▸ hM.pend, h.occ ▸ hM.occ, ?_⟩
    have := hM.evh
    unfold EvhOK at this ⊢
    rw [h.evHist, h.eventHist, this]

/-- the core is at a loop head (C01's invariant) or in the middle of the period `_iteration` names: the states a
    simulator object is in between `run()` calls, each completed, out of fuel or aborted -/
def HeadOrMid (cfg : Cfg) (c : Core) : Prop := Inv cfg c.iter c ∨ Mid cfg c.iter c

theorem HeadOrMid.events (hv : Valid cfg) {c : Core} (h : HeadOrMid cfg c) :
    ∃ c1, eventsStage cfg c = (c1, none) ∧ Mid cfg c.iter c1 :=
  h.elim (fun hI => (eventsStage_ok hv hI).imp fun _ h1 => ⟨h1.1, h1.2.2⟩) fun hM => ⟨c, mid_eventsStage hv hM, hM⟩

theorem HeadOrMid.body (hv : Valid cfg) (sched apply : Core → Option Err) {c : Core} (h : HeadOrMid cfg c) :
    HeadOrMid cfg (body cfg sched apply c).1 ∧
      ((body cfg sched apply c).2 = none → Inv cfg (body cfg sched apply c).1.iter (body cfg sched apply c).1) := by
  obtain ⟨c1, hce, hM⟩ := h.events hv
  obtain ⟨h0, h1⟩ := hM.rest hv (body_rest cfg sched apply hce)
  refine ⟨?_, h0⟩
  cases he : (EventCore.body cfg sched apply c).2 with
  | none => exact Or.inl (h0 he)
  | some e => exact Or.inr (h1 (by rw [he]; exact Option.some_ne_none e))

end Acn.EventCore

namespace Acn.Sim
open Acn Acn.EventCore

variable {K : Type} [Add K] [Sub K] [Mul K] [Div K] [Neg K] [LT K] [LE K]
  [DecidableLT K] [DecidableLE K] [OfNat K 0] [OfNat K 1] [NatCast K] [HasExp K]

theorem body_headOrMid {cfg : Cfg K} (hv : Valid cfg.core) (sched : View K → Except Err (Schedule K)) {s : State K}
    (h : HeadOrMid cfg.core s.core) :
    HeadOrMid cfg.core (body cfg sched s).1.core ∧
      ((body cfg sched s).2 = none → Inv cfg.core (body cfg sched s).1.core.iter (body cfg sched s).1.core) := by
  have := h.body hv (fun _ => schedOutcome cfg sched s) (fun _ => applyOutcome cfg sched s)
  rwa [body_core_any cfg sched s] at this

end Acn.Sim
