/-
  Helper lemmas for C11: CPython's array heap (`Acn.Heap`) keeps the heap invariant and the
  multiset, for every strict weak order `lt`.

  Both sift loops move a hole through the array.  `Except lt a pos` says that `a` is a heap but
  for the hole `pos`; the two facts everything rests on are `Except.fill` (a fitting entry
  closes the hole) and `Inv.toExcept` (a heap is a heap with a hole anywhere).  A loop step
  copies a neighbour of the hole into it: that closes the hole (`fill`), and the neighbour's
  old slot is the new hole (`toExcept`).
-/
import AcnModel.Queue
import Mathlib.Tactic

namespace Acn.Heap

variable {α : Type}

/-- strict weak order on a Boolean `<` -/
structure SWO (lt : α → α → Bool) : Prop where
  irrefl : ∀ a, lt a a = false
  trans : ∀ a b c, lt a b = true → lt b c = true → lt a c = true
  incomp_trans : ∀ a b c, lt a b = false → lt b a = false → lt b c = false → lt c b = false →
    lt a c = false ∧ lt c a = false

variable {lt : α → α → Bool}

theorem SWO.le_of_lt (h : SWO lt) {a b : α} (hab : lt a b = true) : lt b a = false := by
  by_contra hc
  have := h.trans a b a hab (by simpa using hc)
  simp [h.irrefl] at this

/-- `lt y x = false` reads `x ≤ y` -/
theorem SWO.le_trans (h : SWO lt) {a b c : α} (h1 : lt b a = false) (h2 : lt c b = false) :
    lt c a = false := by
  by_contra hc
  have hca : lt c a = true := by simpa using hc
  -- b and c incomparable, a and b incomparable
  have hbc : lt b c = false := by
    by_contra h'
    have := h.trans b c a (by simpa using h') hca
    simp [h1] at this
  have hab : lt a b = false := by
    by_contra h'
    have := h.trans c a b hca (by simpa using h')
    simp [h2] at this
  have := (h.incomp_trans a b c hab h1 hbc h2).2
  simp [hca] at this

/-- heap invariant: no entry is `<` its parent -/
def Inv (lt : α → α → Bool) (a : Array α) : Prop :=
  ∀ i x y, 0 < i → a[i]? = some x → a[(i - 1) / 2]? = some y → lt x y = false

/-- heap invariant everywhere except around the hole `pos` (whose content is irrelevant):
    every edge that does not touch `pos` is in order, and the children of `pos` are not below
    the parent of `pos`. -/
def Except (lt : α → α → Bool) (a : Array α) (pos : Nat) : Prop :=
  (∀ i x y, 0 < i → i ≠ pos → (i - 1) / 2 ≠ pos → a[i]? = some x → a[(i - 1) / 2]? = some y →
      lt x y = false) ∧
  (∀ i x y, 0 < pos → 0 < i → (i - 1) / 2 = pos → a[i]? = some x → a[(pos - 1) / 2]? = some y →
      lt x y = false)

theorem getElem?_set_eq_some {a : Array α} {p i : Nat} {x u : α} :
    (a.setIfInBounds p x)[i]? = some u ↔
      (p = i ∧ p < a.size ∧ x = u) ∨ (p ≠ i ∧ a[i]? = some u) := by
  rw [Array.getElem?_setIfInBounds]
  by_cases h : p = i
  · subst h
    by_cases hp : p < a.size <;> simp [hp]
  · simp [h]

theorem setIfInBounds_getElem (a : Array α) (i : Nat) (hi : i < a.size) :
    a.setIfInBounds i a[i] = a := by
  simp [Array.setIfInBounds, hi]

/-- copying slot `j` into slot `i` and then writing `x` at `j` holds the same entries as writing
    `x` at `i`: the two arrays differ by the swap of `i` and `j` -/
theorem move_perm (a : Array α) (i j : Nat) (x : α) (hij : i ≠ j) (hi : i < a.size)
    (hj : j < a.size) :
    ((a.setIfInBounds i a[j]).setIfInBounds j x).Perm (a.setIfInBounds i x) := by
  have hi' : i < (a.setIfInBounds i x).size := by simpa using hi
  have hj' : j < (a.setIfInBounds i x).size := by simpa using hj
  convert Array.swap_perm hi' hj' using 1
  apply Array.ext_getElem?
  intro k
  rw [Array.getElem?_swap, Array.getElem_setIfInBounds_self, Array.getElem_setIfInBounds_ne hj hij]
  simp only [Array.getElem?_setIfInBounds]
  by_cases hjk : j = k
  · subst hjk; simp [hj]
  · by_cases hik : i = k
    · subst hik; simp [hjk, hi]
    · simp [hjk, hik]

theorem Except.set_self {a : Array α} {pos : Nat} (h : Except lt a pos) (x : α) :
    Except lt (a.setIfInBounds pos x) pos := by
  refine ⟨fun i u v hi hne hpne hu hv => ?_, fun i u v hp hi hpar hu hv => ?_⟩
  · rw [Array.getElem?_setIfInBounds_ne (Ne.symm hne)] at hu
    rw [Array.getElem?_setIfInBounds_ne (Ne.symm hpne)] at hv
    exact h.1 i u v hi hne hpne hu hv
  · rw [Array.getElem?_setIfInBounds_ne (by omega)] at hu hv
    exact h.2 i u v hp hi hpar hu hv

theorem Except.fill {a : Array α} {pos : Nat} (hex : Except lt a pos) (x : α)
    (hch : ∀ i u, 0 < i → (i - 1) / 2 = pos → a[i]? = some u → lt u x = false)
    (hpar : ∀ y, 0 < pos → a[(pos - 1) / 2]? = some y → lt x y = false) :
    Inv lt (a.setIfInBounds pos x) := by
  intro i u v hi hu hv
  rcases getElem?_set_eq_some.mp hu with ⟨h1, _, rfl⟩ | ⟨h1, hu⟩ <;>
    rcases getElem?_set_eq_some.mp hv with ⟨h2, _, rfl⟩ | ⟨h2, hv⟩
  · omega
  · subst h1; exact hpar v hi hv
  · exact hch i u hi h2.symm hu
  · exact hex.1 i u v hi (Ne.symm h1) (Ne.symm h2) hu hv

/-- a heap is a heap with a hole at any `q`: the children of `q` are above `q`, hence above
    its parent -/
theorem Inv.toExcept (h : SWO lt) {a : Array α} (hinv : Inv lt a) (q : Nat) : Except lt a q := by
  refine ⟨fun i x y hi _ _ hx hy => hinv i x y hi hx hy, fun i x y hq hi hpar hx hy => ?_⟩
  subst hpar
  have hi' : i < a.size := (Array.getElem?_eq_some_iff.mp hx).1
  have hq' := Array.getElem?_eq_getElem (show (i - 1) / 2 < a.size by omega)
  exact h.le_trans (hinv _ _ y hq hq' hy) (hinv i x _ hi hx hq')

/-- `_siftdown`'s loop (towards the root, `startpos = 0`) -/
theorem siftdownLoop_spec (h : SWO lt) (newitem : α) :
    ∀ (fuel : Nat) (a : Array α) (pos : Nat) (r : Array α × Nat),
      siftdownLoop lt newitem 0 fuel a pos = r → pos ≤ fuel → pos < a.size → Except lt a pos →
      (∀ i x, 0 < i → (i - 1) / 2 = pos → a[i]? = some x → lt x newitem = false) →
      Inv lt (r.1.setIfInBounds r.2 newitem) ∧
      (r.1.setIfInBounds r.2 newitem).Perm (a.setIfInBounds pos newitem) := by
  intro fuel
  induction fuel with
  | zero =>
    rintro a pos _ rfl hf hp hex hch
    exact ⟨hex.fill newitem hch (fun y h0 => absurd h0 (Nat.not_lt.mpr hf)), Array.Perm.refl _⟩
  | succ fuel ih =>
    intro a pos r hr hf hp hex hch
    rw [siftdownLoop] at hr
    by_cases hpos : pos > 0
    · have hlt : (pos - 1) / 2 < pos := by omega
      have hpp : (pos - 1) / 2 < a.size := hlt.trans hp
      have hpar := Array.getElem?_eq_getElem hpp
      simp only [if_pos hpos, hpar] at hr
      by_cases hnp : lt newitem (a[(pos - 1) / 2]'hpp) = true
      · rw [if_pos hnp] at hr
        -- the parent comes down into the hole (a heap, as the hole's children are above the
        -- hole's parent) and leaves the hole in its own slot
        have hinv : Inv lt (a.setIfInBounds pos (a[(pos - 1) / 2]'hpp)) :=
          hex.fill _ (fun i u hi hip hu => hex.2 i u _ hpos hi hip hu hpar)
            (fun y _ hy => by rw [hpar] at hy; cases hy; exact h.irrefl _)
        have hpar' : (a.setIfInBounds pos (a[(pos - 1) / 2]'hpp))[(pos - 1) / 2]? =
            some (a[(pos - 1) / 2]'hpp) := by
          rw [Array.getElem?_setIfInBounds_ne (Nat.ne_of_gt hlt)]; exact hpar
        obtain ⟨i1, i2⟩ := ih _ _ r hr (Nat.le_of_lt_succ (hlt.trans_le hf))
          (by rw [Array.size_setIfInBounds]; exact hpp) (hinv.toExcept h _)
          (fun i u hi hip hu => h.le_trans (h.le_of_lt hnp) (hinv i u _ hi hu (by rw [hip]; exact hpar')))
        exact ⟨i1, i2.trans (move_perm a pos _ newitem (Nat.ne_of_gt hlt) hp hpp)⟩
      · rw [if_neg hnp] at hr
        subst hr
        refine ⟨hex.fill newitem hch fun y _ hy => ?_, Array.Perm.refl _⟩
        rw [hpar] at hy; cases hy; simpa using hnp
    · rw [if_neg hpos] at hr
      subst hr
      exact ⟨hex.fill newitem hch (fun y h0 => absurd h0 hpos), Array.Perm.refl _⟩

theorem child_eq {i pos : Nat} (hi : 0 < i) (hip : (i - 1) / 2 = pos) :
    i = 2 * pos + 1 ∨ i = 2 * pos + 1 + 1 := by omega

theorem lt_leftChild (pos : Nat) : pos < 2 * pos + 1 := by omega

theorem parent_leftChild (pos : Nat) : (2 * pos + 1 - 1) / 2 = pos := by omega

theorem parent_rightChild (pos : Nat) : (2 * pos + 1 + 1 - 1) / 2 = pos := by omega

theorem smallerChild_spec (h : SWO lt) (a : Array α) (pos : Nat) (hl : 2 * pos + 1 < a.size) :
    ∃ (c : Nat) (hc : c < a.size), smallerChild lt a a.size (2 * pos + 1) = c ∧ pos < c ∧
      (c - 1) / 2 = pos ∧
      ∀ i u, 0 < i → (i - 1) / 2 = pos → a[i]? = some u → lt u (a[c]'hc) = false := by
  unfold smallerChild
  simp only [Array.getElem?_eq_getElem hl]
  by_cases hr : 2 * pos + 1 + 1 < a.size
  · simp only [Array.getElem?_eq_getElem hr, hr, decide_true, Bool.true_and]
    cases hlt : lt (a[2 * pos + 1]'hl) (a[2 * pos + 1 + 1]'hr)
    · refine ⟨2 * pos + 1 + 1, hr, by simp, (lt_leftChild pos).trans (Nat.lt_succ_self _), parent_rightChild pos, fun i u hi hip hu => ?_⟩
      rcases child_eq hi hip with rfl | rfl <;> obtain ⟨_, rfl⟩ := Array.getElem?_eq_some_iff.mp hu
      · exact hlt
      · exact h.irrefl _
    · refine ⟨2 * pos + 1, hl, by simp, lt_leftChild pos, parent_leftChild pos, fun i u hi hip hu => ?_⟩
      rcases child_eq hi hip with rfl | rfl <;> obtain ⟨_, rfl⟩ := Array.getElem?_eq_some_iff.mp hu
      · exact h.irrefl _
      · exact h.le_of_lt hlt
  · have hnone : a[2 * pos + 1 + 1]? = none := Array.getElem?_eq_none (Nat.le_of_not_lt hr)
    simp only [hnone]
    refine ⟨2 * pos + 1, hl, rfl, lt_leftChild pos, parent_leftChild pos, fun i u hi hip hu => ?_⟩
    rcases child_eq hi hip with rfl | rfl
    · obtain ⟨_, rfl⟩ := Array.getElem?_eq_some_iff.mp hu
      exact h.irrefl _
    · rw [hnone] at hu; cases hu

/-- `_siftup`'s loop (towards the leaves): the hole travels all the way to a leaf, whatever the
    entries -/
theorem siftupLoop_spec (h : SWO lt) (n : Nat) :
    ∀ (fuel : Nat) (a : Array α) (pos : Nat) (r : Array α × Nat),
      siftupLoop lt n fuel a pos = r → a.size = n → n - pos ≤ fuel → pos < n → Except lt a pos →
      Except lt r.1 r.2 ∧ r.1.size = n ∧ r.2 < n ∧ n ≤ 2 * r.2 + 1 ∧
      ∀ x, (r.1.setIfInBounds r.2 x).Perm (a.setIfInBounds pos x) := by
  intro fuel
  induction fuel with
  | zero => exact fun a pos _ _ _ hf hp => absurd (Nat.sub_pos_of_lt hp) (Nat.not_lt.mpr hf)
  | succ fuel ih =>
    intro a pos r hr hn hf hp hex
    subst hn
    rw [siftupLoop] at hr
    by_cases hc0 : 2 * pos + 1 < a.size
    · obtain ⟨c, hc, hcdef, hposc, hcpar, hmin⟩ := smallerChild_spec h a pos hc0
      simp only [if_pos hc0, hcdef, Array.getElem?_eq_getElem hc] at hr
      -- the smaller child comes up into the hole (a heap, as it is above the hole's parent
      -- and not above its sibling) and leaves the hole in its own slot
      have hinv : Inv lt (a.setIfInBounds pos (a[c]'hc)) :=
        hex.fill _ hmin (fun y hpos hy =>
          hex.2 c _ y hpos (Nat.zero_lt_of_lt hposc) hcpar (Array.getElem?_eq_getElem hc) hy)
      obtain ⟨i1, i2, i3, i4, i5⟩ := ih _ c r hr Array.size_setIfInBounds (by omega) hc
        (hinv.toExcept h c)
      exact ⟨i1, i2, i3, i4, fun x => (i5 x).trans (move_perm a pos c x (Nat.ne_of_lt hposc) hp hc)⟩
    · simp only [if_neg hc0] at hr
      subst hr
      exact ⟨hex, rfl, hp, Nat.le_of_not_lt hc0, fun x => Array.Perm.refl _⟩

theorem Inv.empty : Inv lt (#[] : Array α) := by
  intro i x y _ hx; simp at hx

theorem Inv.root_min (h : SWO lt) {a : Array α} (hinv : Inv lt a) (hne : 0 < a.size) :
    ∀ x ∈ a.toList, lt x a[0] = false := by
  have key : ∀ (i : Nat) (hi : i < a.size), lt a[i] a[0] = false := by
    intro i
    induction i using Nat.strong_induction_on with
    | _ i ih =>
      intro hi
      rcases Nat.eq_zero_or_pos i with rfl | h0
      · exact h.irrefl _
      · have hp : (i - 1) / 2 < a.size := by omega
        exact h.le_trans (ih _ (by omega) hp)
          (hinv i _ _ h0 (Array.getElem?_eq_getElem hi) (Array.getElem?_eq_getElem hp))
  intro x hx
  obtain ⟨i, hi, rfl⟩ := Array.getElem_of_mem (Array.mem_toList_iff.mp hx)
  exact key i hi

/-- `_siftdown(heap, 0, pos)` -/
theorem siftdown_spec (h : SWO lt) (a : Array α) (pos : Nat) (hp : pos < a.size)
    (hex : Except lt a pos)
    (hch : ∀ i x, 0 < i → (i - 1) / 2 = pos → a[i]? = some x → lt x a[pos] = false) :
    Inv lt (siftdown lt a 0 pos) ∧ (siftdown lt a 0 pos).Perm a := by
  have := siftdownLoop_spec h a[pos] pos a pos _ rfl le_rfl hp hex hch
  rw [setIfInBounds_getElem a pos hp] at this
  simpa only [siftdown, Array.getElem?_eq_getElem hp] using this

theorem heappush_spec (h : SWO lt) (a : Array α) (x : α) (hinv : Inv lt a) :
    Inv lt (heappush lt a x) ∧ (heappush lt a x).Perm (a.push x) := by
  -- the new last slot has no children
  have leaf : ∀ i (u : α), 0 < i → (i - 1) / 2 = a.size → (a.push x)[i]? = some u → False := by
    intro i u hi hip hu
    have := (Array.getElem?_eq_some_iff.mp hu).1
    rw [Array.size_push] at this
    omega
  refine siftdown_spec h (a.push x) a.size (by simp) ⟨fun i u v hi hne hpne hu hv => ?_,
    fun i u v _ hi hip hu => (leaf i u hi hip hu).elim⟩ (fun i u hi hip hu => (leaf i u hi hip hu).elim)
  rw [Array.getElem?_push, if_neg hne] at hu
  rw [Array.getElem?_push, if_neg hpne] at hv
  exact hinv i u v hi hu hv

/-- `_siftup(heap, 0)` after the root has been overwritten -/
theorem siftup_root_spec (h : SWO lt) (a : Array α) (hp : 0 < a.size) (hex : Except lt a 0) :
    Inv lt (siftup lt a 0) ∧ (siftup lt a 0).Perm a := by
  unfold siftup
  simp only [Array.getElem?_eq_getElem hp]
  obtain ⟨i1, i2, i3, i4, i5⟩ := siftupLoop_spec h a.size a.size a 0 _ rfl rfl (by omega) hp hex
  generalize siftupLoop lt a.size a.size a 0 = r at *
  -- the hole is at a leaf now: nothing to compare `a[0]` with below it
  obtain ⟨j1, j2⟩ := siftdown_spec h (r.1.setIfInBounds r.2 a[0]) r.2 (by simpa [i2] using i3)
    (i1.set_self _) (fun i u hi hip hu => by
      have := (Array.getElem?_eq_some_iff.mp hu).1
      rw [Array.size_setIfInBounds] at this
      omega)
  refine ⟨j1, j2.trans ((i5 a[0]).trans ?_)⟩
  rw [setIfInBounds_getElem a 0 hp]

theorem heappop_empty (a : Array α) (h0 : a.size = 0) : heappop lt a = .error .indexError := by
  have : a = #[] := Array.eq_empty_of_size_eq_zero h0
  subst this; rfl

theorem heappop_spec (h : SWO lt) (a : Array α) (hinv : Inv lt a) (hne : 0 < a.size) :
    ∃ a', heappop lt a = .ok (a[0], a') ∧ Inv lt a' ∧ a.toList.Perm (a[0] :: a'.toList) := by
  -- `heappop` takes the array apart as `p.push z`
  obtain ⟨p, z, rfl⟩ := Array.eq_push_of_size_ne_zero (Nat.ne_of_gt hne)
  unfold heappop
  simp only [Array.back?_push, Array.pop_push]
  by_cases h0 : p.size = 0
  · have : p = #[] := Array.eq_empty_of_size_eq_zero h0
    subst this
    exact ⟨#[], rfl, Inv.empty, List.Perm.refl _⟩
  · have hp : 0 < p.size := by omega
    have hroot : (p.push z)[0] = p[0] := Array.getElem_push_lt hp
    simp only [Array.getElem?_eq_getElem hp, hroot]
    -- below the overwritten root the entries are those of `p`, a prefix of the heap
    have hex : Except lt (p.setIfInBounds 0 z) 0 := by
      refine ⟨fun i u v hi hne0 hpne hu hv => ?_, fun i u v h0 => by omega⟩
      rw [Array.getElem?_setIfInBounds_ne (by omega)] at hu hv
      have hi' := (Array.getElem?_eq_some_iff.mp hu).1
      refine hinv i u v hi ?_ ?_
      · rw [Array.getElem?_push, if_neg (by omega)]; exact hu
      · rw [Array.getElem?_push, if_neg (by omega)]; exact hv
    obtain ⟨j1, j2⟩ := siftup_root_spec h (p.setIfInBounds 0 z) (by simp [hp]) hex
    refine ⟨_, rfl, j1, ?_⟩
    refine List.Perm.trans ?_ (List.Perm.cons _ (Array.perm_iff_toList_perm.mp j2).symm)
    obtain ⟨l⟩ := p
    cases l with
    | nil => simp at hp
    | cons r tl => simp [List.perm_append_singleton z tl]

end Acn.Heap
