/-
  `run()` over a queue that also holds events of ignored types (`AcnModel/Ignored.lean`; C05): for a valid
  scenario and ignored events that are not late the loop goes on exactly while `t < horizonI` (`guardI_iff`),
  every trip keeps C01's loop invariant `Inv`, so the run is `horizonI` clean trips long (`runI_spec`).
-/
import AcnProofs.Lemmas.SchedView

namespace Acn.EventCore
open Acn Acn.Steps

/-- one past the largest ignored timestamp (0 when there is none) -/
def ignoredHorizon (ign : List Int) : Nat := (ign.foldr max (-1) + 1).toNat

/-- the number of periods of a run over known and ignored events -/
def horizonI (cfg : Cfg) (ign : List Int) : Nat := max (horizon cfg) (ignoredHorizon ign)

section
variable {cfg : Cfg}

theorem ignoredPending_iff {ign : List Int} (h0 : ∀ ts ∈ ign, 0 ≤ ts) (t : Nat) :
    ignoredPending ign t = true ↔ t < ignoredHorizon ign := by
  unfold ignoredPending ignoredHorizon
  rw [List.any_eq_true]
  constructor
  · rintro ⟨ts, hts, h⟩
    have hle := le_foldr_max (b := -1) hts
    have h0' := h0 ts hts
    simp only [Bool.or_eq_true, beq_iff_eq, decide_eq_true_eq] at h
    rcases h with h | h
    · subst h; omega
    · omega
  · intro h
    rcases foldr_max_mem ign (-1) with hm | hm
    · rw [hm] at h; simp at h
    · exact ⟨_, hm, by simp only [Bool.or_eq_true, beq_iff_eq, decide_eq_true_eq]; right; omega⟩

theorem guardI_iff (hv : Valid cfg) {ign : List Int} (h0 : ∀ ts ∈ ign, 0 ≤ ts) {t : Nat} {c : Core}
    (hI : Inv cfg t c) : guardI ign c = true ↔ t < horizonI cfg ign := by
  unfold guardI horizonI
  rw [Bool.or_eq_true, hI.iter, ignoredPending_iff h0, hI.guard_iff hv]
  omega

theorem runI_spec (hv : Valid cfg) {ign : List Int} (h0 : ∀ ts ∈ ign, 0 ≤ ts) {sched apply : Core → Option Err}
    (hs : ∀ c, sched c = none) (ha : ∀ c, apply c = none) (n t : Nat) (c : Core) (hI : Inv cfg t c)
    (ht : t ≤ horizonI cfg ign) :
      ∃ c', runI cfg sched apply ign n c = (c', none) ∧ Inv cfg (min (t + n) (horizonI cfg ign)) c' := by
  obtain ⟨c', hr, hI'⟩ := loopE_counted_ok (g := guardI ign) (body := body cfg sched apply) (I := Inv cfg)
    (horizonI cfg ign) (fun _ _ hI => guardI_iff hv h0 hI) (fun _ _ hI _ => body_ok hv hs ha hI) n t c hI ht
  exact ⟨c', (runG_eq (guardI ign) cfg sched apply n c).trans hr, hI'⟩

theorem horizon_le_horizonI (cfg : Cfg) (ign : List Int) : horizon cfg ≤ horizonI cfg ign := Nat.le_max_left _ _

theorem horizonI_nil (cfg : Cfg) : horizonI cfg [] = horizon cfg := by
  simp [horizonI, ignoredHorizon]

/-- the fuel the compiled driver uses covers the run -/
theorem horizonI_le_fuelForI (cfg : Cfg) (ign : List Int) : horizonI cfg ign ≤ fuelForI cfg ign := by
  unfold horizonI fuelForI
  have h1 := horizon_le_fuelFor cfg
  have h2 : ignoredHorizon ign ≤ (ign.foldl max 0).toNat + 3 := by
    unfold ignoredHorizon
    rcases foldr_max_mem ign (-1) with hm | hm
    · rw [hm]; simp
    · have := le_foldl_max ign 0 _ (Or.inl hm)
      omega
  omega

end
end Acn.EventCore

namespace Acn.Sim
open Acn Acn.EventCore

set_option linter.unusedSectionVars false

variable {K : Type} [Add K] [Sub K] [Mul K] [Div K] [Neg K] [LT K] [LE K]
  [DecidableLT K] [DecidableLE K] [OfNat K 0] [OfNat K 1] [NatCast K] [HasExp K]

theorem runG_core (g : Core → Bool) (cfg : Cfg K) (sched : View K → Except Err (Schedule K)) (n : Nat)
    (s : State K) (h : (runG g cfg sched n s).2 = none) :
    EventCore.runG g cfg.core noFail noFail n s.core = ((runG g cfg sched n s).1.core, none) := by
  rw [runG_eq] at h ⊢
  rw [EventCore.runG_eq]
  -- the event core follows the full model pass by pass while that raises nothing
  exact Steps.loopE_proj (·.core) (fun _ => rfl) (fun _ _ _ hb => body_core_ok hb) n s h

end Acn.Sim
