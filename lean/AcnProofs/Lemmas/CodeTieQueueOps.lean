/-
  T1c (DESIGN §17), stateful methods — the event queue IS the code, by proof (group QueueOps; properties C11, C01).

  `AcnModel/Gen/CodeQueueOps.lean` is regenerated on every run from the Python ASTs of
  acnportal/acnsim/events/event_queue.py in /repo's working tree (harness/translate_code.py, second part): every
  method is a function of the record `Queue.State` (`_queue` ↦ the heap array, `_timestep`), `heapq.heappush` /
  `heapq.heappop` are the transcription of CPython's Lib/heapq.py in AcnModel/Queue.lean (`Heap.heappush` /
  `Heap.heappop` — that transcription stays trusted and is exercised by C11's array-layout correspondence), the entry
  `(event.timestamp, event)` is the model's event, partial operations (`self._queue[0]`, `max` of an empty list,
  `heappop` of an empty list) are `Except PyErr`, a method that changes the queue returns the queue AS IT IS WHEN IT
  RAISES together with the error, and the `while` loop of `get_current_events` is a recursion on `fuel`.

  Proved here, for EVERY queue state and argument:
    `__len__` = `Queue.len`, `empty` = `Queue.empty`, `add_event` = `Queue.addEvent`, `add_events` = `Queue.addEvents`,
    `get_event` = `Queue.getEvent` (IndexError on the empty queue), `get_last_timestamp` = `Queue.lastTimestamp`
    (never raises: the `max` is guarded), and `get_current_events(t)` = `Queue.getCurrent` for every fuel above
    `len(self._queue)` — the whole loop, including that it terminates within that fuel, never raises `IndexError`
    on `self._queue[0]`, sets `_timestep`, and returns the events in the order popped.
  These are the functions `C11.*` (`gets_sorted`, `refinement`, …) and `C01`'s `heapQ` instance are about.

  A changed comparison in the loop test, a reordered / dropped statement, `heappop(...)[0]`, `min` for `max`, a loop
  that pops before testing … change `Gen.Code.*` and the theorems below stop compiling.
-/
import AcnModel.Gen.CodeQueueOps

namespace Acn.CodeTie
open Acn Acn.Gen.Code

theorem queue_len_tie (s : Queue.State) : queue_len s = Queue.len s := rfl

theorem queue_empty_tie (s : Queue.State) : queue_empty s = Queue.empty s := by
  show decide (s.heap.size = 0) = (s.heap.size == 0)
  generalize s.heap.size = n
  cases n <;> rfl

theorem queue_add_event_tie (s : Queue.State) (e : Event) : queue_add_event s e = Queue.addEvent s e := rfl

theorem queue_add_events_loop_tie (p es : List Event) (s : Queue.State) :
    queue_add_events_loop p es s = es.foldl Queue.addEvent s := by
  induction es generalizing s with
  | nil => rfl
  | cons e es ih => simp only [queue_add_events_loop, List.foldl_cons, ih]; rfl

theorem queue_add_events_tie (s : Queue.State) (es : List Event) :
    queue_add_events s es = Queue.addEvents s es := by
  simp only [queue_add_events, queue_add_events_loop_tie, Queue.addEvents]

theorem queue_get_event_tie (s : Queue.State) :
    queue_get_event s =
      match Queue.getEvent s with
      | .ok (e, s') => (s', .ok e)
      | .error x => (s, .error (qErrToPy x)) := by
  unfold queue_get_event Queue.getEvent
  cases h : Heap.heappop Event.keyLt s.heap with
  | error x => rfl
  | ok p => rfl

/-! ### `heappop` removes exactly one entry from ANY non-empty array (no heap invariant needed): this is what makes
    `len(self._queue)` a sufficient fuel for the translated `while` loop of `get_current_events` -/

section heapSize
variable {α : Type} (lt : α → α → Bool)

theorem siftdownLoop_size (x : α) (sp : Nat) : ∀ (fuel : Nat) (a : Array α) (pos : Nat),
    (Heap.siftdownLoop lt x sp fuel a pos).1.size = a.size := by
  intro fuel
  induction fuel with
  | zero => intro a pos; rfl
  | succ n ih =>
    intro a pos
    unfold Heap.siftdownLoop
    split
    · simp only
      split
      · split
        · rw [ih]; simp
        · rfl
      · rfl
    · rfl

theorem siftdown_size (a : Array α) (sp pos : Nat) : (Heap.siftdown lt a sp pos).size = a.size := by
  unfold Heap.siftdown
  split
  · simp [siftdownLoop_size]
  · rfl

theorem siftupLoop_size (ep : Nat) : ∀ (fuel : Nat) (a : Array α) (pos : Nat),
    (Heap.siftupLoop lt ep fuel a pos).1.size = a.size := by
  intro fuel
  induction fuel with
  | zero => intro a pos; rfl
  | succ n ih =>
    intro a pos
    unfold Heap.siftupLoop
    simp only
    split
    · split
      · rw [ih]; simp
      · rfl
    · rfl

theorem siftup_size (a : Array α) (pos : Nat) : (Heap.siftup lt a pos).size = a.size := by
  unfold Heap.siftup
  split
  · simp [siftdown_size, siftupLoop_size]
  · rfl

theorem heappop_pos {a : Array α} (h : 0 < a.size) :
    ∃ x a', Heap.heappop lt a = .ok (x, a') ∧ a'.size + 1 = a.size := by
  obtain ⟨p, z, rfl⟩ := Array.eq_push_of_size_ne_zero (Nat.ne_of_gt h)
  unfold Heap.heappop
  simp only [Array.back?_push, Array.pop_push]
  cases p[0]? with
  | none => exact ⟨z, p, rfl, by simp⟩
  | some r => exact ⟨r, _, rfl, by simp [siftup_size]⟩

namespace HeapSize

theorem heappop_ok_of_pos {a : Array α} (h : 0 < a.size) : ∃ p, Heap.heappop lt a = .ok p :=
  let ⟨x, a', hp, _⟩ := heappop_pos lt h
  ⟨(x, a'), hp⟩

theorem heappop_size {a : Array α} {x : α} {a' : Array α} (h : Heap.heappop lt a = .ok (x, a')) :
    a'.size + 1 = a.size := by
  rcases Nat.eq_zero_or_pos a.size with h0 | hpos
  · rw [Array.eq_empty_of_size_eq_zero h0] at h
    cases h
  · obtain ⟨y, b, hp, hsz⟩ := heappop_pos lt hpos
    rw [hp] at h
    cases h
    exact hsz

end HeapSize

end heapSize

theorem getEvent_pos (s : Queue.State) (hne : 0 < s.heap.size) :
    ∃ e a', Queue.getEvent s = .ok (e, { s with heap := a' }) ∧ a'.size + 1 = s.heap.size := by
  obtain ⟨e, a', hp, hsz⟩ := heappop_pos Event.keyLt hne
  exact ⟨e, a', by rw [Queue.getEvent, hp], hsz⟩

theorem queue_get_current_events_loop_tie (t : Int) : ∀ (fuel : Nat) (s : Queue.State) (acc : List Event),
    s.timestep = t → s.heap.size < fuel →
    queue_get_current_events_loop t fuel s acc =
      ((Queue.getCurrentLoop t s.heap.size s acc).1, .ok (Queue.getCurrentLoop t s.heap.size s acc).2) := by
  intro fuel
  induction fuel with
  | zero => intro s acc _ h; omega
  | succ n ih =>
    intro s acc ht hsz
    unfold queue_get_current_events_loop
    cases h0 : s.heap[0]? with
    | none =>
      have hz : s.heap.size = 0 := by
        have := Array.getElem?_eq_none_iff.mp h0
        omega
      simp [queue_empty, hz, Queue.getCurrentLoop]
    | some top =>
      have hpos : 0 < s.heap.size := (Array.getElem?_eq_some_iff.mp h0).1
      obtain ⟨e, a', hg, hsz'⟩ := getEvent_pos s hpos
      obtain ⟨m, hm⟩ : ∃ m, s.heap.size = m + 1 := ⟨s.heap.size - 1, by omega⟩
      rw [hm, Queue.getCurrentLoop, h0]
      simp only [queue_empty, hm, Nat.succ_ne_zero, decide_false, Bool.not_false, entryTs, ht]
      by_cases hle : top.ts ≤ t
      · simp only [hle, decide_true, if_true, queue_get_event_tie, hg]
        rw [ih { s with heap := a' } (acc ++ [e]) ht (show a'.size < n by omega), show a'.size = m by omega]
      · simp [hle]

/-- `get_current_events(t)`: with any fuel above `len(self._queue)` the translated method returns what
    `Queue.getCurrent` returns — the new queue (with `_timestep = t`) and the events in the order popped;
    it never runs out of fuel and never raises -/
theorem queue_get_current_events_tie (s : Queue.State) (t : Int) (fuel : Nat) (h : s.heap.size < fuel) :
    queue_get_current_events fuel s t = ((Queue.getCurrent s t).1, .ok (Queue.getCurrent s t).2) := by
  unfold queue_get_current_events Queue.getCurrent
  simp only
  rw [queue_get_current_events_loop_tie t fuel { s with timestep := t } [] rfl h]

theorem pyMaxBy_ts (l : List Event) : (pyMaxBy (fun x => entryTs x) l).map entryTs = lastTsList l := by
  cases l with
  | nil => rfl
  | cons x xs =>
    refine congrArg some (List.foldl_hom entryTs fun b y => ?_).symm
    show (if b.ts < y.ts then y.ts else b.ts) = entryTs (if b.ts < y.ts then y else b)
    split <;> rfl

/-- `get_last_timestamp()` is `Queue.lastTimestamp`; it never raises: the `max` is taken of a
    non-empty list only -/
theorem queue_get_last_timestamp_tie (s : Queue.State) :
    queue_get_last_timestamp s = .ok (Queue.lastTimestamp s) := by
  rw [Queue.lastTimestamp, ← pyMaxBy_ts]
  obtain ⟨⟨l⟩, ts⟩ := s
  cases l <;> rfl

theorem all_translated_queueops : translatedQueueOps =
    ["queue_len", "queue_empty", "queue_add_event", "queue_add_events", "queue_get_event",
     "queue_get_current_events", "queue_get_last_timestamp"] := rfl

end Acn.CodeTie
