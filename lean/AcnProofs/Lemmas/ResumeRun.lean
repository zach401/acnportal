/-
  The full simulator model around a crash (C09): `failAt k sched` is the scheduler that raises in period `k`.
  What a period does to the event core (period counter, queue, `NoOverdue`) is read off the projections of
  `EventCoreSim.lean` / `EventCoreSimFail.lean`.  The crash / resume theorems themselves are proved for the loop
  with a stateful scheduler (`ResumeSt.lean`).
-/
import AcnProofs.Lemmas.ResumeTrigger
import AcnProofs.Lemmas.EventCoreSimFail
import AcnProofs.Lemmas.EventCorePilots

set_option linter.unusedSectionVars false

namespace Acn.Sim
open Acn Acn.EventCore

variable {K : Type} [Add K] [Sub K] [Mul K] [Div K] [Neg K] [LT K] [LE K]
  [DecidableLT K] [DecidableLE K] [OfNat K 0] [OfNat K 1] [NatCast K] [HasExp K]

def failAt (k : Nat) (sched : View K → Except Err (Schedule K)) : View K → Except Err (Schedule K) :=
  fun v => if v.iter = k then .error .schedulerFailed else sched v

theorem eventsStage_core_ok {cfg : Cfg K} {s s1 : State K} (he : eventsStage cfg s = (s1, none)) :
    EventCore.eventsStage cfg.core s.core = (s1.core, none) := by
  rw [← eventsStage_core, he]

theorem body_err_iter {cfg : Cfg K} {sched : View K → Except Err (Schedule K)} {s s' : State K} {e : Err}
    (h : body cfg sched s = (s', some e)) : s'.core.iter = s.core.iter := by
  have hc := body_core_any cfg sched s
  rw [h] at hc
  exact (EventCore.body_err_invoked hc).1

theorem eventsStage_mid {cfg : Cfg K} {s s1 : State K} (hI : NoOverdue cfg.core s.core)
    (he : eventsStage cfg s = (s1, none)) :
    Fresh s1.core ∧ s1.core.iter = s.core.iter ∧ (guard s.core = true → guard s1.core = true) := by
  have hc := eventsStage_core_ok he
  have hf := EventCore.eventsStage_fresh hI
  have hi := EventCore.eventsStage_iter cfg.core s.core
  rw [hc] at hf hi
  refine ⟨hf, hi, fun hg => ?_⟩
  have := EventCore.eventsStage_guard hg (by rw [hc])
  rwa [hc] at this

theorem ObsEq.core {s t : State K} (h : ObsEq s t) : t.core = setInv t.core.invoked s.core :=
  congrArg State.core h.eq_withInv

theorem ObsEq.iter {s t : State K} (h : ObsEq s t) : t.core.iter = s.core.iter := by rw [h.core]; rfl

theorem ObsEq.fresh {s t : State K} (h : ObsEq s t) (hf : Fresh s.core) : Fresh t.core := by rw [h.core]; exact hf

theorem guard_obs {s t : State K} (h : ObsEq s t) : guard t.core = guard s.core := by
  rw [h.core]; rfl

theorem eventsStage_of_fresh (cfg : Cfg K) {s : State K} (h : Fresh s.core) : eventsStage cfg s = (s, none) := by
  unfold eventsStage
  rw [popCurrent_nothing_due h]
  rfl

end Acn.Sim
