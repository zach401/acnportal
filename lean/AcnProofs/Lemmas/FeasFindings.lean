/-
  The defects F4 and F5 (DESIGN §7) on the model of the unrepaired code (`linAggCode`,
  `algLinearCode2`): the negation of the C06 statements on concrete rational witnesses.  No other
  module imports this file; the C06 check builds and audits it (`LEAN_MODULES` of `harness/props/C06.py`).
-/
import AcnModel.Feas
import Mathlib.Tactic

namespace Acn.C06.Findings
open Acn Acn.Feas

/-- the unrepaired network-side linear aggregate `|Σ a_j x_j|` is NOT conservative
    (finding F4, rational witness: `a = (1, −1)`, orthogonal phasors) -/
theorem linear_code_unfixed_counterexample :
    netFeasibleLinear linAggCode [[(1 : ℚ), -1]] [1] 0 0 [[1], [1]] = true ∧
    netFeasible [[(1 : ℚ), -1]] [1] [1, 0] [0, 1] 0 0 [[1], [1]] = false ∧
    netLinear [[(1 : ℚ), -1]] [1] 0 0 [[1], [1]] = false := by decide +kernel

/-- the unrepaired algorithm-side linear mode norms across time (finding F5): 4 periods of
    12 A under a 20 A limit are refused although each period is fine -/
theorem alg_linear_unfixed_counterexample :
    algLinearCode2 [[(1 : ℚ)]] [20] 0 0 [[12, 12, 12, 12]] = false ∧
    algLinear2 [[(1 : ℚ)]] [20] 0 0 [[12, 12, 12, 12]] = true ∧
    netLinear [[(1 : ℚ)]] [20] 0 0 [[12, 12, 12, 12]] = true := by decide +kernel

end Acn.C06.Findings
