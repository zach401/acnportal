/-
  Helper lemmas for the `simple_acn` part of C16 (`AcnProofs/C16Simple.lean`): literals and the zero test in an
  ordered field, and feasibility of a network with one all-ones constraint at 0° (aggregate = plain sum,
  imaginary part 0: `Feas.wsum_ones`) as `|Σ_j S_j(t)| ≤ bound` for every period.
-/
import AcnModel.SimpleAcn
import AcnProofs.Lemmas.FeasAgree
import Mathlib.Tactic

namespace Acn.SimpleAcnLemmas
open Acn.Feas Acn.SimpleAcn

set_option linter.unusedSectionVars false

variable {K : Type} [Field K] [LinearOrder K] [IsStrictOrderedRing K]

theorem intK_eq (z : Int) : (intK z : K) = (z : K) := by
  unfold intK
  split_ifs with h
  · rw [← Int.cast_natCast, Int.ofNat_natAbs_of_nonpos h.le, Int.cast_neg, neg_neg]
  · rw [← Int.cast_natCast, Int.natAbs_of_nonneg (not_lt.mp h)]

theorem litK_eq (n : Int) (d : Nat) : (litK n d : K) = (n : K) / (d : K) := by
  simp [litK, intK_eq]

theorem isZero_iff (x : K) : isZero x = true ↔ x = 0 := by
  unfold isZero
  rw [Bool.and_eq_true, decide_eq_true_iff, decide_eq_true_iff]
  exact ⟨fun h => le_antisymm h.1 h.2, fun h => by subst h; exact ⟨le_refl _, le_refl _⟩⟩

theorem isZero_zero : isZero (0 : K) = true := (isZero_iff 0).mpr rfl

theorem netFeasible_ones_iff (n : Nat) (L vt rt : K) (S : List (List K)) (hS : S.length = n) :
    netFeasible [List.replicate n 1] [L] (List.replicate n 1) (List.replicate n 0) vt rt S = true ↔
      ∀ t, t < periods S → 0 ≤ L + max vt (rt * L) ∧ |(col S t).sum| ≤ L + max vt (rt * L) := by
  rw [netFeasible_iff _ _ _ _ _ _ _ (by simp) (by simp)]
  refine forall₂_congr fun t _ => ?_
  simp only [List.length_singleton, Nat.lt_one_iff, forall_eq, List.getD_cons_zero, rowOk, magLe_iff,
    aggRe_eq, aggIm_eq, tolOf_eq]
  -- the all-ones row at 0°: the aggregate is (Σ_j S_j(t), 0)
  rw [show n = (col S t).length by rw [length_col, hS], wsum_ones, wsum_ones, mul_one, mul_zero]
  refine and_congr_right fun h0 => ?_
  rw [zero_pow two_ne_zero, add_zero, sq_le_sq, abs_of_nonneg h0]

theorem total_eq (S : List (List K)) (t : Nat) : total S t = (col S t).sum := by
  simp [total]

theorem powerKW_eq (voltage : K) (S : List (List K)) (t : Nat) :
    powerKW voltage S t = voltage * total S t / 1000 := by
  simp [powerKW]

/-- the limit `L = cap / voltage · 1000` [A] at the EVSE voltage is the capacity [W] -/
theorem voltage_mul_limit (voltage cap : K) (hv : voltage ≠ 0) :
    voltage * (cap / voltage * 1000) = cap * 1000 := by
  field_simp

end Acn.SimpleAcnLemmas
