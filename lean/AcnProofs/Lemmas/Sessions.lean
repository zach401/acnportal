/-
  For C15, algebraic part: Python's `int()` as a lawful truncation on a floor ring; the period index of
  an instant (`Capstone.periodOf`) as a monotone step function into ℤ, with the few facts about the carrier
  through which the theorems on documents use it; `convertDoc` as an equation (given a non-zero period only
  the battery constructor can fail; `Converted`: the session it returns, field by field) and `get_evs` as an equivalence; what the simulator's event core reads of a
  converted session as a function of the document (`docSession`); `convertSample`; the `max_len` cap.
-/
import AcnModel.Sessions
import AcnModel.Sim
import AcnProofs.Lemmas.Basic
import Mathlib.Algebra.Order.Floor.Ring
import Mathlib.Tactic

set_option linter.unusedSectionVars false

namespace Acn.SessionsL
open Acn.Sessions Acn.Battery Acn.Evse

variable {K : Type} [Field K] [LinearOrder K] [IsStrictOrderedRing K] [FloorRing K]

/-- Python's `int(x)`: floor for `x ≥ 0`, ceiling below zero. -/
def pyTrunc (x : K) : Int := if 0 ≤ x then ⌊x⌋ else ⌈x⌉

/-- the truncation every floor ring carries (used by all C15 theorems) -/
instance instTrunc : HasTrunc K := ⟨pyTrunc⟩

theorem trunc_def (x : K) : HasTrunc.trunc x = pyTrunc x := rfl

theorem pyTrunc_nonneg {x : K} (h : 0 ≤ x) : pyTrunc x = ⌊x⌋ := by simp [pyTrunc, h]

theorem pyTrunc_neg {x : K} (h : x < 0) : pyTrunc x = ⌈x⌉ := by simp [pyTrunc, not_le.mpr h]

theorem pyTrunc_mono {x y : K} (h : x ≤ y) : pyTrunc x ≤ pyTrunc y := by
  unfold pyTrunc
  split <;> split
  · exact Int.floor_le_floor h
  · exact absurd (le_trans ‹0 ≤ x› h) ‹_›
  · have hx : x ≤ 0 := le_of_lt (not_le.mp ‹_›)
    have h1 : ⌈x⌉ ≤ 0 := Int.ceil_le.mpr (by simpa using hx)
    have h2 : (0 : Int) ≤ ⌊y⌋ := Int.floor_nonneg.mpr ‹_›
    exact le_trans h1 h2
  · exact Int.ceil_le_ceil h

end Acn.SessionsL

namespace Acn.Capstone
open Acn.SessionsL

variable {K : Type} [Field K] [LinearOrder K] [IsStrictOrderedRing K] [FloorRing K]

/-- period index of an instant `t` (epoch seconds) for periods of `period` minutes: `int(t / (60·period))` -/
def periodOf (period t : K) : Int := pyTrunc (t / (60 * period))

end Acn.Capstone

namespace Acn.SessionsL
open Acn.Sessions Acn.Battery Acn.Evse Acn.Capstone

variable {K : Type} [Field K] [LinearOrder K] [IsStrictOrderedRing K] [FloorRing K]

/-! ### the period index

  Everything the theorems on documents need of the carrier `K`; beyond these they reason about integers. -/
section periodOf
variable {period s t : K}

theorem periodIndex_pos (hp : 0 < period) : periodIndex t period = .ok (periodOf period t) := by
  unfold periodIndex
  rw [if_neg fun h => h.2 hp]
  simp [trunc_def, periodOf]

theorem periodOf_mono (hp : 0 < period) (h : s ≤ t) : periodOf period s ≤ periodOf period t :=
  pyTrunc_mono (div_le_div_of_nonneg_right h (by positivity))

theorem lt_of_periodOf_lt (hp : 0 < period) (h : periodOf period s < periodOf period t) : s < t :=
  lt_of_not_ge fun hts => absurd (periodOf_mono hp hts) (not_le.2 h)

theorem periodOf_of_nonneg (hp : 0 < period) (ht : 0 ≤ t) : periodOf period t = ⌊t / (60 * period)⌋ :=
  pyTrunc_nonneg (div_nonneg ht (by positivity))

theorem periodOf_of_neg (hp : 0 < period) (ht : t < 0) : periodOf period t = ⌈t / (60 * period)⌉ :=
  pyTrunc_neg (div_neg_of_neg_of_pos ht (by positivity))

theorem periodOf_add_periods (hp : 0 < period) (k : Int) (ht : 0 ≤ t) (htk : 0 ≤ t + (k : K) * (60 * period)) :
    periodOf period (t + (k : K) * (60 * period)) = periodOf period t + k := by
  have h60 : (0 : K) < 60 * period := by positivity
  rw [periodOf_of_nonneg hp ht, periodOf_of_nonneg hp htk, add_div, mul_div_cancel_right₀ _ h60.ne',
    Int.floor_add_intCast]

theorem periodOf_add_period (hp : 0 < period) (ht : 0 ≤ t) :
    periodOf period (t + 60 * period) = periodOf period t + 1 := by
  have := periodOf_add_periods hp 1 ht (by rw [Int.cast_one, one_mul]; exact add_nonneg ht (by positivity))
  rwa [Int.cast_one, one_mul] at this

theorem periodOf_add_bounds (hp : 0 < period) (hs : 0 ≤ s) (ht : 0 ≤ t) :
    periodOf period s + periodOf period t ≤ periodOf period (s + t) ∧
      periodOf period (s + t) ≤ periodOf period s + periodOf period t + 1 := by
  rw [periodOf_of_nonneg hp hs, periodOf_of_nonneg hp ht, periodOf_of_nonneg hp (add_nonneg hs ht), add_div]
  have := Int.le_floor_add_floor (s / (60 * period)) (t / (60 * period))
  exact ⟨Int.le_floor_add _ _, by omega⟩

theorem periodOf_eq_of_mem (hp : 0 < period) {a : Int} (ha : 0 ≤ a) (h1 : (a : K) * (60 * period) ≤ t)
    (h2 : t < ((a : K) + 1) * (60 * period)) : periodOf period t = a := by
  have h60 : (0 : K) < 60 * period := by positivity
  have h0 : (0 : K) ≤ (a : K) := by exact_mod_cast ha
  rw [periodOf_of_nonneg hp ((mul_nonneg h0 h60.le).trans h1), Int.floor_eq_iff]
  exact ⟨(le_div_iff₀ h60).2 h1, (div_lt_iff₀ h60).2 h2⟩

end periodOf

theorem capDeparture_le (a d : Int) (L : Int) : capDeparture a d (some L) - a ≤ L := by
  simp only [capDeparture]
  split <;> omega

theorem capDeparture_ge (a d : Int) (m : Option Int) (hL : ∀ L, m = some L → 0 ≤ L) (h : a ≤ d) :
    a ≤ capDeparture a d m := by
  cases m with
  | none => simpa [capDeparture] using h
  | some L =>
    have := hL L rfl
    simp only [capDeparture]
    split <;> omega

theorem capDeparture_none (a d : Int) : capDeparture a d none = d := rfl

theorem capDeparture_le_dep (a dep : Int) (ml : Option Int) : capDeparture a dep ml ≤ dep := by
  cases ml with
  | none => simp [capDeparture]
  | some L => simp only [capDeparture]; split <;> omega

theorem capDeparture_add_sub (a k : Int) (m : Option Int) :
    capDeparture a (a + k) m - a = (match m with | some L => if L < k then L else k | none => k) := by
  cases m with
  | none => simp only [capDeparture]; omega
  | some L => simp only [capDeparture]; split <;> split <;> omega

theorem lt_capDeparture_iff (a d : Int) (m : Option Int) :
    a < capDeparture a d m ↔ a < d ∧ ∀ L, m = some L → 0 < L := by
  cases m with
  | none => simp [capDeparture]
  | some L => simp only [capDeparture, Option.some.injEq, forall_eq']; split <;> omega

theorem docEnergy_nonneg (ff : Bool) {kWh mp period : K} {stay : Int} (hk : 0 ≤ kWh) (hm : 0 ≤ mp)
    (hp : 0 < period) (hs : 0 ≤ stay) : 0 ≤ docEnergy ff kWh mp period stay := by
  unfold docEnergy
  split
  · have : (0 : K) ≤ (stay : K) := by exact_mod_cast hs
    rw [pyMin_eq_min]
    exact le_min hk (by positivity)
  · exact hk

theorem docEnergy_pos (ff : Bool) {kWh mp period : K} {stay : Int} (hk : 0 < kWh) (hm : 0 < mp)
    (hp : 0 < period) (hs : 0 < stay) : 0 < docEnergy ff kWh mp period stay := by
  unfold docEnergy
  split
  · have : (0 : K) < (stay : K) := by exact_mod_cast hs
    rw [pyMin_eq_min]
    exact lt_min hk (by positivity)
  · exact hk

theorem map_eq_ok {ε α β : Type} {f : α → β} {r : Except ε α} {b : β} (h : r.map f = .ok b) :
    ∃ a, r = .ok a ∧ f a = b := by
  cases r with
  | error x => cases h
  | ok a => exact ⟨a, rfl, by injection h⟩

/-- given a non-zero period only the battery constructor can fail; everything else of the session is a
    function of the document -/
theorem convertDoc_eq {d : Doc K} {offset : Int} {period V mp : K} {maxLen : Option Int}
    {bp : BattParams K} {ff : Bool} (hp : 0 < period) :
    convertDoc d offset period V mp maxLen bp ff =
      let a := periodOf period d.connect - offset
      let dep := capDeparture a (periodOf period d.disconnect - offset) maxLen
      let E := docEnergy ff d.kWh mp period (dep - a)
      (mkBattery bp E (((dep - a : Int)) : K) V period mp).map fun batt =>
        { session := d.session, station := d.space, arrival := a, departure := dep, estDeparture := dep,
          requested := E, delivered := 0, rate := 0, batt } := by
  unfold convertDoc
  rw [periodIndex_pos hp, periodIndex_pos hp]
  simp only
  cases mkBattery bp _ _ V period mp <;> rfl

/-- the session `e` that `convertDoc` returns for the document `d`, field by field -/
structure Converted (d : Doc K) (offset : Int) (period V mp : K) (maxLen : Option Int) (bp : BattParams K)
    (ff : Bool) (e : Ev K) : Prop where
  arrival : e.arrival = periodOf period d.connect - offset
  departure : e.departure = capDeparture e.arrival (periodOf period d.disconnect - offset) maxLen
  estDeparture : e.estDeparture = e.departure
  session : e.session = d.session
  station : e.station = d.space
  requested : e.requested = docEnergy ff d.kWh mp period (e.departure - e.arrival)
  delivered : e.delivered = 0
  rate : e.rate = 0
  batt : mkBattery bp e.requested (((e.departure - e.arrival : Int)) : K) V period mp = .ok e.batt

theorem convertDoc_ok {d : Doc K} {offset : Int} {period V mp : K} {maxLen : Option Int}
    {bp : BattParams K} {ff : Bool} {e : Ev K} (hp : 0 < period)
    (h : convertDoc d offset period V mp maxLen bp ff = .ok e) : Converted d offset period V mp maxLen bp ff e := by
  rw [convertDoc_eq hp] at h
  obtain ⟨batt, hb, rfl⟩ := map_eq_ok h
  exact ⟨rfl, rfl, rfl, rfl, rfl, rfl, rfl, rfl, hb⟩

theorem convertDoc_total {d : Doc K} {offset : Int} {period V mp : K} {maxLen : Option Int}
    {bp : BattParams K} {ff : Bool} (hp : 0 < period)
    (hb : ∀ a dep : Int, a ≤ dep → ∃ b, mkBattery bp (docEnergy ff d.kWh mp period (dep - a))
      (((dep - a : Int)) : K) V period mp = .ok b)
    (hL : ∀ L, maxLen = some L → 0 ≤ L) (hcd : d.connect ≤ d.disconnect) :
    ∃ e, convertDoc d offset period V mp maxLen bp ff = .ok e := by
  rw [convertDoc_eq hp]
  simp only
  obtain ⟨b, hb⟩ := hb _ _ (capDeparture_ge _ _ maxLen hL
    (Int.sub_le_sub_right (periodOf_mono hp hcd) offset))
  rw [hb]
  exact ⟨_, rfl⟩

theorem convertDoc_floor {d : Doc K} {start period V mp : K} {maxLen : Option Int}
    {bp : BattParams K} {ff : Bool} {e : Ev K} (hp : 0 < period) (hs : 0 ≤ start)
    (h : convertDoc d (periodOf period start) period V mp maxLen bp ff = .ok e) :
    e.session = d.session ∧ e.station = d.space ∧ e.estDeparture = e.departure ∧
    (0 ≤ d.connect → e.arrival = ⌊d.connect / (60 * period)⌋ - ⌊start / (60 * period)⌋) ∧
    (0 ≤ d.disconnect → e.departure =
      capDeparture e.arrival (⌊d.disconnect / (60 * period)⌋ - ⌊start / (60 * period)⌋) maxLen) := by
  have hc := convertDoc_ok hp h
  rw [← periodOf_of_nonneg hp hs]
  exact ⟨hc.session, hc.station, hc.estDeparture, fun h0 => periodOf_of_nonneg hp h0 ▸ hc.arrival,
    fun h0 => periodOf_of_nonneg hp h0 ▸ hc.departure⟩

theorem convertDocs_ok_iff {docs : List (Doc K)} {offset : Int} {period V mp : K}
    {maxLen : Option Int} {bp : BattParams K} {ff : Bool} {evs : List (Ev K)} :
    convertDocs docs offset period V mp maxLen bp ff = .ok evs ↔
      List.Forall₂ (fun d e => convertDoc d offset period V mp maxLen bp ff = .ok e) docs evs := by
  constructor
  · intro h
    induction docs generalizing evs with
    | nil =>
      unfold convertDocs at h
      injection h with h; subst h; exact .nil
    | cons d ds ih =>
      unfold convertDocs at h
      split at h
      · cases h
      · rename_i e he
        split at h
        · cases h
        · rename_i l hl
          injection h with h; subst h
          exact .cons he (ih hl)
  · intro h
    induction h with
    | nil => rfl
    | cons hab _ ih => rw [convertDocs, hab, ih]

theorem getEvs_ok_iff {start : K} {docs : List (Doc K)} {period V mp : K} {maxLen : Option Int}
    {bp : BattParams K} {ff : Bool} {evs : List (Ev K)} (hp : 0 < period) :
    getEvs start docs period V mp maxLen bp ff = .ok evs ↔
      List.Forall₂ (fun d e => convertDoc d (periodOf period start) period V mp maxLen bp ff = .ok e)
        docs evs := by
  unfold getEvs
  rw [periodIndex_pos hp]
  exact convertDocs_ok_iff

/-! ### the session of a document

  Everything of a converted session but its battery is a function of the document (`convertDoc_eq`).  The part the
  simulator's event core reads (`Sim.sessionOf`: id, station, arrival, departure) gets a name, so that statements about
  the sessions `get_evs` returns are statements about a `List.map` over the documents. -/

/-- what the event core sees of the session that `_convert_to_ev` makes of a document -/
def docSession (period : K) (offset : Int) (maxLen : Option Int) (d : Doc K) : EventCore.Session :=
  { id := d.session, station := d.space, arrival := periodOf period d.connect - offset,
    departure := capDeparture (periodOf period d.connect - offset) (periodOf period d.disconnect - offset) maxLen }

theorem sessionOf_convertDoc {d : Doc K} {offset : Int} {period V mp : K} {maxLen : Option Int}
    {bp : BattParams K} {ff : Bool} {e : Ev K} (hp : 0 < period)
    (h : convertDoc d offset period V mp maxLen bp ff = .ok e) :
    Sim.sessionOf e = docSession period offset maxLen d := by
  rw [convertDoc_eq hp] at h
  obtain ⟨batt, -, rfl⟩ := map_eq_ok h
  rfl

theorem getEvs_sessions {start : K} {docs : List (Doc K)} {period V mp : K} {maxLen : Option Int}
    {bp : BattParams K} {ff : Bool} {evs : List (Ev K)} (hp : 0 < period)
    (h : getEvs start docs period V mp maxLen bp ff = .ok evs) :
    evs.map Sim.sessionOf = docs.map (docSession period (periodOf period start) maxLen) :=
  forall₂_map_eq ((getEvs_ok_iff hp).1 h) fun _ _ hde => sessionOf_convertDoc hp hde

theorem docSession_lt_iff (period : K) (offset : Int) (maxLen : Option Int) (d : Doc K) :
    (docSession period offset maxLen d).arrival < (docSession period offset maxLen d).departure ↔
      periodOf period d.connect < periodOf period d.disconnect ∧ ∀ L, maxLen = some L → 0 < L := by
  show periodOf period d.connect - offset < capDeparture _ _ _ ↔ _
  rw [lt_capDeparture_iff, sub_lt_sub_iff_right]

theorem ofBatt_mkIdeal {cap init mp : K} {b : Batt K} (h : ofBatt (mkIdeal cap init mp) = .ok b) :
    b.capacity = cap ∧ b.init = init ∧ b.charge = init ∧ b.maxPower = mp ∧ init ≤ cap ∧
      b.twoStage = false ∧ b.ts = 0 := by
  unfold mkIdeal at h
  split_ifs at h with hc
  · cases h
  · cases h; exact ⟨rfl, rfl, rfl, rfl, not_lt.mp hc, rfl, rfl⟩

theorem ofBatt_mkTwoStage {cap init mp noise ts : K} {cm : Calc} {b : Batt K}
    (h : ofBatt (mkTwoStage cap init mp noise ts cm) = .ok b) :
    b.capacity = cap ∧ b.init = init ∧ b.charge = init ∧ b.maxPower = mp ∧ init ≤ cap ∧
      b.twoStage = true ∧ b.ts = ts ∧ b.noiseLevel = noise ∧ b.cmode = cm := by
  unfold mkTwoStage at h
  split_ifs at h with hc
  · cases h
  · cases h
  · cases h
  · cases h; exact ⟨rfl, rfl, rfl, rfl, not_lt.mp hc, rfl, rfl, rfl, rfl⟩

theorem mkBattery_ok {bp : BattParams K} {energy stay V period mp : K} {b : Batt K}
    (h : mkBattery bp energy stay V period mp = .ok b) :
    ∃ cap init, (match bp.capFn with
        | some f => f energy stay V period
        | none => .ok (energy, 0)) = .ok (cap, init) ∧
      b.capacity = cap ∧ b.init = init ∧ b.charge = init ∧ b.maxPower = mp ∧ init ≤ cap ∧
      (b.ts = 0 ∨ (bp.type = .twoStage ∧ b.ts = bp.ts)) := by
  unfold mkBattery at h
  simp only at h
  split at h
  · cases h
  · rename_i cap init hf
    refine ⟨cap, init, hf, ?_⟩
    split at h
    · obtain ⟨h1, h2, h3, h4, h5, -, h7⟩ := ofBatt_mkIdeal h
      exact ⟨h1, h2, h3, h4, h5, .inl h7⟩
    · rename_i ht
      obtain ⟨h1, h2, h3, h4, h5, -, h7, -⟩ := ofBatt_mkTwoStage h
      exact ⟨h1, h2, h3, h4, h5, .inr ⟨ht, h7⟩⟩

theorem mkBattery_default {bp : BattParams K} {energy stay V period mp : K} {b : Batt K}
    (hc : bp.capFn = none) (h : mkBattery bp energy stay V period mp = .ok b) :
    b.capacity = energy ∧ b.init = 0 ∧ b.charge = 0 ∧ b.maxPower = mp := by
  obtain ⟨cap, init, hf, h1, h2, h3, h4, -⟩ := mkBattery_ok h
  rw [hc] at hf
  cases hf
  exact ⟨h1, h2, h3, h4⟩

theorem mkBattery_capFn {bp : BattParams K} {f : CapFn K} {energy stay V period mp : K} {b : Batt K}
    (hc : bp.capFn = some f) (h : mkBattery bp energy stay V period mp = .ok b) :
    ∃ cap init, f energy stay V period = .ok (cap, init) ∧ b.capacity = cap ∧ b.init = init ∧
      b.charge = init ∧ b.maxPower = mp ∧ init ≤ cap := by
  obtain ⟨cap, init, hf, h1, h2, h3, h4, h5, -⟩ := mkBattery_ok h
  rw [hc] at hf
  exact ⟨cap, init, hf, h1, h2, h3, h4, h5⟩

theorem mkBattery_default_ok (energy stay V period mp : K) (h : 0 ≤ energy) :
    ∃ b, mkBattery (defaultParams : BattParams K) energy stay V period mp = .ok b := by
  unfold mkBattery defaultParams
  simp only [ofBatt, mkIdeal]
  rw [if_neg (not_lt.mpr h)]
  exact ⟨_, rfl⟩

theorem convertSample_some {idx : Nat} {s : Sample K} {period V mp : K} {maxLen : Option K}
    {bp : BattParams K} {ff : Bool} {e : Ev K} (hp : 0 < period)
    (h : convertSample idx s period V mp maxLen bp ff = .ok (some e)) :
    0 ≤ s.arrival ∧ 0 < s.duration ∧ 0 < s.energy ∧
    e.arrival = pyTrunc (s.arrival * (60 / period)) ∧
    e.departure = pyTrunc ((s.arrival + sampleDur s.duration maxLen) * (60 / period)) ∧
    e.estDeparture = e.departure ∧
    e.session = s!"session_{idx}" ∧ e.station = s!"station_{idx}" ∧
    e.requested = (if ff then pyMin s.energy (mp * sampleDur s.duration maxLen) else s.energy) ∧
    mkBattery bp e.requested (sampleDur s.duration maxLen) V period mp = .ok e.batt := by
  unfold convertSample at h
  rw [if_neg (by intro hh; exact hh.2 hp)] at h
  simp only [Nat.cast_ofNat] at h
  split at h
  · cases h
  · rename_i hval
    simp only [not_or, not_lt, not_le] at hval
    split at h
    · cases h
    · rename_i batt hb
      injection h with h
      injection h with h
      subst h
      exact ⟨hval.1, hval.2.1, hval.2.2, rfl, rfl, rfl, rfl, rfl, rfl, hb⟩

theorem convertSample_none {idx : Nat} {s : Sample K} {period V mp : K} {maxLen : Option K}
    {bp : BattParams K} {ff : Bool} (hp : 0 < period)
    (h : convertSample idx s period V mp maxLen bp ff = .ok none) :
    s.arrival < 0 ∨ s.duration ≤ 0 ∨ s.energy ≤ 0 := by
  unfold convertSample at h
  rw [if_neg (by intro hh; exact hh.2 hp)] at h
  simp only [Nat.cast_ofNat] at h
  split at h
  · assumption
  · split at h
    · cases h
    · injection h with h; cases h

theorem sampleDur_le (d L : K) : sampleDur d (some L) ≤ L := by
  simp only [sampleDur]; split
  · exact le_refl _
  · exact not_lt.mp ‹_›

theorem sampleDur_nonneg (d : K) (m : Option K) (hd : 0 ≤ d) (hL : ∀ L, m = some L → 0 ≤ L) :
    0 ≤ sampleDur d m := by
  cases m with
  | none => exact hd
  | some L => simp only [sampleDur]; split; exact hL L rfl; exact hd

end Acn.SessionsL
