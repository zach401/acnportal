/-
  `SchedSafe` for the modelled sorted algorithms as schedulers of the simulator loop — with an
  ARBITRARY stateful estimator frozen at any of its states (`SimSortedEst.sortedSchedEst`), hence
  also with the rampdown estimator at any state (`SimSortedRd.sortedSchedSt`) and without estimator
  (`SimSorted.sortedSched`).  Whatever `get_maximum_rates` answers — bounds above the EVSE maximum,
  negative bounds, absent keys, keys of sessions that are not active — `enforce_pilot_limit`
  (applied first) and `reconcile_max_and_min` keep `0 ≤ min_rates ≤ max_rates ≤ max_pilot`, and the
  allocation loops never leave those bounds.
-/
import AcnProofs.Lemmas.SortedSimInd
import AcnProofs.Lemmas.SortedRdNoEst

set_option linter.unusedSectionVars false

namespace Acn.Sorted
open Acn Acn.Evse Acn.EventCore

theorem infraOf_at (inf : ℝ) (cfg : Sim.Cfg ℝ) (k : Nat) (st : Sim.Station ℝ)
    (hk : cfg.stations[k]? = some st) :
    (SimSorted.infraOf inf cfg).ids.getD k "" = st.id ∧
    (SimSorted.infraOf inf cfg).volt.getD k 0 = st.voltage ∧
    (SimSorted.infraOf inf cfg).maxPilot.getD k 0 = SimSorted.boundOr inf (Evse.maxRate st.kind) ∧
    (SimSorted.infraOf inf cfg).minPilot.getD k 0 = Evse.minRate st.kind ∧
    (SimSorted.infraOf inf cfg).cont.getD k true = Evse.isContinuous st.kind ∧
    (SimSorted.infraOf inf cfg).allow.getD k [] =
      (Evse.allowable st.kind).map (SimSorted.boundOr inf) := by
  simp [SimSorted.infraOf, List.getD_eq_getElem?_getD, hk]

theorem active_stations_nodup (cfg : Sim.Cfg ℝ) (s : Sim.State ℝ) (hn : Ledger.StationsNodup cfg)
    (hocc : Ledger.OccSound cfg.core s.core.occ) (hsn : (cfg.evs.map (·.session)).Nodup)
    (hst : ∀ e ∈ s.evs, StaticIn cfg e) :
    ((Sim.activeEvs cfg s).map (·.station)).Nodup := by
  unfold Sim.activeEvs
  apply filterMap_map_nodup _ _ (fun st : Sim.Station ℝ => st.id) cfg.stations hn
  intro st e he
  cases ho : Sim.occupantEv s st.id with
  | none => rw [ho] at he; cases he
  | some e' =>
    rw [ho] at he
    simp only at he
    split at he
    · cases he
      exact occupant_station cfg s hocc hsn hst st.id e ho
    · cases he

section
variable {K : Type} [Field K] [LinearOrder K] [IsStrictOrderedRing K]

theorem resolve_map_station (infra : Infra K) (raw l : List (Session K))
    (h : List.Forall₂ (fun s s' => ∃ i, i < infra.ids.length ∧ infra.ids.getD i "" = s.station ∧
      s' = { s with idx := i }) raw l) :
    l.map (fun s => infra.ids.getD s.idx "") = raw.map (·.station) := by
  induction h with
  | nil => rfl
  | cons hr _ ih =>
    obtain ⟨i, _, h2, rfl⟩ := hr
    simp only [List.map_cons, ih, h2]

end

/-- `min_rate` of a finite-rate EVSE: the first positive level, 0 when there is none -/
theorem firstPositive_cases (l : List ℝ) :
    Evse.firstPositive l = 0 ∨ 0 < Evse.firstPositive l ∧ Evse.firstPositive l ∈ l := by
  induction l with
  | nil => exact Or.inl rfl
  | cons x xs ih =>
    unfold Evse.firstPositive
    split
    · exact Or.inr ⟨‹_›, List.mem_cons_self⟩
    · exact ih.imp_right fun h => ⟨h.1, List.mem_cons_of_mem _ h.2⟩

theorem firstPositive_nonneg (l : List ℝ) : 0 ≤ Evse.firstPositive l :=
  (firstPositive_cases l).elim (fun h => h.ge) fun h => h.1.le

theorem allowable_finite_map (inf : ℝ) (rates : List ℝ) :
    (Evse.allowable (.finite rates)).map (SimSorted.boundOr inf) = rates := by
  simp [Evse.allowable, List.map_map, Function.comp_def, SimSorted.boundOr]

theorem firstPositive_mem (l : List ℝ) (h0 : (0 : ℝ) ∈ l) : Evse.firstPositive l ∈ l :=
  (firstPositive_cases l).elim (fun h => h ▸ h0) fun h => h.2

theorem infraOf_ok (inf : ℝ) (cfg : Sim.Cfg ℝ) (hc : CfgOk cfg inf) :
    InfraOk (SimSorted.infraOf inf cfg) := by
  intro i
  by_cases hi : i < cfg.stations.length
  · obtain ⟨_, _, _, i4, i5, i6⟩ := infraOf_at inf cfg i _ (List.getElem?_eq_getElem hi)
    rw [i4, i5, i6]
    rcases (hc.kinds _ (List.getElem_mem hi)).cases with ⟨m, hk, _, _⟩ | ⟨rates, hk, h0, _⟩
    · rw [hk]
      simp [Evse.minRate, Evse.isContinuous]
    · rw [hk]
      refine ⟨firstPositive_nonneg rates, fun _ => ?_⟩
      rw [allowable_finite_map]
      exact firstPositive_mem rates h0
  · have h1 : (SimSorted.infraOf inf cfg).minPilot.getD i 0 = 0 := by
      simp [SimSorted.infraOf, List.getD_eq_getElem?_getD, not_lt.mp hi]
    have h2 : (SimSorted.infraOf inf cfg).cont.getD i true = true := by
      simp [SimSorted.infraOf, List.getD_eq_getElem?_getD, not_lt.mp hi]
    rw [h1, h2]
    exact ⟨le_refl _, fun h => absurd h (by simp)⟩

/-- per EVSE class: a grant obeying `GrantOk` for a session that preprocessing — with or without
    estimator — derived from the adapter's session (`min_rates = 0`, `max_rates = inf`) has the
    accepted shape and lies within `[0, remaining demand]` -/
theorem grant_to_station (inf : ℝ) (infra : Infra ℝ) (period : ℝ) (kind : Evse.Kind ℝ)
    (hko : KindOk inf kind) (s0 s : Session ℝ) (r : ℝ)
    (hmp : infra.maxPilot.getD s0.idx 0 = SimSorted.boundOr inf (Evse.maxRate kind))
    (hmn : infra.minPilot.getD s0.idx 0 = Evse.minRate kind)
    (hct : infra.cont.getD s0.idx true = Evse.isContinuous kind)
    (hal : infra.allow.getD s0.idx [] = (Evse.allowable kind).map (SimSorted.boundOr inf))
    (hmin0 : s0.minRate = 0) (hmax0 : s0.maxRate = inf)
    (hrap : 0 ≤ rap infra period s0)
    (hd : DerivedW infra period s0 s) (hg : GrantOk infra period s r) :
    Accepts kind r ∧ 0 ≤ r ∧ r ≤ rap infra period s0 := by
  obtain ⟨hidx, hreq, hdel, hcases⟩ := hd
  have hraps : rap infra period s = rap infra period s0 := rap_congr infra period s0 s hidx hreq hdel
  obtain ⟨g1, g2, g3⟩ := hg
  rw [hidx] at g1 g2
  rw [hraps] at g1 g3
  rcases hko.cases with ⟨m, rfl, hm0, hminf⟩ | ⟨rates, rfl, h0mem, hnn⟩
  · simp only [Evse.maxRate, SimSorted.boundOr] at hmp
    simp only [Evse.minRate] at hmn
    simp only [Evse.isContinuous] at hct
    have hb : 0 ≤ s.maxRate ∧ s.minRate ≤ s.maxRate ∧ s.maxRate ≤ m ∧ lbOf s = 0 := by
      rcases hcases with ⟨h1, h2, h3⟩ | ⟨h1, h2⟩ | ⟨_, h1, h2, h3⟩
      · rw [hmin0] at h1
        rw [hmax0, hmp, min_eq_right hminf] at h2 h3
        rw [hmin0, max_eq_left hm0] at h2
        rw [h1] at h3
        have h0 : 0 ≤ s.maxRate := by
          rcases h3 with h3 | h3
          · exact le_trans hm0 h3
          · exact h3
        exact ⟨h0, by rw [h1]; exact h0, h2, lbOf_eq_zero (le_of_eq h1)⟩
      · exact ⟨by rw [h2], by rw [h1, h2], by rw [h2]; exact hm0, lbOf_eq_zero (le_of_eq h1)⟩
      · rw [hmn, hmin0, max_self] at h1
        rw [hmax0, hmp, min_eq_right hminf, h1, max_eq_left hm0] at h3
        rw [h1] at h2
        exact ⟨h2, by rw [h1]; exact h2, h3, lbOf_eq_zero (le_of_eq h1)⟩
    obtain ⟨b1, b2, b3, b4⟩ := hb
    obtain ⟨r0, rm⟩ := g1 hct b1 b2 (by rw [hmp]; exact b3) hrap
    rw [hmp] at rm
    refine ⟨⟨le_refl _, r0, rm⟩, r0, ?_⟩
    rw [b4] at g3
    exact le_trans g3 (max_le hrap (min_le_right _ _))
  · simp only [Evse.isContinuous] at hct
    rw [allowable_finite_map] at hal
    simp only [Evse.minRate] at hmn
    have hr : r ∈ rates := by
      rcases g2 hct with rfl | h
      · exact h0mem
      · rw [hal] at h; exact h
    refine ⟨hr, hnn r hr, ?_⟩
    have hlb : lbOf s ≤ rap infra period s0 := by
      unfold lbOf
      simp only [pyMax_eq_max]
      rcases hcases with ⟨h1, _⟩ | ⟨h1, _⟩ | ⟨hc1, h1, _⟩
      · rw [h1, hmin0]; simpa using hrap
      · rw [h1]; simpa using hrap
      · rw [h1, hmin0]
        exact max_le hrap (max_le hc1 hrap)
    exact le_trans g3 (max_le hlb (min_le_right _ _))

/-- what a call is handed on a simulator state, after `get_station_index`: one session per occupied
    station, built from that station's occupant, at that station's index -/
theorem resolve_view (inf : ℝ) (cfg : Sim.Cfg ℝ) (hc : CfgOk cfg inf) (a : Sim.State ℝ)
    (hocc : Ledger.OccSound cfg.core a.core.occ) (hst : ∀ e ∈ a.evs, StaticIn cfg e)
    (l : List (Session ℝ))
    (hres : resolve (SimSorted.infraOf inf cfg)
      ((Sim.view cfg a).active.map (SimSorted.sessionOfEv inf (Sim.view cfg a).iter)) = .ok l) :
    (l.map (·.idx)).Nodup ∧
    ∀ s0 ∈ l, ∃ k st e, cfg.stations[k]? = some st ∧ Sim.occupantEv a st.id = some e ∧
      s0 = { SimSorted.sessionOfEv inf (Sim.view cfg a).iter e with idx := k } := by
  have hF := resolve_spec (SimSorted.infraOf inf cfg) _ l hres
  have hactive : (Sim.view cfg a).active = Sim.activeEvs cfg a := rfl
  constructor
  · have h1 := resolve_map_station (SimSorted.infraOf inf cfg) _ l hF
    have h2 : ((l.map (·.idx)).map (fun i => (SimSorted.infraOf inf cfg).ids.getD i "")).Nodup := by
      rw [List.map_map]
      show (l.map (fun s => (SimSorted.infraOf inf cfg).ids.getD s.idx "")).Nodup
      rw [h1, hactive, List.map_map]
      exact active_stations_nodup cfg a hc.nod hocc hc.sess hst
    exact List.Nodup.of_map _ h2
  · intro s0 hs0
    obtain ⟨sr, hsr, i, hi, hids, rfl⟩ := forall₂_mem_right hF s0 hs0
    rw [hactive, List.mem_map] at hsr
    obtain ⟨e, he, rfl⟩ := hsr
    obtain ⟨st', hst', ho'⟩ := active_is_occupant cfg a e he
    have hes := occupant_station cfg a hocc hc.sess hst st'.id e ho'
    have hi' : i < cfg.stations.length := by simpa [SimSorted.infraOf] using hi
    have hk : cfg.stations[i]? = some cfg.stations[i] := List.getElem?_eq_getElem hi'
    obtain ⟨i1, -⟩ := infraOf_at inf cfg i _ hk
    have hsame : st' = cfg.stations[i] := by
      apply List.inj_on_of_nodup_map hc.nod hst' (List.getElem_mem hi')
      show st'.id = (cfg.stations[i]).id
      rw [← hes, ← i1]; exact hids.symm
    exact ⟨i, st', e, by rw [hsame]; exact hk, ho', rfl⟩

theorem scheduleCallEst_safe [HasCeilNat ℝ] (net : SimSorted.NetInfo ℝ) (inf : ℝ) (cfg : Sim.Cfg ℝ)
    (cfg' : Config ℝ) (hc : CfgOk cfg inf) (heps' : 0 ≤ cfg'.eps)
    (est : List (Session ℝ) → Session ℝ → Option ℝ)
    (a : Sim.State ℝ) (hocc : Ledger.OccSound cfg.core a.core.occ)
    (hev : ∀ e ∈ a.evs, LedgerOk e ∧ StaticIn cfg e) (arr : List ℝ)
    (hr : (scheduleCallEst (SimSorted.feasOf net) cfg' (SimSorted.infraOf inf cfg) cfg.period
        ((Sim.view cfg a).iter : Int) est
        ((Sim.view cfg a).active.map (SimSorted.sessionOfEv inf (Sim.view cfg a).iter))).result = .ok arr) :
    arr.length = cfg.stations.length ∧ SimSorted.feasOf net arr = true ∧
    (∀ k st, cfg.stations[k]? = some st → Accepts st.kind (arr.getD k 0)) ∧
    (∀ k st e, cfg.stations[k]? = some st → Sim.occupantEv a st.id = some e →
      0 ≤ arr.getD k 0 ∧ arr.getD k 0 ≤ rapEv cfg st e) := by
  have hlen : (SimSorted.infraOf inf cfg).allow.length = (SimSorted.infraOf inf cfg).ids.length := by
    simp [SimSorted.infraOf]
  have hn : (SimSorted.infraOf inf cfg).ids.length = cfg.stations.length := by simp [SimSorted.infraOf]
  cases hres : resolve (SimSorted.infraOf inf cfg)
      ((Sim.view cfg a).active.map (SimSorted.sessionOfEv inf (Sim.view cfg a).iter)) with
  | error e =>
    rw [scheduleCallEst_resolve_error _ _ _ _ _ _ _ e hres] at hr
    cases hr
  | ok l =>
    obtain ⟨hndl, hview⟩ := resolve_view inf cfg hc a hocc (fun e he => (hev e he).2) l hres
    obtain ⟨hal, hfe, hsg⟩ := scheduleCallEst_spec _ cfg' _ _ _ est _ l arr hres hlen hndl hr
    have key : ∀ k st, cfg.stations[k]? = some st → EntrySafe cfg a st (arr.getD k 0) := by
      intro k st hk
      have hstm : st ∈ cfg.stations := List.mem_of_getElem? hk
      have hz := entrySafe_zero cfg inf hc a hev hstm
      rcases hsg heps' k (by rw [hn]; exact (List.getElem?_eq_some_iff.mp hk).1) with
        h0 | ⟨s, _, hsk, ⟨s0, hs0, hd⟩, r, hget, hG⟩
      · rw [List.getD_eq_getElem?_getD, h0]
        exact hz
      · obtain ⟨k', st', e, hk', ho', rfl⟩ := hview s0 hs0
        obtain rfl : k' = k := by rw [← hsk, hd.1]
        obtain rfl : st' = st := by rw [hk'] at hk; exact Option.some.inj hk
        obtain ⟨-, i2, i3, i4, i5, i6⟩ := infraOf_at inf cfg k' st' hk'
        have hrapEq : rap (SimSorted.infraOf inf cfg) cfg.period
            ({ SimSorted.sessionOfEv inf (Sim.view cfg a).iter e with idx := k' } : Session ℝ) =
            rapEv cfg st' e := by
          unfold rap remainingDemand rapEv
          simp only [SimSorted.sessionOfEv]
          rw [i2]
          norm_num
        obtain ⟨c1, c2, c3⟩ := grant_to_station inf (SimSorted.infraOf inf cfg) cfg.period st'.kind
          (hc.kinds st' hstm) _ s r i3 i4 i5 i6 rfl rfl (by rw [hrapEq]; exact (hz.2 e ho').2) hd hG
        rw [List.getD_eq_getElem?_getD, hget]
        refine ⟨c1, fun e' he' => ?_⟩
        obtain rfl : e = e' := by rw [ho'] at he'; exact Option.some.inj he'
        rw [← hrapEq]
        exact ⟨c2, c3⟩
    refine ⟨by rw [hal, hn], hfe (infraOf_ok inf cfg hc) fun s0 hs0 => ?_, fun k st hk => (key k st hk).1,
      fun k st e hk he => (key k st hk).2 e he⟩
    obtain ⟨_, _, _, _, _, rfl⟩ := hview s0 hs0
    exact le_refl _

theorem schedSafe_of_call (feasP : List ℝ → Bool) (cfg : Sim.Cfg ℝ) (inf : ℝ)
    (sched : Sim.View ℝ → Except EventCore.Err (Sim.Schedule ℝ))
    (call : Sim.View ℝ → Except Sorted.Err (List ℝ))
    (hsched : ∀ v, sched v = match call v with
      | .error e => .error (SimSorted.errOf e)
      | .ok arr => .ok (formatArraySchedule (SimSorted.infraOf inf cfg) arr))
    (hcall : ∀ a : Sim.State ℝ, Ledger.OccSound cfg.core a.core.occ →
      (∀ e ∈ a.evs, LedgerOk e ∧ StaticIn cfg e) → ∀ arr, call (Sim.view cfg a) = .ok arr →
        arr.length = cfg.stations.length ∧ feasP arr = true ∧
        (∀ k st, cfg.stations[k]? = some st → Accepts st.kind (arr.getD k 0)) ∧
        (∀ k st e, cfg.stations[k]? = some st → Sim.occupantEv a st.id = some e →
          0 ≤ arr.getD k 0 ∧ arr.getD k 0 ≤ rapEv cfg st e)) :
    SchedSafe feasP cfg inf sched := by
  constructor
  · intro v e h
    rw [hsched v] at h
    split at h
    · rename_i e' _
      cases h
      cases e' <;> simp [SimSorted.errOf]
    · cases h
  · intro a hocc hev sch hsch
    rw [hsched] at hsch
    split at hsch
    · cases hsch
    · rename_i arr hr
      cases hsch
      exact ⟨arr, rfl, hcall a hocc hev arr hr⟩

theorem sortedSchedEst_schedSafe [HasCeilNat ℝ] {σ : Type} (net : SimSorted.NetInfo ℝ) (inf : ℝ)
    (cfg : Sim.Cfg ℝ) (scfg : Config ℝ) (hc : CfgOk cfg inf) (heps : 0 ≤ scfg.eps)
    (E : SimSortedEst.Estimator σ ℝ) (st : σ) :
    SchedSafe (SimSorted.feasOf net) cfg inf
      (SimSortedRd.frozen (SimSortedEst.sortedSchedEst net inf cfg scfg E) st) := by
  refine schedSafe_of_call _ cfg inf _
    (fun v => (scheduleCallEst (SimSorted.feasOf net) scfg (SimSorted.infraOf inf cfg) cfg.period
      (v.iter : Int) (fun l1 => (E st v l1).1) (v.active.map (SimSorted.sessionOfEv inf v.iter))).result)
    ?_ (fun a hocc hev arr hr => scheduleCallEst_safe net inf cfg scfg hc heps _ a hocc hev arr hr)
  intro v
  unfold SimSortedRd.frozen SimSortedEst.sortedSchedEst
  simp only
  generalize (scheduleCallEst (K := ℝ) _ _ _ _ _ _ _).result = r
  cases r <;> rfl

theorem sortedSchedSt_schedSafe [HasCeilNat ℝ] (net : SimSorted.NetInfo ℝ) (inf : ℝ) (cfg : Sim.Cfg ℝ)
    (scfg : Config ℝ) (hc : CfgOk cfg inf) (heps : 0 ≤ scfg.eps) (rd : Rampdown ℝ) :
    SchedSafe (SimSorted.feasOf net) cfg inf
      (SimSortedRd.frozen (SimSortedRd.sortedSchedSt net inf cfg scfg) rd) := by
  refine schedSafe_of_call _ cfg inf _
    (fun v => (scheduleCall (SimSorted.feasOf net) scfg (SimSorted.infraOf inf cfg) cfg.period
      (v.iter : Int) (SimSortedRd.prevOf v) rd (v.active.map (SimSorted.sessionOfEv inf v.iter))).result)
    ?_ ?_
  · intro v
    unfold SimSortedRd.frozen SimSortedRd.sortedSchedSt
    simp only
    generalize (scheduleCall (K := ℝ) _ _ _ _ _ _ _ _).result = r
    cases r <;> rfl
  · intro a hocc hev arr hr
    rw [(scheduleCall_eq_scheduleCallEst _ _ _ _ _ _ _ _).1] at hr
    exact scheduleCallEst_safe net inf cfg scfg hc heps _ a hocc hev arr hr

theorem sortedSched_schedSafe [HasCeilNat ℝ] (net : SimSorted.NetInfo ℝ) (inf : ℝ) (cfg : Sim.Cfg ℝ)
    (scfg : Config ℝ) (hc : CfgOk cfg inf) (heps : 0 ≤ scfg.eps) :
    SchedSafe (SimSorted.feasOf net) cfg inf (SimSorted.sortedSched net inf cfg scfg) := by
  -- without estimator the stateful scheduler is this one lifted, at any estimator state
  have := sortedSchedSt_schedSafe net inf cfg { scfg with estimate := false } hc heps
    { upTh := 0, downTh := 0, upInc := 0, bounds := [] }
  rwa [SimSortedRd.sortedSchedSt_noest _ _ _ _ rfl, SimSortedRd.frozen_lift] at this

end Acn.Sorted
