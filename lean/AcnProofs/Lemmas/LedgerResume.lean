/-
  The ledger invariant SURVIVES A PERIOD THAT RAISES, as long as the raise does not come out of the pilots/rates
  half of the period (`update_pilots` / `_store_actual_charging_rates`): the events of the period only touch the
  occupancy, `scheduler.run()` and `_update_schedules` only touch the pilot matrix — no EV has charged, nothing has
  been recorded, `peak` and `_iteration` are what they were.  Hence every state reached by `run()` calls that are
  aborted this way and called again (`Resumed`) satisfies the invariant at every loop head.

  (A raise inside `update_pilots` — `InvalidRateError` at station `j` after the stations before it have charged —
  leaves energy delivered that no column of `charging_rates` records: there the ledger really is broken, and
  stays broken after a resume, which charges those EVs again for the same period.  `ApplyErr` names the error
  classes that half can raise; they are excluded.)

  At the end, two clauses read off the invariant of any state, resumed or not: `Inv.session_single`, `Inv.peak_spec`.
-/
import AcnProofs.Lemmas.LedgerTotal

set_option linter.unusedSectionVars false

namespace Acn.Ledger
open Acn Acn.Sim Acn.EventCore Acn.Evse Acn.Steps Finset

variable {K : Type} [Field K] [LinearOrder K] [IsStrictOrderedRing K] [HasExp K]

/-- the error classes the pilots/rates half of a period can raise (numpy `IndexError`, `InvalidRateError`,
    a `ValueError` out of `Battery.charge`) -/
def ApplyErr (e : EventCore.Err) : Prop := e = .indexError ∨ e = .invalidRate ∨ e = .valueError

instance (e : EventCore.Err) : Decidable (ApplyErr e) :=
  inferInstanceAs (Decidable (e = .indexError ∨ e = .invalidRate ∨ e = .valueError))

theorem applyStage_err {cfg : Cfg K} {a s' : State K} {e : EventCore.Err} (h : applyStage cfg a = (s', some e)) :
    ApplyErr e := by
  generalize hn : some e = err at h
  cases Apply.of_eq h with
  | noColumn _ => cases hn; exact Or.inl rfl
  | pilotsRaise _ h2 =>
    cases hn
    obtain ⟨_, _, _, -, -, h1⟩ := updatePilotsFrom_raise h2
    exact Or.inr (setPilotAt_err h1)
  | storeRaise _ _ h3 => cases hn; exact Or.inl (storeRates_raise h3)
  | done _ _ _ => cases hn

theorem body_ledger_abort {cfg : Cfg K} (sched : View K → Except EventCore.Err (Schedule K)) {s s' : State K}
    {e : EventCore.Err} (hL : Inv cfg s) (h : Sim.body cfg sched s = (s', some e)) (he : ¬ ApplyErr e) : Inv cfg s' := by
  obtain ⟨a, p, ⟨rfl, -⟩ | ha⟩ := body_preApply h
  · exact hL.preApply p
  · exact absurd (applyStage_err ha) he

theorem run_ledger_any {cfg : Cfg K} (hn : StationsNodup cfg)
    (sched : View K → Except EventCore.Err (Schedule K)) : ∀ (n : Nat) (s s' : State K) (err : Option EventCore.Err),
    Inv cfg s → Sim.run cfg sched n s = (s', err) → (∀ e, err = some e → ¬ ApplyErr e) → Inv cfg s' :=
  run_induction sched (Q := fun e => ¬ ApplyErr e) (fun _ _ hL hb => body_ledger hn sched hL hb)
    fun _ _ _ hL hb he => body_ledger_abort sched hL hb he

/-- the states a simulator object goes through when `run()` is called, raises (not in the pilots/rates half),
    is called again, … — any number of times, any scheduler and fuel at each call -/
inductive Resumed (cfg : Cfg K) : State K → Prop
  | init : Resumed cfg (Sim.init cfg)
  | call (sched : View K → Except EventCore.Err (Schedule K)) (n : Nat) {s s' : State K} {err : Option EventCore.Err} :
      Resumed cfg s → Sim.run cfg sched n s = (s', err) → (∀ e, err = some e → ¬ ApplyErr e) → Resumed cfg s'

theorem Resumed.of_run {cfg : Cfg K} {sched : View K → Except EventCore.Err (Schedule K)} {n : Nat}
    {s : State K} (h : Sim.run cfg sched n (Sim.init cfg) = (s, none)) : Resumed cfg s :=
  .call sched n .init h fun _ h => nomatch h

theorem resumed_ledger {cfg : Cfg K} (hn : StationsNodup cfg) {s : State K} (h : Resumed cfg s) : Inv cfg s := by
  induction h with
  | init => exact init_ledger cfg
  | call sched n _ hrun he ih => exact run_ledger_any hn sched n _ _ _ ih hrun he

theorem schedulerFailed_not_applyErr : ¬ ApplyErr EventCore.Err.schedulerFailed := by
  unfold ApplyErr; decide

/-! ### the clauses of the ledger, read off the invariant of ANY state (so also of a resumed one) -/

theorem Inv.session_single {cfg : Cfg K} (hn : StationsNodup cfg) {s : State K} (hL : Inv cfg s)
    {id : String} {e0 e : Ev K} (h0 : evIn cfg.evs id = some e0) (he : evIn s.evs id = some e) :
    e.delivered - e0.delivered =
      ∑ τ ∈ range s.core.iter,
        if occAt s.occLog τ (stationIndex cfg e0.station) = some id
        then s.rates.get (stationIndex cfg e0.station) τ * volt cfg (stationIndex cfg e0.station) / 1000
              * (cfg.period / 60)
        else 0 := by
  rw [hL.sess id e0 e h0 he]
  unfold sessionEnergy
  exact Finset.sum_congr rfl (fun τ _ => sum_term_single hn hL h0 τ)

/-- the recorded peak is the running maximum of the aggregate currents of the periods so far -/
theorem peakUpTo_eq_foldl (m : Pilots.Mat K) (n t : Nat) :
    peakUpTo m n t = (List.range t).foldl (fun p τ => max p (aggCurrent m n τ)) 0 := by
  induction t with
  | zero => rfl
  | succ t ih => rw [List.range_succ, List.foldl_append, ← ih]; rfl

theorem peakUpTo_bounds (m : Pilots.Mat K) (n : Nat) (t : Nat) :
    0 ≤ peakUpTo m n t ∧ (∀ τ < t, aggCurrent m n τ ≤ peakUpTo m n t) ∧
    (peakUpTo m n t = 0 ∨ ∃ τ < t, peakUpTo m n t = aggCurrent m n τ) := by
  rw [peakUpTo_eq_foldl]
  obtain ⟨h1, h2, h3⟩ := foldl_max_spec (aggCurrent m n) (List.range t) 0
  exact ⟨h2, fun τ hτ => h3 τ (List.mem_range.2 hτ),
    h1.imp id fun ⟨τ, hτ, e⟩ => ⟨τ, List.mem_range.1 hτ, e⟩⟩

theorem Inv.peak_spec {cfg : Cfg K} {s : State K} (hL : Inv cfg s) :
    0 ≤ s.peak ∧
    (∀ τ < s.core.iter, ∑ i ∈ range cfg.stations.length, s.rates.get i τ ≤ s.peak) ∧
    (s.peak = 0 ∨ ∃ τ < s.core.iter, s.peak = ∑ i ∈ range cfg.stations.length, s.rates.get i τ) := by
  rw [hL.peak_eq]
  exact peakUpTo_bounds s.rates cfg.stations.length s.core.iter

end Acn.Ledger
