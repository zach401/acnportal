/-
  Well-formedness of EVERY state a simulator object can be in after ANY NUMBER of `run()` calls — each completed, out
  of fuel, or aborted in any period by the scheduler / `_update_schedules` / `update_pilots` — in a `Valid` scenario
  (`run_sinv_any`; `run_sinv` is the case of a loop head): after an aborted period the core is in a
  mid-period state (`EventCore.Mid`), from which the events stage pops nothing and cannot raise, so `SInv` — and with
  it `WF` and `AllRef`, the hypotheses of the JSON round trip `RegistrySim.decode_of` — is kept by the next call too.
  (For C02: a resumed simulation can be written to JSON and loaded at ANY point of its life.)
  `roundtrip`: `to_json` → `from_json` → decode is the identity on a well-formed state in which every EV object is
  referenced, hence (`Calls.roundtrip`) on every state of `Calls`.
-/
import AcnProofs.Lemmas.EventCoreMid
import AcnProofs.Lemmas.RegistryWF2
import AcnProofs.Lemmas.RegistryRoundtrip

set_option linter.unusedSectionVars false

namespace Acn.RegistrySim
open Acn Acn.EventCore Acn.Sim

variable {K : Type} [Add K] [Sub K] [Mul K] [Div K] [Neg K] [LT K] [LE K]
  [DecidableLT K] [DecidableLE K] [OfNat K 0] [OfNat K 1] [NatCast K] [HasExp K]

theorem run_sinv_any (cfg : Cfg K) (sched : View K → Except Err (Schedule K)) (hv : Valid cfg.core)
    (n : Nat) (s : State K) (h : SInv cfg s) (hm : HeadOrMid cfg.core s.core) :
    SInv cfg (Sim.run cfg sched n s).1 ∧ HeadOrMid cfg.core (Sim.run cfg sched n s).1.core :=
  Sim.run_induction_any sched (P := fun s => SInv cfg s ∧ HeadOrMid cfg.core s.core)
    (fun s ⟨h, hm⟩ => by
      obtain ⟨c1, hes, _⟩ := hm.events hv
      exact ⟨body_sinv cfg sched h hv.ids_nodup (by rw [hes]), (Sim.body_headOrMid hv sched hm).1⟩)
    n s ⟨h, hm⟩

theorem run_sinv (cfg : Cfg K) (sched : View K → Except Err (Schedule K)) (hv : Valid cfg.core) (n t : Nat)
    (s : State K) (hI : Inv cfg.core t s.core) (h : SInv cfg s) : SInv cfg (run cfg sched n s).1 :=
  (run_sinv_any cfg sched hv n s h (Or.inl (by rw [hI.iter]; exact hI))).1

/-- the states a simulator object goes through under any number of `run()` calls, whatever each call's outcome -/
inductive Calls (cfg : Cfg K) : State K → Prop
  | init : Calls cfg (Sim.init cfg)
  | call (sched : View K → Except Err (Schedule K)) (n : Nat) {s : State K} :
      Calls cfg s → Calls cfg (Sim.run cfg sched n s).1

theorem calls_sinv {cfg : Cfg K} (hv : Valid cfg.core) {s : State K} (h : Calls cfg s) :
    SInv cfg s ∧ HeadOrMid cfg.core s.core := by
  induction h with
  | init => exact ⟨init_sinv cfg, Or.inl (init_inv hv)⟩
  | call sched n _ ih => exact run_sinv_any cfg sched hv n _ ih.1 ih.2

theorem calls_wf {cfg : Cfg K} (hv : Valid cfg.core) {s : State K} (h : Calls cfg s) : WF cfg s ∧ AllRef cfg s :=
  ⟨(calls_sinv hv h).1.wf hv.ids_nodup, (calls_sinv hv h).1.allRef hv.ids_nodup⟩

section roundtrip
open Acn.Registry

theorem dump_encode {K : Type} (sh : Show K) (cfg : Cfg K) (s : State K) :
    ∃ ctx, dump (encode sh cfg s) root = .ok ctx ∧ load ctx root = .ok ctx ∧ DumpSpec (encode sh cfg s) root ctx ∧
      ∀ j, Reach (encode sh cfg s) root j → ctx.get j = some (objAt sh cfg s j) := by
  have hac := encode_acyclic sh cfg s
  obtain ⟨ctx, h, hs⟩ := dump_spec hac (encode_closed sh cfg s)
  refine ⟨ctx, h, load_dump hac h hs, hs, fun j hj => ?_⟩
  rw [hs.same j hj, get_encode, if_pos (reach_lt sh cfg s (root_lt cfg s) hj)]

/-- `AllRef` makes the whole layout reachable (`reach_all`), so what `to_json` dumped agrees with the encoded store -/
theorem agrees_dump {K : Type} {sh : Show K} {cfg : Cfg K} {s : State K} (href : AllRef cfg s) {ctx : Store}
    (hd : dump (encode sh cfg s) root = .ok ctx) : Agrees sh cfg s ctx.get := by
  obtain ⟨ctx', h1, _, _, h4⟩ := dump_encode sh cfg s
  cases hd.symm.trans h1
  exact fun i hi => h4 i (reach_all sh cfg s href i hi)

theorem roundtrip {K : Type} {sh : Show K} {rd : Read K} (hl : Lawful sh rd) {cfg : Cfg K} {s : State K}
    (hwf : WF cfg s) (href : AllRef cfg s) :
    ∃ ctx, dump (encode sh cfg s) root = .ok ctx ∧ load ctx root = .ok ctx ∧
      decode rd cfg (ambOf s) ctx.get = some s := by
  obtain ⟨ctx, h1, h2, _⟩ := dump_encode sh cfg s
  exact ⟨ctx, h1, h2, decode_of hl hwf ctx.get (agrees_dump href h1)⟩

theorem Calls.roundtrip {sh : Show K} {rd : Read K} (hl : Lawful sh rd) {cfg : Cfg K} (hv : Valid cfg.core)
    {s : State K} (h : Calls cfg s) :
    ∃ ctx, dump (encode sh cfg s) root = .ok ctx ∧ load ctx root = .ok ctx ∧
      decode rd cfg (ambOf s) ctx.get = some s :=
  RegistrySim.roundtrip hl (calls_wf hv h).1 (calls_wf hv h).2

end roundtrip

end Acn.RegistrySim
