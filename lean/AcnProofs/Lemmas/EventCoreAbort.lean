/-
  Helper lemmas for C01 across interruptions (AcnProofs/C01Resume.lean): the state `run()` leaves behind when the
  scheduler raises in period `k` of a `Valid` scenario — `Aborted cfg k c`: the events of period `k` (and of every
  earlier period) are in `event_history`, exactly once, and NOT in the queue any more (nothing to replay); the queue
  holds exactly what the loop head of period `k + 1` expects, in particular the unplug event of every session that
  arrived in period `k` (no follow-up lost); the stations hold the sessions with `arrival ≤ k < departure`.
-/
import AcnProofs.Lemmas.EventCoreRun
import AcnProofs.Lemmas.ResumeTrigger

namespace Acn.EventCore
open Acn Acn.Steps

/-- the state an abort inside the scheduler call of period `k` leaves -/
structure Aborted (cfg : Cfg) (k : Nat) (c : Core) : Prop where
  iter : c.iter = k
  pend_nodup : c.pending.Nodup
  /-- the queue of the loop head of period `k + 1`: future plug-ins and recomputes, the unplugs of the connected
      sessions — including those that arrived in period `k` itself -/
  pend_mem : ∀ e, e ∈ c.pending ↔ Expected cfg ((k : Int) + 1) e
  hist_nodup : c.eventHist.Nodup
  /-- every event with timestamp `≤ k` has been processed -/
  hist_mem : ∀ e, e ∈ c.eventHist ↔ Done cfg ((k : Int) + 1) e
  hist_sorted : c.eventHist.Pairwise (fun a b => a.keyLe b = true)
  occ : ∀ st x, c.occ st = some x ↔ x ∈ cfg.sessions ∧ x.station = st ∧ x.arrival ≤ k ∧ (k : Int) < x.departure

variable {cfg : Cfg}

theorem body_failSched_cases (hv : Valid cfg) (k : Nat) {t : Nat} {c : Core} (hI : Inv cfg t c) :
    body cfg (failSchedAt k) noFail c = body cfg noFail noFail c ∨
    ∃ c', body cfg (failSchedAt k) noFail c = (c', some .schedulerFailed) ∧ Aborted cfg k c' := by
  by_cases hk : c.iter = k
  · rcases body_failSched_eq (cfg := cfg) (apply := noFail) hk with ⟨hb, _⟩ | ⟨c1, he, _, hb⟩
    · exact .inl hb
    · obtain ⟨c1', h1, _, hit, hH, hP, hO, _⟩ := eventsStage_ok hv hI
      obtain rfl : c1' = c1 := (Prod.mk.inj (h1.symm.trans he)).1
      obtain rfl : t = k := by rw [← hI.iter]; exact hk
      obtain ⟨hpm, hhm⟩ := next_period hv.toQ hH hP
      exact .inr ⟨markInvoked c1', hb, hit, hP.1, hpm, (HistOK.nil.1 hH).1, hhm, (HistOK.nil.1 hH).2.2, hO⟩
  · exact .inl (body_failSched_ne hk)

theorem run_failSched_spec (hv : Valid cfg) (k : Nat) : ∀ (n t : Nat) (c : Core), Inv cfg t c →
    ∀ c' e, run cfg (failSchedAt k) noFail n c = (c', some e) → e = .schedulerFailed ∧ Aborted cfg k c' := by
  intro n t c hI c' e h
  rw [run_eq] at h
  refine (loopE_ends (P := fun c => ∃ t, Inv cfg t c) (Q := fun c' e => e = .schedulerFailed ∧ Aborted cfg k c')
    (fun c hc _ => ?_) n c ⟨t, hI⟩).err_of h
  obtain ⟨t, hI⟩ := hc
  rcases body_failSched_cases hv k hI with hb | ⟨c2, hb, hA⟩
  · obtain ⟨c1, hb1, hI1⟩ := body_ok hv (sched := noFail) (apply := noFail) (fun _ => rfl) (fun _ => rfl) hI
    rw [hb, hb1]
    exact .ok ⟨t + 1, hI1⟩
  · rw [hb]
    exact .err ⟨rfl, hA⟩

end Acn.EventCore
