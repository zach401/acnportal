/-
  The control shapes of the model, once.  Every stage of the simulator returns the state reached AND an optional
  error (the state keeps what was mutated before the raise), and the model strings stages together in three ways:
    `andThen x k`   `match x with | (a, none) => k a | (a, some e) => (a, some e)`,
    `foldE f l`     a `for` loop whose body may raise (`processAll*`, `updatePilotsFrom`),
    `loopE g b n`   a `while` loop with fuel whose body may raise (every `run*`).
  (A fourth shape, the list comprehension whose element function may raise, is `List.mapM` in `Except`:
  `mapM_ok_iff`, `mapM_total` in `Lemmas/Basic`.)  Each model function is shown to be its instance once, next to its
  other lemmas, from its two defining equations (`foldE_unique`, `loopE_unique`).  What one outcome satisfies is
  `Ends P Q`; how two outcomes agree is `Out M X`.  Both compose along `andThen`, `foldE` and `loopE`: an invariant of
  a loop, a projection, or a relation between two runs is proved by saying what each step does, not by a new
  induction (the exception is `Sim.run_failAt_proj`, whose hypothesis speaks of a third run).

  The loop heads of a run: `heads g body n a` lists the states in which `loopE g body n a` started a pass (the pass
  that raised included).  Whatever is collected along a run is a function of this one list: the views handed to the
  scheduler are `(heads …).flatMap (handedView cfg ·).toList` (`Sim.runViews_eq`, `runViewsG_eq`, `runViewsSt_eq`), the
  record `invoked` grows by `(heads …).flatMap (bodyDelta cfg)`, a trace (`TraceG`) is the heads of a run that
  returned.  A model recursion that collects is shown to be such a function by its defining equations
  (`heads_unique`), and what a proof needs of the collected list (the invariant at every head, agreement of two
  runs, a field that is only appended to, the last pass) is said of the heads once.  `heads.induct` is the joint
  induction of run and heads: fuel spent, pass returns, pass raises, guard false; the statements about two loops
  whose hypotheses speak of every state (`loopE_out`, `loopE_congr_on`) are those about the heads with nothing asked.
-/
import Batteries.Data.List.Basic

namespace Acn.Steps

variable {α β ε ι κ ω : Type}

def andThen (x : α × Option ε) (k : α → α × Option ε) : α × Option ε :=
  match x with
  | (a, none) => k a
  | (a, some e) => (a, some e)

@[simp] theorem andThen_ok (a : α) (k : α → α × Option ε) : andThen (a, none) k = k a := rfl

@[simp] theorem andThen_err (a : α) (e : ε) (k : α → α × Option ε) : andThen (a, some e) k = (a, some e) := rfl

theorem andThen_congr {x : α × Option ε} {k k' : α → α × Option ε} (h : ∀ a, x = (a, none) → k a = k' a) :
    andThen x k = andThen x k' := by
  obtain ⟨a, _ | e⟩ := x
  · exact h a rfl
  · rfl

theorem andThen_eq_ok {x : α × Option ε} {k : α → α × Option ε} {a' : α} :
    andThen x k = (a', none) ↔ ∃ a, x = (a, none) ∧ k a = (a', none) := by
  obtain ⟨a, _ | e⟩ := x
  · exact ⟨fun h => ⟨a, rfl, h⟩, fun ⟨_, h1, h2⟩ => (by cases h1; exact h2)⟩
  · exact ⟨fun h => (by cases h), fun ⟨_, h1, _⟩ => (by cases h1)⟩

theorem andThen_eq_err {x : α × Option ε} {k : α → α × Option ε} {a' : α} {e' : ε} :
    andThen x k = (a', some e') ↔ x = (a', some e') ∨ ∃ a, x = (a, none) ∧ k a = (a', some e') := by
  obtain ⟨a, _ | e⟩ := x
  · exact ⟨fun h => .inr ⟨a, rfl, h⟩,
      fun h => h.elim (fun h => by cases h) fun ⟨_, h1, h2⟩ => (by cases h1; exact h2)⟩
  · exact ⟨.inl, fun h => h.elim id fun ⟨_, h1, _⟩ => (by cases h1)⟩

theorem andThen_comm {x : α × Option ε} {k : α → α × Option ε} {y : β × Option ε} {k' : β → β × Option ε}
    (π : α → β) (hx : (π x.1, x.2) = y) (hk : ∀ a, (π (k a).1, (k a).2) = k' (π a)) :
    (π (andThen x k).1, (andThen x k).2) = andThen y k' := by
  subst hx
  obtain ⟨a, _ | e⟩ := x
  · exact hk a
  · rfl

/-- `P` of the state if the step returned, `Q` of state and error if it raised -/
inductive Ends (P : α → Prop) (Q : α → ε → Prop) : α × Option ε → Prop
  | ok {a : α} : P a → Ends P Q (a, none)
  | err {a : α} {e : ε} : Q a e → Ends P Q (a, some e)

section ends
variable {P P' : α → Prop} {Q Q' : α → ε → Prop} {x : α × Option ε}

theorem Ends.mono (hP : ∀ a, P a → P' a) (hQ : ∀ a e, Q a e → Q' a e) (h : Ends P Q x) : Ends P' Q' x := by
  cases h with
  | ok h => exact .ok (hP _ h)
  | err h => exact .err (hQ _ _ h)

theorem Ends.ok_of {a : α} (h : Ends P Q x) (hx : x = (a, none)) : P a := by
  subst hx
  cases h with
  | ok h => exact h

theorem Ends.err_of {a : α} {e : ε} (h : Ends P Q x) (hx : x = (a, some e)) : Q a e := by
  subst hx
  cases h with
  | err h => exact h

theorem ends_any : Ends P (fun a _ => P a) x ↔ P x.1 := by
  obtain ⟨a, _ | e⟩ := x
  · exact ⟨fun h => h.ok_of rfl, fun h => .ok h⟩
  · exact ⟨fun h => h.err_of rfl, fun h => .err h⟩

theorem Ends.andThen {k : α → α × Option ε} (h : Ends P Q x) (hk : ∀ a, P a → Ends P' Q (k a)) :
    Ends P' Q (andThen x k) := by
  cases h with
  | ok h => exact hk _ h
  | err h => exact .err h

end ends

/-- both returned, in `M`-related states, or both raised, states and errors `X`-related -/
inductive Out (M : α → β → Prop) (X : α → ε → β → ε → Prop) : α × Option ε → β × Option ε → Prop
  | ok {a : α} {b : β} : M a b → Out M X (a, none) (b, none)
  | err {a : α} {b : β} {e e' : ε} : X a e b e' → Out M X (a, some e) (b, some e')

/-- the relation between two aborts that relates the states and the errors separately (the general `X` is for
    results in which WHICH abort states are related depends on which errors were raised) -/
abbrev sep (A : α → β → Prop) (E : ε → ε → Prop) : α → ε → β → ε → Prop := fun a e b e' => E e e' ∧ A a b

section out
variable {M M' A : α → β → Prop} {E : ε → ε → Prop} {X X' : α → ε → β → ε → Prop} {x : α × Option ε}
  {y : β × Option ε}

theorem Out.mono (hM : ∀ a b, M a b → M' a b) (hX : ∀ a e b e', X a e b e' → X' a e b e') (h : Out M X x y) :
    Out M' X' x y := by
  cases h with
  | ok h => exact .ok (hM _ _ h)
  | err h => exact .err (hX _ _ _ _ h)

theorem Out.of_eq (h : y.2 = x.2) (hM : M x.1 y.1) : Out M (sep M Eq) x y := by
  obtain ⟨a, e⟩ := x
  obtain ⟨b, e'⟩ := y
  simp only at h hM
  subst h
  cases e' with
  | none => exact .ok hM
  | some e => exact .err ⟨rfl, hM⟩

theorem Out.snd_eq (h : Out M (sep A Eq) x y) : y.2 = x.2 := by
  cases h with
  | ok _ => rfl
  | err h => rw [h.1]

theorem Out.rel (hMA : ∀ a b, M a b → A a b) (h : Out M (sep A E) x y) : A x.1 y.1 := by
  cases h with
  | ok h => exact hMA _ _ h
  | err h => exact h.2

theorem Out.inv {P : α → Prop} (h : Out M X x y) (hp : x.2 = none → P x.1) :
    Out (fun a b => M a b ∧ P a) X x y := by
  cases h with
  | ok h => exact .ok ⟨h, hp rfl⟩
  | err h => exact .err h

theorem Out.ok_imp (h : Out M X x y) (hM : ∀ a b, x = (a, none) → y = (b, none) → M a b → M' a b) :
    Out M' X x y := by
  cases h with
  | ok h => exact .ok (hM _ _ rfl rfl h)
  | err h => exact .err h

theorem Out.andThen_eq {k : α → α × Option ε} {k' : β → β × Option ε} (h : Out M X x y)
    (hk : ∀ a b, x = (a, none) → y = (b, none) → M a b → Out M' X (k a) (k' b)) :
    Out M' X (Steps.andThen x k) (Steps.andThen y k') := by
  cases h with
  | ok h => exact hk _ _ rfl rfl h
  | err h => exact .err h

theorem Out.andThen {k : α → α × Option ε} {k' : β → β × Option ε} (h : Out M X x y)
    (hk : ∀ a b, M a b → Out M' X (k a) (k' b)) : Out M' X (Steps.andThen x k) (Steps.andThen y k') :=
  h.andThen_eq fun a b _ _ => hk a b

theorem Out.refl {A : α → α → Prop} {E : ε → ε → Prop} (hA : ∀ a, A a a) (hE : ∀ e, E e e) (x : α × Option ε) :
    Out Eq (sep A E) x x := by
  obtain ⟨a, _ | e⟩ := x
  · exact .ok rfl
  · exact .err ⟨hE e, hA a⟩

theorem Out.trans {γ : Type} {M' : β → γ → Prop} {X' : β → ε → γ → ε → Prop} {z : γ × Option ε}
    (h : Out M X x y) (h' : Out M' X' y z) :
    Out (fun a c => ∃ b, M a b ∧ M' b c) (fun a e c e'' => ∃ b e', X a e b e' ∧ X' b e' c e'') x z := by
  cases h with
  | ok h => cases h' with | ok h' => exact .ok ⟨_, h, h'⟩
  | err h => cases h' with | err h' => exact .err ⟨_, _, h, h'⟩

theorem Out.ok_of {a : α} (h : Out M X x y) (hx : x = (a, none)) : ∃ b, y = (b, none) ∧ M a b := by
  subst hx
  cases h with
  | ok h => exact ⟨_, rfl, h⟩

theorem Out.err_of {a : α} {e : ε} (h : Out M X x y) (hx : x = (a, some e)) :
    ∃ b e', y = (b, some e') ∧ X a e b e' := by
  subst hx
  cases h with
  | err h => exact ⟨_, _, rfl, h⟩

theorem Out.ends {P : α → Prop} {Q : α → ε → Prop} {P' : β → Prop} {Q' : β → ε → Prop} (h : Out M X x y)
    (hx : Ends P Q x) (hy : Ends P' Q' y) :
    Out (fun a b => M a b ∧ P a ∧ P' b) (fun a e b e' => X a e b e' ∧ Q a e ∧ Q' b e') x y := by
  cases h with
  | ok h => exact .ok ⟨h, hx.ok_of rfl, hy.ok_of rfl⟩
  | err h => exact .err ⟨h, hx.err_of rfl, hy.err_of rfl⟩

/-- a stage run on the first component of a pair (`SimStages2`: the simulator state beside the scheduler's) -/
def onFst {τ : Type} (f : α → α × Option ε) (p : α × τ) : (α × τ) × Option ε := (((f p.1).1, p.2), (f p.1).2)

theorem Out.onFst {τ τ' : Type} {T : τ → τ' → Prop} {f : α → α × Option ε} {f' : β → β × Option ε} {a : α} {b : β}
    {t : τ} {t' : τ'} (h : Out M X (f a) (f' b)) (ht : T t t') :
    Out (fun p p' => M p.1 p'.1 ∧ T p.2 p'.2) (fun p e p' e' => X p.1 e p'.1 e') (Steps.onFst f (a, t))
      (Steps.onFst f' (b, t')) := by
  unfold Steps.onFst
  rcases hf : f a with ⟨a1, e⟩
  rcases hf' : f' b with ⟨b1, e'⟩
  rw [hf, hf'] at h
  cases h with
  | ok h => exact .ok ⟨h, ht⟩
  | err h => exact .err h

end out

def foldE (f : ι → α → α × Option ε) : List ι → α → α × Option ε
  | [], a => (a, none)
  | i :: is, a => andThen (f i a) (foldE f is)

section fold
variable {f : ι → α → α × Option ε}

theorem foldE_unique {F : List ι → α → α × Option ε} (h0 : ∀ a, F [] a = (a, none))
    (hc : ∀ i is a, F (i :: is) a = andThen (f i a) (F is)) : ∀ l a, F l a = foldE f l a := by
  intro l
  induction l with
  | nil => exact h0
  | cons i is ih =>
    intro a
    rw [hc, foldE]
    exact andThen_congr fun a' _ => ih a'

/-- The induction.  `P rest a`: what holds of the state while `rest` is still to do. -/
theorem foldE_ends {P : List ι → α → Prop} {Q : α → ε → Prop}
    (h : ∀ i rest a, P (i :: rest) a → Ends (P rest) Q (f i a)) :
    ∀ l a, P l a → Ends (P []) Q (foldE f l a) := by
  intro l
  induction l with
  | nil => exact fun a ha => .ok ha
  | cons i is ih => exact fun a ha => (h i is a ha).andThen ih

theorem foldE_inv {P : α → Prop} {l : List ι} (h : ∀ i ∈ l, ∀ a, P a → P (f i a).1) {a : α} (ha : P a) :
    P (foldE f l a).1 := by
  induction l generalizing a with
  | nil => exact ha
  | cons i is ih =>
    have h1 := h i List.mem_cons_self a ha
    rw [foldE]
    rcases hf : f i a with ⟨a1, _ | e⟩
    · rw [hf] at h1
      exact ih (fun j hj => h j (List.mem_cons_of_mem _ hj)) h1
    · rw [hf] at h1
      exact h1

theorem foldE_proj (π : α → β) (h : ∀ i a, π (f i a).1 = π a) (l : List ι) (a : α) : π (foldE f l a).1 = π a :=
  foldE_inv (P := fun b => π b = π a) (fun i _ b hb => (h i b).trans hb) rfl

theorem foldE_raises {Q : Option ε → Prop} (h0 : Q none) {l : List ι}
    (h : ∀ i ∈ l, ∀ a, Q (f i a).2) (a : α) : Q (foldE f l a).2 := by
  induction l generalizing a with
  | nil => exact h0
  | cons i is ih =>
    have h1 := h i List.mem_cons_self a
    rw [foldE]
    rcases hf : f i a with ⟨a1, _ | e⟩
    · exact ih (fun j hj => h j (List.mem_cons_of_mem _ hj)) a1
    · rwa [hf] at h1

theorem foldE_comm {f' : ι → β → β × Option ε} (π : α → β)
    (h : ∀ i a, (π (f i a).1, (f i a).2) = f' i (π a)) :
    ∀ l a, (π (foldE f l a).1, (foldE f l a).2) = foldE f' l (π a) := by
  intro l
  induction l with
  | nil => exact fun _ => rfl
  | cons i is ih =>
    intro a
    rw [foldE, foldE, ← h i a]
    rcases f i a with ⟨a1, _ | e⟩
    · exact ih a1
    · rfl

theorem foldE_congr {f' : ι → α → α × Option ε} {l : List ι} (h : ∀ i ∈ l, ∀ a, f i a = f' i a) (a : α) :
    foldE f l a = foldE f' l a := by
  induction l generalizing a with
  | nil => rfl
  | cons i is ih =>
    rw [foldE, foldE, h i List.mem_cons_self a]
    exact andThen_congr fun a' _ => ih (fun j hj => h j (List.mem_cons_of_mem _ hj)) a'

theorem foldE_map (g : κ → ι) (l : List κ) (a : α) : foldE f (l.map g) a = foldE (fun j => f (g j)) l a := by
  induction l generalizing a with
  | nil => rfl
  | cons j js ih =>
    rw [List.map_cons, foldE, foldE]
    exact andThen_congr fun a' _ => ih a'

theorem foldE_out {M : α → β → Prop} {X : α → ε → β → ε → Prop} {g : κ → β → β × Option ε} {is : List ι}
    {js : List κ} (h : List.Forall₂ (fun i j => ∀ a b, M a b → Out M X (f i a) (g j b)) is js) :
    ∀ a b, M a b → Out M X (foldE f is a) (foldE g js b) := by
  induction h with
  | nil => exact fun a b hab => .ok hab
  | cons h1 _ ih => exact fun a b hab => (h1 a b hab).andThen ih

/-- The reordering argument.  `C i j`: from a state satisfying `I` from which `i` then `j` return, `j` then `i` return
    the same state.  Only runs that return are compared: a raise may leave different states in different orders. -/
theorem foldE_perm {I : α → Prop} {C : ι → ι → Prop} (hsymm : ∀ i j, C i j → C j i)
    (hI : ∀ i a a1, I a → f i a = (a1, none) → I a1)
    (hC : ∀ i j a a1 a2, C i j → I a → f i a = (a1, none) → f j a1 = (a2, none) →
      ∃ a1', f j a = (a1', none) ∧ f i a1' = (a2, none))
    {l l' : List ι} (hp : l.Perm l') :
    ∀ a r, I a → l.Pairwise C → foldE f l a = (r, none) → foldE f l' a = (r, none) := by
  induction hp with
  | nil => exact fun _ _ _ _ h => h
  | cons i _ ih =>
    intro a r ha hpw h
    obtain ⟨a1, h1, h2⟩ := andThen_eq_ok.1 h
    exact andThen_eq_ok.2 ⟨a1, h1, ih a1 r (hI i a a1 ha h1) (List.pairwise_cons.1 hpw).2 h2⟩
  | swap i j l =>
    intro a r ha hpw h
    obtain ⟨a1, h1, h'⟩ := andThen_eq_ok.1 h
    obtain ⟨a2, h2, h3⟩ := andThen_eq_ok.1 h'
    obtain ⟨a1', g1, g2⟩ := hC j i a a1 a2 ((List.pairwise_cons.1 hpw).1 i List.mem_cons_self) ha h1 h2
    exact andThen_eq_ok.2 ⟨a1', g1, andThen_eq_ok.2 ⟨a2, g2, h3⟩⟩
  | trans hp1 _ ih1 ih2 =>
    intro a r ha hpw h
    exact ih2 a r ha ((hp1.pairwise_iff fun {i j} => hsymm i j).1 hpw) (ih1 a r ha hpw h)

/-- The aborts are related by `True`: what a raise looks like is said of each loop by itself (`foldE_ends`) and
    added by `Out.ends`. -/
theorem foldE_perm_out {I : α → Prop} {C : ι → ι → Prop} (hsymm : ∀ i j, C i j → C j i)
    (hI : ∀ i a a1, I a → f i a = (a1, none) → I a1)
    (hC : ∀ i j a a1 a2, C i j → I a → f i a = (a1, none) → f j a1 = (a2, none) →
      ∃ a1', f j a = (a1', none) ∧ f i a1' = (a2, none))
    {l l' : List ι} (hp : l.Perm l') {a : α} (ha : I a) (hpw : l.Pairwise C) :
    Out Eq (fun _ _ _ _ => True) (foldE f l a) (foldE f l' a) := by
  rcases h : foldE f l a with ⟨r, _ | e⟩
  · rw [foldE_perm hsymm hI hC hp a r ha hpw h]
    exact .ok rfl
  · rcases h' : foldE f l' a with ⟨r', _ | e'⟩
    · rw [foldE_perm hsymm hI hC hp.symm a r' ha ((hp.pairwise_iff fun {i j} => hsymm i j).1 hpw) h'] at h
      cases h
    · exact .err trivial

end fold

def loopE (g : α → Bool) (body : α → α × Option ε) : Nat → α → α × Option ε
  | 0, a => (a, none)
  | n + 1, a => if g a then andThen (body a) (loopE g body n) else (a, none)

section loop
variable {g : α → Bool} {body : α → α × Option ε}

theorem loopE_stop (n : Nat) {a : α} (h : g a = false) : loopE g body n a = (a, none) := by
  cases n with
  | zero => rfl
  | succ n => rw [loopE, if_neg (by simp [h])]

theorem loopE_succ (n : Nat) {a : α} (h : g a = true) :
    loopE g body (n + 1) a = andThen (body a) (loopE g body n) := by
  rw [loopE, if_pos h]

theorem loopE_add : ∀ (j n : Nat) (a : α), loopE g body (j + n) a = andThen (loopE g body j a) (loopE g body n)
  | 0, n, a => by rw [Nat.zero_add]; rfl
  | j + 1, n, a => by
    rw [Nat.add_right_comm]
    by_cases hg : g a = true
    · rw [loopE_succ _ hg, loopE_succ _ hg]
      rcases body a with ⟨a1, _ | e⟩
      · exact loopE_add j n a1
      · rfl
    · have hg' : g a = false := by simpa using hg
      rw [loopE_stop _ hg', loopE_stop _ hg', andThen_ok, loopE_stop _ hg']

/-- `f` applied `j` times, innermost first: the order in which a loop applies its passes -/
def iter (f : α → α) : Nat → α → α
  | 0, a => a
  | j + 1, a => iter f j (f a)

/-- `I j a`: `j` more passes are ahead of `a`, each known to return `f` of its loop head -/
theorem loopE_iterate {f : α → α} {I : Nat → α → Prop}
    (h : ∀ j a, I (j + 1) a → g a = true ∧ body a = (f a, none) ∧ I j (f a)) :
    ∀ j a, I j a → loopE g body j a = (iter f j a, none)
  | 0, _, _ => rfl
  | j + 1, a, ha => by
    obtain ⟨hg, hb, hI⟩ := h j a ha
    rw [loopE_succ _ hg, hb, andThen_ok]
    exact loopE_iterate h j (f a) hI

theorem loopE_unique {F : Nat → α → α × Option ε} (h0 : ∀ a, F 0 a = (a, none))
    (hs : ∀ n a, F (n + 1) a = if g a then andThen (body a) (F n) else (a, none)) :
    ∀ n a, F n a = loopE g body n a := by
  intro n
  induction n with
  | zero => exact h0
  | succ n ih =>
    intro a
    rw [hs, loopE]
    split
    · exact andThen_congr fun a' _ => ih a'
    · rfl

/-- the states in which `loopE g body n a` started a pass -/
def heads (g : α → Bool) (body : α → α × Option ε) : Nat → α → List α
  | 0, _ => []
  | n + 1, a =>
    if g a then
      match body a with
      | (a', none) => a :: heads g body n a'
      | (_, some _) => [a]
    else []

theorem heads_stop (n : Nat) {a : α} (h : g a = false) : heads g body n a = [] := by
  cases n with
  | zero => rfl
  | succ n => rw [heads, if_neg (by simp [h])]

theorem heads_ok (n : Nat) {a a' : α} (h : g a = true) (hb : body a = (a', none)) :
    heads g body (n + 1) a = a :: heads g body n a' := by
  rw [heads, if_pos h, hb]

theorem heads_err (n : Nat) {a a' : α} {e : ε} (h : g a = true) (hb : body a = (a', some e)) :
    heads g body (n + 1) a = [a] := by
  rw [heads, if_pos h, hb]

/-- `w a`: what the pass started in `a` contributes, also when it raises -/
theorem heads_unique {w : α → List ω} {F : Nat → α → List ω} (h0 : ∀ a, F 0 a = [])
    (hs : ∀ n a, F (n + 1) a =
      if g a then (match body a with
        | (a', none) => w a ++ F n a'
        | (_, some _) => w a)
      else []) (n : Nat) (a : α) : F n a = (heads g body n a).flatMap w := by
  fun_induction heads g body n a with
  | case1 a => exact h0 a
  | case2 n a hg a' hb ih => simp only [hs, if_pos hg, hb, List.flatMap_cons, ih]
  | case3 n a hg a' e hb => simp only [hs, if_pos hg, hb, List.flatMap_cons, List.flatMap_nil, List.append_nil]
  | case4 n a hg => simp only [hs, if_neg hg, List.flatMap_nil]

theorem heads_inv {I : α → Prop} (h : ∀ a a', I a → g a = true → body a = (a', none) → I a')
    (n : Nat) (a : α) : I a → ∀ x ∈ heads g body n a, I x ∧ g x = true := by
  fun_induction heads g body n a with
  | case1 => exact fun _ x hx => absurd hx List.not_mem_nil
  | case2 n a hg a' hb ih =>
    exact fun ha x hx => (List.mem_cons.1 hx).elim (fun e => e ▸ ⟨ha, hg⟩) (ih (h _ a' ha hg hb) x)
  | case3 n a hg a' e hb => exact fun ha x hx => List.mem_singleton.1 hx ▸ ⟨ha, hg⟩
  | case4 n a hg => exact fun _ x hx => absurd hx List.not_mem_nil

theorem loopE_congr_heads {body' : α → α × Option ε} (n : Nat) (a : α) :
    (∀ x ∈ heads g body n a, body' x = body x) →
      loopE g body' n a = loopE g body n a ∧ heads g body' n a = heads g body n a := by
  fun_induction heads g body n a with
  | case1 => exact fun _ => ⟨rfl, rfl⟩
  | case2 n a hg a' hb ih =>
    intro h
    have hb' := (h a List.mem_cons_self).trans hb
    obtain ⟨i1, i2⟩ := ih fun x hx => h x (List.mem_cons_of_mem _ hx)
    rw [loopE_succ n hg, loopE_succ n hg, hb, hb', heads_ok n hg hb', i2]
    exact ⟨i1, rfl⟩
  | case3 n a hg a' e hb =>
    intro h
    have hb' := (h a List.mem_cons_self).trans hb
    rw [loopE_succ n hg, loopE_succ n hg, hb, hb', heads_err n hg hb']
    exact ⟨rfl, rfl⟩
  | case4 n a hg =>
    have hg' : g a = false := Bool.eq_false_iff.2 hg
    rw [loopE_stop _ hg', loopE_stop _ hg', heads_stop _ hg']
    exact fun _ => ⟨rfl, rfl⟩

/-- the heads of a run that returns, as a chain (`C a hs a'`): each is passed to the next by a returning pass, the
    last to the final state -/
theorem heads_chain {C : α → List α → α → Prop} (hnil : ∀ a, C a [] a)
    (hcons : ∀ a a1 a' hs, g a = true → body a = (a1, none) → C a1 hs a' → C a (a :: hs) a') (n : Nat) (a a' : α) :
    loopE g body n a = (a', none) →
      C a (heads g body n a) a' ∧ (heads g body n a).length ≤ n ∧
        ((heads g body n a).length = n ∨ g a' = false) := by
  fun_induction heads g body n a with
  | case1 a => exact fun hr => by cases hr; exact ⟨hnil _, Nat.le_refl 0, .inl rfl⟩
  | case2 n a hg a1 hb ih =>
    rw [loopE_succ n hg, hb]
    intro hr
    obtain ⟨i1, i2, i3⟩ := ih hr
    exact ⟨hcons a a1 a' _ hg hb i1, Nat.succ_le_succ i2, i3.imp (congrArg (· + 1)) id⟩
  | case3 n a hg a1 e hb =>
    rw [loopE_succ n hg, hb]
    exact fun hr => by cases hr
  | case4 n a hg =>
    rw [loopE_stop _ (Bool.eq_false_iff.2 hg)]
    exact fun hr => by cases hr; exact ⟨hnil _, Nat.zero_le _, .inr (Bool.eq_false_iff.2 hg)⟩

theorem loopE_log_ok {m : α → List ω} {w : α → List ω}
    (h : ∀ a a', g a = true → body a = (a', none) → m a' = m a ++ w a) (n : Nat) (a a' : α)
    (hr : loopE g body n a = (a', none)) : m a' = m a ++ (heads g body n a).flatMap w :=
  (heads_chain (C := fun a hs a' => m a' = m a ++ hs.flatMap w) (fun _ => (List.append_nil _).symm)
    (fun a a1 _ _ hg hb ih => by rw [ih, h a a1 hg hb, List.flatMap_cons, List.append_assoc]) n a a' hr).1

theorem heads_returned (n : Nat) (a a' : α) (h : loopE g body n a = (a', none)) :
    ∀ x ∈ heads g body n a, ∃ x', body x = (x', none) :=
  (heads_chain (C := fun _ hs _ => ∀ x ∈ hs, ∃ x', body x = (x', none)) (fun _ _ hx => absurd hx List.not_mem_nil)
    (fun _ a1 _ _ _ hb ih x hx => (List.mem_cons.1 hx).elim (fun e => e ▸ ⟨a1, hb⟩) (ih x)) n a a' h).1

theorem heads_out {g' : β → Bool} {body' : β → β × Option ε} {R : α → β → Prop} {X : α → ε → β → ε → Prop}
    {w : α → List ω} {w' : β → List ω} (hguard : ∀ a b, R a b → g' b = g a)
    (hbody : ∀ a b, R a b → g a = true → Out R X (body a) (body' b)) (hw : ∀ a b, R a b → w' b = w a)
    (n : Nat) (a : α) : ∀ b, R a b → (heads g' body' n b).flatMap w' = (heads g body n a).flatMap w := by
  fun_induction heads g body n a with
  | case1 => exact fun _ _ => rfl
  | case2 n a hg a1 hb ih =>
    intro b h
    obtain ⟨b1, hb', h1⟩ := (hbody a b h hg).ok_of hb
    rw [heads_ok n ((hguard a b h).trans hg) hb', List.flatMap_cons, List.flatMap_cons, hw a b h, ih _ h1]
  | case3 n a hg a1 e hb =>
    intro b h
    obtain ⟨b1, e', hb', _⟩ := (hbody a b h hg).err_of hb
    rw [heads_err n ((hguard a b h).trans hg) hb', List.flatMap_cons, List.flatMap_cons, hw a b h,
      List.flatMap_nil, List.flatMap_nil]
  | case4 n a hg =>
    exact fun b h => by rw [heads_stop _ ((hguard a b h).trans (Bool.eq_false_iff.2 hg))]; rfl

/-- a field that is not read, only appended to (`σ l a`: `a` with the field set to `l`) -/
theorem loopE_log_set {σ : List ω → α → α} {w : α → List ω} (hg : ∀ l a, g (σ l a) = g a)
    (hb : ∀ l a, g a = true → body (σ l a) = (σ (l ++ w a) (body a).1, (body a).2)) (n : Nat) (a : α) :
    ∀ l, loopE g body n (σ l a) =
      (σ (l ++ (heads g body n a).flatMap w) (loopE g body n a).1, (loopE g body n a).2) := by
  fun_induction heads g body n a with
  | case1 a => exact fun l => by rw [List.flatMap_nil, List.append_nil]; rfl
  | case2 n a hga a' hba ih =>
    intro l
    rw [loopE_succ n ((hg l a).trans hga), loopE_succ n hga, hb l a hga, hba, andThen_ok, andThen_ok, ih,
      List.flatMap_cons, List.append_assoc]
  | case3 n a hga a' e hba =>
    intro l
    rw [loopE_succ n ((hg l a).trans hga), loopE_succ n hga, hb l a hga, hba, List.flatMap_cons, List.flatMap_nil,
      List.append_nil]
    rfl
  | case4 n a hga =>
    have hga' : g a = false := Bool.eq_false_iff.2 hga
    exact fun l => by
      rw [loopE_stop _ ((hg l a).trans hga'), loopE_stop _ hga', List.flatMap_nil, List.append_nil]

theorem loopE_out_heads {g' : β → Bool} {body' : β → β × Option ε} {R : α → β → Prop} {X : α → ε → β → ε → Prop}
    {H : α → Prop} (hguard : ∀ a b, R a b → g' b = g a)
    (hbody : ∀ a b, R a b → g a = true → H a → Out R X (body a) (body' b)) (n : Nat) (a : α) :
    ∀ b, R a b → (∀ x ∈ heads g body n a, H x) → Out R X (loopE g body n a) (loopE g' body' n b) := by
  fun_induction heads g body n a with
  | case1 => exact fun b h _ => .ok h
  | case2 n a hg a1 hb ih =>
    intro b h hH
    rw [loopE_succ n hg, loopE_succ n ((hguard a b h).trans hg)]
    refine (hbody a b h hg (hH a List.mem_cons_self)).andThen_eq fun a2 b1 ha2 _ h1 => ?_
    obtain rfl : a1 = a2 := congrArg Prod.fst (hb.symm.trans ha2)
    exact ih b1 h1 fun x hx => hH x (List.mem_cons_of_mem _ hx)
  | case3 n a hg a1 e hb =>
    intro b h hH
    rw [loopE_succ n hg, loopE_succ n ((hguard a b h).trans hg)]
    refine (hbody a b h hg (hH a List.mem_cons_self)).andThen_eq fun a2 b1 ha2 _ _ => ?_
    exact absurd (congrArg Prod.snd (hb.symm.trans ha2)) (by simp)
  | case4 n a hg =>
    have hg' : g a = false := Bool.eq_false_iff.2 hg
    exact fun b h _ => by rw [loopE_stop _ hg', loopE_stop _ ((hguard a b h).trans hg')]; exact .ok h

theorem loopE_last (n : Nat) (a a' : α) (r : Option ε) : loopE g body n a = (a', r) →
    (a' = a ∧ r = none ∧ heads g body n a = []) ∨
      ∃ k am, k < n ∧ loopE g body k a = (am, none) ∧ g am = true ∧ body am = (a', r) ∧
        heads g body n a = heads g body k a ++ [am] := by
  fun_induction heads g body n a with
  | case1 a => exact fun h => by cases h; exact .inl ⟨rfl, rfl, rfl⟩
  | case2 n a hg a1 hb ih =>
    rw [loopE_succ n hg, hb]
    intro h
    rcases ih h with ⟨rfl, rfl, h0⟩ | ⟨k, am, hk, hr, hgm, hbm, hh⟩
    · exact .inr ⟨0, a, Nat.succ_pos n, rfl, hg, hb, by rw [h0]; rfl⟩
    · refine .inr ⟨k + 1, am, Nat.succ_lt_succ hk, ?_, hgm, hbm, by rw [heads_ok k hg hb, hh]; rfl⟩
      rw [loopE_succ k hg, hb]
      exact hr
  | case3 n a hg a1 e hb =>
    rw [loopE_succ n hg, hb]
    exact fun h => by cases h; exact .inr ⟨0, a, Nat.succ_pos n, rfl, hg, hb, rfl⟩
  | case4 n a hg =>
    rw [loopE_stop _ (Bool.eq_false_iff.2 hg)]
    exact fun h => by cases h; exact .inl ⟨rfl, rfl, rfl⟩

theorem loopE_congr_on {body' : α → α × Option ε} {I : α → Prop}
    (hI : ∀ a a', I a → g a = true → body a = (a', none) → I a')
    (hb : ∀ a, I a → g a = true → body a = body' a) (n : Nat) (a : α) (ha : I a) :
    loopE g body n a = loopE g body' n a :=
  ((loopE_congr_heads n a fun x hx =>
    (hb x (heads_inv hI n a ha x hx).1 (heads_inv hI n a ha x hx).2).symm).1).symm

theorem loopE_out {g' : β → Bool} {body' : β → β × Option ε} {R : α → β → Prop} {X : α → ε → β → ε → Prop}
    (hguard : ∀ a b, R a b → g' b = g a)
    (hbody : ∀ a b, R a b → g a = true → Out R X (body a) (body' b)) (n : Nat) (a : α) (b : β) (h : R a b) :
    Out R X (loopE g body n a) (loopE g' body' n b) :=
  loopE_out_heads (H := fun _ => True) hguard (fun a b h hg _ => hbody a b h hg) n a b h fun _ _ => trivial

theorem loopE_ends {P : α → Prop} {Q : α → ε → Prop} (h : ∀ a, P a → g a = true → Ends P Q (body a)) :
    ∀ n a, P a → Ends P Q (loopE g body n a) := by
  intro n
  induction n with
  | zero => exact fun a ha => .ok ha
  | succ n ih =>
    intro a ha
    rw [loopE]
    split
    · exact (h a ha ‹_›).andThen ih
    · exact .ok ha

theorem loopE_inv {P : α → Prop} (h : ∀ a, P a → g a = true → P (body a).1) (n : Nat) {a : α} (ha : P a) :
    P (loopE g body n a).1 :=
  ends_any.1 (loopE_ends (fun a ha hg => ends_any.2 (h a ha hg)) n a ha)

theorem loopE_congr {g' : α → Bool} {body' : α → α × Option ε} (hg : ∀ a, g a = g' a)
    (hb : ∀ a, g a = true → body a = body' a) (n : Nat) (a : α) : loopE g body n a = loopE g' body' n a := by
  obtain rfl : g = g' := funext hg
  exact loopE_congr_on (I := fun _ => True) (fun _ _ _ _ _ => trivial) (fun a _ => hb a) n a trivial

theorem loopE_mono : ∀ (n m : Nat) (a : α), n ≤ m →
    ((loopE g body n a).2.isSome = true ∨ g (loopE g body n a).1 = false) →
    loopE g body m a = loopE g body n a
  | 0, m, _, _, h => loopE_stop m (h.resolve_left (by simp [loopE]))
  | n + 1, 0, _, h, _ => absurd h (by omega)
  | n + 1, m + 1, a, hle, h => by
    by_cases hg : g a = true
    · rw [loopE_succ n hg] at h ⊢
      rw [loopE_succ m hg]
      rcases hb : body a with ⟨a', _ | e⟩
      · rw [hb] at h
        exact loopE_mono n m a' (by omega) h
      · rfl
    · have hg' : g a = false := by simpa using hg
      rw [loopE_stop _ hg', loopE_stop _ hg']

theorem loopE_comm {g' : β → Bool} {body' : β → β × Option ε} (π : α → β) (hg : ∀ a, g' (π a) = g a)
    (hb : ∀ a, g a = true → (π (body a).1, (body a).2) = body' (π a)) :
    ∀ n a, (π (loopE g body n a).1, (loopE g body n a).2) = loopE g' body' n (π a) := by
  intro n
  induction n with
  | zero => exact fun _ => rfl
  | succ n ih =>
    intro a
    rw [loopE, loopE, hg a]
    split
    · rw [← hb a ‹_›]
      rcases body a with ⟨a1, _ | e⟩
      · exact ih a1
      · rfl
    · rfl

/-- `loopE_out` from one side: only a run of the first loop that returns is followed (what the other loop does
    when this one raises is not asked, and its errors may be of another type) -/
theorem loopE_sim {ε' : Type} {g' : β → Bool} {body' : β → β × Option ε'} {R : α → β → Prop}
    (hguard : ∀ a b, R a b → g' b = g a)
    (hbody : ∀ a b a1, R a b → g a = true → body a = (a1, none) → ∃ b1, body' b = (b1, none) ∧ R a1 b1) :
    ∀ n a b a', R a b → loopE g body n a = (a', none) → ∃ b', loopE g' body' n b = (b', none) ∧ R a' b' := by
  intro n
  induction n with
  | zero =>
    intro a b a' h ha
    cases ha
    exact ⟨b, rfl, h⟩
  | succ n ih =>
    intro a b a' h ha
    rw [loopE] at ha ⊢
    rw [hguard a b h]
    split at ha
    · obtain ⟨a1, h1, h2⟩ := andThen_eq_ok.1 ha
      obtain ⟨b1, hb1, hr1⟩ := hbody a b a1 h ‹_› h1
      rw [if_pos ‹_›, hb1]
      exact ih a1 b1 a' hr1 h2
    · cases ha
      rw [if_neg ‹_›]
      exact ⟨b, rfl, h⟩

/-- `loopE_sim` along a projection: a loop whose returning passes project onto passes of a second loop projects
    onto it as long as it returns -/
theorem loopE_proj {ε' : Type} {g' : β → Bool} {body' : β → β × Option ε'} (π : α → β) (hg : ∀ a, g' (π a) = g a)
    (hb : ∀ a a1, g a = true → body a = (a1, none) → body' (π a) = (π a1, none)) (n : Nat) (a : α)
    (h : (loopE g body n a).2 = none) : loopE g' body' n (π a) = (π (loopE g body n a).1, none) := by
  obtain ⟨b', hb', rfl⟩ := loopE_sim (R := fun a b => b = π a) (g' := g') (body' := body') (fun a b hab => by rw [hab, hg])
    (fun a b a1 hab hga hba => ⟨π a1, hab ▸ hb a a1 hga hba, rfl⟩) n a (π a) _ rfl (Prod.ext rfl h)
  exact hb'

/-- The counted loop: an invariant `I t` indexed by the period, a guard that on the invariant says `t < H`, a pass
    that steps `t → t + 1` or raises with `X t`.  With fuel `n` from period `t` the loop returns at period
    `min (t + n) H`, or raises in a period before that. -/
theorem loopE_counted {I : Nat → α → Prop} {X : Nat → α → ε → Prop} (H : Nat)
    (hg : ∀ t a, I t a → (g a = true ↔ t < H))
    (hb : ∀ t a, I t a → t < H → Ends (I (t + 1)) (X t) (body a)) :
    ∀ n t a, I t a → t ≤ H →
      Ends (I (min (t + n) H)) (fun a' e => ∃ t', t ≤ t' ∧ t' < min (t + n) H ∧ X t' a' e) (loopE g body n a) := by
  intro n
  induction n with
  | zero =>
    intro t a ha ht
    rw [Nat.add_zero, Nat.min_eq_left ht]
    exact .ok ha
  | succ n ih =>
    intro t a ha ht
    rw [loopE]
    split
    · have hlt := (hg t a ha).1 ‹_›
      have hm : min (t + 1 + n) H = min (t + (n + 1)) H := by rw [Nat.add_right_comm, Nat.add_assoc]
      refine ((hb t a ha hlt).mono (fun _ h => h)
        (fun a' e h => (⟨t, Nat.le_refl t, ?_, h⟩ : ∃ t', t ≤ t' ∧ t' < min (t + (n + 1)) H ∧ X t' a' e))).andThen
        fun a1 h1 => ?_
      · exact Nat.lt_min.2 ⟨by omega, hlt⟩
      · exact hm ▸ (ih (t + 1) a1 h1 hlt).mono (fun _ h => h)
          fun a' e ⟨t', h1, h2, h3⟩ => ⟨t', by omega, h2, h3⟩
    · have hge : H ≤ t := Nat.le_of_not_lt fun h => ‹¬ g a = true› ((hg t a ha).2 h)
      obtain rfl : t = H := Nat.le_antisymm ht hge
      rw [Nat.min_eq_right (Nat.le_add_right t (n + 1))]
      exact .ok ha

theorem loopE_counted_ok {I : Nat → α → Prop} (H : Nat) (hg : ∀ t a, I t a → (g a = true ↔ t < H))
    (hb : ∀ t a, I t a → t < H → ∃ a', body a = (a', none) ∧ I (t + 1) a') :
    ∀ n t a, I t a → t ≤ H → ∃ a', loopE g body n a = (a', none) ∧ I (min (t + n) H) a' := by
  intro n t a ha ht
  have h := loopE_counted (body := body) (X := fun _ _ _ => False) H hg
    (fun t a ha hlt => by
      obtain ⟨a', h1, h2⟩ := hb t a ha hlt
      rw [h1]; exact .ok h2) n t a ha ht
  rcases hr : loopE g body n a with ⟨a', _ | e⟩
  · exact ⟨a', rfl, h.ok_of hr⟩
  · obtain ⟨_, _, _, hf⟩ := h.err_of hr
    exact hf.elim

end loop

end Acn.Steps
