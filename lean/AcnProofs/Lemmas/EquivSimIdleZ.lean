/-
  Helper lemmas for C10 (Sim level, shift, `max_recompute ≠ None`): the sorting-based algorithms answer an
  idle network with ALL-ZERO ROWS (`{station: [0.0]}` for every station, `format_array_schedule` of
  `np.zeros`), not with `{}`: `SchedIdle` fails for them, `SchedIdleZ` holds — the rows leave the all-zero
  pilot matrix as it is (`zeroSched_rows`).
-/
import AcnProofs.Lemmas.EquivSimShiftPrefix
import AcnProofs.Lemmas.SortedEst

set_option linter.unusedSectionVars false

namespace Acn.SimShift
open Acn.Sim Acn.EventCore Acn.Evse Acn.Pilots

variable {K : Type} [Field K] [LinearOrder K] [IsStrictOrderedRing K] [HasExp K]

theorem zeroSched_rows (cfg : Cfg K) : ZeroSched cfg (cfg.stations.map fun st => (st.id, [(0 : K)])) := by
  intro w t lt htw
  cases hst : cfg.stations with
  | nil => rfl
  | cons a rest =>
    rw [← hst]
    have hlen : schedLen (cfg.stations.map fun st => (st.id, [(0 : K)])) = 1 := by rw [hst]; rfl
    -- every row is `[0]`: the schedule is accepted, and its dense form is the zero column
    have hrow : ∀ p ∈ cfg.stations.map fun st => (st.id, [(0 : K)]), p.1 ∈ cfg.stations.map (·.id) ∧ p.2 = [0] := by
      intro p hp
      obtain ⟨s0, hs0, rfl⟩ := List.mem_map.1 hp
      exact ⟨List.mem_map.2 ⟨s0, hs0, rfl⟩, rfl⟩
    have hacc : accepted (cfg.stations.map (·.id)) (cfg.stations.map fun st => (st.id, [(0 : K)])) = true := by
      rw [accepted_iff, hlen]
      exact ⟨by rw [hst]; exact List.cons_ne_nil _ _, fun p hp => (hrow p hp).1, fun p hp => by rw [(hrow p hp).2]; rfl⟩
    have hd : densify (cfg.stations.map (·.id)) (cfg.stations.map fun st => (st.id, [(0 : K)])) 1 =
        List.replicate cfg.stations.length [0] := by
      unfold densify
      rw [List.eq_replicate_iff]
      refine ⟨by simp, ?_⟩
      intro b hb
      obtain ⟨id, _, rfl⟩ := List.mem_map.1 hb
      cases hl : (cfg.stations.map fun st => (st.id, [(0 : K)])).lookup id with
      | none => rfl
      | some r => exact (hrow _ (Assoc.mem_of_lookup hl)).2
    rw [updateSchedules_accepted _ _ _ _ _ hacc, hlen, hd]
    have hw : (Mat.zeros cfg.stations.length w : Mat K).width = w := rfl
    have hle : t + 1 ≤ w := htw
    simp only [grown, hw, hle, if_true]
    congr 1
    unfold writeBlock Mat.zeros
    simp only [List.zipWith_replicate, Nat.min_self, writeRow_zero w t htw]

end Acn.SimShift

namespace Acn.SimSorted
open Acn.Sim Acn.Sorted Acn.SimShift

variable {K : Type} [Field K] [LinearOrder K] [IsStrictOrderedRing K] [HasExp K]

theorem rrLoop_nil (feas : List K → Bool) (levels : List (List K)) (fuel : Nat) (st : RRState K)
    (h : st.queue = []) : rrLoop feas levels fuel st = st := by
  cases fuel with
  | zero => rfl
  | succ f => unfold rrLoop; rw [h]

theorem zipWith_format_zeros (ids : List String) :
    List.zipWith (fun id (r : K) => (id, [r])) ids (List.replicate ids.length 0) = ids.map fun id => (id, [(0 : K)]) := by
  induction ids with
  | nil => rfl
  | cons a t ih => simp only [List.length_cons, List.replicate_succ, List.zipWith_cons_cons, List.map_cons, ih]

/-- with nothing plugged in, `SortedSchedulingAlgo` / `RoundRobin` (either preprocessing mode) answer
    `{station: [0]}` for every station — provided the all-zero schedule is feasible (else they raise) -/
theorem sortedSched_idle [HasCeilNat K] (net : NetInfo K) (inf : K) (cfg : Cfg K) (scfg : Config K)
    (hz : feasOf net (List.replicate cfg.stations.length 0) = true) (v : View K) (ha : v.active = []) :
    sortedSched net inf cfg scfg v = .ok (cfg.stations.map fun st => (st.id, [(0 : K)])) := by
  unfold sortedSched
  simp only
  have hn : (infraOf inf cfg).ids.length = cfg.stations.length := by simp [infraOf]
  have hres : (scheduleCall (feasOf net) { scfg with estimate := false } (infraOf inf cfg) cfg.period (v.iter : Int)
      (fun _ => none) { upTh := 0, downTh := 0, upInc := 0, bounds := [] } (v.active.map (sessionOfEv inf v.iter))).result =
      .ok (List.replicate cfg.stations.length 0) := by
    rw [scheduleCall_result, ha]
    have hr : resolve (infraOf inf cfg) (([] : List (Evse.Ev K)).map (sessionOfEv inf v.iter)) = .ok [] := rfl
    rw [hr]
    simp only
    have hpre : (preprocess (feasOf net) { scfg with estimate := false } (infraOf inf cfg) cfg.period (fun _ => none)
        { upTh := 0, downTh := 0, upInc := 0, bounds := [] } []).1 = [] := by
      simp only [preprocess, Bool.false_eq_true, if_false]
      split <;> rfl
    rw [hpre]
    have hq : sortSessions scfg.sort (infraOf inf cfg) cfg.period (v.iter : Int) [] = [] := rfl
    have hq' : sortSessions ({ scfg with estimate := false } : Config K).sort (infraOf inf cfg) cfg.period (v.iter : Int) [] = [] := rfl
    rw [hq']
    unfold allocResult
    cases hal : ({ scfg with estimate := false } : Config K).algo with
    | greedy =>
      simp only
      unfold sortingAlgorithm
      simp only [initSchedule, List.foldl_nil, hn, hz, Bool.not_true, Bool.false_eq_true, if_false, greedyLoop]
    | roundRobin =>
      simp only
      unfold roundRobin
      simp only [rrInit, List.foldl_nil, hn, hz, Bool.not_true, Bool.false_eq_true, if_false]
      rw [rrLoop_nil _ _ _ _ rfl]
      rfl
  rw [hres]
  simp only
  unfold formatArraySchedule
  rw [← hn, zipWith_format_zeros]
  simp [infraOf, List.map_map]

theorem sortedSched_idleZ [HasCeilNat K] (net : NetInfo K) (inf : K) (cfg : Cfg K) (scfg : Config K) (k : Nat)
    (hz : feasOf net (List.replicate cfg.stations.length 0) = true) :
    SchedIdleZ cfg k (sortedSched net inf (shiftCfgS k cfg) scfg) := by
  intro v ha _
  exact ⟨_, sortedSched_idle net inf (shiftCfgS k cfg) scfg hz v ha, zeroSched_rows cfg⟩

end Acn.SimSorted
