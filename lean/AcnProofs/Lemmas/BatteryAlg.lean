/-
  Algebraic facts about the battery models over an arbitrary linear ordered field:
  explicit results of `idealCharge` / `stepCharge` / `contCharge` under the guards the code
  has, the state invariant, the per-call bounds, and the frame (what a call never touches).
-/
import AcnModel.Battery
import AcnModel.Evse
import AcnProofs.Lemmas.Basic
import Mathlib.Tactic

namespace Acn.BattAlg
open Acn Acn.Battery

variable {K : Type} [Field K] [LinearOrder K] [IsStrictOrderedRing K]

@[simp] theorem isZero_iff (x : K) : isZero x = true ↔ x = 0 := by
  simp only [isZero, Bool.and_eq_true, decide_eq_true_eq]
  constructor
  · rintro ⟨h1, h2⟩; exact le_antisymm h2 h1
  · rintro rfl; exact ⟨le_refl _, le_refl _⟩

theorem isZero_false {x : K} (h : x ≠ 0) : isZero x = false := by
  rw [← Bool.not_eq_true, isZero_iff]; exact h

/-- What every reachable battery state satisfies (constructor guards `0 ≤ ts < 1`,
    `init ≤ capacity`; physically meaningful parameters `capacity > 0`, `maxPower ≥ 0`). -/
structure Inv (b : Batt K) : Prop where
  cap_pos : 0 < b.capacity
  charge_le : b.charge ≤ b.capacity
  init_le : b.init ≤ b.capacity
  maxp_nonneg : 0 ≤ b.maxPower
  ts_nonneg : 0 ≤ b.ts
  ts_lt : b.ts < 1

/-- The physical bounds of one `charge` call with pilot `pilot` that took `b` to `b'` and
    returned `r` amperes. -/
structure StepBounds (b : Batt K) (pilot : K) (b' : Batt K) (r : K) : Prop where
  rate_nonneg : 0 ≤ r
  rate_le_pilot : r ≤ pilot
  power_nonneg : 0 ≤ b'.power
  power_le_max : b'.power ≤ b.maxPower
  charge_mono : b.charge ≤ b'.charge
  charge_le_cap : b'.charge ≤ b.capacity

def SameParams (b b' : Batt K) : Prop :=
  b'.capacity = b.capacity ∧ b'.init = b.init ∧ b'.maxPower = b.maxPower ∧
  b'.twoStage = b.twoStage ∧ b'.noiseLevel = b.noiseLevel ∧ b'.ts = b.ts ∧ b'.cmode = b.cmode

theorem SameParams.refl (b : Batt K) : SameParams b b := ⟨rfl, rfl, rfl, rfl, rfl, rfl, rfl⟩

/-- `charge` and `reset` write the stored charge and the recorded power only -/
theorem SameParams.of_with (b : Batt K) (c p : K) : SameParams b { b with charge := c, power := p } :=
  ⟨rfl, rfl, rfl, rfl, rfl, rfl, rfl⟩

theorem SameParams.trans {a b c : Batt K} (h1 : SameParams a b) (h2 : SameParams b c) :
    SameParams a c := by
  obtain ⟨a1, a2, a3, a4, a5, a6, a7⟩ := h1
  obtain ⟨b1, b2, b3, b4, b5, b6, b7⟩ := h2
  exact ⟨b1.trans a1, b2.trans a2, b3.trans a3, b4.trans a4, b5.trans a5, b6.trans a6, b7.trans a7⟩

theorem Inv.of_sameParams {b b' : Batt K} (h : Inv b) (hp : SameParams b b')
    (hc : b'.charge ≤ b.capacity) : Inv b' := by
  obtain ⟨a1, a2, a3, _, _, a6, _⟩ := hp
  refine ⟨a1 ▸ h.cap_pos, a1 ▸ hc, ?_, a3 ▸ h.maxp_nonneg, a6 ▸ h.ts_nonneg, a6 ▸ h.ts_lt⟩
  rw [a1, a2]; exact h.init_le

theorem Inv.soc_le_one {b : Batt K} (hb : Inv b) : b.charge / b.capacity ≤ 1 :=
  (div_le_one hb.cap_pos).mpr hb.charge_le

theorem guards_err {α : Type} {V T : K} (h : V ≤ 0 ∨ T ≤ 0) (x : Except Err α) :
    (if V ≤ 0 then .error .valueError else if T ≤ 0 then .error .valueError else x) =
      .error .valueError := by
  rcases h with h | h
  · rw [if_pos h]
  · rw [if_pos h, ite_self]

theorem guards_ok {α : Type} {V T : K} (hV : 0 < V) (hT : 0 < T) (x : Except Err α) :
    (if V ≤ 0 then .error .valueError else if T ≤ 0 then .error .valueError else x) = x := by
  rw [if_neg (not_le.mpr hV), if_neg (not_le.mpr hT)]

theorem pos_of_ok {α : Type} {V T : K} {x : Except Err α} {y : α}
    (herr : V ≤ 0 ∨ T ≤ 0 → x = .error .valueError) (h : x = .ok y) : 0 < V ∧ 0 < T := by
  by_contra hc
  rw [not_and_or, not_lt, not_lt] at hc
  rw [herr hc] at h
  cases h

/-- the ideal battery's charging power: `min([pilot·V/1000, max_power, rate_to_full])` -/
def idealPower (b : Batt K) (pilot V T : K) : K :=
  min (min (pilot * V / 1000) b.maxPower) ((b.capacity - b.charge) / (T / 60))

theorem idealCharge_ok (b : Batt K) (pilot : K) {V T : K} (hV : 0 < V) (hT : 0 < T) :
    idealCharge b pilot V T =
      .ok ({ b with charge := b.charge + idealPower b pilot V T * (T / 60),
                    power := idealPower b pilot V T },
           idealPower b pilot V T * 1000 / V) := by
  unfold idealCharge
  rw [guards_ok hV hT]
  simp only [idealPower, pyMin3_eq, Nat.cast_ofNat]

theorem idealCharge_err (b : Batt K) (pilot : K) {V T : K} (h : V ≤ 0 ∨ T ≤ 0) :
    idealCharge b pilot V T = .error .valueError :=
  guards_err h _

theorem idealPower_bounds {b : Batt K} (hb : Inv b) {pilot V T : K} (hp : 0 ≤ pilot)
    (hV : 0 < V) (hT : 0 < T) :
    0 ≤ idealPower b pilot V T ∧ idealPower b pilot V T ≤ pilot * V / 1000 ∧
    idealPower b pilot V T ≤ b.maxPower ∧
    idealPower b pilot V T ≤ (b.capacity - b.charge) / (T / 60) := by
  have h1 : 0 ≤ pilot * V / 1000 := by positivity
  have h2 : 0 ≤ (b.capacity - b.charge) / (T / 60) :=
    div_nonneg (sub_nonneg.mpr hb.charge_le) (by positivity)
  exact ⟨le_min (le_min h1 hb.maxp_nonneg) h2, (min_le_left _ _).trans (min_le_left _ _),
    (min_le_left _ _).trans (min_le_right _ _), min_le_right _ _⟩

theorem idealEnergy_eq (b : Batt K) (pilot V : K) {T : K} (hT : 0 < T) :
    idealPower b pilot V T * (T / 60) =
      min (min (pilot * V / 1000 * (T / 60)) (b.maxPower * (T / 60))) (b.capacity - b.charge) := by
  have h6 : (0 : K) < T / 60 := by positivity
  unfold idealPower
  rw [min_mul_of_nonneg _ _ h6.le, min_mul_of_nonneg _ _ h6.le, div_mul_cancel₀ _ h6.ne']

/-- All three calculations charge with a power between 0 and the ideal battery's, move the
    charge by that power over the period and return it in amperes; the bounds of a call follow
    from that alone. -/
theorem StepBounds.of_power {b b' : Batt K} (hb : Inv b) {pilot V T r : K} (hp : 0 ≤ pilot)
    (hV : 0 < V) (hT : 0 < T) (h0 : 0 ≤ b'.power) (h1 : b'.power ≤ idealPower b pilot V T)
    (hc : b'.charge = b.charge + b'.power * (T / 60)) (hr : r = b'.power * 1000 / V) :
    StepBounds b pilot b' r := by
  obtain ⟨_, h2, h3, h4⟩ := idealPower_bounds hb hp hV hT
  have hT' : 0 < T / 60 := div_pos hT (by norm_num)
  have h2' := h1.trans h2
  have h4' := h1.trans h4
  rw [le_div_iff₀ (by norm_num : (0 : K) < 1000)] at h2'
  rw [le_div_iff₀ hT'] at h4'
  refine ⟨hr ▸ by positivity, hr ▸ (div_le_iff₀ hV).mpr h2', h0, h1.trans h3, ?_, ?_⟩
  · rw [hc]; exact le_add_of_nonneg_right (mul_nonneg h0 hT'.le)
  · rw [hc]; linarith

/-- the stepwise calculation's charging power, for the draw `ν` -/
def stepPower (b : Batt K) (pilot V T ν : K) : K :=
  let rtf := (b.capacity - b.charge) / (T / 60)
  let pp := pilot * V / 1000
  let s := b.charge / b.capacity
  if s < b.ts then
    if 0 < b.noiseLevel then max (idealPower b pilot V T - |ν|) 0 else idealPower b pilot V T
  else
    let c := min (min pp ((1 - s) / (1 - b.ts) * b.maxPower)) rtf
    if 0 < b.noiseLevel then
      min (min (min (min (min (min (max (c + ν) 0) pp) b.maxPower) rtf) pp) b.maxPower) rtf
    else c

theorem stepCharge_ok (b : Batt K) (pilot ν : K) {V T : K} (hV : 0 < V) (hT : 0 < T)
    (hc : b.capacity ≠ 0) :
    stepCharge b pilot V T ν =
      .ok ({ b with charge := b.charge + stepPower b pilot V T ν * (T / 60),
                    power := stepPower b pilot V T ν },
           stepPower b pilot V T ν * 1000 / V) := by
  unfold stepCharge
  rw [guards_ok hV hT, isZero_false hc]
  simp only [stepPower, idealPower, Bool.false_eq_true, if_false, Battery.soc, pyMin3_eq,
    pyMin4_eq, pyMax_eq_max, absK_eq_abs, Nat.cast_ofNat]

theorem stepCharge_err (b : Batt K) (pilot ν : K) {V T : K} (h : V ≤ 0 ∨ T ≤ 0) :
    stepCharge b pilot V T ν = .error .valueError :=
  guards_err h _

/-- in every branch (constant-power or declining stage, with or without noise) the stepwise
    power is the ideal battery's or a clamped reduction of it -/
theorem stepPower_bounds {b : Batt K} (hb : Inv b) {pilot V T : K} (ν : K) (hp : 0 ≤ pilot)
    (hV : 0 < V) (hT : 0 < T) :
    0 ≤ stepPower b pilot V T ν ∧ stepPower b pilot V T ν ≤ idealPower b pilot V T := by
  have h1 : 0 ≤ pilot * V / 1000 := by positivity
  have h2 : 0 ≤ (b.capacity - b.charge) / (T / 60) :=
    div_nonneg (sub_nonneg.mpr hb.charge_le) (by positivity)
  have h3 := hb.maxp_nonneg
  have hM : 0 ≤ idealPower b pilot V T := le_min (le_min h1 h3) h2
  unfold stepPower
  simp only []
  split_ifs with hs hn hn
  · exact ⟨le_max_right _ _, max_le (sub_le_self _ (abs_nonneg ν)) hM⟩
  · exact ⟨hM, le_refl _⟩
  · -- declining stage, noisy: clamped explicitly, twice
    refine ⟨le_min (le_min (le_min (le_min (le_min (le_min (le_max_right _ _) h1) h3) h2) h1) h3) h2,
      le_min (le_min ?_ ?_) (min_le_right _ _)⟩
    · exact (min_le_left _ _).trans ((min_le_left _ _).trans (min_le_right _ _))
    · exact (min_le_left _ _).trans (min_le_right _ _)
  · -- declining stage, noise-free: the maximum power is scaled by a factor in `[0, 1]`
    have hts : 0 < 1 - b.ts := sub_pos.mpr hb.ts_lt
    have hf0 : 0 ≤ (1 - b.charge / b.capacity) / (1 - b.ts) :=
      div_nonneg (sub_nonneg.mpr hb.soc_le_one) hts.le
    have hf1 : (1 - b.charge / b.capacity) / (1 - b.ts) ≤ 1 :=
      (div_le_one hts).mpr (sub_le_sub_left (not_lt.mp hs) 1)
    exact ⟨le_min (le_min h1 (mul_nonneg hf0 h3)) h2,
      min_le_min (min_le_min (le_refl _) (mul_le_of_le_one_left h3 hf1)) (le_refl _)⟩

section cont
variable [HasExp K]

/-- pilot and maximum rate of change of SoC per period (battery.py:240-241) -/
def pd0Of (b : Batt K) (pilot V T : K) : K := pilot * V / 1000 / b.capacity / (60 / T)
def mdOf (b : Batt K) (T : K) : K := b.maxPower / b.capacity / (60 / T)

/-- final SoC of the continuous calculation including the clamped subtractive noise -/
def currOf (b : Batt K) (pilot V T ν : K) : K :=
  let s := b.charge / b.capacity
  let c0 := contSoc s b.ts (pd0Of b pilot V T) (mdOf b T)
  if 0 < b.noiseLevel then max (c0 - |ν * (T / 60) / b.capacity|) s else c0

theorem mdOf_pos {b : Batt K} {T : K} (hc : 0 < b.capacity) (hm : 0 < b.maxPower) (hT : 0 < T) :
    0 < mdOf b T := by unfold mdOf; positivity

theorem pd0Of_pos {b : Batt K} {pilot V T : K} (hc : 0 < b.capacity) (hp : 0 < pilot)
    (hV : 0 < V) (hT : 0 < T) : 0 < pd0Of b pilot V T := by unfold pd0Of; positivity

/-- the continuous calculation under its guards, return by return: zero pilot, `self._soc`
    dividing by a zero capacity, the full battery (fix F18), `pilot_transition_soc` dividing by a
    zero maximum rate, the closed form -/
theorem contCharge_eq (b : Batt K) (pilot ν : K) {V T : K} (hV : 0 < V) (hT : 0 < T) :
    contCharge b pilot V T ν =
      if pilot = 0 then .ok ({ b with power := 0 }, 0)
      else if b.capacity = 0 then .error .zeroDivision
      else if 1 ≤ b.charge / b.capacity then .ok ({ b with power := 0 }, 0)
      else if mdOf b T = 0 then .error .zeroDivision
      else
        .ok ({ b with charge := currOf b pilot V T ν * b.capacity,
                      power := (currOf b pilot V T ν - b.charge / b.capacity) * b.capacity / (T / 60) },
             (currOf b pilot V T ν - b.charge / b.capacity) * b.capacity / (T / 60) * 1000 / V) := by
  unfold contCharge
  rw [guards_ok hV hT]
  simp only [isZero_iff, Battery.soc, currOf, pd0Of, mdOf, pyMax_eq_max, absK_eq_abs,
    Nat.cast_ofNat]
  rfl

theorem contCharge_err (b : Batt K) (pilot ν : K) {V T : K} (h : V ≤ 0 ∨ T ≤ 0) :
    contCharge b pilot V T ν = .error .valueError :=
  guards_err h _

theorem contCharge_zero (b : Batt K) (ν : K) {V T : K} (hV : 0 < V) (hT : 0 < T) :
    contCharge b 0 V T ν = .ok ({ b with power := 0 }, 0) := by
  rw [contCharge_eq b 0 ν hV hT, if_pos rfl]

/-- the code's `pilot_transition_soc`, with `pd / md` the pilot's share of the maximum rate -/
theorem contPts_eq {ts pd md : K} (hmd : md ≠ 0) :
    ts + (pd - md) / md * (ts - 1) = 1 - pd / md * (1 - ts) := by
  field_simp; ring

/-- from SoC 1 the closed form stays at 1: the transition SoC lies below 1, and the rampdown
    branch multiplies the exponential by `soc − 1 = 0` -/
theorem contSoc_one {ts pd0 md : K} (hmd : 0 < md) (hpd : 0 < pd0) (hts : ts < 1) :
    contSoc 1 ts pd0 md = 1 := by
  have hpd' : 0 < (if md < pd0 then md else pd0) := by split <;> assumption
  have hpts : ¬ (1 : K) < ts + ((if md < pd0 then md else pd0) - md) / md * (ts - 1) := by
    rw [contPts_eq hmd.ne', not_lt]
    exact sub_le_self _ (mul_nonneg (div_pos hpd' hmd).le (sub_pos.mpr hts).le)
  simp only [contSoc, if_neg hpts, sub_self, mul_zero, add_zero]

theorem currOf_full (b : Batt K) (ν : K) {pilot V T : K} (hV : 0 < V) (hT : 0 < T) (hp : 0 < pilot)
    (hc : 0 < b.capacity) (hmp : 0 < b.maxPower) (hts : b.ts < 1) (hs : b.charge / b.capacity = 1) :
    currOf b pilot V T ν = 1 := by
  simp only [currOf, hs, contSoc_one (mdOf_pos hc hmp hT) (pd0Of_pos hc hp hV hT) hts]
  split_ifs
  · exact max_eq_right (sub_le_self _ (abs_nonneg _))
  · rfl

/-- the explicit result of the continuous calculation for a battery that is not over-full and a
    positive pilot: at SoC 1 the guard of fix F18 and the closed form agree -/
theorem contCharge_ok (b : Batt K) (ν : K) {pilot V T : K} (hV : 0 < V) (hT : 0 < T)
    (hp : 0 < pilot) (hc : 0 < b.capacity) (hmp : 0 < b.maxPower) (hts : b.ts < 1)
    (hle : b.charge ≤ b.capacity) :
    contCharge b pilot V T ν =
      .ok ({ b with charge := currOf b pilot V T ν * b.capacity,
                    power := (currOf b pilot V T ν - b.charge / b.capacity) * b.capacity / (T / 60) },
           (currOf b pilot V T ν - b.charge / b.capacity) * b.capacity / (T / 60) * 1000 / V) := by
  rcases lt_or_eq_of_le ((div_le_one hc).2 hle) with hs | hs
  · rw [contCharge_eq b pilot ν hV hT, if_neg hp.ne', if_neg hc.ne', if_neg (not_le.mpr hs),
      if_neg (mdOf_pos hc hmp hT).ne']
  · rw [contCharge_eq b pilot ν hV hT, if_neg hp.ne', if_neg hc.ne', if_pos hs.ge, currOf_full b ν hV hT hp hc hmp hts hs, hs,
      sub_self, zero_mul, zero_div, zero_mul, zero_div, one_mul, ← (div_eq_one_iff_eq hc.ne').1 hs]

end cont

/-- Whatever the calculation, a call that returned had passed the guards, left the parameters
    alone, moved the charge by the recorded power over the period, and returned that power in
    amperes.  The ledger law, the frame and (with `StepBounds.of_power`) the bounds rest on this. -/
structure Delivers (b : Batt K) (V T : K) (b' : Batt K) (r : K) : Prop where
  V_pos : 0 < V
  T_pos : 0 < T
  params : SameParams b b'
  charge_eq : b'.charge = b.charge + b'.power * (T / 60)
  rate_eq : r = b'.power * 1000 / V

/-- the early returns of the continuous calculation (zero pilot, full battery) -/
theorem Delivers.idle (b : Batt K) {V T : K} (hV : 0 < V) (hT : 0 < T) :
    Delivers b V T { b with power := 0 } 0 :=
  ⟨hV, hT, .of_with b _ _, by simp, by simp⟩

theorem Delivers.bounds {b b' : Batt K} {pilot V T r : K} (hd : Delivers b V T b' r) (hb : Inv b) (hp : 0 ≤ pilot)
    (h0 : 0 ≤ b'.power) (h1 : b'.power ≤ idealPower b pilot V T) : StepBounds b pilot b' r ∧ Inv b' := by
  have hs : StepBounds b pilot b' r := .of_power hb hp hd.V_pos hd.T_pos h0 h1 hd.charge_eq hd.rate_eq
  exact ⟨hs, hb.of_sameParams hd.params hs.charge_le_cap⟩

theorem StepBounds.idle {b : Batt K} (hb : Inv b) {pilot : K} (hp : 0 ≤ pilot) :
    StepBounds b pilot { b with power := 0 } 0 :=
  ⟨le_refl _, hp, le_refl _, hb.maxp_nonneg, le_refl _, hb.charge_le⟩

theorem idealCharge_delivers {b b' : Batt K} {pilot V T r : K}
    (h : idealCharge b pilot V T = .ok (b', r)) : Delivers b V T b' r := by
  obtain ⟨hV, hT⟩ := pos_of_ok (idealCharge_err b pilot) h
  rw [idealCharge_ok b pilot hV hT] at h
  cases h
  exact ⟨hV, hT, .of_with b _ _, rfl, rfl⟩

theorem stepCharge_delivers {b b' : Batt K} {pilot V T ν r : K}
    (h : stepCharge b pilot V T ν = .ok (b', r)) : Delivers b V T b' r := by
  obtain ⟨hV, hT⟩ := pos_of_ok (stepCharge_err b pilot ν) h
  by_cases hc : b.capacity = 0
  · -- `self._soc` divides by the capacity before anything is written
    unfold stepCharge at h
    rw [guards_ok hV hT, if_pos ((isZero_iff _).mpr hc)] at h
    cases h
  · rw [stepCharge_ok b pilot ν hV hT hc] at h
    cases h
    exact ⟨hV, hT, .of_with b _ _, rfl, rfl⟩

theorem contCharge_delivers [HasExp K] {b b' : Batt K} {pilot V T ν r : K}
    (h : contCharge b pilot V T ν = .ok (b', r)) : Delivers b V T b' r := by
  obtain ⟨hV, hT⟩ := pos_of_ok (contCharge_err b pilot ν) h
  rw [contCharge_eq b pilot ν hV hT] at h
  split_ifs at h with _ hc
  · cases h; exact .idle b hV hT
  · cases h; exact .idle b hV hT
  · cases h
    refine ⟨hV, hT, .of_with b _ _, ?_, rfl⟩
    -- `soc · capacity` is the charge again
    show _ * b.capacity = b.charge + _ * b.capacity / (T / 60) * (T / 60)
    rw [div_mul_cancel₀ _ (div_pos hT (by norm_num)).ne', sub_mul, div_mul_cancel₀ _ hc,
      add_sub_cancel]

/-- what holds of the three calculations holds of `charge`, which only dispatches on `twoStage` / `cmode`
    (each calculation may use that it was the one chosen) -/
theorem charge_cases [HasExp K] {P : Except Err (Batt K × K) → Prop} (b : Batt K) (pilot V T ν : K)
    (hcont : b.twoStage = true → b.cmode = .continuous → P (contCharge b pilot V T ν))
    (hstep : b.twoStage = true → b.cmode = .stepwise → P (stepCharge b pilot V T ν))
    (hideal : b.twoStage = false → P (idealCharge b pilot V T)) : P (charge b pilot V T ν) := by
  unfold charge
  split
  · rename_i htwo
    split
    · rename_i hmode; exact hcont htwo hmode
    · rename_i hmode; exact hstep htwo hmode
  · rename_i htwo; exact hideal (by simpa using htwo)

theorem charge_delivers [HasExp K] {b b' : Batt K} {pilot V T ν r : K}
    (h : charge b pilot V T ν = .ok (b', r)) : Delivers b V T b' r :=
  charge_cases (P := fun x => x = .ok (b', r) → Delivers b V T b' r) b pilot V T ν
    (fun _ _ => contCharge_delivers) (fun _ _ => stepCharge_delivers) (fun _ => idealCharge_delivers) h

theorem charge_rejects [HasExp K] (b : Batt K) (pilot ν : K) {V T : K} (h : V ≤ 0 ∨ T ≤ 0) :
    charge b pilot V T ν = .error .valueError :=
  charge_cases (P := fun x => x = .error .valueError) b pilot V T ν (fun _ _ => contCharge_err b pilot ν h)
    (fun _ _ => stepCharge_err b pilot ν h) (fun _ => idealCharge_err b pilot h)

end Acn.BattAlg
