/-
  The fuel that `parse` gives itself (twice the length of the text) always suffices, hence the closed form of the
  round trip: `parse (render v) = some v`.
-/
import AcnProofs.Lemmas.JsonTextParse
namespace Acn.JsonText

theorem render_length_pos (v : JVal) (hw : v.wf = true) : 1 ≤ (render v).length := by
  obtain ⟨c, t, h, _⟩ := render_head v hw
  rw [h]; simp

mutual
theorem cost_le_length : ∀ (v : JVal), v.wf = true → v.cost ≤ 2 * (render v).length
  | .null, _ => by simp [JVal.cost, render]
  | .bool b, _ => by cases b <;> simp [JVal.cost, render]
  | .int n, hw => by have := render_length_pos (.int n) hw; simp only [JVal.cost]; omega
  | .num t, hw => by have := render_length_pos (.num t) hw; simp only [JVal.cost]; omega
  | .str s, hw => by have := render_length_pos (.str s) hw; simp only [JVal.cost]; omega
  | .arr [], _ => by simp [JVal.cost, costList, render]
  | .arr (v :: l), hw => by
    simp only [JVal.wf, wfList, Bool.and_eq_true] at hw
    have h1 := cost_le_length v hw.1
    have h2 := costList_le_length l hw.2
    simp only [JVal.cost, costList, render, List.length_cons, List.length_append, List.length_nil]
    omega
  | .obj [], _ => by simp [JVal.cost, costMembers, render]
  | .obj ((k, v) :: l), hw => by
    simp only [JVal.wf, wfMembers, Bool.and_eq_true] at hw
    have h1 := cost_le_length v hw.1
    have h2 := costMembers_le_length l hw.2
    simp only [JVal.cost, costMembers, render, List.length_cons, List.length_append, List.length_nil]
    omega
theorem costList_le_length : ∀ (l : List JVal), wfList l = true → costList l ≤ 2 * (renderTail l).length + 1
  | [], _ => by simp [costList, renderTail]
  | v :: l, hw => by
    simp only [wfList, Bool.and_eq_true] at hw
    have h1 := cost_le_length v hw.1
    have h2 := costList_le_length l hw.2
    simp only [costList, renderTail, List.length_cons, List.length_append]
    omega
theorem costMembers_le_length : ∀ (l : List (String × JVal)), wfMembers l = true →
    costMembers l ≤ 2 * (renderMTail l).length + 1
  | [], _ => by simp [costMembers, renderMTail]
  | (k, v) :: l, hw => by
    simp only [wfMembers, Bool.and_eq_true] at hw
    have h1 := cost_le_length v hw.1
    have h2 := costMembers_le_length l hw.2
    simp only [costMembers, renderMTail, List.length_cons, List.length_append]
    omega
end

/-- `json.loads(json.dumps(v)) = v`, also with blanks or a newline around the document (`to_json(path)` appends `"\n"`,
    base.py:261) -/
theorem parse_render_padded (v : JVal) (hw : v.wf = true) (pre post : List Char)
    (h1 : pre.all isWs = true) (h2 : post.all isWs = true) :
    parse (pre ++ (render v ++ post)) = some v := by
  have hskip : ∀ (p q : List Char), p.all isWs = true → skipWs (p ++ q) = skipWs q := by
    intro p q hp
    induction p with
    | nil => rfl
    | cons a p ih =>
      simp only [List.all_cons, Bool.and_eq_true] at hp
      simp [skipWs, hp.1, ih hp.2]
  obtain ⟨c, t, h, hws, _⟩ := render_head v hw
  have hd : Delim post := by
    intro c r e
    subst e
    simp only [List.all_cons, Bool.and_eq_true] at h2
    have := h2.1
    simp only [isWs, Bool.or_eq_true, decide_eq_true_eq] at this
    rcases this with ((rfl | rfl) | rfl) | rfl <;> decide
  have hs : skipWs (render v ++ post) = render v ++ post := by
    rw [h, List.cons_append]; exact skipWs_of_head _ _ hws
  have hpost : skipWs post = [] := by
    have := hskip post [] h2
    simpa [skipWs] using this
  unfold parse
  rw [hskip pre _ h1, hs,
    parseVal_render v _ post hw (by
      have := cost_le_length v hw
      simp only [List.length_append]
      omega) hd]
  simp [hpost]

theorem parse_render (v : JVal) (hw : v.wf = true) : parse (render v) = some v := by
  simpa using parse_render_padded v hw [] [] rfl rfl

end Acn.JsonText
