/-
  C04: independence of dict order, the column handed to `update_pilots`, the submissions of a list of periods; loop
  trips with an arbitrary growth target (`run()` and `step()` are instances), `Interface.last_applied_pilot_signals`,
  and what histories with save / restore steps return.
-/
import AcnModel.PilotsHist
import AcnProofs.Lemmas.PilotsSched

set_option linter.unusedSectionVars false

namespace Acn.Pilots
variable {K : Type} [OfNat K 0]

theorem schedLen_perm {s s' : Sched K} (hp : s.Perm s') (hr : ragged s = false) :
    schedLen s = schedLen s' := by
  cases s' with
  | nil => rw [List.perm_nil.1 hp]
  | cons q rest =>
    have := (ragged_false_iff s).1 hr q (hp.mem_iff.2 (List.mem_cons_self ..))
    rw [← this]; rfl

theorem ragged_perm {s s' : Sched K} (hp : s.Perm s') : ragged s = ragged s' := by
  have key : ∀ a b : Sched K, a.Perm b → ragged a = false → ragged b = false := by
    intro a b hab h
    rw [ragged_false_iff, ← schedLen_perm hab h]
    exact fun p hp' => (ragged_false_iff a).1 h p (hab.mem_iff.2 hp')
  cases h : ragged s with
  | false => exact (key _ _ hp h).symm
  | true =>
    cases h' : ragged s' with
    | true => rfl
    | false => rw [key _ _ hp.symm h'] at h; cases h

theorem unknownStation_perm (stations : List String) {s s' : Sched K} (hp : s.Perm s') :
    unknownStation stations s = unknownStation stations s' := hp.any_eq

theorem densify_perm (stations : List String) {sched sched' : Sched K} (hp : sched.Perm sched')
    (hn : (sched.map Prod.fst).Nodup) (len : Nat) :
    densify stations sched len = densify stations sched' len := by
  simp only [densify]
  apply List.map_congr_left
  intro st _
  rw [Assoc.lookup_perm hn hp]

theorem updateSchedules_perm (stations : List String) (m : Mat K) (t : Nat) (lastTs : Option Nat)
    {sched sched' : Sched K} (hp : sched.Perm sched') (hn : (sched.map Prod.fst).Nodup) :
    updateSchedules stations m t lastTs sched = updateSchedules stations m t lastTs sched' := by
  by_cases hne : sched = []
  · subst hne; rw [List.nil_perm.1 hp]
  · have hne' : sched' ≠ [] := by rintro rfl; exact hne (List.perm_nil.1 hp)
    rw [updateSchedules_cons _ _ _ _ _ hne, updateSchedules_cons _ _ _ _ _ hne',
      ← unknownStation_perm stations hp, ← ragged_perm hp]
    by_cases hr : ragged sched = true
    · simp [hr]
    · have hr' : ragged sched = false := by simpa using hr
      rw [← schedLen_perm hp hr', ← densify_perm stations hp hn]

theorem mapM_getElem?_some (rows : List (List K)) (t : Nat) (col : List K)
    (h : rows.mapM (fun r => r[t]?) = some col) :
    col = rows.map (fun r => r.getD t 0) ∧ ∀ r ∈ rows, t < r.length := by
  have h := (mapM_some_iff _ _ _).1 h
  refine ⟨by simpa using forall₂_map_eq (g := id) h fun r b hb => by simp [hb], fun r hr => ?_⟩
  obtain ⟨b, -, hb⟩ := forall₂_mem_right h.flip r hr
  exact (List.getElem?_eq_some_iff.1 hb).1

theorem mapM_getElem?_of_lt (rows : List (List K)) (t : Nat) (h : ∀ r ∈ rows, t < r.length) :
    ∃ col, rows.mapM (fun r => r[t]?) = some col :=
  ⟨_, mapM_some_map _ (fun r => r.getD t 0) rows fun r hr => by
    rw [List.getD_eq_getElem _ _ (h r hr), List.getElem?_eq_getElem]⟩

theorem appliedColumn_spec {stations : List String} (hn : stations.Nodup) {m : Mat K}
    (h : m.WF stations.length) (t : Nat) (col : List K) (hc : appliedColumn m t = some col) :
    col = stations.map (fun st => m.get (stations.idxOf st) t) := by
  obtain ⟨e, -⟩ := mapM_getElem?_some _ _ _ hc
  subst e
  apply List.ext_getElem
  · simp [h.1]
  · intro k h1 h2
    simp only [List.length_map] at h1 h2
    simp only [List.getElem_map, Mat.get]
    rw [hn.idxOf_getElem k h2]
    simp [List.getD_eq_getElem?_getD, h1]

theorem appliedColumn_isSome {n : Nat} {m : Mat K} (h : m.WF n) (t : Nat) (ht : t < m.width) :
    ∃ col, appliedColumn m t = some col :=
  mapM_getElem?_of_lt _ _ (fun r hr => by rw [h.2 r hr]; exact ht)

theorem subsOf_cons (p : Period K) (ps : List (Period K)) :
    subsOf (p :: ps) = subsOf [p] ++ subsOf ps := by
  simp only [subsOf]
  rw [← List.filterMap_append]
  rfl

theorem periodStep_eq_W (stations : List String) (m : Mat K) (p : Period K) :
    periodStep stations m p = periodStepW stations m p (runWidth p.t p.lastTs) := rfl

/-- matrix after one loop trip with growth target `w`, when the trip does not raise -/
def afterPeriodW (stations : List String) (m : Mat K) (p : Period K) (w : Nat) : Mat K :=
  increaseWidth ((subsOf [p]).foldl (submit stations) m) w

theorem afterPeriodW_wf {stations : List String} {m : Mat K} (h : m.WF stations.length) (p : Period K)
    (w : Nat) : (afterPeriodW stations m p w).WF stations.length :=
  increaseWidth_wf (foldl_submit_wf _ h) _

theorem periodStepW_cases (stations : List String) (m : Mat K) (p : Period K) (w : Nat) :
    (∃ e, periodStepW stations m p w = .error (.sched e)) ∨
    periodStepW stations m p w =
      match appliedColumn (afterPeriodW stations m p w) p.t with
      | some col => .ok (afterPeriodW stations m p w, col)
      | none => .error .indexError := by
  obtain ⟨t, l, sch⟩ := p
  unfold periodStepW
  cases sch with
  | none => exact .inr rfl
  | some s =>
    simp only
    cases hu : updateSchedules stations m t l s with
    | error e => exact .inl ⟨e, rfl⟩
    | ok m1 =>
      refine .inr ?_
      simp only [afterPeriodW, subsOf, List.filterMap_cons, Option.map_some, List.filterMap_nil,
        List.foldl_cons, List.foldl_nil, submit, hu]
      rfl

theorem periodStepW_ok {stations : List String} {m : Mat K} {p : Period K} {w : Nat} {m' : Mat K}
    {col : List K} (h : periodStepW stations m p w = .ok (m', col)) :
    m' = afterPeriodW stations m p w ∧ appliedColumn m' p.t = some col := by
  rcases periodStepW_cases stations m p w with ⟨e, he⟩ | hc
  · rw [he] at h; cases h
  · rw [hc] at h
    cases hc : appliedColumn (afterPeriodW stations m p w) p.t with
    | none => rw [hc] at h; cases h
    | some c =>
      rw [hc] at h
      obtain ⟨rfl, rfl⟩ := Prod.mk.inj (Except.ok.inj h)
      exact ⟨rfl, hc⟩

theorem periodStepW_wf {stations : List String} {m : Mat K} (hm : m.WF stations.length) {p : Period K} {w : Nat}
    {m' : Mat K} {col : List K} (h : periodStepW stations m p w = .ok (m', col)) : m'.WF stations.length :=
  (periodStepW_ok h).1 ▸ afterPeriodW_wf hm p w

theorem afterPeriodW_get {stations : List String} {m : Mat K} (h : m.WF stations.length) (p : Period K)
    (w : Nat) (st : String) (τ : Nat) :
    (afterPeriodW stations m p w).get (stations.idxOf st) τ =
      pilotFrom stations (m.get (stations.idxOf st) τ) (subsOf [p]) st τ := by
  unfold afterPeriodW
  rw [increaseWidth_get', foldl_submit_get _ h]

theorem runTrips_cons_ok {stations : List String} {m : Mat K} {p : Period K} {w : Nat}
    {ps : List (Period K × Nat)} {m'' : Mat K} {cols' : List (List K)}
    (h : runTrips stations m ((p, w) :: ps) = .ok (m'', cols')) :
    ∃ m' col cols, periodStepW stations m p w = .ok (m', col) ∧ runTrips stations m' ps = .ok (m'', cols) ∧
      cols' = col :: cols := by
  rw [runTrips] at h
  cases hp : periodStepW stations m p w with
  | error e => rw [hp] at h; cases h
  | ok r =>
    rw [hp] at h
    cases hr : runTrips stations r.1 ps with
    | error e => simp only [hr] at h; cases h
    | ok r2 =>
      simp only [hr] at h
      cases h
      exact ⟨r.1, r.2, r2.2, rfl, hr, rfl⟩

theorem runTrips_spec {stations : List String} (hn : stations.Nodup) :
    ∀ (trips : List (Period K × Nat)) (m m' : Mat K) (cols : List (List K)),
      m.WF stations.length → runTrips stations m trips = .ok (m', cols) →
      m'.WF stations.length
      ∧ (∀ st τ, m'.get (stations.idxOf st) τ =
          pilotFrom stations (m.get (stations.idxOf st) τ) (subsOf (trips.map Prod.fst)) st τ)
      ∧ cols.length = trips.length
      ∧ ∀ k (hk : k < trips.length), cols[k]? =
          some (stations.map fun st =>
            pilotFrom stations (m.get (stations.idxOf st) trips[k].1.t)
              (subsOf ((trips.take (k + 1)).map Prod.fst)) st trips[k].1.t) := by
  intro trips
  induction trips with
  | nil =>
    intro m m' cols hm h
    obtain ⟨rfl, rfl⟩ := Prod.mk.inj (Except.ok.inj h)
    exact ⟨hm, fun _ _ => rfl, rfl, fun k hk => absurd hk (by simp)⟩
  | cons pw rest ih =>
    obtain ⟨p, w⟩ := pw
    intro m m2 cols hm h
    obtain ⟨m1, col, cols2, hp, hr, rfl⟩ := runTrips_cons_ok h
    obtain ⟨rfl, hcol⟩ := periodStepW_ok hp
    have hm1 := afterPeriodW_wf hm p w
    have hget1 := afterPeriodW_get hm p w
    obtain ⟨i1, i2, i3, i4⟩ := ih _ m2 cols2 hm1 hr
    refine ⟨i1, fun st τ => ?_, by simp [i3], fun k hk => ?_⟩
    · rw [List.map_cons, subsOf_cons, pilotFrom_append, ← hget1, i2]
    · cases k with
      | zero =>
        rw [List.getElem?_cons_zero, appliedColumn_spec hn hm1 _ _ hcol]
        exact congrArg some (List.map_congr_left fun st _ => hget1 st p.t)
      | succ k =>
        rw [List.getElem?_cons_succ, i4 k (by simpa using hk)]
        refine congrArg some (List.map_congr_left fun st _ => ?_)
        rw [List.take_succ_cons, List.map_cons, subsOf_cons, pilotFrom_append, ← hget1]
        rfl

theorem runPeriods_eq_runTrips (stations : List String) (m : Mat K) (ps : List (Period K)) :
    runPeriods stations m ps = runTrips stations m (tripsOfRun ps) := by
  induction ps generalizing m with
  | nil => rfl
  | cons p rest ih =>
    simp only [runPeriods, tripsOfRun, List.map_cons, runTrips, periodStep_eq_W]
    cases periodStepW stations m p (runWidth p.t p.lastTs) with
    | error e => rfl
    | ok r =>
      obtain ⟨m1, col⟩ := r
      simp only
      rw [ih m1]
      rfl

theorem trips_applied_eq_spec {stations : List String} (hn : stations.Nodup) (w : Nat)
    (trips : List (Period K × Nat)) (m' : Mat K) (cols : List (List K))
    (hrun : runTrips stations (Mat.zeros stations.length w) trips = .ok (m', cols)) :
    m'.WF stations.length
    ∧ (∀ st τ, m'.get (stations.idxOf st) τ = pilotAt stations (subsOf (trips.map Prod.fst)) st τ)
    ∧ cols.length = trips.length
    ∧ ∀ k (hk : k < trips.length), cols[k]? =
        some (stations.map fun st =>
          pilotAt stations (subsOf ((trips.take (k + 1)).map Prod.fst)) st trips[k].1.t) := by
  obtain ⟨k1, k2, k3, k4⟩ := runTrips_spec hn trips _ m' cols (zeros_wf _ _) hrun
  refine ⟨k1, ?_, k3, ?_⟩
  · intro st τ; rw [k2, zeros_get]; rfl
  · intro k hk
    rw [k4 k hk]
    congr 1
    apply List.map_congr_left
    intro st _
    rw [zeros_get]; rfl

theorem applied_eq_spec {stations : List String} (hn : stations.Nodup) (w : Nat)
    (ps : List (Period K)) (m' : Mat K) (cols : List (List K))
    (hrun : runPeriods stations (Mat.zeros stations.length w) ps = .ok (m', cols)) :
    m'.WF stations.length
    ∧ (∀ st τ, m'.get (stations.idxOf st) τ = pilotAt stations (subsOf ps) st τ)
    ∧ cols.length = ps.length
    ∧ ∀ k (hk : k < ps.length), cols[k]? =
        some (stations.map fun st => pilotAt stations (subsOf (ps.take (k + 1))) st ps[k].t) := by
  rw [runPeriods_eq_runTrips] at hrun
  obtain ⟨k1, k2, k3, k4⟩ := trips_applied_eq_spec hn w _ m' cols hrun
  have hfst : ∀ l : List (Period K), (tripsOfRun l).map Prod.fst = l := fun l => by
    simp [tripsOfRun, Function.comp_def]
  have hlen : (tripsOfRun ps).length = ps.length := by simp [tripsOfRun]
  refine ⟨k1, ?_, k3.trans hlen, ?_⟩
  · intro st τ
    rw [k2, hfst]
  · intro k hk
    have htake : (tripsOfRun ps).take (k + 1) = tripsOfRun (ps.take (k + 1)) := by
      simp [tripsOfRun, List.map_take]
    rw [k4 k (hlen.symm ▸ hk), htake, hfst]
    simp [tripsOfRun]

theorem periodStepW_no_indexError {stations : List String} {m : Mat K} (h : m.WF stations.length)
    (p : Period K) (w : Nat) (hw : p.t < w) :
    periodStepW stations m p w ≠ .error .indexError := by
  have hwid : p.t < (afterPeriodW stations m p w).width := by
    unfold afterPeriodW; rw [increaseWidth_width]; exact lt_of_lt_of_le hw (le_max_right _ _)
  rcases periodStepW_cases stations m p w with ⟨e, he⟩ | hc
  · rw [he]; simp
  · obtain ⟨c, hcol⟩ := appliedColumn_isSome (afterPeriodW_wf h p w) p.t hwid
    rw [hc, hcol]; simp

theorem runTrips_no_indexError' {stations : List String} :
    ∀ (trips : List (Period K × Nat)) (m : Mat K), m.WF stations.length →
      (∀ pw ∈ trips, pw.1.t < pw.2) → runTrips stations m trips ≠ .error .indexError := by
  intro trips
  induction trips with
  | nil => intro m _ _; simp [runTrips]
  | cons pw rest ih =>
    obtain ⟨p, w⟩ := pw
    intro m hm hl
    simp only [runTrips]
    cases hp : periodStepW stations m p w with
    | error e =>
      simp only
      intro hc
      injection hc with hc
      subst hc
      exact periodStepW_no_indexError hm p w (hl (p, w) (List.mem_cons_self ..)) hp
    | ok r =>
      obtain ⟨m1, col⟩ := r
      simp only
      have hm1 : m1.WF stations.length := periodStepW_wf hm hp
      have := ih m1 hm1 (fun q hq => hl q (List.mem_cons_of_mem _ hq))
      cases hr : runTrips stations m1 rest with
      | error e =>
        simp only
        intro hc; injection hc with hc; subst hc; exact this hr
      | ok r2 => simp

theorem lt_stepWidth (t : Nat) (l : Option Nat) : t < stepWidth t l := by
  cases l with
  | none => simp [stepWidth]
  | some l =>
    simp only [stepWidth]
    exact lt_of_lt_of_le (Nat.lt_succ_self t) (Nat.le_max_right _ _)

theorem subsOf_tripsOfSteps (calls : List (Sched K × List (Nat × Option Nat))) :
    subsOf ((tripsOfSteps calls).map Prod.fst) =
      calls.flatMap fun c => c.2.map fun it => (⟨it.1, it.2, c.1⟩ : Submission K) := by
  induction calls with
  | nil => rfl
  | cons c rest ih =>
    simp only [tripsOfSteps, List.flatMap_cons, List.map_append] at ih ⊢
    simp only [subsOf, List.filterMap_append] at ih ⊢
    rw [ih]
    congr 1
    simp only [tripsOfStep, List.map_map, List.filterMap_map]
    simp

theorem lastApplied_early (stations : List String) (m : Mat K) (iteration : Nat)
    (active : List (String × String × Nat)) (h : iteration ≤ 1) :
    lastApplied stations m iteration active = some [] := by
  simp [lastApplied, h]

theorem lastApplied_eq_get {stations : List String} {m : Mat K} (h : m.WF stations.length) {t : Nat} (ht : 0 < t)
    (hcol : ∀ r ∈ m.rows, t < r.length) (active : List (String × String × Nat)) (hreg : ∀ a ∈ active, a.2.1 ∈ stations) :
    lastApplied stations m (t + 1) active =
      some ((active.filter fun a => decide (a.2.2 ≤ t)).map fun a => (a.1, m.get (stations.idxOf a.2.1) t)) := by
  have hnot : ¬ (t + 1 ≤ 1) := by omega
  simp only [lastApplied, hnot, if_false, Nat.add_sub_cancel]
  apply mapM_some_map
  intro a ha
  have hs : a.2.1 ∈ stations := hreg a (List.mem_filter.1 ha).1
  have hi' : stations.idxOf a.2.1 < m.rows.length := by rw [h.1]; exact List.idxOf_lt_length_iff.2 hs
  have hlen : t < (m.rows[stations.idxOf a.2.1]).length := hcol _ (List.getElem_mem _)
  rw [if_pos (List.contains_iff_mem.2 hs), List.getElem?_eq_getElem hi']
  simp [Mat.get, List.getD_eq_getElem?_getD, hi', hlen]

/-- a matrix without rows does NOT come back (numpy reads `[]` as a 1-D array) -/
theorem restoreMat_no_rows (w : Nat) : restoreMat (⟨[], w⟩ : Mat K) = none := rfl

/-- what `runHist` returns when the underlying trip sequence returns `r` -/
def histOfTrips (stations : List String) :
    Except RunErr (Mat K × List (List K)) → Except HistErr (List String × Mat K × List (List (String × K)))
  | .ok (m', cols) => .ok (stations, m', cols.map fun col => stations.zip col)
  | .error e => .error (.run e)

end Acn.Pilots
