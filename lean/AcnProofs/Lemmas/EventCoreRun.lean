/-
  The loop of `EventCoreQ.lean` (any conforming queue; `EventCore.lean` is the canonical-queue instance) as the
  generalised loop at `ChargingNetwork`.  `OccH`: the occupancy map is what `event_history` says — a station holds
  the session plugged in and not yet unplugged.  `ChargingNetwork` keeps `OccH` and never raises on a `Valid`
  scenario (`chargingNet_netInv`; vacancy at a plug-in is the one place where per-station non-overlap is used),
  and at a loop head `OccH` is the occupancy clause of `Inv` (`inv_iff`: `Inv` = `InvG` + `OccH`).  So one period
  and the whole run keep `Inv` (`eventsStageQ_ok`, `bodyQ_ok`, `runQ_spec`; `eventsStage_ok`, `body_ok`,
  `run_spec` for the canonical queue) by the theorems of `EventCoreNetH.lean` / `EventCoreGM.lean`.
-/
import AcnProofs.Lemmas.EventCoreGM

namespace Acn.EventCore
open Acn Acn.Steps

/-- `EVSE._ev` read off `event_history` -/
structure OccH (cfg : Cfg) (hist : List Event) (occ : String → Option Session) : Prop where
  occ : ∀ st x, occ st = some x ↔
    x ∈ cfg.sessions ∧ x.station = st ∧ plugEv x ∈ hist ∧ unplugEv x ∉ hist
  plug_first : ∀ x ∈ cfg.sessions, unplugEv x ∈ hist → plugEv x ∈ hist

/-- the core in the middle of period `t`: events applied, pilots not yet; a station holds the session whose
    connection interval `[arrival, departure)` contains `t` -/
structure Mid (cfg : Cfg) (t : Nat) (c : Core) : Prop where
  iter : c.iter = t
  hist : HistOK cfg t [] c.eventHist
  pend : PendOK cfg t [] c.pending
  occ : ∀ st x, c.occ st = some x ↔ x ∈ cfg.sessions ∧ x.station = st ∧ x.arrival ≤ t ∧ (t : Int) < x.departure
  evh : EvhOK c

section
variable {cfg : Cfg} {ops : QOps} {good : List Event → Prop}

theorem contains_station (hv : Valid cfg) {x : Session} (hx : x ∈ cfg.sessions) :
    cfg.stations.contains x.station = true := by
  simpa using hv.registered x hx

theorem chargingNet_netInv (hv : Valid cfg) : NetInv (chargingNet cfg.stations) noPost cfg (OccH cfg) where
  plugin := by
    intro hist occ x hx hP hnew hA hB
    -- the last occupant left by `x.arrival` (so it is unplugged), or would arrive after `x` (so it is not plugged in)
    have hvac : occ x.station = none := by
      rcases hocc : occ x.station with _ | y
      · rfl
      · exfalso
        obtain ⟨hy, hst, hpy, huy⟩ := (hP.occ _ _).1 hocc
        have hne : x ≠ y := by rintro rfl; exact hnew hpy
        have := hv.arr_lt_dep x hx
        rcases hv.disjoint x hx y hy hne hst.symm with hd | hd
        · have := hA y hy hpy; omega
        · exact huy (hB y hy hd)
    have hc := hv.registered x hx
    refine ⟨by simp [chargingNet, hc, hvac], ?_⟩
    have hr : ((chargingNet cfg.stations).plugin occ x).1 = setOcc occ x.station (some x) := by
      simp [chargingNet, hc, hvac]
    rw [hr]
    refine ⟨fun st z => ?_, fun z hz hu => ?_⟩
    · simp only [List.mem_append, List.mem_singleton, unplugEv_ne_plugEv, or_false]
      unfold setOcc
      by_cases hst : st = x.station
      · subst hst
        simp only [if_true, Option.some.injEq]
        constructor
        · rintro rfl
          exact ⟨hx, rfl, Or.inr rfl, fun hu => hnew (hP.plug_first x hx hu)⟩
        · rintro ⟨hz, hzs, hp | hp, hu⟩
          · have := (hP.occ _ _).2 ⟨hz, hzs, hp, hu⟩
            rw [hvac] at this; cases this
          · exact (plugEv_inj hv.toQ hz hx hp).symm
      · simp only [hst, if_false]
        rw [hP.occ st z]
        constructor
        · rintro ⟨a, b, c, d⟩; exact ⟨a, b, Or.inl c, d⟩
        · rintro ⟨a, b, c | c, d⟩
          · exact ⟨a, b, c, d⟩
          · exact absurd (plugEv_inj hv.toQ a hx c ▸ b).symm hst
    · rcases List.mem_append.1 hu with hu | hu
      · exact List.mem_append_left _ (hP.plug_first z hz hu)
      · simp at hu
  unplug := by
    intro hist occ x hx hP hin hnew
    have hocc : occ x.station = some x := (hP.occ _ _).2 ⟨hx, rfl, hin, hnew⟩
    have hc := hv.registered x hx
    refine ⟨by simp [chargingNet, hc], ?_⟩
    have hr : ((chargingNet cfg.stations).unplug occ x).1 = setOcc occ x.station none := by
      simp [chargingNet, hc, hocc]
    rw [hr]
    refine ⟨fun st z => ?_, fun z hz hu => ?_⟩
    · simp only [List.mem_append, List.mem_singleton, plugEv_ne_unplugEv, or_false, not_or]
      unfold setOcc
      by_cases hst : st = x.station
      · subst hst
        simp only [if_true]
        constructor
        · intro h; cases h
        · rintro ⟨hz, hzs, hp, hu, hne⟩
          have := (hP.occ _ _).2 ⟨hz, hzs, hp, hu⟩
          rw [hocc] at this
          cases this
          exact absurd rfl hne
      · simp only [hst, if_false]
        rw [hP.occ st z]
        constructor
        · rintro ⟨a, b, c, d⟩
          exact ⟨a, b, c, d, fun h => hst (unplugEv_inj hv.toQ a hx h ▸ b).symm⟩
        · rintro ⟨a, b, c, d, _⟩; exact ⟨a, b, c, d⟩
    · rcases List.mem_append.1 hu with hu | hu
      · exact List.mem_append_left _ (hP.plug_first z hz hu)
      · simp only [List.mem_singleton] at hu
        rw [unplugEv_inj hv.toQ hz hx hu]
        exact List.mem_append_left _ hin
  recomp := by
    intro hist occ r _ hP
    refine ⟨fun st z => ?_, fun z hz hu => ?_⟩
    · simp only [List.mem_append, List.mem_singleton, plugEv_ne_recEv, unplugEv_ne_recEv, or_false]
      exact hP.occ st z
    · rcases List.mem_append.1 hu with hu | hu
      · exact List.mem_append_left _ (hP.plug_first z hz hu)
      · simp at hu
  post := fun _ _ _ hP => ⟨rfl, hP⟩

theorem done_plugEv {x : Session} (hx : x ∈ cfg.sessions) {t : Int} : Done cfg t (plugEv x) ↔ x.arrival < t :=
  done_iff.trans (and_iff_right (mem_events.2 (Or.inl ⟨x, hx, rfl⟩)))

theorem done_unplugEv {x : Session} (hx : x ∈ cfg.sessions) {t : Int} : Done cfg t (unplugEv x) ↔ x.departure < t :=
  done_iff.trans (and_iff_right (mem_events.2 (Or.inr (Or.inl ⟨x, hx, rfl⟩))))

theorem occH_iff_at_head (hv : ValidQ cfg) {t : Nat} {hist : List Event} {occ : String → Option Session}
    (hm : ∀ e, e ∈ hist ↔ Done cfg t e) :
    OccH cfg hist occ ↔ ∀ st x, occ st = some x ↔
      x ∈ cfg.sessions ∧ x.station = st ∧ x.arrival < t ∧ (t : Int) ≤ x.departure := by
  have key : ∀ x ∈ cfg.sessions, (plugEv x ∈ hist ∧ unplugEv x ∉ hist) ↔ (x.arrival < t ∧ (t : Int) ≤ x.departure) :=
    fun x hx => by rw [hm, hm, done_plugEv hx, done_unplugEv hx, not_lt]
  constructor
  · intro h st x
    rw [h.occ st x]
    exact ⟨fun ⟨a, b, c⟩ => ⟨a, b, (key x a).1 c⟩, fun ⟨a, b, c⟩ => ⟨a, b, (key x a).2 c⟩⟩
  · intro h
    refine ⟨fun st x => ?_, fun x hx hu => ?_⟩
    · rw [h st x]
      exact ⟨fun ⟨a, b, c⟩ => ⟨a, b, (key x a).2 c⟩, fun ⟨a, b, c⟩ => ⟨a, b, (key x a).1 c⟩⟩
    · rw [hm, done_unplugEv hx] at hu
      rw [hm, done_plugEv hx]
      have := hv.arr_lt_dep x hx; omega

theorem inv_iff (hv : ValidQ cfg) {t : Nat} {c : Core} :
    Inv cfg t c ↔ InvG cfg t c ∧ OccH cfg c.eventHist c.occ :=
  ⟨fun h => ⟨InvG.of_head h.iter h.pend_nodup h.pend_mem h.resolve h.hist_nodup h.hist_mem h.hist_sorted h.evh,
      (occH_iff_at_head hv h.hist_mem).2 h.occ⟩,
    fun ⟨h, ho⟩ => ⟨h.iter, h.pend_nodup, h.pend_iff, (occH_iff_at_head hv h.hist_iff).1 ho, h.resolve,
      h.hist_nodup, h.hist_iff, h.hist_sorted, h.evh⟩⟩

theorem occH_mid (hv : ValidQ cfg) {t : Nat} {c : Core} (hM : MidG cfg t c) {occ : String → Option Session}
    (hO : OccH cfg c.eventHist occ) (st : String) (x : Session) :
    occ st = some x ↔ x ∈ cfg.sessions ∧ x.station = st ∧ x.arrival ≤ t ∧ (t : Int) < x.departure := by
  have hm : ∀ e, e ∈ c.eventHist ↔ Done cfg ((t + 1 : Nat) : Int) e := fun e =>
    ((next_period hv hM.hist hM.pend).2 e).trans (by push_cast; rfl)
  rw [(occH_iff_at_head hv hm).1 hO st x]
  push_cast
  constructor <;> rintro ⟨a, b, c', d⟩ <;> exact ⟨a, b, by omega, by omega⟩

theorem eventsStageQ_ok (hv : Valid cfg) (hq : ops.Ok good) {t : Nat} {c : Core} (hI : Inv cfg t c)
    (hG : good c.pending) :
    ∃ c1, eventsStageQ ops cfg c = (c1, none) ∧ c1.invoked = c.invoked ∧ Mid cfg t c1 ∧ good c1.pending := by
  obtain ⟨hIG, hO⟩ := (inv_iff hv.toQ).1 hI
  obtain ⟨g1, h1, h2, hM, hG1, hO1⟩ := eventsStageG_ok (g := toG c) hv.toQ hq (chargingNet_netInv hv) hIG hG hO
  have he := eventsStageG_charging ops cfg (toG c)
  rw [h1] at he
  exact ⟨ofG g1, he.symm, h2,
    ⟨hM.iter, hM.hist, hM.pend, occH_mid hv.toQ hM hO1, hM.evh⟩, hG1⟩

theorem bodyQ_ok (hv : Valid cfg) (hq : ops.Ok good) {sched apply : Core → Option Err}
    (hs : ∀ c, sched c = none) (ha : ∀ c, apply c = none) {t : Nat} {c : Core} (hI : Inv cfg t c)
    (hG : good c.pending) :
    ∃ c', bodyQ ops cfg sched apply c = (c', none) ∧ Inv cfg (t + 1) c' ∧ good c'.pending := by
  obtain ⟨hIG, hO⟩ := (inv_iff hv.toQ).1 hI
  obtain ⟨g', h1, hI', hG', hO'⟩ := bodyG_ok (g := toG c) (sched := fun g => sched (ofG g))
    (apply := fun g => apply (ofG g)) hv.toQ hq (chargingNet_netInv hv) (fun _ => hs _) (fun _ => ha _) hIG hG hO
  have hb := bodyG_charging ops cfg sched apply (toG c)
  rw [h1] at hb
  exact ⟨ofG g', hb.symm, (inv_iff hv.toQ).2 ⟨hI'.with_occ _, hO'⟩, hG'⟩

theorem runQ_spec (hv : Valid cfg) (hq : ops.Ok good) {sched apply : Core → Option Err}
    (hs : ∀ c, sched c = none) (ha : ∀ c, apply c = none) : ∀ (n t : Nat) (c : Core), Inv cfg t c →
    good c.pending → t ≤ horizon cfg →
    ∃ c', runQ ops cfg sched apply n c = (c', none) ∧ Inv cfg (min (t + n) (horizon cfg)) c' := by
  intro n t c hI hG ht
  obtain ⟨c', hr, h⟩ := loopE_counted_ok (body := bodyQ ops cfg sched apply)
    (I := fun t c => Inv cfg t c ∧ good c.pending) (horizon cfg) (fun _ _ h => h.1.guard_iff hv)
    (fun _ _ h _ => bodyQ_ok hv hq hs ha h.1 h.2) n t c ⟨hI, hG⟩ ht
  exact ⟨c', (runQ_eq ops cfg sched apply n c).trans hr, h.1⟩

theorem runQ_terminates (hv : Valid cfg) (hq : ops.Ok good) {sched apply : Core → Option Err}
    (hs : ∀ c, sched c = none) (ha : ∀ c, apply c = none) {c0 : Core} (h0 : Inv cfg 0 c0)
    (g0 : good c0.pending) (n : Nat) (hn : horizon cfg ≤ n) :
    ∃ c, runQ ops cfg sched apply n c0 = (c, none) ∧ c.pending = [] ∧ c.resolve = false ∧
      c.iter = horizon cfg ∧ Inv cfg (horizon cfg) c := by
  obtain ⟨c, hr, hI⟩ := runQ_spec hv hq hs ha n 0 c0 h0 g0 (Nat.zero_le _)
  rw [Nat.min_eq_right (by omega)] at hI
  exact ⟨c, hr, hI.pending_nil hv, hI.resolve, hI.iter, hI⟩

theorem eventsStage_ok (hv : Valid cfg) {t : Nat} {c : Core} (hI : Inv cfg t c) :
    ∃ c1, eventsStage cfg c = (c1, none) ∧ c1.invoked = c.invoked ∧ Mid cfg t c1 := by
  obtain ⟨c1, h1, h2, hM, _⟩ := eventsStageQ_ok hv canonQ_ok hI trivial
  exact ⟨c1, eventsStageQ_canon cfg c ▸ h1, h2, hM⟩

theorem body_ok (hv : Valid cfg) {sched apply : Core → Option Err} (hs : ∀ c, sched c = none)
    (ha : ∀ c, apply c = none) {t : Nat} {c : Core} (hI : Inv cfg t c) :
    ∃ c', body cfg sched apply c = (c', none) ∧ Inv cfg (t + 1) c' := by
  obtain ⟨c', hb, hI', _⟩ := bodyQ_ok hv canonQ_ok hs ha hI trivial
  exact ⟨c', bodyQ_canon cfg sched apply c ▸ hb, hI'⟩

theorem run_spec (hv : Valid cfg) {sched apply : Core → Option Err} (hs : ∀ c, sched c = none)
    (ha : ∀ c, apply c = none) (n t : Nat) (c : Core) (hI : Inv cfg t c) (ht : t ≤ horizon cfg) :
    ∃ c', run cfg sched apply n c = (c', none) ∧ Inv cfg (min (t + n) (horizon cfg)) c' :=
  runQ_canon cfg sched apply n c ▸ runQ_spec hv canonQ_ok hs ha n t c hI trivial ht

end
end Acn.EventCore
