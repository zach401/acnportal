/-
  T1c (DESIGN §17), stateful methods — contrib `StochasticNetwork.available_evses` / `plugin` / `unplug` refine the
  hand model `Stoch.Net.free` / `Net.plugin` / `Net.unplug` of AcnModel/Stochastic.lean, the functions C19's
  theorems are about (group StochOps; property C19).

  `AcnModel/Gen/CodeStochOps.lean` is regenerated on every run from contrib/acnsim/network/stochastic_network.py
  (and from the methods it calls: `EV.update_station_id`, `BaseEVSE.plugin/unplug`, `ChargingNetwork.plugin` as
  `super().plugin`, translated on a representation whose `station_id` may be None).
  `random.choice(available_spots)` is `pyChoice ρ`: the element at index `ρ mod len`; the tie instantiates `ρ := cs
  s.draws`, the model's choice stream. `waiting_queue` (OrderedDict) is an association list in insertion order:
  `popitem(last=False)` takes its head, `d[k] = v; d.move_to_end(k)` files `k` at the end, `del d[k]` erases it.

  The network object `p : PyStNet K` and the model state `s` are related by `Abs p s` (CodeTieStochDict.lean): equal
  stations, flag, occupancy (`stOcc`), queue keys and counters.  Each tie says: from related states the translated
  method and the model operation have the SAME OUTCOME (done / the same exception class) and end in related states —
  for every input, every draw.  None of the translated `AttributeError` / `IndexError` / inner `KeyError` paths is
  reachable.  Hypothesis `PyWf p`: `_EVSEs` has distinct keys (it is a dict) and queue entries are filed under their
  own session id; both are preserved by the methods (the last conjunct of each tie).

  What a translated method computes is stated once (`plugin_code_nil` / `_cons`, `unplug_code`).  A tie follows the
  case split of that equation; `Abs.of_get`, `Abs.is_waiting`, … (CodeTieStochDict.lean) carry each lookup over to the
  model state, and the model's own equation for the case (Lemmas/StochasticFlags.lean) does the rest.
-/
import AcnProofs.Lemmas.CodeTieStochDict
import AcnProofs.Lemmas.StochasticInv

set_option linter.unusedSectionVars false

namespace Acn.CodeTie.St
open Acn Acn.Gen.Code Acn.Stoch

section
variable {K : Type} [Add K] [Sub K] [Mul K] [Div K] [Neg K] [LT K] [LE K]
  [DecidableLT K] [DecidableLE K] [OfNat K 0] [OfNat K 1] [NatCast K] [HasExp K]

/-! ### available_evses -/

theorem available_eq_filter (d : List (String × PyStEvse K)) (hn : (keys d).Nodup) :
    d.filterMap (fun (kv : String × PyStEvse K) => if (kv.2.ev).isNone then some kv.1 else none) =
      (keys d).filter (fun st => ((dictGet? d st).bind (fun e => e.ev.map (·.session))).isNone) := by
  rw [Dict.filterMap_items d hn (fun k e => if e.ev.isNone then some k else none), ← List.filterMap_eq_filter]
  -- a key of the dict has an entry: free there iff that entry holds no EV
  refine List.filterMap_congr fun k hk => ?_
  obtain ⟨e, he⟩ := Option.isSome_iff_exists.1 ((get_isSome_iff d k).2 hk)
  simp only [Option.guard, he, Option.bind_some]
  cases hv : e.ev <;> simp

/-- `StochasticNetwork.available_evses()` is the model's free list, in the same (`_EVSEs`) order -/
theorem stnet_available_evses_tie (p : PyStNet K) (s : Net) (ha : Abs p s) (hw : PyWf p) :
    stnet_available_evses p = s.free := by
  unfold stnet_available_evses Net.free dictItems
  rw [ha.stations, ha.occ]
  exact available_eq_filter p.evses hw.keys_nodup

theorem free_evse (p : PyStNet K) (s : Net) (ha : Abs p s) (st : String) (h1 : st ∈ s.stations)
    (h2 : s.occ st = none) : ∃ evse, dictGet? p.evses st = some evse ∧ evse.ev = none := by
  rw [ha.stations, mem_stations_iff] at h1
  obtain ⟨evse, hg⟩ := Option.isSome_iff_exists.1 h1
  refine ⟨evse, hg, ?_⟩
  have ho := (ha.of_get hg).2
  rw [h2] at ho
  cases hv : evse.ev with
  | none => rfl
  | some e => rw [hv] at ho; cases ho

/-! ### `super().plugin(ev)` on a station that is registered and empty -/

theorem base_plugin_free (p : PyStNet K) (ev : PyStEv K) (st : String) (evse : PyStEvse K)
    (hs : ev.station = some st) (hg : dictGet? p.evses st = some evse) (he : evse.ev = none) :
    stnet_base_plugin p ev none =
      ({ p with evses := dictSet p.evses st { evse with ev := some ev } }, .ok ()) := by
  unfold stnet_base_plugin stevse_plugin
  simp [hs, hg, he]

/-- `ev` after `ev.update_station_id(o)` -/
def evAt (ev : PyStEv K) (o : Option String) : PyStEv K := { ev with station := o }
/-- an EVSE after `plugin(ev)` on it (empty before) -/
def evseHolding (evse : PyStEvse K) (ev : PyStEv K) : PyStEvse K := { evse with ev := some ev }
/-- an EVSE after `unplug()` -/
def evseVacated (evse : PyStEvse K) : PyStEvse K := { evse with ev := none, pilot := 0 }

/-! ### plugin -/

theorem choice_cons (ρ : Nat) (f : String) (fs : List String) :
    pyChoice ρ (f :: fs) = .ok ((f :: fs).getD (ρ % (fs.length + 1)) f) := by
  unfold pyChoice
  have hlt : ρ % (fs.length + 1) < (f :: fs).length := by
    rw [List.length_cons]; exact Nat.mod_lt _ (Nat.succ_pos _)
  simp only [List.length_cons]
  rw [List.getElem?_eq_getElem hlt]
  simp [List.getD_eq_getElem?_getD, List.getElem?_eq_getElem hlt]

/-- what the translated `plugin` computes when no EVSE is free: `ev.station_id := None`, filed at the end of the
    queue -/
theorem plugin_code_nil (ρ : Nat) (p : PyStNet K) (ev : PyStEv K) (sid : Option String)
    (h : stnet_available_evses p = []) :
    stnet_plugin ρ p ev sid =
      (({ p with waiting := dictMoveToEnd (dictSet p.waiting ev.session (evAt ev none)) ev.session },
        evAt ev none), .ok ()) := by
  unfold stnet_plugin
  have hget : dictGet? (dictSet p.waiting ev.session (evAt ev none)) ev.session = some (evAt ev none) := by
    rw [get_set]; simp
  simp only [evAt] at hget ⊢
  simp [h, stev_update_station_id, hget]

/-- what the translated `plugin` computes when the drawn EVSE `st` is registered and empty -/
theorem plugin_code_cons (ρ : Nat) (p : PyStNet K) (ev : PyStEv K) (sid : Option String) (f : String)
    (fs : List String) (h : stnet_available_evses p = f :: fs) (st : String)
    (hch : pyChoice ρ (f :: fs) = .ok st) (evse : PyStEvse K)
    (hg : dictGet? p.evses st = some evse) (he : evse.ev = none) :
    stnet_plugin ρ p ev sid =
      (({ p with evses := dictSet p.evses st (evseHolding evse (evAt ev (some st))) }, evAt ev (some st)), .ok ()) := by
  unfold stnet_plugin
  have hbp := base_plugin_free p (evAt ev (some st)) _ evse rfl hg he
  simp only [evAt, evseHolding] at hbp ⊢
  simp [h, hch, stev_update_station_id, hbp]

/-- `StochasticNetwork.plugin(ev)` with the draw `ρ = cs s.draws` refines `Net.plugin cs`: neither raises, the states
    stay related, and the `station_id` the code has written into `ev` is the one the model records for the session -/
theorem stnet_plugin_tie (p : PyStNet K) (s : Net) (ev : PyStEv K) (sid : Option String) (cs : Nat → Nat)
    (ha : Abs p s) (hw : PyWf p) :
    ∃ s', s.plugin cs ev.session = .ok s' ∧
      (stnet_plugin (cs s.draws) p ev sid).2 = .ok () ∧
      Abs (stnet_plugin (cs s.draws) p ev sid).1.1 s' ∧
      (stnet_plugin (cs s.draws) p ev sid).1.2.station = (s'.ev ev.session).station ∧
      (stnet_plugin (cs s.draws) p ev sid).1.2.session = ev.session ∧
      PyWf (stnet_plugin (cs s.draws) p ev sid).1.1 := by
  have hav := stnet_available_evses_tie p s ha hw
  cases hf : s.free with
  | nil =>
    rw [plugin_code_nil _ p ev sid (hav.trans hf)]
    refine ⟨{ s.modEv ev.session (fun r => { r with station := none, queued := true }) with
              waiting := s.waiting.erase ev.session ++ [ev.session] }, by simp only [Net.plugin, hf], rfl, ?_, ?_, rfl, ?_⟩
    · refine ⟨ha.stations, ha.early, ha.occ, ?_, ha.swaps, ha.never, ha.earlyU⟩
      show s.waiting.erase ev.session ++ [ev.session] = _
      rw [ha.waiting]
      exact (set_move_keys p.waiting ev.session _).symm
    · simp [Net.modEv, evAt]
    · refine ⟨hw.keys_nodup, ?_⟩
      intro k e hm
      rcases mem_set _ _ _ _ (mem_move _ _ _ hm) with h | h
      · exact hw.wait_key k e h
      · cases h; rfl
  | cons f fs =>
    obtain ⟨hst, hocc⟩ := getD_mod_mem_free hf (cs s.draws)
    obtain ⟨evse, hg, he⟩ := free_evse p s ha _ hst hocc
    have hm : s.plugin cs ev.session =
        ({ s.modEv ev.session (fun r => { r with station := some ((f :: fs).getD (cs s.draws % (fs.length + 1)) f) })
            with draws := s.draws + 1 } : Net).attach ev.session := by
      simp only [Net.plugin, hf]
    rw [plugin_code_cons _ p ev sid f fs (hav.trans hf) _ (choice_cons _ f fs) evse hg he, hm]
    generalize (f :: fs).getD (cs s.draws % (fs.length + 1)) f = st at hst hocc hg ⊢
    refine ⟨(({ s.modEv ev.session (fun r => { r with station := some st }) with draws := s.draws + 1 } : Net).setOcc st
        (some ev.session)).modEv ev.session (fun r => { r with plugged := true }), ?_, rfl, ?_, ?_, rfl,
        hw.of_eq (Dict.set_keys_of_get _ hg) (fun kv h => h)⟩
    · exact attach_eq _ _ st (by simp [Net.modEv]) hst hocc
    · refine ⟨?_, ha.early, ?_, ha.waiting, ha.swaps, ha.never, ha.earlyU⟩
      · exact ha.stations.trans (Dict.set_keys_of_get _ hg).symm
      · show (fun t => if t = _ then some ev.session else s.occ t) = _
        show _ = occE (dictSet p.evses _ _)
        rw [occE_set, ha.occ]
        rfl
    · simp [Net.modEv, Net.setOcc, evAt]

/-- what the translated `unplug` computes, the translator's repeated lookups and dead raises removed -/
theorem unplug_code (p : PyStNet K) (st? : Option String) (x : String) :
    stnet_unplug p st? (some x) =
      match dictGet? p.waiting x with
      | some _ => ({ p with waiting := dictDel p.waiting x, neverCharged := p.neverCharged + 1 }, .ok ())
      | none =>
        match st? with
        | none => (p, .error .KeyError)
        | some st =>
          match dictGet? p.evses st with
          | none => (p, .error .KeyError)
          | some evse =>
            if evse.ev.map (·.session) = some x then
              match p.waiting with
              | [] => ({ p with evses := dictSet p.evses st (evseVacated evse) }, .ok ())
              | (_, nev) :: w =>
                ({ p with evses := dictSet (dictSet p.evses st (evseVacated evse)) st
                            (evseHolding (evseVacated evse) (evAt nev (some st))),
                          waiting := w, swaps := p.swaps + 1 }, .ok ())
            else (p, .ok ()) := by
  unfold stnet_unplug
  cases h1 : dictGet? p.waiting x with
  | some e0 => simp [h1]
  | none =>
    cases st? with
    | none => simp [h1]
    | some st =>
      cases hg : dictGet? p.evses st with
      | none => simp [h1, hg]
      | some evse =>
        cases hv : evse.ev with
        | none => simp [h1, hg, hv]
        | some e0 =>
          by_cases hx : x = e0.session
          · subst hx
            cases hq : p.waiting with
            | nil => rw [hq] at h1; simp [h1, hg, hv, stevse_unplug, evseVacated]
            | cons kv w =>
              rw [hq] at h1
              -- `super().plugin(next_ev)` finds the EVSE it has just vacated
              have hbp := base_plugin_free
                ({ p with evses := dictSet p.evses st (evseVacated evse), waiting := w } : PyStNet K)
                (evAt kv.2 (some st)) st (evseVacated evse) rfl (by rw [get_set]; simp) rfl
              simp only [evAt, evseHolding, evseVacated] at hbp ⊢
              simp [h1, hg, hv, stevse_unplug, dictPopFirst?, stev_update_station_id, hbp]
          · simp [h1, hg, hv, hx, Ne.symm hx]

/-- `StochasticNetwork.unplug(station_id, session_id)` with a session id refines `Net.unplug`: the same outcome
    (done / `KeyError`), related states afterwards, and the object is unchanged when it raises.  Covers the queue branch
    (`never_charged`), the `pass` branches (empty EVSE, another EV's session) and the swap (`popitem(last=False)`:
    the OLDEST waiting EV gets the station, `swaps += 1`). -/
theorem stnet_unplug_tie (p : PyStNet K) (s : Net) (st? : Option String) (x : String) (ha : Abs p s) (hw : PyWf p) :
    (stnet_unplug p st? (some x)).2 = outcome (s.unplug st? x) ∧
      (∀ s', s.unplug st? x = .ok s' → Abs (stnet_unplug p st? (some x)).1 s') ∧
      (∀ e, s.unplug st? x = .error e → (stnet_unplug p st? (some x)).1 = p) ∧
      PyWf (stnet_unplug p st? (some x)).1 := by
  -- the case split is the code's; `Abs` carries each lookup over to the model, whose equation for that case is
  -- then used
  rw [unplug_code]
  cases h1 : dictGet? p.waiting x with
  | some e0 =>
    rw [unplug_of_mem st? (ha.is_waiting h1)]
    refine ⟨rfl, ?_, (fun e h => by cases h), hw.of_eq rfl (fun kv h => mem_del _ _ _ h)⟩
    intro s' h; cases h
    refine ⟨ha.stations, ha.early, ha.occ, ?_, ha.swaps, ?_, ha.earlyU⟩
    · show s.waiting.erase x = keys (dictDel p.waiting x)
      rw [del_keys, ha.waiting]; rfl
    · show s.neverCharged + 1 = p.neverCharged + 1
      rw [ha.never]
  | none =>
    have hxw := ha.not_waiting h1
    have keyErr : ∀ st?, (∀ st, st? = some st → st ∉ s.stations) → s.unplug st? x = .error .keyError := by
      intro st? h
      cases st? with
      | none => simp [Net.unplug, hxw]
      | some st => simp [Net.unplug, hxw, h st rfl]
    cases st? with
    | none =>
      rw [keyErr none (fun _ h => by cases h)]
      exact ⟨rfl, (fun s' h => by cases h), (fun e _ => rfl), hw⟩
    | some st =>
      dsimp only
      cases hg : dictGet? p.evses st with
      | none =>
        rw [keyErr (some st) (fun _ h => by cases h; exact ha.no_station hg)]
        exact ⟨rfl, (fun s' h => by cases h), (fun e _ => rfl), hw⟩
      | some evse =>
        obtain ⟨hst, hocc⟩ := ha.of_get hg
        dsimp only
        by_cases hx : evse.ev.map (·.session) = some x
        · rw [if_pos hx, unplug_of_occ hxw hst (hocc.trans hx)]
          have hkeys : keys (dictSet p.evses st (evseVacated evse)) = keys p.evses := Dict.set_keys_of_get _ hg
          -- `cases` also rewrites the `waiting := p.waiting` that `{ p with evses := … }` stands for
          cases hq : p.waiting with
          | nil =>
            have hsw : s.waiting = [] := by rw [ha.waiting, stWaiting, hq]; rfl
            rw [admitNext_nil st (s := s.setOcc st none) hsw]
            refine ⟨rfl, ?_, (fun e h => by cases h), hw.of_eq hkeys (fun kv h => nomatch h)⟩
            intro s' h; cases h
            refine ⟨ha.stations.trans hkeys.symm, ha.early, ?_, hsw, ha.swaps, ha.never, ha.earlyU⟩
            show (fun t => if t = st then none else s.occ t) = occE (dictSet p.evses st (evseVacated evse))
            rw [occE_set, ha.occ]; rfl
          | cons kv w =>
            obtain ⟨k, nev⟩ := kv
            have hk : nev.session = k := hw.wait_key k nev (by rw [hq]; exact List.mem_cons_self)
            have hsw : s.waiting = k :: keys w := by rw [ha.waiting, stWaiting, hq]; rfl
            rw [admitNext_cons (s.setOcc st none) st k (keys w) hsw hst (by simp [Net.setOcc])]
            have hkeys2 : keys (dictSet (dictSet p.evses st (evseVacated evse)) st
                (evseHolding (evseVacated evse) (evAt nev (some st)))) = keys p.evses :=
              (Dict.set_keys_of_get (v0 := evseVacated evse) _ (by rw [get_set]; simp)).trans hkeys
            refine ⟨rfl, ?_, (fun e h => by cases h),
              hw.of_eq hkeys2 (fun kv h => by rw [hq]; exact List.mem_cons_of_mem _ h)⟩
            intro s' h; cases h
            refine ⟨ha.stations.trans hkeys2.symm, ha.early, ?_, rfl, ?_, ha.never, ha.earlyU⟩
            · show (fun t => if t = st then some k else (if t = st then none else s.occ t)) =
                occE (dictSet (dictSet p.evses st (evseVacated evse)) st _)
              rw [occE_set, occE_set, ha.occ]
              funext t
              by_cases ht : t = st
              · -- on `st`: the new occupant is the queue head, filed under its own session id
                simp only [ht, if_true, evseHolding, evAt, Option.map_some, hk]
              · simp only [ht, if_false]; rfl
            · show s.swaps + 1 = p.swaps + 1
              rw [ha.swaps]
        · rw [if_neg hx, unplug_of_ne hxw hst (by rw [hocc]; exact hx)]
          exact ⟨rfl, (fun s' h => by cases h; exact ha), (fun e h => by cases h), hw⟩

/-- without a session id (the deprecated call form) the stochastic network refuses: `ValueError` for a registered
    station, `KeyError` otherwise; nothing changes -/
theorem stnet_unplug_none (p : PyStNet K) (st? : Option String) :
    stnet_unplug p st? none =
      (p, .error (if (match st? with | none => false | some k => (dictGet? p.evses k).isSome) then .ValueError
                  else .KeyError)) := by
  unfold stnet_unplug
  cases st? with
  | none => rfl
  | some st => cases h : (dictGet? p.evses st).isSome <;> simp [h]

end

/-- every target of this group was translated in this run -/
theorem all_translated_stochops : translatedStochOps =
    ["stev_update_station_id", "stevse_plugin", "stevse_unplug", "stnet_base_plugin", "stnet_available_evses",
     "stnet_plugin", "stnet_unplug", "stnet_post_charging_update"] := rfl

end Acn.CodeTie.St
