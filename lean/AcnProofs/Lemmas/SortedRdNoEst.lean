/-
  With `estimate_max_rate = False` the estimator is neither read nor written: the stateful scheduler
  `SimSortedRd.sortedSchedSt` is the pure adapter `SimSorted.sortedSched` lifted.
-/
import AcnProofs.Lemmas.SimStRun
import AcnProofs.Lemmas.SortedEst

set_option linter.unusedSectionVars false

namespace Acn.Sorted
open Acn

section
variable {K : Type} [Field K] [LinearOrder K] [IsStrictOrderedRing K]

theorem preprocess_noest (feas : List K → Bool) (cfg : Config K) (infra : Infra K) (period : K)
    (prev : String → Option (K × K)) (rd : Rampdown K) (l : List (Session K))
    (hest : cfg.estimate = false) :
    preprocess feas cfg infra period prev rd l =
      (if cfg.uninterrupted then
          applyMinimumRate feas infra period (enforcePilotLimit infra (removeFinished infra period l))
        else enforcePilotLimit infra (removeFinished infra period l), rd) := by
  unfold preprocess
  simp only [hest, Bool.false_eq_true, if_false]

theorem scheduleCall_noest [HasCeilNat K] (feas : List K → Bool) (cfg : Config K) (infra : Infra K)
    (period : K) (time : Int) (prev prev' : String → Option (K × K)) (rd rd' : Rampdown K)
    (raw : List (Session K)) (hest : cfg.estimate = false) :
    (scheduleCall feas cfg infra period time prev rd raw).result =
      (scheduleCall feas cfg infra period time prev' rd' raw).result ∧
    (scheduleCall feas cfg infra period time prev rd raw).rd = rd := by
  rw [scheduleCall_result, scheduleCall_result, scheduleCall_rd]
  cases resolve infra raw with
  | error e => exact ⟨rfl, rfl⟩
  | ok l =>
    simp only
    rw [preprocess_noest feas cfg infra period prev rd l hest,
      preprocess_noest feas cfg infra period prev' rd' l hest]
    exact ⟨rfl, rfl⟩

end
end Acn.Sorted

namespace Acn.SimSortedRd
open Acn Acn.Sorted

theorem sortedSchedSt_noest {K : Type} [Field K] [LinearOrder K] [IsStrictOrderedRing K]
    [HasCeilNat K] [HasExp K] (net : SimSorted.NetInfo K) (inf : K) (cfg : Sim.Cfg K)
    (scfg : Config K) (hest : scfg.estimate = false) :
    sortedSchedSt net inf cfg scfg = lift (SimSorted.sortedSched net inf cfg scfg) := by
  funext rd v
  have hcfg : ({ scfg with estimate := false } : Config K) = scfg := by
    cases scfg; simp only at hest; subst hest; rfl
  unfold sortedSchedSt lift SimSorted.sortedSched
  simp only [hcfg]
  obtain ⟨h1, h2⟩ := scheduleCall_noest (SimSorted.feasOf net) scfg (SimSorted.infraOf inf cfg)
    cfg.period (v.iter : Int) (prevOf v) (fun _ => none) rd
    { upTh := 0, downTh := 0, upInc := 0, bounds := [] }
    (v.active.map (SimSorted.sessionOfEv inf v.iter)) hest
  rw [h2, h1]
  cases (scheduleCall (SimSorted.feasOf net) scfg (SimSorted.infraOf inf cfg) cfg.period (v.iter : Int)
    (fun _ => none) { upTh := 0, downTh := 0, upInc := 0, bounds := [] }
    (v.active.map (SimSorted.sessionOfEv inf v.iter))).result <;> rfl

end Acn.SimSortedRd
