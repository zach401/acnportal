/-
  Crash / resume (C09) for the simulator loop whose scheduler carries STATE from call to call
  (`AcnModel/SimSortedRd.lean: runSt`; the sorted algorithms with the `SimpleRampdown` estimator are such a scheduler).

  `failAtSt k sched` raises in period `k` BEFORE the scheduler touches its state (the exception leaves
  `scheduler.run()` before `schedule()` is entered, or inside it before anything is written).  The run aborts after
  the events of period `k`; re-running `bodySt` on the failed state, with the scheduler state the surviving algorithm
  object holds, pops nothing, still needs a schedule and therefore continues exactly like the un-failed period
  (`bodySt_retry`).  Where the failing run stops is the crash point of the loop (`StepsCrash.loop_crash`, `runSt` being a
  loop over pairs of simulator and scheduler state); `resume_runSt` puts the two together: same simulator state up to
  the ghost field `invoked` AND the same final scheduler state, for every `k`, every fuel, every start state satisfying `NoOverdue`.
  Nothing is assumed about the scheduler.  `Sim.run` with a pure scheduler is the instance `lift sched`.  At the end,
  the store invariant along `runSt` (`RegistrySim.runSt_sinv`).
-/
import AcnProofs.Lemmas.ResumeRun
import AcnProofs.Lemmas.RegistryCalls
import AcnProofs.Lemmas.SimStRun
import AcnProofs.Lemmas.StepsCrash
import AcnProofs.Lemmas.SimStages2

set_option linter.unusedSectionVars false

namespace Acn.SimSortedRd
open Acn Acn.EventCore Acn.Sim Acn.Steps

variable {K : Type} [Add K] [Sub K] [Mul K] [Div K] [Neg K] [LT K] [LE K]
  [DecidableLT K] [DecidableLE K] [OfNat K 0] [OfNat K 1] [NatCast K] [HasExp K]
variable {σ : Type}

def failAtSt (k : Nat) (sched : σ → View K → Except Err (Schedule K × σ)) :
    σ → View K → Except Err (Schedule K × σ) :=
  fun st v => if v.iter = k then .error .schedulerFailed else sched st v

def ObsEqRS (r r' : (State K × Option Err) × σ) : Prop := ObsEqR r.1 r'.1 ∧ r.2 = r'.2

theorem ObsEqRS.symm {a b : (State K × Option Err) × σ} (h : ObsEqRS a b) : ObsEqRS b a := ⟨h.1.symm, h.2.symm⟩
theorem ObsEqRS.trans {a b c : (State K × Option Err) × σ} (h : ObsEqRS a b) (h' : ObsEqRS b c) : ObsEqRS a c :=
  ⟨h.1.trans h'.1, h.2.trans h'.2⟩

def afterEventsSt (cfg : Cfg K) (sched : σ → View K → Except Err (Schedule K × σ)) (st : σ) (s1 : State K) :
    (State K × Option Err) × σ :=
  if needsSched cfg.maxRecompute s1.core then
    match schedStageSt cfg sched st { s1 with core := markInvoked s1.core } with
    | .error e => (({ s1 with core := markInvoked s1.core }, some e), st)
    | .ok (m, st') => (applyStage cfg { s1 with pilots := m, core := markScheduled (markInvoked s1.core) }, st')
  else (applyStage cfg s1, st)

theorem bodySt_eq (cfg : Cfg K) (sched : σ → View K → Except Err (Schedule K × σ)) (st : σ) (s : State K) :
    bodySt cfg sched st s = match eventsStage cfg s with
      | (s1, some e) => ((s1, some e), st)
      | (s1, none) => afterEventsSt cfg sched st s1 := rfl

theorem afterEventsSt_failAt (cfg : Cfg K) (sched : σ → View K → Except Err (Schedule K × σ)) (st : σ) (k : Nat)
    (s1 : State K) :
    afterEventsSt cfg (failAtSt k sched) st s1 =
      if s1.core.iter = k ∧ needsSched cfg.maxRecompute s1.core = true ∧
          (activeEvs cfg { s1 with core := markInvoked s1.core }).any (fun e => !sessionInfoOk e) = false then
        (({ s1 with core := markInvoked s1.core }, some .schedulerFailed), st)
      else afterEventsSt cfg sched st s1 := by
  have hv : failAtSt k sched st (view cfg { s1 with core := markInvoked s1.core }) =
      if s1.core.iter = k then .error .schedulerFailed
      else sched st (view cfg { s1 with core := markInvoked s1.core }) := rfl
  unfold afterEventsSt schedStageSt
  rw [hv]
  by_cases hn : needsSched cfg.maxRecompute s1.core = true
  · cases hg : (activeEvs cfg { s1 with core := markInvoked s1.core }).any (fun e => !sessionInfoOk e) <;>
      by_cases hk : s1.core.iter = k <;> simp [hn, hk]
  · simp [hn]

theorem bodySt_failAt_ne (cfg : Cfg K) (sched : σ → View K → Except Err (Schedule K × σ)) (st : σ)
    {k : Nat} {s : State K} (h : s.core.iter ≠ k) :
    bodySt cfg (failAtSt k sched) st s = bodySt cfg sched st s := by
  rw [bodySt_eq, bodySt_eq]
  have hi := Sim.eventsStage_iter cfg s
  rcases he : eventsStage cfg s with ⟨s1, _ | err⟩ <;> rw [he] at hi <;> simp only [] at hi ⊢
  rw [afterEventsSt_failAt, if_neg fun hc => h (hi ▸ hc.1)]

theorem bodySt_failAt_eq (cfg : Cfg K) (sched : σ → View K → Except Err (Schedule K × σ)) (st : σ)
    (k : Nat) (s : State K) :
    bodySt cfg (failAtSt k sched) st s = bodySt cfg sched st s ∨
    ∃ s1, eventsStage cfg s = (s1, none) ∧ needsSched cfg.maxRecompute s1.core = true ∧
      (activeEvs cfg { s1 with core := markInvoked s1.core }).any (fun e => !sessionInfoOk e) = false ∧
      bodySt cfg (failAtSt k sched) st s = (({ s1 with core := markInvoked s1.core }, some .schedulerFailed), st) := by
  rw [bodySt_eq, bodySt_eq]
  rcases he : eventsStage cfg s with ⟨s1, _ | err⟩ <;> simp only []
  · rw [afterEventsSt_failAt]
    split
    · next hc => exact Or.inr ⟨s1, rfl, hc.2.1, hc.2.2, rfl⟩
    · exact Or.inl rfl
  · exact Or.inl trivial

/-! ### `ObsEq` is a congruence for `bodySt` and `runSt` (simulator outcome AND scheduler state) -/

theorem schedStageSt_withInv (cfg : Cfg K) (sched : σ → View K → Except Err (Schedule K × σ)) (st : σ)
    (l : List Nat) (s : State K) :
    schedStageSt cfg sched st (withInv l s) = schedStageSt cfg sched st s := rfl

theorem afterEventsSt_withInv (cfg : Cfg K) (sched : σ → View K → Except Err (Schedule K × σ)) (st : σ)
    (l : List Nat) (s : State K) :
    ObsEqRS (afterEventsSt cfg sched st (withInv l s)) (afterEventsSt cfg sched st s) := by
  unfold afterEventsSt
  have hn : needsSched cfg.maxRecompute (withInv l s).core = needsSched cfg.maxRecompute s.core := rfl
  rw [hn]
  by_cases h : needsSched cfg.maxRecompute s.core = true
  · simp only [h, if_true]
    have e1 : ({ withInv l s with core := markInvoked (withInv l s).core } : State K)
        = withInv (l ++ [s.core.iter]) { s with core := markInvoked s.core } := rfl
    rw [e1, schedStageSt_withInv]
    rcases schedStageSt cfg sched st { s with core := markInvoked s.core } with e | ⟨m, st'⟩ <;> simp only []
    · exact ⟨⟨rfl, rfl⟩, rfl⟩
    · have e2 : ({ withInv l s with pilots := m, core := markScheduled (markInvoked (withInv l s).core) } : State K)
          = withInv (l ++ [s.core.iter]) { s with pilots := m, core := markScheduled (markInvoked s.core) } := rfl
      rw [e2, applyStage_withInv]
      exact ⟨⟨obsEq_withInv _ _, rfl⟩, rfl⟩
  · simp only [h]
    rw [applyStage_withInv]
    exact ⟨⟨obsEq_withInv _ _, rfl⟩, rfl⟩

theorem bodySt_obs (cfg : Cfg K) (sched : σ → View K → Except Err (Schedule K × σ)) (st : σ) {s t : State K}
    (h : ObsEq s t) : ObsEqRS (bodySt cfg sched st t) (bodySt cfg sched st s) := by
  rw [h.eq_withInv, bodySt_eq, bodySt_eq, eventsStage_withInv]
  rcases eventsStage cfg s with ⟨s1, _ | err⟩ <;> simp only []
  · exact afterEventsSt_withInv cfg sched st _ s1
  · exact ⟨⟨rfl, rfl⟩, rfl⟩

theorem runSt_obs (cfg : Cfg K) (sched : σ → View K → Except Err (Schedule K × σ)) (n : Nat) (st : σ)
    {s t : State K} (h : ObsEq s t) : ObsEqRS (runSt cfg sched n st t) (runSt cfg sched n st s) := by
  -- loop heads that differ in the ghost record only, with the same scheduler state
  have hl := loopE_out (g := guardP) (g' := guardP) (body := bodyP cfg sched) (body' := bodyP cfg sched)
    (R := fun x y => ObsEq x.1 y.1 ∧ y.2 = x.2) (X := sep (fun x y => ObsEq x.1 y.1 ∧ y.2 = x.2) Eq)
    (fun a b hab => guard_obs hab.1)
    (fun a b hab _ => by
      obtain ⟨a1, a2⟩ := a
      obtain ⟨b1, b2⟩ := b
      obtain ⟨h1, rfl⟩ := hab
      have hb := bodySt_obs cfg sched b2 h1
      exact Out.of_eq hb.1.2 ⟨hb.1.1.symm, hb.2⟩)
    n (s, st) (t, st) ⟨h, rfl⟩
  have hr := hl.rel fun _ _ h => h
  rw [runSt_eq_loop, runSt_eq_loop]
  exact ⟨⟨hr.1.symm, hl.snd_eq⟩, hr.2⟩

theorem bodySt_retry (cfg : Cfg K) (sched : σ → View K → Except Err (Schedule K × σ)) (st : σ) {s s1 : State K}
    (hI : NoOverdue cfg.core s.core) (he : eventsStage cfg s = (s1, none)) :
    let s' : State K := { s1 with core := markInvoked s1.core }
    Fresh s'.core ∧ (guard s.core = true → guard s'.core = true) ∧
    ObsEqRS (bodySt cfg sched st s') (bodySt cfg sched st s) := by
  intro s'
  obtain ⟨hf, _, hg⟩ := eventsStage_mid hI he
  have hf' : Fresh s'.core := hf
  refine ⟨hf', hg, ?_⟩
  rw [bodySt_eq, bodySt_eq, he, eventsStage_of_fresh cfg hf']
  exact afterEventsSt_withInv cfg sched st (s1.core.invoked ++ [s1.core.iter]) s1

theorem bodySt_ok_core {cfg : Cfg K} {sched : σ → View K → Except Err (Schedule K × σ)} {st st' : σ} {s s' : State K}
    (h : bodySt cfg sched st s = ((s', none), st')) : Sim.body cfg (frozen sched st) s = (s', none) := by
  rw [← bodySt_fst, h]

theorem runSt_retry (cfg : Cfg K) (sched : σ → View K → Except Err (Schedule K × σ)) (st : σ) {h s1 : State K}
    (hI : NoOverdue cfg.core h.core) (hg : guard h.core = true) (he : eventsStage cfg h = (s1, none)) (m : Nat) :
    ObsEqRS (runSt cfg sched (m + 1) st { s1 with core := markInvoked s1.core }) (runSt cfg sched (m + 1) st h) := by
  obtain ⟨_, hg', hobs⟩ := bodySt_retry cfg sched st hI he
  simp only [runSt, hg' hg, hg, if_true]
  rcases h1 : bodySt cfg sched st { s1 with core := markInvoked s1.core } with ⟨⟨a, _ | e⟩, sa⟩ <;>
    rcases h2 : bodySt cfg sched st h with ⟨⟨b, _ | e'⟩, sb⟩ <;> rw [h1, h2] at hobs <;> simp only []
  · have h3 : sa = sb := hobs.2
    subst h3
    exact runSt_obs cfg sched m sa hobs.1.1.symm
  · exact absurd hobs.1.2 (by simp)
  · exact absurd hobs.1.2 (by simp)
  · exact hobs

theorem failsAtP (cfg : Cfg K) (sched : σ → View K → Except Err (Schedule K × σ)) (k : Nat) :
    FailsAt guardP (bodyP cfg sched) (bodyP cfg (failAtSt k sched)) (fun x => x.1.core.iter) k
      (fun x => NoOverdue cfg.core x.1.core) := by
  refine ⟨fun x hx => ?_, fun x hx hd => ?_, fun x x' hI _ _ hp => ?_⟩
  · simp only [bodyP, bodySt_failAt_ne cfg sched x.2 hx]
  · rcases bodySt_failAt_eq cfg sched x.2 k x.1 with hb | ⟨s1, _, _, _, hb⟩
    · exact absurd (by simp only [bodyP, hb]) hd
    · simp [bodyP, hb]
  · rcases hb : bodySt cfg sched x.2 x.1 with ⟨⟨s', r⟩, st'⟩
    simp only [bodyP, hb] at hp
    cases hp
    have := body_core_ok (bodySt_ok_core hb)
    exact ⟨EventCore.body_noOverdue hI this, (body_ok_next this).1⟩

theorem resume_runSt (cfg : Cfg K) (sched : σ → View K → Except Err (Schedule K × σ)) (k : Nat)
    (n : Nat) (st : σ) {s : State K} (hI : NoOverdue cfg.core s.core) (hk : s.core.iter ≤ k) :
      runSt cfg (failAtSt k sched) n st s = runSt cfg sched n st s ∨
      ((runSt cfg (failAtSt k sched) n st s).1.2 = some .schedulerFailed ∧
       (runSt cfg (failAtSt k sched) n st s).1.1.core.iter = k ∧
       Fresh (runSt cfg (failAtSt k sched) n st s).1.1.core ∧
       ObsEqRS (runSt cfg sched (n - (k - s.core.iter)) (runSt cfg (failAtSt k sched) n st s).2
                  (runSt cfg (failAtSt k sched) n st s).1.1)
               (runSt cfg sched n st s)) := by
  rcases loop_crash (failsAtP cfg sched k) n (s, st) hI hk with
    h | ⟨⟨h, sh⟩, m, _, hIh, hkh, hgh, hd, hm, h6, h7, _⟩
  · left
    rw [runSt_eq_loop, runSt_eq_loop, (loopE_congr_heads n (s, st) h).1]
  · right
    rcases bodySt_failAt_eq cfg sched sh k h with hb | ⟨s1, he, _, _, hb⟩
    · exact absurd (by simp only [bodyP, hb]) hd
    · have e1 : runSt cfg (failAtSt k sched) n st s
          = (({ s1 with core := markInvoked s1.core }, some .schedulerFailed), sh) := by
        rw [runSt_eq_loop, h6]; simp only [bodyP, hb]
      have e2 : runSt cfg sched n st s = runSt cfg sched (m + 1) sh h := by
        rw [runSt_eq_loop, h7, ← runSt_eq_loop]
      obtain ⟨hf, hi, _⟩ := eventsStage_mid hIh he
      rw [e1, e2, ← hm]
      exact ⟨rfl, hi.trans hkh, hf, runSt_retry cfg sched sh hIh hgh he m⟩

end Acn.SimSortedRd

/-! ### a pure scheduler is a stateful one that ignores the state (`lift`): the statements for `Sim.run` -/

namespace Acn.Sim
open Acn Acn.EventCore Acn.SimSortedRd

variable {K : Type} [Add K] [Sub K] [Mul K] [Div K] [Neg K] [LT K] [LE K]
  [DecidableLT K] [DecidableLE K] [OfNat K 0] [OfNat K 1] [NatCast K] [HasExp K]

theorem failAtSt_lift (k : Nat) (sched : View K → Except Err (Schedule K)) :
    failAtSt k (lift (σ := Unit) sched) = lift (failAt k sched) := by
  funext st v
  by_cases h : v.iter = k <;> simp [failAtSt, lift, failAt, h]

theorem body_failAt_ne (cfg : Cfg K) (sched : View K → Except Err (Schedule K)) {k : Nat} {s : State K}
    (h : s.core.iter ≠ k) : body cfg (failAt k sched) s = body cfg sched s := by
  have := bodySt_failAt_ne cfg (lift sched) () h
  rw [failAtSt_lift, bodySt_lift, bodySt_lift] at this
  exact congrArg Prod.fst this

theorem body_failAt_eq (cfg : Cfg K) (sched : View K → Except Err (Schedule K)) (k : Nat) (s : State K) :
    body cfg (failAt k sched) s = body cfg sched s ∨
    ∃ s1, eventsStage cfg s = (s1, none) ∧ needsSched cfg.maxRecompute s1.core = true ∧
      (activeEvs cfg { s1 with core := markInvoked s1.core }).any (fun e => !sessionInfoOk e) = false ∧
      body cfg (failAt k sched) s = ({ s1 with core := markInvoked s1.core }, some .schedulerFailed) := by
  rcases bodySt_failAt_eq cfg (lift sched) () k s with hb | ⟨s1, he, hn, hg, hb⟩
  · rw [failAtSt_lift, bodySt_lift, bodySt_lift] at hb
    exact Or.inl (congrArg Prod.fst hb)
  · rw [failAtSt_lift, bodySt_lift] at hb
    exact Or.inr ⟨s1, he, hn, hg, congrArg Prod.fst hb⟩

theorem body_obs (cfg : Cfg K) (sched : View K → Except Err (Schedule K)) {s t : State K} (h : ObsEq s t) :
    ObsEqR (body cfg sched t) (body cfg sched s) := by
  have := (bodySt_obs cfg (lift sched) () h).1
  rwa [bodySt_lift, bodySt_lift] at this

theorem run_obs (cfg : Cfg K) (sched : View K → Except Err (Schedule K)) (n : Nat) {s t : State K} (h : ObsEq s t) :
    ObsEqR (run cfg sched n t) (run cfg sched n s) := by
  have := (runSt_obs cfg (lift sched) n () h).1
  rwa [runSt_lift, runSt_lift] at this

/-- stated for the run as `C09.failed_body_idempotent_prefix` -/
theorem body_retry (cfg : Cfg K) (sched : View K → Except Err (Schedule K)) {s s1 : State K}
    (hI : NoOverdue cfg.core s.core) (he : eventsStage cfg s = (s1, none)) :
    let s' : State K := { s1 with core := markInvoked s1.core }
    (popCurrent s'.core.iter s'.core.pending).1 = [] ∧
    needsSched cfg.maxRecompute s'.core = needsSched cfg.maxRecompute s1.core ∧
    (guard s.core = true → guard s'.core = true) ∧
    ObsEqR (body cfg sched s') (body cfg sched s) := by
  obtain ⟨hf, hg, ho⟩ := bodySt_retry cfg (lift sched) () hI he
  refine ⟨by rw [popCurrent_nothing_due hf], rfl, hg, ?_⟩
  have := ho.1
  rwa [bodySt_lift, bodySt_lift] at this

theorem resume_run (cfg : Cfg K) (sched : View K → Except Err (Schedule K)) (k : Nat) :
    ∀ (n : Nat) {s : State K}, NoOverdue cfg.core s.core → s.core.iter ≤ k →
      run cfg (failAt k sched) n s = run cfg sched n s ∨
      ((run cfg (failAt k sched) n s).2 = some .schedulerFailed ∧
       (run cfg (failAt k sched) n s).1.core.iter = k ∧
       Fresh (run cfg (failAt k sched) n s).1.core ∧
       ObsEqR (run cfg sched (n - (k - s.core.iter)) (run cfg (failAt k sched) n s).1) (run cfg sched n s)) := by
  intro n s hI hk
  have := resume_runSt cfg (lift sched) k n () hI hk
  simp only [failAtSt_lift, runSt_lift] at this
  rcases this with h | ⟨h1, h2, h3, h4⟩
  · exact Or.inl (congrArg Prod.fst h)
  · exact Or.inr ⟨h1, h2, h3, h4.1⟩

end Acn.Sim

/-! ### every state a stateful run can leave behind is well-formed (so `to_json` / `from_json` round-trips it) -/

namespace Acn.RegistrySim
open Acn Acn.EventCore Acn.Sim Acn.SimSortedRd Acn.Steps

variable {K : Type} [Add K] [Sub K] [Mul K] [Div K] [Neg K] [LT K] [LE K]
  [DecidableLT K] [DecidableLE K] [OfNat K 0] [OfNat K 1] [NatCast K] [HasExp K]
variable {σ : Type}

/-- `run_sinv` with the scheduler state threaded: every period is a `Sim.body` under SOME pure scheduler -/
theorem runSt_sinv (cfg : Cfg K) (sched : σ → View K → Except Err (Schedule K × σ)) (hv : Valid cfg.core)
    (n t : Nat) (st : σ) (s : State K) (hI : Inv cfg.core t s.core) (h : SInv cfg s) :
    SInv cfg (runSt cfg sched n st s).1.1 := by
  rw [runSt_eq_loop]
  refine (loopE_inv (P := fun x : State K × σ => SInv cfg x.1 ∧ HeadOrMid cfg.core x.1.core)
    (fun x ⟨h, hm⟩ _ => ?_) n (a := (s, st)) ⟨h, Or.inl (by rw [hI.iter]; exact hI)⟩).1
  obtain ⟨c1, hes, _⟩ := hm.events hv
  show SInv cfg (bodySt cfg sched x.2 x.1).1.1 ∧ HeadOrMid cfg.core (bodySt cfg sched x.2 x.1).1.1.core
  rw [bodySt_fst]
  exact ⟨body_sinv cfg _ h hv.ids_nodup (by rw [hes]), (Sim.body_headOrMid hv _ hm).1⟩

end Acn.RegistrySim
