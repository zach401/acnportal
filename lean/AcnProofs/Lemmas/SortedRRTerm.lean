/-
  Termination of the round-robin deque loop: the measure
  `Σ_i (len levels_i − rate_idx_i) + |queue|` drops by exactly one on every trip, so the loop run
  with that much fuel ends with an empty deque.  Also `rrStep_stops_iff`: a session leaves the deque iff it is at its
  last level or its next level is infeasible.
-/
import AcnProofs.Lemmas.SortedRR

set_option linter.unusedSectionVars false

namespace Acn.Sorted
open Acn

theorem sum_range_update (f g : Nat → Nat) (i : Nat) :
    ∀ n, i < n → (∀ j, j ≠ i → g j = f j) → g i + 1 = f i →
      ((List.range n).map g).sum + 1 = ((List.range n).map f).sum := by
  intro n
  induction n with
  | zero => intro h; exact absurd h (by simp)
  | succ n ih =>
    intro hi hne hgi
    rw [List.range_succ, List.map_append, List.map_append, List.sum_append, List.sum_append]
    simp only [List.map_cons, List.map_nil, List.sum_cons, List.sum_nil, Nat.add_zero]
    by_cases hin : i = n
    · have hsame : (List.range n).map g = (List.range n).map f := by
        apply List.map_congr_left
        intro j hj
        have : j < n := List.mem_range.mp hj
        exact hne j (by omega)
      rw [hsame, ← hin]; omega
    · have := ih (by omega) hne hgi
      have hn : g n = f n := hne n (fun e => hin e.symm)
      omega

variable {K : Type} [Field K] [LinearOrder K] [IsStrictOrderedRing K]

def QueueIdxOk (st : RRState K) : Prop := ∀ s ∈ st.queue, s.idx < st.rateIdx.length

theorem rrStep_idxOk (feas : List K → Bool) (levels : List (List K)) (st : RRState K)
    (h : QueueIdxOk st) : QueueIdxOk (rrStep feas levels st) := by
  cases hq : st.queue with
  | nil => rw [rrStep_nil feas levels hq]; exact h
  | cons s rest =>
    have hrest : ∀ t ∈ rest, t.idx < st.rateIdx.length :=
      fun t ht => h t (by rw [hq]; exact List.mem_cons_of_mem _ ht)
    have hm := rrStep_move feas levels hq
    generalize rrStep feas levels st = st' at hm
    cases hm with
    | raise _ _ =>
      intro t ht
      simp only [List.length_set]
      rcases List.mem_append.mp ht with ht | ht
      · exact hrest t ht
      · rw [List.mem_singleton.mp ht]; exact h s (by rw [hq]; exact List.mem_cons_self)
    | blocked _ _ => exact hrest
    | top _ => exact hrest

theorem rrStep_measure (feas : List K → Bool) (levels : List (List K)) (st : RRState K)
    (hne : st.queue ≠ []) (h : QueueIdxOk st) :
    rrMeasure levels (rrStep feas levels st) + 1 = rrMeasure levels st := by
  cases hq : st.queue with
  | nil => exact absurd hq hne
  | cons s rest =>
    have hm := rrStep_move feas levels hq
    generalize rrStep feas levels st = st' at hm
    cases hm with
    | raise hk _ =>
      -- incremented and re-queued: the station's summand drops by one, the deque keeps its length
      have hil : s.idx < levels.length := by
        by_contra hcon
        have : levels.getD s.idx [] = [] := by simp [List.getD_eq_getElem?_getD, not_lt.mp hcon]
        rw [this] at hk; simp at hk
      have := sum_range_update (fun i => (levels.getD i []).length - st.rateIdx.getD i 0)
        (fun i => (levels.getD i []).length - (st.rateIdx.set s.idx (st.rateIdx.getD s.idx 0 + 1)).getD i 0)
        s.idx levels.length hil (fun j hj => by simp only [getD_set_ne _ _ _ _ (Ne.symm hj)])
        (by simp only [getD_set_self _ _ _ (h s (by rw [hq]; exact List.mem_cons_self))]; omega)
      simp only [rrMeasure, hq, List.length_append, List.length_cons, List.length_nil]
      omega
    | blocked _ _ => simp only [rrMeasure, hq, List.length_cons]; omega
    | top _ => simp only [rrMeasure, hq, List.length_cons]; omega

theorem rrLoop_terminates (feas : List K → Bool) (levels : List (List K)) :
    ∀ (fuel : Nat) (st : RRState K), QueueIdxOk st → rrMeasure levels st ≤ fuel →
      (rrLoop feas levels fuel st).queue = [] := by
  intro fuel
  induction fuel with
  | zero =>
    intro st _ hm
    unfold rrLoop
    unfold rrMeasure at hm
    have : st.queue.length = 0 := by omega
    exact List.length_eq_zero_iff.mp this
  | succ n ih =>
    intro st hok hm
    unfold rrLoop
    split
    · rename_i hq; exact hq
    · rename_i s rest hq
      have hne : st.queue ≠ [] := by rw [hq]; simp
      have := rrStep_measure feas levels st hne hok
      exact ih _ (rrStep_idxOk feas levels st hok) (by omega)

theorem rrStep_stops_iff (feas : List K → Bool) (levels : List (List K)) (st : RRState K)
    (s : Session K) (rest : List (Session K)) (hq : st.queue = s :: rest) :
    (rrStep feas levels st).queue = rest ↔
      (¬ (st.rateIdx.getD s.idx 0 + 1 < (levels.getD s.idx []).length) ∨
       feas (st.sched.set s.idx ((levels.getD s.idx []).getD (st.rateIdx.getD s.idx 0 + 1) 0)) = false) := by
  have hm := rrStep_move feas levels hq
  generalize rrStep feas levels st = st' at hm
  cases hm with
  | raise hk hfe =>
    simp only [hk, hfe, not_true, Bool.true_eq_false, or_self, iff_false]
    intro h
    simpa using congrArg List.length h
  | blocked _ hfe => exact ⟨fun _ => .inr hfe, fun _ => rfl⟩
  | top hk => exact ⟨fun _ => .inl hk, fun _ => rfl⟩

end Acn.Sorted
