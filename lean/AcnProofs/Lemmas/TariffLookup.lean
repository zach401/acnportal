/-
  For C17. On a strictly increasing breakpoint list (`strictTimesB` is the Boolean check) the (time, rate) sort is the
  identity and the descending search returns the greatest breakpoint ≤ the target. A comprehension over `range(n)` is a
  `mapM` in `Except` over `List.range n`.
-/
import AcnModel.Tariff
import Mathlib.Tactic
import AcnProofs.Lemmas.Basic

namespace Acn.C17
open Acn.Tariff

variable {K : Type} [LT K] [DecidableLT K]

def StrictTimes (l : List (Rat × K)) : Prop := l.Pairwise (fun a b => a.1 < b.1)

theorem sortPairs_of_strict (l : List (Rat × K)) (h : StrictTimes l) : sortPairs l = l := by
  induction l with
  | nil => rfl
  | cons a l ih =>
    have h' := List.pairwise_cons.mp h
    have : sortPairs (a :: l) = insertPair a (sortPairs l) := rfl
    rw [this, ih h'.2]
    cases l with
    | nil => rfl
    | cons q qs =>
      have hlt : a.1 < q.1 := h'.1 q (List.mem_cons_self)
      simp [insertPair, pairLt, hlt]

omit [LT K] [DecidableLT K] in
theorem find_rev_spec (l : List (Rat × K)) (h : StrictTimes l) (x : Rat) (p : Rat × K)
    (hf : l.reverse.find? (fun p => decide (p.1 ≤ x)) = some p) :
    p ∈ l ∧ p.1 ≤ x ∧ ∀ q ∈ l, q.1 ≤ x → q.1 ≤ p.1 := by
  rw [List.find?_eq_some_iff_append] at hf
  obtain ⟨hp, as, bs, hl, hnot⟩ := hf
  have hp' : p.1 ≤ x := by simpa using hp
  have hl' : l = bs.reverse ++ p :: as.reverse := by
    have := congrArg List.reverse hl
    simpa using this
  refine ⟨by rw [hl']; simp, hp', ?_⟩
  intro q hq hqx
  rw [hl'] at hq h
  rcases List.mem_append.mp hq with hq | hq
  · have := (List.pairwise_append.mp h).2.2 q hq p (List.mem_cons_self)
    exact le_of_lt this
  · rcases List.mem_cons.mp hq with rfl | hq
    · exact le_refl _
    · have := hnot q (List.mem_reverse.mp hq)
      simp at this
      exact absurd hqx (not_le.mpr this)

omit [LT K] [DecidableLT K] in
theorem find_rev_exists (l : List (Rat × K)) (x : Rat) (p0 : Rat × K) (hmem : p0 ∈ l) (h0 : p0.1 ≤ x) :
    ∃ p, l.reverse.find? (fun p => decide (p.1 ≤ x)) = some p :=
  Option.isSome_iff_exists.1 (List.find?_isSome.2 ⟨p0, List.mem_reverse.2 hmem, decide_eq_true h0⟩)

theorem strict_of_strictTimesB {K : Type} (l : List (Rat × K)) (h : strictTimesB l = true) :
    StrictTimes l := by
  induction l with
  | nil => exact List.Pairwise.nil
  | cons a l ih =>
    simp only [strictTimesB, Bool.and_eq_true, List.all_eq_true, decide_eq_true_eq] at h
    exact List.pairwise_cons.mpr ⟨h.1, ih h.2⟩

theorem mapM_range_ok_iff {β ε : Type} (f : Nat → Except ε β) (n : Nat) (v : List β) :
    (List.range n).mapM f = .ok v ↔ v.length = n ∧ ∀ t (ht : t < v.length), f t = .ok v[t] := by
  rw [mapM_ok_iff, List.forall₂_iff_get]
  simp only [List.length_range, List.get_eq_getElem, List.getElem_range]
  constructor
  · rintro ⟨hlen, h⟩
    exact ⟨hlen.symm, fun t ht => h t (by omega) ht⟩
  · rintro ⟨hlen, h⟩
    exact ⟨hlen.symm, fun t _ ht => h t ht⟩

end Acn.C17
