/-
  For C18Sim: facts about lists of `(requested, delivered)` pairs (energy proportions) — no simulator here.
-/
import AcnProofs.C18

set_option linter.unusedSectionVars false

namespace Acn.AnalysisSim
open Acn.Analysis Finset

variable {K : Type} [Field K] [LinearOrder K] [IsStrictOrderedRing K]

theorem sum_delivered_le (evs : List (Analysis.Ev K)) (h : ∀ e ∈ evs, e.delivered ≤ e.requested) :
    (evs.map (·.delivered)).sum ≤ (evs.map (·.requested)).sum := by
  induction evs with
  | nil => simp
  | cons e es ih =>
    simp only [List.map_cons, List.sum_cons]
    exact add_le_add (h e (List.mem_cons_self ..)) (ih fun x hx => h x (List.mem_cons_of_mem _ hx))

theorem sum_delivered_eq_iff (evs : List (Analysis.Ev K)) (h : ∀ e ∈ evs, e.delivered ≤ e.requested) :
    (evs.map (·.delivered)).sum = (evs.map (·.requested)).sum ↔ ∀ e ∈ evs, e.delivered = e.requested := by
  induction evs with
  | nil => simp
  | cons e es ih =>
    have he := h e (List.mem_cons_self ..)
    have hes : ∀ x ∈ es, x.delivered ≤ x.requested := fun x hx => h x (List.mem_cons_of_mem _ hx)
    have hle := sum_delivered_le es hes
    simp only [List.map_cons, List.sum_cons, List.mem_cons, forall_eq_or_imp]
    constructor
    · intro heq
      have h1 : e.delivered = e.requested := by linarith
      have h2 : (es.map (·.delivered)).sum = (es.map (·.requested)).sum := by linarith
      exact ⟨h1, (ih hes).1 h2⟩
    · rintro ⟨h1, h2⟩
      rw [h1, (ih hes).2 h2]

theorem proportion_spec (evs : List (Analysis.Ev K)) (h : ∀ e ∈ evs, e.delivered ≤ e.requested)
    (hpos : 0 < (evs.map (·.requested)).sum) :
    ∃ p, proportionDelivered evs = .ok p ∧ p ≤ 1 ∧ (p = 1 ↔ ∀ e ∈ evs, e.delivered = e.requested) := by
  refine ⟨_, (C18.energy_metrics_def evs 0).2.2.1 (ne_of_gt hpos), ?_, ?_⟩
  · exact (div_le_one hpos).2 (sum_delivered_le evs h)
  · rw [div_eq_one_iff_eq (ne_of_gt hpos)]
    exact sum_delivered_eq_iff evs h

theorem demandsMet_mono (evs : List (Analysis.Ev K)) (hne : evs ≠ []) (thr thr' : K) (hle : thr ≤ thr') :
    ∃ a b, demandsMet evs thr = .ok a ∧ demandsMet evs thr' = .ok b ∧ 0 ≤ a ∧ a ≤ b ∧ b ≤ 1 := by
  have hlen : (0 : K) < (evs.length : K) := by
    have : 0 < evs.length := List.length_pos_iff.2 hne
    exact_mod_cast this
  refine ⟨_, _, (C18.energy_metrics_def evs thr).2.2.2.2.1 hne, (C18.energy_metrics_def evs thr').2.2.2.2.1 hne,
    ?_, ?_, ?_⟩
  · exact div_nonneg (Nat.cast_nonneg _) (le_of_lt hlen)
  · apply div_le_div_of_nonneg_right _ (le_of_lt hlen)
    have : evs.countP (fun e => decide (e.requested - e.delivered < thr)) ≤
        evs.countP (fun e => decide (e.requested - e.delivered < thr')) := by
      apply List.countP_mono_left
      intro e _ he
      simp only [decide_eq_true_eq] at he ⊢
      exact lt_of_lt_of_le he hle
    exact_mod_cast this
  · rw [div_le_one hlen]
    exact_mod_cast List.countP_le_length

theorem demandsMet_all (evs : List (Analysis.Ev K)) (hne : evs ≠ []) (thr : K)
    (h : ∀ e ∈ evs, e.requested - e.delivered < thr) : demandsMet evs thr = .ok 1 := by
  have hlen : (evs.length : K) ≠ 0 := by
    have : 0 < evs.length := List.length_pos_iff.2 hne
    exact_mod_cast (ne_of_gt this)
  rw [(C18.energy_metrics_def evs thr).2.2.2.2.1 hne]
  have : evs.countP (fun e => decide (e.requested - e.delivered < thr)) = evs.length := by
    rw [List.countP_eq_length]
    intro e he
    simpa using h e he
  rw [this, div_self hlen]

end Acn.AnalysisSim
