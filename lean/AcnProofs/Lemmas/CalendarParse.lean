/-
  The parser of the RFC-1123 model is sound: a string is accepted only if — up to letter case and
  the (unchecked, as in `strptime`) weekday name — it is exactly the rendering `formatChars t` of
  the instant `t` returned, or that rendering without the leading zero of a day of month 01..09.
  Helper lemmas for C20.
-/
import AcnProofs.Lemmas.CalendarHttpDate
import AcnProofs.Lemmas.Assoc
namespace Acn.HttpDate
open Acn.Calendar

/-! ### what the digit and name readers accept

`digitVal`, `wdOfName` and `monOfName` are chains `if x == k₁ then some v₁ else if x == k₂ …`, that
is, lookups of `x` in the list of the `(kᵢ, vᵢ)`; a fact about everything they accept is a fact
about the entries of that list. -/

theorem lookup_cons_ite {α β : Type} [BEq α] (a k : α) (b : β) (es : List (α × β)) :
    ((k, b) :: es).lookup a = if a == k then some b else es.lookup a := by
  rw [List.lookup_cons]; cases a == k <;> rfl

theorem of_lookup_some {α β : Type} [BEq α] [LawfulBEq α] {l : List (α × β)} {P : α × β → Prop}
    (hP : ∀ p ∈ l, P p) {a : α} {b : β} (h : l.lookup a = some b) : P (a, b) :=
  hP _ (Assoc.mem_of_lookup h)

def digitTable : List (Char × Int) :=
  [('0', 0), ('1', 1), ('2', 2), ('3', 3), ('4', 4), ('5', 5), ('6', 6), ('7', 7), ('8', 8), ('9', 9)]

def wdTable : List (List Char × Int) :=
  [(['m', 'o', 'n'], 0), (['t', 'u', 'e'], 1), (['w', 'e', 'd'], 2), (['t', 'h', 'u'], 3),
   (['f', 'r', 'i'], 4), (['s', 'a', 't'], 5), (['s', 'u', 'n'], 6)]

def monTable : List (List Char × Int) :=
  [(['j', 'a', 'n'], 1), (['f', 'e', 'b'], 2), (['m', 'a', 'r'], 3), (['a', 'p', 'r'], 4),
   (['m', 'a', 'y'], 5), (['j', 'u', 'n'], 6), (['j', 'u', 'l'], 7), (['a', 'u', 'g'], 8),
   (['s', 'e', 'p'], 9), (['o', 'c', 't'], 10), (['n', 'o', 'v'], 11), (['d', 'e', 'c'], 12)]

theorem digitVal_eq_lookup (c : Char) : digitVal c = digitTable.lookup c := by
  simp only [digitTable, lookup_cons_ite, List.lookup_nil]; rfl

theorem wdOfName_eq_lookup (a b c : Char) :
    wdOfName a b c = wdTable.lookup [a.toLower, b.toLower, c.toLower] := by
  simp only [wdTable, lookup_cons_ite, List.lookup_nil]; rfl

theorem monOfName_eq_lookup (a b c : Char) :
    monOfName a b c = monTable.lookup [a.toLower, b.toLower, c.toLower] := by
  simp only [monTable, lookup_cons_ite, List.lookup_nil]; rfl

theorem digitVal_some {c : Char} {k : Int} (h : digitVal c = some k) :
    0 ≤ k ∧ k ≤ 9 ∧ c = digit k := by
  rw [digitVal_eq_lookup] at h
  exact of_lookup_some (P := fun p => 0 ≤ p.2 ∧ p.2 ≤ 9 ∧ p.1 = digit p.2) (by decide) h

theorem num2_some {a b : Char} {n : Int} (h : num2 a b = some n) :
    0 ≤ n ∧ n < 100 ∧ a = digit (n / 10) ∧ b = digit (n % 10) := by
  unfold num2 at h
  split at h
  · rename_i x y hx hy
    obtain ⟨x0, x9, rfl⟩ := digitVal_some hx
    obtain ⟨y0, y9, rfl⟩ := digitVal_some hy
    simp only [Option.some.injEq] at h
    subst h
    refine ⟨by omega, by omega, ?_, ?_⟩
    · congr 1; omega
    · congr 1; omega
  · simp at h

theorem num4_some {a b c d : Char} {n : Int} (h : num4 a b c d = some n) :
    0 ≤ n ∧ n < 10000 ∧ a = digit (n / 1000) ∧ b = digit (n / 100 % 10) ∧
    c = digit (n / 10 % 10) ∧ d = digit (n % 10) := by
  unfold num4 at h
  split at h
  · rename_i x y hx hy
    obtain ⟨x0, x9, rfl, rfl⟩ := num2_some hx
    obtain ⟨y0, y9, rfl, rfl⟩ := num2_some hy
    simp only [Option.some.injEq] at h
    subst h
    refine ⟨by omega, by omega, ?_, ?_, ?_, ?_⟩ <;> (congr 1; omega)
  · simp at h


theorem wdOfName_some {a b c : Char} {w : Int} (h : wdOfName a b c = some w) :
    0 ≤ w ∧ w < 7 ∧ a.toLower = (wdName w).1.toLower ∧ b.toLower = (wdName w).2.1.toLower ∧
    c.toLower = (wdName w).2.2.toLower := by
  rw [wdOfName_eq_lookup] at h
  have := of_lookup_some (P := fun p => 0 ≤ p.2 ∧ p.2 < 7 ∧
    p.1 = [(wdName p.2).1.toLower, (wdName p.2).2.1.toLower, (wdName p.2).2.2.toLower]) (by decide) h
  simpa only [List.cons.injEq, and_true] using this

theorem monOfName_some {a b c : Char} {m : Int} (h : monOfName a b c = some m) :
    1 ≤ m ∧ m ≤ 12 ∧ a.toLower = (monName m).1.toLower ∧ b.toLower = (monName m).2.1.toLower ∧
    c.toLower = (monName m).2.2.toLower := by
  rw [monOfName_eq_lookup] at h
  have := of_lookup_some (P := fun p => 1 ≤ p.2 ∧ p.2 ≤ 12 ∧
    p.1 = [(monName p.2).1.toLower, (monName p.2).2.1.toLower, (monName p.2).2.2.toLower]) (by decide) h
  simpa only [List.cons.injEq, and_true] using this

theorem punctOk_true {c1 p1 p2 p3 p4 k1 k2 p5 g1 g2 g3 : Char}
    (h : punctOk c1 p1 p2 p3 p4 k1 k2 p5 g1 g2 g3 = true) :
    c1 = ',' ∧ p1 = ' ' ∧ p2 = ' ' ∧ p3 = ' ' ∧ p4 = ' ' ∧ k1 = ':' ∧ k2 = ':' ∧ p5 = ' ' ∧
    g1.toLower = 'g' ∧ g2.toLower = 'm' ∧ g3.toLower = 't' := by
  simp only [punctOk, Bool.and_eq_true, beq_iff_eq] at h
  obtain ⟨⟨⟨⟨⟨⟨⟨⟨⟨⟨a, b⟩, c⟩, d⟩, e⟩, f⟩, g⟩, i⟩, j⟩, k⟩, l⟩ := h
  exact ⟨a, b, c, d, e, f, g, i, j, k, l⟩

/-- `c` is — up to letter case and the unchecked weekday name — the
    canonical 29-character rendering of `t`, and `t` lies in the years 1–9999 -/
def CanonOf (t : Int) (c : List Char) : Prop :=
  c.length = 29 ∧
  (∃ w, 0 ≤ w ∧ w < 7 ∧ (c.take 3).map Char.toLower =
    [(wdName w).1.toLower, (wdName w).2.1.toLower, (wdName w).2.2.toLower]) ∧
  (c.drop 3).map Char.toLower = ((formatChars t).drop 3).map Char.toLower ∧
  1 ≤ (fieldsOfSeconds t).y ∧ (fieldsOfSeconds t).y ≤ 9999

theorem parseCanon_sound {l : List Char} {t : Int} (h : parseCanon l = some t) : CanonOf t l := by
  unfold parseCanon at h
  split at h
  · split at h
    · rename_i hp
      obtain ⟨q1, q2, q3, q4, q5, q6, q7, q8, q9, q10, q11⟩ := punctOk_true hp
      split at h
      · rename_i _w d mo y hh mi s hw hd hmo hy hhh hmi hs
        simp only at h
        split at h
        · rename_i hv
          simp only [Option.some.injEq] at h
          obtain ⟨w0, w6, wa, wb, wc⟩ := wdOfName_some hw
          obtain ⟨d0, d1, rfl, rfl⟩ := num2_some hd
          obtain ⟨m0, m1, ma, mb, mc⟩ := monOfName_some hmo
          obtain ⟨y0, y1, rfl, rfl, rfl, rfl⟩ := num4_some hy
          obtain ⟨h0, h1, rfl, rfl⟩ := num2_some hhh
          obtain ⟨i0, i1, rfl, rfl⟩ := num2_some hmi
          obtain ⟨s0, s1, rfl, rfl⟩ := num2_some hs
          obtain ⟨v1, v2, v3, v4, v5, v6, v7, v8, v9, v10, v11, v12⟩ := (validFields_iff _).mp hv
          have hf := fields_of_seconds_of_fields ⟨y, mo, d, hh, mi, s⟩ v3 v4 v5 v6 v7 v8 v9 v10 v11 v12
          rw [h] at hf
          subst q1 q2 q3 q4 q5 q6 q7 q8
          unfold CanonOf
          refine ⟨rfl, ⟨_, w0, w6, ?_⟩, ?_, ?_, ?_⟩
          · simp only [List.take, List.map, wa, wb, wc]
          · have e1 : 'G'.toLower = 'g' := by decide
            have e2 : 'M'.toLower = 'm' := by decide
            have e3 : 'T'.toLower = 't' := by decide
            simp only [formatChars, hf, List.drop, List.map, ma, mb, mc, q9, q10, q11, e1, e2, e3]
          · rw [hf]; exact v1
          · rw [hf]; exact v2
        · simp at h
      · simp at h
    · simp at h
  · simp at h

theorem parseChars_sound {l : List Char} {t : Int} (h : parseChars l = some t) :
    ∃ c, CanonOf t c ∧ (l = c ∨ (c[5]? = some '0' ∧ l = c.eraseIdx 5)) := by
  by_cases h28 : l.length = 28
  · simp only [parseChars, h28, ↓reduceIte] at h
    exact ⟨padDay l, parseCanon_sound h, Or.inr ⟨padDay_get5 (by omega), (eraseIdx_padDay (by omega)).symm⟩⟩
  · rw [parseChars_of_length h28] at h
    exact ⟨l, parseCanon_sound h, Or.inl rfl⟩

theorem parseChars_length {l : List Char} {t : Int} (h : parseChars l = some t) :
    l.length = 28 ∨ l.length = 29 := by
  by_cases h28 : l.length = 28
  · exact Or.inl h28
  · rw [parseChars_of_length h28] at h
    exact Or.inr (parseCanon_sound h).1

theorem digit_eq_zero {n : Int} (h0 : 0 ≤ n) (h9 : n ≤ 9) (h : (digit n).toLower = '0') : n = 0 := by
  revert h
  apply of_table 0 10 n h0 (by omega)
  decide

theorem canon_day_lt_ten {t : Int} {c : List Char} (hc : CanonOf t c) (h5 : c[5]? = some '0') :
    (fieldsOfSeconds t).d < 10 := by
  obtain ⟨_, _, hd, _, _⟩ := hc
  obtain ⟨_, _, d1, _⟩ := fieldsOfSeconds_ranges t
  have hd31 := fieldsOfSeconds_day_le t
  have e : ((c.drop 3).map Char.toLower)[2]? = some '0' := by
    rw [List.getElem?_map, List.getElem?_drop, h5]; rfl
  rw [hd] at e
  simp only [formatChars, List.drop, List.map] at e
  have : (digit ((fieldsOfSeconds t).d / 10)).toLower = '0' := by simpa using e
  have := digit_eq_zero (by omega) (by omega) this
  omega

end Acn.HttpDate
