/-
  Helper lemmas for C10 (Sim level, stations, schedulers that answer with a DICT).
  `SchedEquivariant` (EquivSimView) asks for equal association lists.  A scheduler that emits its
  schedule in station order (`format_array_schedule`, `UncontrolledCharging`) answers permuted views
  with the same dict listed in another order.  `_update_schedules` reads the dict through membership,
  lookup and the set of row lengths only, so it cannot tell (`updateSchedules_dictEq`); hence the
  weaker, one-sided requirement `SchedEquivariantD`: whenever the original scheduler answers, the
  permuted one answers with the same dict.
  Second half: a completed run has had every view it handed out answered (`run_answered`), so a scheduler
  that answers less often can be replaced by one that answers more often (`run_of_refines`).
-/
import AcnProofs.Lemmas.EquivSimView
import AcnProofs.Lemmas.SchedView
import AcnProofs.Lemmas.PilotsStep

set_option linter.unusedSectionVars false

namespace Acn.SimEquiv
open Acn.Sim Acn.EventCore Acn.Evse

variable {K : Type} [Field K] [LinearOrder K] [IsStrictOrderedRing K] [HasExp K]

def DictEq {V : Type} (a b : List (String × V)) : Prop := a.Perm b ∧ (b.map (·.1)).Nodup

theorem updateSchedules_dictEq (stations : List String) (m : Pilots.Mat K) (t : Nat) (l : Option Nat)
    {a b : Pilots.Sched K} (h : DictEq a b) :
    Pilots.updateSchedules stations m t l a = Pilots.updateSchedules stations m t l b :=
  (Pilots.updateSchedules_perm stations m t l h.1.symm h.2).symm

def SchedEquivariantD (σ : List Nat) (sched sched' : View K → Except EventCore.Err (Schedule K)) : Prop :=
  ∀ v v' a, ViewRel σ v v' → sched v = .ok a → ∃ a', sched' v' = .ok a' ∧ DictEq a' a

theorem SchedEquivariant.toD {σ : List Nat} {sched sched' : View K → Except EventCore.Err (Schedule K)}
    (h : SchedEquivariant σ sched sched') (hk : ∀ v a, sched v = .ok a → (a.map (·.1)).Nodup) :
    SchedEquivariantD σ sched sched' := by
  intro v v' a hv ha
  exact ⟨a, by rw [h v v' hv, ha], List.Perm.refl _, hk v a ha⟩

theorem body_answered {cfg : Cfg K} {sched : View K → Except EventCore.Err (Schedule K)} {s r : State K}
    (hb : Sim.body cfg sched s = (r, none)) {v : View K} (hv : handedView cfg s = some v) :
    ∃ a, sched v = .ok a := by
  unfold handedView consulted at hv
  cases Pass.of_eq hb with
  | idle hes hn _ => simp [hes, hn] at hv
  | scheduled hes hn hs _ =>
    obtain ⟨hany, sch, hsch, _⟩ := schedStage_ok hs
    simp only [hes, hn, if_true, hany, Bool.false_eq_true, if_false, Option.some.injEq] at hv
    exact ⟨sch, hv ▸ hsch⟩

theorem run_answered {cfg : Cfg K} {sched : View K → Except EventCore.Err (Schedule K)} (n : Nat) (s r : State K)
    (hr : Sim.run cfg sched n s = (r, none)) : ∀ v ∈ runViews cfg sched n s, ∃ a, sched v = .ok a := by
  intro v hv
  rw [runViews_eq] at hv
  rw [Sim.run_eq] at hr
  obtain ⟨x, hx, hxv⟩ := List.mem_flatMap.1 hv
  obtain ⟨x', hb⟩ := Steps.heads_returned n s r hr x hx
  exact body_answered hb (Option.mem_toList.1 hxv)

def Refines (g f : View K → Except EventCore.Err (Schedule K)) : Prop := ∀ v a, g v = .ok a → f v = .ok a

theorem run_of_refines {cfg : Cfg K} {g f : View K → Except EventCore.Err (Schedule K)} (h : Refines g f) :
    ∀ (n : Nat) {s r : State K}, Sim.run cfg g n s = (r, none) → Sim.run cfg f n s = (r, none) := by
  intro n s r hr
  rw [← hr]
  refine (Sim.run_congr cfg g f n s (fun v hv => ?_)).1
  obtain ⟨a, ha⟩ := run_answered n s r hr v hv
  rw [ha, h v a ha]

end Acn.SimEquiv
