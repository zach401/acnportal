/-
  Run-level safety of a scheduler with the per-call guarantees `SchedSafe`, with its state threaded through the
  loop (`runSt`) and without state (`Sim.run`).  The induction over the run is `Steps.loopE_ends` over
  `SortedSimInd`'s `body_safe`: one period of `runSt` is one period of `Sim.run` under the scheduler frozen at the
  current state (`bodySt_fst`), and the state a period leaves is the old one or one the scheduler returned
  (`bodySt_state`), so an invariant of the scheduler's own transitions rides along with `SInv`.
-/
import AcnProofs.Lemmas.SimStRun
import AcnProofs.Lemmas.SortedSimInd

set_option linter.unusedSectionVars false

namespace Acn.SimSortedRd
open Acn Acn.EventCore Acn.Sim Acn.Sorted Acn.Steps

/-- for ANY stateful scheduler: if every state satisfying an invariant `P` (kept by the scheduler)
    has the per-call guarantees `SchedSafe` when frozen, then from a loop head satisfying `SInv` no
    `InvalidRate` is ever raised and every loop head reached satisfies `SInv` again -/
theorem runSt_safe {σ : Type} (feasP : List ℝ → Bool) (cfg : Sim.Cfg ℝ) (inf : ℝ) (hc : CfgOk cfg inf)
    (sched : σ → Sim.View ℝ → Except EventCore.Err (Sim.Schedule ℝ × σ)) (P : σ → Prop)
    (hP : ∀ st v sch st', P st → sched st v = .ok (sch, st') → P st')
    (hs : ∀ st, P st → SchedSafe feasP cfg inf (frozen sched st)) :
    ∀ (n : Nat) (st : σ) (s : Sim.State ℝ), P st → SInv feasP cfg s →
      (runSt cfg sched n st s).1.2 ≠ some .invalidRate ∧
      ((runSt cfg sched n st s).1.2 = none → SInv feasP cfg (runSt cfg sched n st s).1.1) ∧
      P (runSt cfg sched n st s).2 := by
  intro n st s hp hJ
  rw [runSt_eq_loop]
  -- at every head of the loop over pairs: `P` of the scheduler state, `SInv` of the simulator state
  have h := loopE_ends (g := guardP) (body := bodyP cfg sched) (P := fun x => P x.2 ∧ SInv feasP cfg x.1)
    (Q := fun x e => e ≠ .invalidRate ∧ P x.2) (fun x hx _ => by
      have hb := body_safe feasP cfg inf hc (frozen sched x.2) (hs x.2 hx.1) x.1 hx.2
      have hp' : P (bodySt cfg sched x.2 x.1).2 := by
        rcases bodySt_state cfg sched x.2 x.1 with h | ⟨v, sch, h⟩
        · rw [h]; exact hx.1
        · exact hP x.2 v sch _ hx.1 h
      rw [← bodySt_fst] at hb
      rw [bodyP]
      rcases hbs : bodySt cfg sched x.2 x.1 with ⟨⟨s1, _ | e⟩, st'⟩
      · rw [hbs] at hp' hb
        exact .ok ⟨hp', hb.ok_of rfl⟩
      · rw [hbs] at hp' hb
        exact .err ⟨hb.err_of rfl, hp'⟩) n (s, st) ⟨hp, hJ⟩
  rcases hr : loopE guardP (bodyP cfg sched) n (s, st) with ⟨⟨s', st'⟩, _ | e⟩
  · exact ⟨nofun, fun _ => (h.ok_of hr).2, (h.ok_of hr).1⟩
  · exact ⟨fun he => (h.err_of hr).1 (Option.some.inj he), nofun, (h.err_of hr).2⟩

/-- the pure loop is the stateful one of the lifted scheduler -/
theorem run_safe (feasP : List ℝ → Bool) (cfg : Sim.Cfg ℝ) (inf : ℝ) (hc : CfgOk cfg inf)
    (sched : Sim.View ℝ → Except EventCore.Err (Sim.Schedule ℝ)) (hs : SchedSafe feasP cfg inf sched)
    (n : Nat) (s : Sim.State ℝ) (hJ : SInv feasP cfg s) :
    (Sim.run cfg sched n s).2 ≠ some .invalidRate ∧
    ((Sim.run cfg sched n s).2 = none → SInv feasP cfg (Sim.run cfg sched n s).1) := by
  have h := runSt_safe feasP cfg inf hc (lift (σ := Unit) sched) (fun _ => True)
    (fun _ _ _ _ _ _ => trivial) (fun st _ => by rw [frozen_lift]; exact hs) n () s trivial hJ
  rw [runSt_lift] at h
  exact ⟨h.1, h.2.1⟩

end Acn.SimSortedRd
