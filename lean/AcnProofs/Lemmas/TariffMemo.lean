/-
  Helper lemmas for C17 (memo of the selected schedule): the cache invariant, and the one-day tariff
  that makes an unsound key visible.  `selectMemo` remembers successful selections only (an error is
  computed again at the next query), which is why its invariant speaks of `.ok s`; the table of
  `SessionsTz.memoCall` remembers every answer and has an invariant of its own.
-/
import AcnModel.TariffMemo
import AcnProofs.Lemmas.TariffSplit
import AcnProofs.Lemmas.Assoc

namespace Acn.C17
open Acn.Tariff

/-- the key determines everything `_get_tariff_schedule` reads: (month, day) and the weekday -/
def KeySound {κ : Type} (key : Fields → κ) : Prop :=
  ∀ f g, key f = key g → f.md = g.md ∧ f.wd = g.wd

/-- every remembered schedule is what a fresh selection returns for EVERY datetime with that key -/
def CacheOk {K κ : Type} [DecidableEq κ] (key : Fields → κ) (l : List (Schedule K)) (c : Cache K κ) : Prop :=
  ∀ f s, c.lookup (key f) = some s → selectSchedule l f.md f.wd = .ok s

theorem cacheOk_nil {K κ : Type} [DecidableEq κ] (key : Fields → κ) (l : List (Schedule K)) :
    CacheOk key l ([] : Cache K κ) := by
  intro f s h; simp at h

theorem selectMemo_spec {K κ : Type} [DecidableEq κ] (key : Fields → κ) (hk : KeySound key)
    (l : List (Schedule K)) (c : Cache K κ) (hc : CacheOk key l c) (f : Fields) :
    (selectMemo key l c f).1 = selectSchedule l f.md f.wd ∧ CacheOk key l (selectMemo key l c f).2 := by
  unfold selectMemo
  cases hlk : c.lookup (key f) with
  | some s => exact ⟨(hc f s hlk).symm, hc⟩
  | none =>
    cases hsel : selectSchedule l f.md f.wd with
    | error e => exact ⟨rfl, hc⟩
    | ok s =>
      refine ⟨rfl, fun g s' hg => ?_⟩
      rw [Assoc.lookup_cons] at hg
      split at hg
      · rename_i hkg
        obtain ⟨h1, h2⟩ := hk f g hkg
        cases hg
        rw [← h1, ← h2, hsel]
      · exact hc g s' hg

/-! ### a tariff that is valid on one (month, day, weekday) only -/

def onlyOn (f : Fields) : Schedule ℚ :=
  { id := "only", start := f.md, stop := f.md, mask := List.replicate f.wd false ++ [true],
    tariffs := [(0, 1)], demand := 1 }

theorem mdLe_refl (a : Nat × Nat) : mdLe a a = true := (mdLe_iff a a).mpr (by omega)

theorem mdLe_antisymm (a b : Nat × Nat) (h1 : mdLe a b = true) (h2 : mdLe b a = true) : a = b := by
  rw [mdLe_iff] at h1 h2
  ext <;> omega

theorem mask_getD (w w' : Nat) : (List.replicate w false ++ [true]).getD w' false = true ↔ w' = w := by
  rw [List.getD_eq_getElem?_getD, List.getElem?_append]
  simp only [List.length_replicate]
  split_ifs with h
  · rw [List.getElem?_replicate]; simp [h]; omega
  · rcases Nat.eq_or_lt_of_le (Nat.le_of_not_lt h) with h' | h'
    · subst h'; simp
    · have : w' - w = (w' - w - 1) + 1 := by omega
      rw [this]; simp; omega

theorem select_onlyOn (f g : Fields) :
    selectSchedule [onlyOn f] g.md g.wd =
      if g.md = f.md ∧ g.wd = f.wd then .ok (onlyOn f) else .error .noSchedule := by
  unfold selectSchedule validSchedules
  by_cases h : g.md = f.md ∧ g.wd = f.wd
  · have hm : (onlyOn f).mask.getD g.wd false = true := (mask_getD f.wd g.wd).mpr h.2
    simp only [List.filter_cons, List.filter_nil, hm, if_pos h]
    simp only [onlyOn, h.1, mdLe_refl, Bool.and_self, if_true]
  · rw [if_neg h]
    have : ((onlyOn f).mask.getD g.wd false && mdLe (onlyOn f).start g.md && mdLe g.md (onlyOn f).stop) = false := by
      by_contra hc
      simp only [Bool.not_eq_false, Bool.and_eq_true] at hc
      obtain ⟨⟨hm, h1⟩, h2⟩ := hc
      exact h ⟨mdLe_antisymm _ _ h2 h1, (mask_getD f.wd g.wd).mp hm⟩
    simp only [List.filter_cons, List.filter_nil, this]
    rfl

/-- an unsound key is visible: on the one-day tariff `onlyOn f`, asking the demand charge at `f` and
    then at a `g` with the same key answers `g` from the cache, while `get_demand_charge(g)` raises -/
theorem runMemo_visible {κ : Type} [DecidableEq κ] (key : Fields → κ) (f g : Fields)
    (hkey : key f = key g) (hne : ¬ (g.md = f.md ∧ g.wd = f.wd)) :
    (runMemo key [onlyOn f] ([] : Cache ℚ κ) [.demand f, .demand g]).1 ≠ runPlain [onlyOn f] [.demand f, .demand g] := by
  have hf : selectSchedule [onlyOn f] f.md f.wd = .ok (onlyOn f) := by rw [select_onlyOn]; simp
  have hg : selectSchedule [onlyOn f] g.md g.wd = .error .noSchedule := by rw [select_onlyOn, if_neg hne]
  simp only [runMemo, runPlain, List.map_cons, List.map_nil, answerPlain, Query.fields, selectMemo,
    List.lookup_nil, hf, hg, List.lookup_cons, ← hkey, beq_self_eq_true, answerOf]
  intro h
  simp [Except.map] at h

end Acn.C17
