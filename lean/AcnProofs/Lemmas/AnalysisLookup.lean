/-
  For C18: the name ↦ row mechanics of `constraint_currents`.

  The code filters POSITIONS of `constraint_index` by membership in the request, filters the NAMES
  by the same predicate in a separate comprehension, and pairs the two results by position.
  `dict_named` shows that, for pairwise distinct names, the resulting dict binds every requested
  name to the value computed for ITS OWN position, whatever the order / multiplicity of the request.
-/
import AcnModel.Analysis
import AcnProofs.Lemmas.Basic
import AcnProofs.Lemmas.Assoc
import Mathlib.Tactic

namespace Acn.Analysis

/-- position of the first occurrence of a name in `constraint_index` -/
def posOf : List String → String → Option Nat
  | [], _ => none
  | n :: ns, name => if n == name then some 0 else (posOf ns name).map (· + 1)

theorem posOf_none (names : List String) (name : String) (h : name ∉ names) : posOf names name = none := by
  induction names with
  | nil => rfl
  | cons n ns ih =>
    have h1 : n ≠ name := fun e => h (by simp [e])
    have h2 : name ∉ ns := fun e => h (by simp [e])
    simp [posOf, h1, ih h2]

theorem posOf_getElem (names : List String) (hn : names.Nodup) (k : Nat) (hk : k < names.length) :
    posOf names names[k] = some k := by
  induction names generalizing k with
  | nil => simp at hk
  | cons n ns ih =>
    rw [List.nodup_cons] at hn
    cases k with
    | zero => simp [posOf]
    | succ k =>
      have hk' : k < ns.length := by simpa using hk
      have hne : n ≠ ns[k] := fun e => hn.1 (e ▸ List.getElem_mem hk')
      simp [posOf, hne, ih hn.2 k hk']

theorem rowNamed_eq {K : Type} (names : List String) (M : Matrix K) (hM : M.length = names.length)
    (name : String) : rowNamed names M name = (posOf names name).map (fun k => M.getD k []) := by
  induction names generalizing M with
  | nil => cases M <;> simp [rowNamed, posOf]
  | cons n ns ih =>
    cases M with
    | nil => simp at hM
    | cons r rs =>
      have hM' : rs.length = ns.length := by simpa using hM
      by_cases h : n = name
      · simp [rowNamed, posOf, h]
      · simp only [rowNamed, posOf, h, beq_iff_eq, if_false]
        rw [ih rs hM']
        cases posOf ns name <;> simp

/-- a later binding replaces an earlier one: the dict is read from the end of the list of pairs -/
theorem dictGet_eq {α : Type} (d : List (String × α)) (k : String) : dictGet d k = d.reverse.lookup k := by
  induction d with
  | nil => rfl
  | cons p r ih =>
    obtain ⟨k', v⟩ := p
    rw [dictGet, ih, List.reverse_cons, List.lookup_append, Assoc.lookup_cons]
    cases r.reverse.lookup k <;> by_cases h : k' = k <;> simp [h]

theorem dictGet_none {α : Type} (l : List Nat) (g : Nat → String) (F : Nat → α) (name : String)
    (h : ∀ i ∈ l, g i ≠ name) : dictGet (l.map fun i => (g i, F i)) name = none := by
  rw [dictGet_eq, Assoc.lookup_eq_none]
  simpa [Assoc.keys] using h

theorem dictGet_some {α : Type} (l : List Nat) (g : Nat → String) (F : Nat → α) (name : String)
    (k : Nat) (hk : k ∈ l) (hg : g k = name) (huniq : ∀ i ∈ l, g i = name → i = k) :
    dictGet (l.map fun i => (g i, F i)) name = some (F k) := by
  rw [dictGet_eq, ← List.map_reverse, Assoc.lookup_map]
  -- the search from the end finds a position with that name, and `k` is the only one
  cases h : l.reverse.find? (fun i => g i == name) with
  | none => exact absurd (by simpa using hg) (List.find?_eq_none.1 h k (List.mem_reverse.2 hk))
  | some i =>
    rw [huniq i (List.mem_reverse.1 (List.mem_of_find?_eq_some h)) (by simpa using List.find?_some h)]
    rfl

theorem selectedNames_eq (names req : List String) :
    selectedNames names req =
      (constraintIndices names (some req)).map (fun i => names.getD i "") := by
  unfold selectedNames constraintIndices
  conv_lhs => rw [← range_map_getD names ""]
  rw [List.filter_map]
  rfl

theorem mem_constraintIndices (names req : List String) (i : Nat) :
    i ∈ constraintIndices names (some req) ↔ i < names.length ∧ names.getD i "" ∈ req := by
  simp [constraintIndices]

theorem dict_named {α : Type} (names : List String) (hn : names.Nodup) (req : List String)
    (F : Nat → α) :
    ∃ d, dictComp (selectedNames names req) ((constraintIndices names (some req)).map F) = .ok d ∧
      ∀ name, dictGet d name = if name ∈ req then (posOf names name).map F else none := by
  set idxs := constraintIndices names (some req) with hidxs
  have hget : ∀ i (h : i < names.length), names.getD i "" = names[i] := fun i h =>
    List.getD_eq_getElem names "" h
  refine ⟨idxs.map (fun i => (names.getD i "", F i)), ?_, ?_⟩
  · rw [selectedNames_eq, ← hidxs, dictComp]
    simp [List.zip_map']
  · intro name
    by_cases hreq : name ∈ req
    · rw [if_pos hreq]
      by_cases hmem : name ∈ names
      · obtain ⟨k, hk, rfl⟩ := List.getElem_of_mem hmem
        rw [posOf_getElem names hn k hk]
        apply dictGet_some idxs _ F names[k] k
        · rw [hidxs, mem_constraintIndices]; exact ⟨hk, by rw [hget k hk]; exact hreq⟩
        · exact hget k hk
        · intro i hi e
          rw [hidxs, mem_constraintIndices] at hi
          rw [hget i hi.1] at e
          exact (List.Nodup.getElem_inj_iff hn).mp e
      · rw [posOf_none names name hmem]
        apply dictGet_none
        intro i hi e
        rw [hidxs, mem_constraintIndices] at hi
        exact hmem (e ▸ getD_mem names "" hi.1)
    · rw [if_neg hreq]
      apply dictGet_none
      intro i hi e
      rw [hidxs, mem_constraintIndices] at hi
      exact hreq (e ▸ hi.2)

end Acn.Analysis
