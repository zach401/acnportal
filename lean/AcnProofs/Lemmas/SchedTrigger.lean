/-
  The recompute trigger of `Simulator.run` on the event core (C05), for EVERY configuration (valid or not) and
  every scheduler / pilot-application parameter (failing or not).  The loop-head invariant `Head`: `_resolve` is
  false and `_last_schedule_update` is the period of the last invocation — the timestamps written by
  `_process_event` never survive to a loop head, because an event also sets `_resolve`, which forces an invocation
  in the same period.
-/
import AcnProofs.Lemmas.EventCoreBasic

namespace Acn.EventCore
open Acn Acn.Steps

def popsAt (c : Core) : List Event := (popCurrent c.iter c.pending).1

/-- what `_process_event` leaves in `_last_schedule_update` after a list of events: the timestamp of
    the LAST plug-in / unplug event (simulator.py:227,232), recompute events leave it alone (:233-235) -/
def lastEvTs (es : List Event) (u : Option Int) : Option Int :=
  es.foldl (fun u e => if e.kind = .recompute then u else some e.ts) u

/-- "`max_recompute` periods have elapsed since the last invocation, or it has never run" -/
def due (mr : Option Nat) (last : Option Nat) (t : Nat) : Bool :=
  match mr with
  | none => false
  | some m =>
    match last with
    | none => true
    | some u => decide (m + u ≤ t)

/-- the recompute condition of simulator.py:117 at a loop head: something was popped, or the timer is due -/
def trig (mr : Option Nat) (pops : List Event) (last : Option Nat) (t : Nat) : Bool :=
  !pops.isEmpty || due mr last t

theorem due_iff {mr : Option Nat} {last : Option Nat} {t : Nat} :
    due mr last t = true ↔ ∃ m, mr = some m ∧ ∀ u, last = some u → m + u ≤ t := by
  cases mr with
  | none => exact ⟨fun h => (nomatch h), fun ⟨_, h, _⟩ => (nomatch h)⟩
  | some m =>
    cases last with
    | none => exact ⟨fun _ => ⟨m, rfl, fun _ h => (nomatch h)⟩, fun _ => rfl⟩
    | some u =>
      constructor
      · intro h
        refine ⟨m, rfl, fun u' hu => ?_⟩
        cases hu
        exact of_decide_eq_true h
      · rintro ⟨m', hm, h⟩
        cases hm
        exact decide_eq_true (h u rfl)

theorem trig_iff {mr : Option Nat} {pops : List Event} {last : Option Nat} {t : Nat} :
    trig mr pops last t = true ↔ pops ≠ [] ∨ ∃ m, mr = some m ∧ ∀ u, last = some u → m + u ≤ t := by
  rw [trig, Bool.or_eq_true, due_iff, Bool.not_eq_true', List.isEmpty_eq_false_iff]

section
variable {cfg : Cfg}

theorem step_facts (e : Event) (c : Core) :
    (step cfg e c).1.iter = c.iter ∧ (step cfg e c).1.invoked = c.invoked ∧
      ((step cfg e c).2 = none → (step cfg e c).1.resolve = true ∧
        (step cfg e c).1.lastUpd = (if e.kind = .recompute then c.lastUpd else some e.ts)) := by
  rcases step_cases cfg e c with ⟨err, h⟩ | ⟨x, hk, -, -, -, h⟩ | ⟨x, hk, -, -, h⟩ | ⟨hk, h⟩ <;> rw [h]
  · exact ⟨rfl, rfl, fun h => nomatch h⟩
  · exact ⟨rfl, rfl, fun _ => ⟨rfl, by rw [hk]; rfl⟩⟩
  · exact ⟨rfl, rfl, fun _ => ⟨rfl, by rw [hk]; rfl⟩⟩
  · exact ⟨rfl, rfl, fun _ => ⟨rfl, by rw [if_pos hk]⟩⟩

theorem processAll_any_facts (es : List Event) (c c1 : Core) (o : Option Err) (h : processAll cfg es c = (c1, o)) :
    c1.iter = c.iter ∧ c1.invoked = c.invoked := by
  have := foldE_proj (f := step cfg) (fun c => (c.iter, c.invoked))
    (fun e c => by rw [(step_facts e c).1, (step_facts e c).2.1]) es c
  rw [← processAll_eq, h] at this
  exact Prod.mk.inj this

theorem processAll_ok_facts (es : List Event) (c c1 : Core) (h : processAll cfg es c = (c1, none)) :
    c1.iter = c.iter ∧ c1.invoked = c.invoked ∧ c1.resolve = (c.resolve || !es.isEmpty) ∧
      c1.lastUpd = lastEvTs es c.lastUpd := by
  obtain ⟨h1, h2⟩ := processAll_any_facts es c c1 none h
  -- while `rest` is still to do: what the remaining events make of `_resolve` and `_last_schedule_update`
  have := foldE_ends (f := step cfg) (Q := fun _ _ => True)
    (P := fun rest a => (a.resolve || !rest.isEmpty) = (c.resolve || !es.isEmpty) ∧
      lastEvTs rest a.lastUpd = lastEvTs es c.lastUpd)
    (fun e rest a ⟨hr, hl⟩ => by
      have hf := (step_facts (cfg := cfg) e a).2.2
      rcases hs : step cfg e a with ⟨a2, _ | err⟩ <;> rw [hs] at hf
      · obtain ⟨r1, r4⟩ := hf rfl
        exact .ok ⟨by rw [r1, ← hr]; simp, by rw [r4, ← hl]; rfl⟩
      · exact .err trivial) es c ⟨rfl, rfl⟩
  rw [← processAll_eq, h] at this
  obtain ⟨h3, h4⟩ := this.ok_of rfl
  exact ⟨h1, h2, by simpa using h3, h4⟩

theorem processAll_resolve (cfg : Cfg) (es : List Event) (c c1 : Core) (h : processAll cfg es c = (c1, none))
    (hne : es ≠ []) : c1.resolve = true := by
  rw [(processAll_ok_facts es c c1 h).2.2.1]
  cases es with
  | nil => exact absurd rfl hne
  | cons e es => simp

theorem eventsStage_ok_facts {c c1 : Core} (h : eventsStage cfg c = (c1, none)) :
    c1.iter = c.iter ∧ c1.invoked = c.invoked ∧ c1.resolve = (c.resolve || !(popsAt c).isEmpty) ∧
      c1.lastUpd = lastEvTs (popsAt c) c.lastUpd := by
  unfold eventsStage at h
  have := processAll_ok_facts _ _ _ h
  simpa [popsAt] using this

theorem eventsStage_any_facts {c c1 : Core} {o : Option Err} (h : eventsStage cfg c = (c1, o)) :
    c1.iter = c.iter ∧ c1.invoked = c.invoked := by
  unfold eventsStage at h
  have := processAll_any_facts _ _ _ _ h
  simpa using this

structure Head (c : Core) : Prop where
  resolve : c.resolve = false
  lastUpd : c.lastUpd = c.invoked.getLast?.map (fun t => (t : Int))
  lt_iter : ∀ t ∈ c.invoked, t < c.iter
  sorted : c.invoked.Pairwise (· < ·)

theorem Head.idle {c c' : Core} (hc : Head c) (hr : c'.resolve = false) (hl : c'.lastUpd = c.lastUpd)
    (hi : c'.iter = c.iter + 1) (hv : c'.invoked = c.invoked) : Head c' :=
  ⟨hr, by rw [hl, hv]; exact hc.lastUpd, fun t ht => by rw [hi]; exact Nat.lt_succ_of_lt (hc.lt_iter t (hv ▸ ht)),
    hv ▸ hc.sorted⟩

theorem Head.of_invoked {c' : Core} {inv : List Nat} {t : Nat} (hs : inv.Pairwise (· < ·)) (hlt : ∀ u ∈ inv, u < t)
    (hr : c'.resolve = false) (hl : c'.lastUpd = some (t : Int)) (hi : c'.iter = t + 1)
    (hv : c'.invoked = inv ++ [t]) : Head c' := by
  refine ⟨hr, by rw [hl, hv, List.getLast?_concat]; rfl, fun u hu => ?_, ?_⟩
  · rw [hi]
    rcases List.mem_append.1 (hv ▸ hu) with hu | hu
    · exact Nat.lt_succ_of_lt (hlt u hu)
    · exact List.mem_singleton.1 hu ▸ Nat.lt_succ_self t
  · rw [hv, List.pairwise_append]
    exact ⟨hs, List.pairwise_singleton _ _, fun x hx y hy => List.mem_singleton.1 hy ▸ hlt x hx⟩

/-- the `if` of simulator.py:117-125 evaluated after the events of a period that started at a loop
    head, in closed form -/
theorem needsSched_after_events {c c1 : Core} (hc : Head c) (h : eventsStage cfg c = (c1, none)) :
    needsSched cfg.maxRecompute c1 = trig cfg.maxRecompute (popsAt c) c.invoked.getLast? c.iter := by
  obtain ⟨h1, _, h3, h4⟩ := eventsStage_ok_facts h
  unfold needsSched trig
  rw [h3, hc.resolve, Bool.false_or]
  cases hp : (popsAt c) with
  | cons e es => simp
  | nil =>
    rw [hp] at h4
    simp only [List.isEmpty_nil, Bool.not_true, Bool.false_or, due]
    rw [h4]
    simp only [lastEvTs, List.foldl_nil]
    rw [hc.lastUpd, h1]
    cases cfg.maxRecompute with
    | none => rfl
    | some m =>
      cases hl : c.invoked.getLast? with
      | none => rfl
      | some u =>
        dsimp only [Option.map]
        have hu : u < c.iter := hc.lt_iter u (List.mem_of_getLast? hl)
        apply decide_eq_decide.2
        omega

/-- what one period appends to the invocation record, from any state and whatever the outcome (`body_invoked`) -/
def bodyDelta (cfg : Cfg) (c : Core) : List Nat :=
  match eventsStage cfg c with
  | (c1, none) => if needsSched cfg.maxRecompute c1 then [c.iter] else []
  | (_, some _) => []

theorem body_invoked (sched apply : Core → Option Err) (c : Core) :
    (body cfg sched apply c).1.invoked = c.invoked ++ bodyDelta cfg c := by
  rcases hb : body cfg sched apply c with ⟨c', err⟩
  unfold bodyDelta
  cases Pass.of_eq hb with
  | eventRaise hes => rw [hes]; simp [(eventsStage_any_facts hes).2]
  | schedRaise hes hn _ =>
    obtain ⟨h1, h2⟩ := eventsStage_any_facts hes
    rw [hes]; simp [hn, markInvoked, h1, h2]
  | applyRaise hes ha _ =>
    obtain ⟨h1, h2⟩ := eventsStage_any_facts hes
    rw [hes, ha.invoked, h1, h2]
  | done hes ha _ =>
    obtain ⟨h1, h2⟩ := eventsStage_any_facts hes
    rw [hes, ← h1, ← h2]
    exact ha.invoked

theorem bodyDelta_cases (cfg : Cfg) (c : Core) : bodyDelta cfg c = [] ∨ bodyDelta cfg c = [c.iter] := by
  unfold bodyDelta
  split
  · split
    · exact .inr rfl
    · exact .inl rfl
  · exact .inl rfl

theorem mem_bodyDelta {t : Nat} {c : Core} (h : t ∈ bodyDelta cfg c) : t = c.iter := by
  rcases bodyDelta_cases cfg c with h0 | h0 <;> rw [h0] at h
  · exact absurd h List.not_mem_nil
  · exact List.mem_singleton.1 h

/-- what a period that starts at a loop head and raises nothing appends to the record (`body_head`), in closed form -/
def delta (mr : Option Nat) (c : Core) : List Nat :=
  if trig mr (popsAt c) c.invoked.getLast? c.iter then [c.iter] else []

theorem mem_delta {mr : Option Nat} {c : Core} {t : Nat} :
    t ∈ delta mr c ↔ t = c.iter ∧ trig mr (popsAt c) c.invoked.getLast? c.iter = true := by
  unfold delta
  split <;> simp [*]

theorem body_head {sched apply : Core → Option Err} {c c' : Core} (hc : Head c)
    (h : body cfg sched apply c = (c', none)) :
    Head c' ∧ c'.iter = c.iter + 1 ∧ c'.invoked = c.invoked ++ delta cfg.maxRecompute c := by
  obtain ⟨c1, a, hes, ha, -, rfl⟩ := body_returns h
  have hn := needsSched_after_events hc hes
  obtain ⟨h1, h2, h3, h4⟩ := eventsStage_ok_facts hes
  have hiter : (advance a).iter = c.iter + 1 := by rw [← h1, ← ha.iter]; rfl
  rw [delta, ← hn]
  rcases ha with ⟨hneed, rfl⟩ | ⟨hneed, -, rfl⟩
  · -- no invocation: nothing was popped, so the events left `_resolve` and `_last_schedule_update` alone
    have hp : popsAt c = [] := by
      rw [hn, trig, Bool.or_eq_false_iff, Bool.not_eq_false'] at hneed
      exact List.isEmpty_iff.1 hneed.1
    rw [hp] at h3 h4
    rw [hneed, if_neg Bool.false_ne_true, List.append_nil]
    exact ⟨hc.idle (h3.trans (by rw [hc.resolve]; rfl)) h4 hiter h2, hiter, h2⟩
  · -- the invocation clears `_resolve` and stamps the period
    have hv : (advance (markScheduled (markInvoked c1))).invoked = c.invoked ++ [c.iter] := by rw [← h1, ← h2]; rfl
    rw [hneed, if_pos rfl]
    exact ⟨.of_invoked hc.sorted hc.lt_iter rfl (h1 ▸ rfl) hiter hv, hiter, hv⟩

theorem body_ok_next {sched apply : Core → Option Err} {c c' : Core} (hb : body cfg sched apply c = (c', none)) :
    c'.iter = c.iter + 1 ∧ c'.pending = (eventsStage cfg c).1.pending := by
  obtain ⟨c1, a, he, ha, -, rfl⟩ := body_returns hb
  have hi := (eventsStage_any_facts he).1
  rcases ha with ⟨_, rfl⟩ | ⟨_, _, rfl⟩
  · simp [he, advance, hi]
  · simp [he, advance, markScheduled, markInvoked, hi]

theorem body_err_invoked {sched apply : Core → Option Err} {c c' : Core} {e : Err}
    (h : body cfg sched apply c = (c', some e)) :
    c'.iter = c.iter ∧ (c'.invoked = c.invoked ∨ c'.invoked = c.invoked ++ [c.iter]) := by
  have hinv := body_invoked (cfg := cfg) sched apply c
  rw [h] at hinv
  refine ⟨?_, (bodyDelta_cases cfg c).imp (fun h0 => by rw [hinv, h0, List.append_nil]) fun h0 => by rw [hinv, h0]⟩
  generalize ho : some e = o at h
  cases Pass.of_eq h with
  | eventRaise hes => exact (eventsStage_any_facts hes).1
  | schedRaise hes _ _ => exact (eventsStage_any_facts hes).1
  | applyRaise hes ha _ => exact ha.iter.trans (eventsStage_any_facts hes).1
  | done _ _ _ => cases ho

end
end Acn.EventCore
