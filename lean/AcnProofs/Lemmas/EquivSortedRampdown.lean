/-
  The rampdown estimator (`estimate_max_rate = True`) under the two changes a call can see when the stations are
  registered in another order.  `SimpleRampdown.get_maximum_rates` walks the sessions of the call in order
  (station order!) and reads / writes ONE dict entry per session, keyed by session id
  (upper_bound_estimator.py:119-139; `rampStep_eq`: one assignment `d[id] = rampVal … d.get(id)`, so the call is a run
  of such assignments, `rampdownCall_set`).  So with pairwise different session ids the dict after the call is a
  function of the SET of sessions: entry `k` is `rampVal` of the old entry of `k` if a session `k` is in the call,
  the old entry otherwise (`rampdownCall_lookup`).  Two estimators are related (`RdEquiv`) when they have the
  same thresholds and the same entries — the listing order of the association list is the one thing that
  depends on the station order, and nothing reads it.  `Sorted.scheduleCall` is `scheduleCallEst` with this
  estimator (`rdEst`): its naturality (`scheduleCall_mvS`) and its independence of the listing order
  (`scheduleCall_perm`) are those of `scheduleCallEst`, plus the estimator left behind.
-/
import AcnProofs.Lemmas.EquivSortedCall

set_option linter.unusedSectionVars false

namespace Acn.Sorted
open Acn.SimEquiv

variable {K : Type} [Field K] [LinearOrder K] [IsStrictOrderedRing K]

/-- the new upper bound of a session from its old entry `b` (`none`: no entry yet) -/
def rampVal (upTh downTh upInc maxPilot : K) (prev : Option (K × K)) (b : Option K) : K :=
  let u0 := match b with
    | some u => u
    | none => maxPilot
  match prev with
  | none => u0
  | some (pp, pr) =>
    let ub := if downTh < pp - pr then pr + upInc else if u0 - pr < upTh then u0 + upInc else u0
    let ub := if ub < 0 then 0 else ub
    if maxPilot < ub then maxPilot else ub

/-- one step is ONE assignment `bounds[sid] = rampVal …(bounds.get(sid))` (the model's first write, of `maxPilot`
    under a new key, is overwritten or is that value) -/
theorem rampStep_eq (maxPilot : K) (sid : String) (prev : Option (K × K)) (rd : Rampdown K) :
    rampStep maxPilot sid prev rd =
      { rd with
        bounds := Assoc.set rd.bounds sid (rampVal rd.upTh rd.downTh rd.upInc maxPilot prev (rd.bounds.lookup sid)) } := by
  unfold rampStep rampVal
  cases hb : rd.bounds.lookup sid with
  | none =>
    cases prev with
    | none => simp only [dictSet_eq]
    | some p => simp only [dictSet_eq, Assoc.lookup_set, if_true, Assoc.set_set]
  | some u =>
    cases prev with
    | none => simp only [Assoc.set_same hb]
    | some p => simp only [dictSet_eq, hb]

def rampF (infra : Infra K) (prev : String → Option (K × K)) (rd : Rampdown K) (s : Session K) : Rampdown K :=
  rampStep (infra.maxPilot.getD s.idx 0) s.session (prev s.session) rd

theorem rampdownCall_eq (infra : Infra K) (prev : String → Option (K × K)) (rd : Rampdown K) (l : List (Session K)) :
    rampdownCall infra prev rd l = l.foldl (rampF infra prev) rd := rfl

theorem rampdownCall_set (infra : Infra K) (prev : String → Option (K × K)) (l : List (Session K)) (rd : Rampdown K) :
    rampdownCall infra prev rd l =
      { rd with
        bounds := l.foldl (fun d s => Assoc.set d s.session (rampVal rd.upTh rd.downTh rd.upInc
          (infra.maxPilot.getD s.idx 0) (prev s.session) (d.lookup s.session))) rd.bounds } := by
  induction l generalizing rd with
  | nil => rfl
  | cons a t ih =>
    rw [rampdownCall_eq, List.foldl_cons, ← rampdownCall_eq, ih, rampF, rampStep_eq]
    rfl

theorem rampdownCall_lookup (infra : Infra K) (prev : String → Option (K × K)) (l : List (Session K)) (rd : Rampdown K)
    (hnd : (l.map (·.session)).Nodup) (k : String) :
    (rampdownCall infra prev rd l).bounds.lookup k =
      ((l.map fun s => (s.session, rampVal rd.upTh rd.downTh rd.upInc (infra.maxPilot.getD s.idx 0) (prev s.session)
        (rd.bounds.lookup s.session))).lookup k).or (rd.bounds.lookup k) := by
  rw [rampdownCall_set]
  exact Assoc.lookup_foldl_set_read (·.session) _ l rd.bounds hnd k

structure RdEquiv (rd rd' : Rampdown K) : Prop where
  upTh : rd'.upTh = rd.upTh
  downTh : rd'.downTh = rd.downTh
  upInc : rd'.upInc = rd.upInc
  lookup : ∀ k, rd'.bounds.lookup k = rd.bounds.lookup k

theorem RdEquiv.refl (rd : Rampdown K) : RdEquiv rd rd := ⟨rfl, rfl, rfl, fun _ => rfl⟩

theorem RdEquiv.trans {a b c : Rampdown K} (h1 : RdEquiv a b) (h2 : RdEquiv b c) : RdEquiv a c :=
  ⟨h2.upTh.trans h1.upTh, h2.downTh.trans h1.downTh, h2.upInc.trans h1.upInc,
    fun k => (h2.lookup k).trans (h1.lookup k)⟩

theorem rampStep_equiv (maxPilot : K) (sid : String) (prev : Option (K × K)) {rd rd' : Rampdown K}
    (hR : RdEquiv rd rd') : RdEquiv (rampStep maxPilot sid prev rd) (rampStep maxPilot sid prev rd') := by
  rw [rampStep_eq, rampStep_eq]
  refine ⟨hR.upTh, hR.downTh, hR.upInc, fun k => ?_⟩
  simp only [Assoc.lookup_set, hR.upTh, hR.downTh, hR.upInc, hR.lookup]

theorem rampdownCall_mvS {n : Nat} {D : Nat → Prop} {p : Nat → Nat} {T : {α : Type} → List α → α → List α}
    (hM : Moves n D p T) (k : Nat) (infra : Infra K) (prev : String → Option (K × K)) :
    ∀ (l : List (Session K)) {rd rd' : Rampdown K}, RdEquiv rd rd' → (∀ s ∈ l, D s.idx) →
      RdEquiv (rampdownCall infra prev rd l) (rampdownCall (mapInfra T infra) prev rd' (l.map (mvS p k))) := by
  intro l
  induction l with
  | nil => intro rd rd' hR _; exact hR
  | cons a t ih =>
    intro rd rd' hR hl
    rw [rampdownCall_eq, rampdownCall_eq, List.map_cons, List.foldl_cons, List.foldl_cons, ← rampdownCall_eq,
      ← rampdownCall_eq]
    refine ih ?_ (fun s hs => hl s (List.mem_cons_of_mem _ hs))
    have e : rampF (mapInfra T infra) prev rd' (mvS p k a) =
        rampStep (infra.maxPilot.getD a.idx 0) a.session (prev a.session) rd' := by
      unfold rampF
      rw [maxPilot_mvS hM k infra (hl a List.mem_cons_self)]
      rfl
    rw [e]
    exact rampStep_equiv _ _ _ hR

theorem rampdownCall_perm (infra : Infra K) (prev : String → Option (K × K)) (rd : Rampdown K)
    {l l' : List (Session K)} (hp : l'.Perm l) (hnd : (l.map (·.session)).Nodup) :
    RdEquiv (rampdownCall infra prev rd l) (rampdownCall infra prev rd l') := by
  refine ⟨by rw [rampdownCall_set, rampdownCall_set], by rw [rampdownCall_set, rampdownCall_set],
    by rw [rampdownCall_set, rampdownCall_set], fun k => ?_⟩
  · rw [rampdownCall_lookup infra prev l rd hnd k, rampdownCall_lookup infra prev l' rd ((hp.map _).nodup_iff.2 hnd) k]
    congr 1
    exact Assoc.lookup_perm (by rw [Assoc.keys, List.map_map]; exact (hp.map _).nodup_iff.2 hnd) (hp.map _) k

/-- the sessions of the call after `apply_upper_bound_estimate` (the estimator already updated) -/
def preOfE (infra : Infra K) (period : K) (prev : String → Option (K × K)) (rd : Rampdown K)
    (raw : List (Session K)) : List (Session K) :=
  applyUpperBound (rampdownCall infra prev rd (preOf infra period raw)).bounds (preOf infra period raw)

/-- tie-freeness for a call with the estimator: in the sort key (interruptible) resp. in `remaining_time`
    (`uninterrupted_charging`), on the sessions as `apply_upper_bound_estimate` leaves them -/
def TieOKE (cfgS : Config K) (infra : Infra K) (period : K) (time : Int) (prev : String → Option (K × K))
    (rd : Rampdown K) (raw : List (Session K)) : Prop :=
  if cfgS.uninterrupted then DistinctRT (preOfE infra period prev rd raw)
  else ∀ a ∈ preOfE infra period prev rd raw, ∀ b ∈ preOfE infra period prev rd raw,
    Acn.C08.sameKey cfgS.sort infra period time a b = true → a = b

theorem preOf_sessions_nodup (infra : Infra K) (period : K) (raw : List (Session K))
    (h : (raw.map (·.session)).Nodup) : ((preOf infra period raw).map (·.session)).Nodup := by
  unfold preOf enforcePilotLimit removeFinished
  rw [List.map_map]
  have e : ((fun s : Session K => s.session) ∘ fun s : Session K =>
      ({ s with maxRate := pyMin s.maxRate (infra.maxPilot.getD s.idx 0) } : Session K)) = fun s => s.session := rfl
  rw [e]
  refine List.Nodup.sublist (List.Sublist.map _ List.filter_sublist) ?_
  rw [List.map_map]
  exact h

/-- `SimpleRampdown` as the estimator parameter of `scheduleCallEst`: the dict after its update -/
def rdEst (infra : Infra K) (prev : String → Option (K × K)) (rd : Rampdown K) :
    List (Session K) → Session K → Option K :=
  fun l1 => estOfDict (rampdownCall infra prev rd l1).bounds

theorem scheduleCall_result_est [HasCeilNat K] (feas : List K → Bool) (cfgS : Config K) (infra : Infra K) (period : K)
    (time : Int) (prev : String → Option (K × K)) (rd : Rampdown K) (raw : List (Session K)) :
    (scheduleCall feas cfgS infra period time prev rd raw).result =
      (scheduleCallEst feas cfgS infra period time (rdEst infra prev rd) raw).result :=
  (scheduleCall_eq_scheduleCallEst feas cfgS infra period time prev rd raw).1

theorem preprocess_snd (feas : List K → Bool) (cfgS : Config K) (infra : Infra K) (period : K)
    (prev : String → Option (K × K)) (rd : Rampdown K) (l : List (Session K)) :
    (preprocess feas cfgS infra period prev rd l).2 =
      if cfgS.estimate then rampdownCall infra prev rd (estInput infra period l) else rd := by
  unfold preprocess estInput
  simp only
  split <;> rfl

theorem tieOKEst_of_tieOKE {cfgS : Config K} (he : cfgS.estimate = true) {infra : Infra K} {period : K} {time : Int}
    {prev : String → Option (K × K)} {rd : Rampdown K} {raw : List (Session K)}
    (h : TieOKE cfgS infra period time prev rd raw) : TieOKEst cfgS infra period time (rdEst infra prev rd) raw := by
  unfold TieOKEst boundedOf
  simp only [he, if_true]
  exact h

section
variable {n : Nat} {D : Nat → Prop} {p : Nat → Nat} {T : {α : Type} → List α → α → List α} (hM : Moves n D p T)
  (k : Nat) (infra : Infra K) (feas feas' : List K → Bool) (hf : ∀ x : List K, x.length = n → feas' (T x 0) = feas x)
include hM hf

theorem scheduleCall_mvS [HasCeilNat K] (hn : infra.ids.length = n) (hallow : infra.allow.length = n)
    (hfind : ∀ st : String, (T infra.ids "").findIdx? (· == st) = (infra.ids.findIdx? (· == st)).map p)
    (cfgS : Config K) (period : K) (time : Int) (prev : String → Option (K × K)) {rd rd' : Rampdown K}
    (hR : RdEquiv rd rd') (raw : List (Session K)) :
    ((scheduleCall feas' cfgS (mapInfra T infra) period (time + k) prev rd' (raw.map (mvS id k))).result =
      (scheduleCall feas cfgS infra period time prev rd raw).result.map (fun x => T x 0) ∧
    ∀ out, (scheduleCall feas cfgS infra period time prev rd raw).result = .ok out → out.length = n) ∧
    RdEquiv (scheduleCall feas cfgS infra period time prev rd raw).rd
      (scheduleCall feas' cfgS (mapInfra T infra) period (time + k) prev rd' (raw.map (mvS id k))).rd := by
  refine ⟨?_, ?_⟩
  · rw [scheduleCall_result_est, scheduleCall_result_est]
    refine scheduleCallEst_mvS hM k infra feas feas' hf hn hallow hfind cfgS period time _ _ raw ?_
    intro _ hD s _
    exact (rampdownCall_mvS hM k infra prev _ hR hD).lookup s.session
  · obtain ⟨hres, hD⟩ := resolve_mvS hM k infra hn hfind raw
    rw [scheduleCall_rd, scheduleCall_rd, hres]
    cases hr : resolve infra raw with
    | error e => exact hR
    | ok l =>
      simp only [Except.map, preprocess_snd, estInput_mvS hM k infra period l (hD l hr)]
      split
      · refine rampdownCall_mvS hM k infra prev _ hR ?_
        intro s hs
        obtain ⟨s0, h0, rfl⟩ := estInput_spec infra period l s hs
        exact hD l hr s0 h0
      · exact hR

end

theorem scheduleCall_perm [HasCeilNat K] (feas : List K → Bool) (cfgS : Config K) (infra : Infra K) (period : K)
    (time : Int) (prev : String → Option (K × K)) (rd : Rampdown K) {raw raw' : List (Session K)}
    (hp : raw'.Perm raw) (hsess : cfgS.estimate = true → (raw.map (·.session)).Nodup)
    (hd : TieOKEst cfgS infra period time (rdEst infra prev rd) raw) :
    (scheduleCall feas cfgS infra period time prev rd raw').result =
      (scheduleCall feas cfgS infra period time prev rd raw).result ∧
    RdEquiv (scheduleCall feas cfgS infra period time prev rd raw).rd
      (scheduleCall feas cfgS infra period time prev rd raw').rd := by
  have hrd : cfgS.estimate = true →
      RdEquiv (rampdownCall infra prev rd (preOf infra period raw)) (rampdownCall infra prev rd (preOf infra period raw')) :=
    fun he => rampdownCall_perm infra prev rd (preOf_perm infra period hp)
      (preOf_sessions_nodup infra period raw (hsess he))
  refine ⟨?_, ?_⟩
  · rw [scheduleCall_result_est, scheduleCall_result_est]
    refine scheduleCallEst_perm feas cfgS infra period time _ hp (fun he => ?_) hd
    funext s
    exact (hrd he).lookup s.session
  · rw [scheduleCall_rd, scheduleCall_rd, resolve_perm infra hp, resolve_eq]
    by_cases hall : raw.all (known infra) = true
    · simp only [hall, if_true, preprocess_snd]
      split
      · rename_i he
        exact hrd he
      · exact RdEquiv.refl rd
    · simp only [hall, Bool.false_eq_true, if_false]
      exact RdEquiv.refl rd

end Acn.Sorted
