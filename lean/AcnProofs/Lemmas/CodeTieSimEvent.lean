/-
  T1c (DESIGN §17), stateful methods — `Simulator._process_event` IS `EventCore.processG`, by proof (group SimEvent;
  properties C01, C19).

  `AcnModel/Gen/CodeSimEvent.lean` is regenerated on every run from acnportal/acnsim/simulator.py.  The network and
  the event queue of a Simulator are objects of unknown class (ChargingNetwork / StochasticNetwork / a subclass), so
  the methods called on them — `network.plugin`, `network.unplug`, `event_queue.add_event` — are PARAMETERS of the
  translation, exactly as `NetOps` and `QOps` are parameters of the model's `processG`.  `self` is the record
  `PySim` (`network`, `event_queue`, `ev_history` as a dict, `_resolve`, `_last_schedule_update`); `event.event_type`
  is the class attribute regenerated into `EvKind.name`; `UnplugEvent(ev.departure, ev)` is `unplugEv`.
-/
import AcnModel.Gen.CodeSimEvent
import AcnModel.EventCoreG
import AcnModel.Sim
import AcnProofs.Lemmas.CodePreludeDict

set_option linter.unusedSectionVars false

namespace Acn.CodeTie
open Acn Acn.Evse Acn.Gen.Code Acn.EventCore

theorem kind_name_plugin (k : EvKind) : decide (k.name = "Plugin") = decide (k = .plugin) := by
  cases k <;> decide

theorem kind_name_unplug (k : EvKind) : decide (k.name = "Unplug") = decide (k = .unplug) := by
  cases k <;> decide

theorem kind_name_recompute (k : EvKind) : decide (k.name = "Recompute") = decide (k = .recompute) := by
  cases k <;> decide

section
variable {K : Type} {σp σm τ : Type}

/-- what the translated `Simulator` record and the model state `CoreG` have to agree on: the network (through
    `absN`), the queue's contents (through `absQ`), the keys of `ev_history` in insertion order, `_resolve` and
    `_last_schedule_update` -/
structure SimRel (absN : σp → σm) (absQ : τ → List Event) (py : PySim K σp τ) (g : CoreG σm) : Prop where
  net : absN py.network = g.net
  queue : absQ py.queue = g.core.pending
  hist : py.evHistory.map (·.1) = g.core.evHist
  resolve : py.resolve = g.core.resolve
  lastUpd : py.lastUpd = g.core.lastUpd

/-- what the translated method reports: `none`, or the model's class (`dec`) of the exception -/
def simOutcome (dec : PyErr → EventCore.Err) : Except PyErr Unit → Option EventCore.Err
  | .ok _ => none
  | .error e => some (dec e)

/-- `Simulator._process_event` IS `EventCore.processG` — for every event queue `ops` and every network `net`
    of the model, as soon as the methods the Python code calls on its network / queue objects (parameters of the
    translation) refine `net.plugin` / `net.unplug` / `ops.push`:
    * a Plugin event calls `network.plugin(ev)`, records the EV under its session id, queues
      `UnplugEvent(ev.departure, ev)`, sets `_resolve` and `_last_schedule_update = event.timestamp`;
    * an Unplug event calls `network.unplug(ev.station_id, ev.session_id)`, sets the same two attributes;
    * a Recompute event sets `_resolve` only; any other event type changes nothing;
    * when the network raises, the error is the model's and the simulator is left AS THE MODEL SAYS (nothing but
      the network object has been touched: `ev_history`, the queue, `_resolve`, `_last_schedule_update` are
      written after the call) — the statement is about the state at the raise, not only about successful calls.
    `x` is the event's `ev` attribute (the model finds it by session id: `hx`); `hfresh`: the model lists
    `ev_history`'s keys by appending, the code writes a dict — they agree for a session id not plugged in before;
    `hN`, `hNu`: in the model a raising `plugin` / `unplug` leaves the network as it was. -/
theorem sim_process_event_tie (ops : QOps) (net : NetOps σm) (cfg : Cfg) (absN : σp → σm) (absQ : τ → List Event)
    (Inv : σp → Prop) (dec : PyErr → EventCore.Err)
    (netPlugin : σp → Ev K → σp × Except PyErr Unit)
    (netUnplug : σp → String → Option String → σp × Except PyErr Unit)
    (queueAdd : τ → Event → τ) (e : Event) (x : Ev K) (g : CoreG σm) (py : PySim K σp τ)
    (hx : e.kind ≠ .recompute → findSession cfg e.sess = some (Sim.sessionOf x))
    (hN : ∀ o s o' er, net.plugin o s = (o', some er) → o' = o)
    (hNu : ∀ o s o' er, net.unplug o s = (o', some er) → o' = o)
    (hP : ∀ n, Inv n → net.plugin (absN n) (Sim.sessionOf x) =
        (absN (netPlugin n x).1, simOutcome dec (netPlugin n x).2) ∧ Inv (netPlugin n x).1)
    (hU : ∀ n, Inv n → net.unplug (absN n) (Sim.sessionOf x) =
        (absN (netUnplug n x.station (some x.session)).1, simOutcome dec (netUnplug n x.station (some x.session)).2) ∧
        Inv (netUnplug n x.station (some x.session)).1)
    (hQ : ∀ q ev, absQ (queueAdd q ev) = ops.push (absQ q) ev)
    (hfresh : e.kind = .plugin → x.session ∉ g.core.evHist)
    (hI : Inv py.network) (hR : SimRel absN absQ py g) :
    (processG ops net cfg e g).2 = simOutcome dec (sim_process_event netPlugin netUnplug queueAdd py ⟨e, x⟩).2 ∧
    SimRel absN absQ (sim_process_event netPlugin netUnplug queueAdd py ⟨e, x⟩).1 (processG ops net cfg e g).1 ∧
    Inv (sim_process_event netPlugin netUnplug queueAdd py ⟨e, x⟩).1.network := by
  unfold sim_process_event processG
  simp only [kind_name_plugin, kind_name_unplug, kind_name_recompute]
  cases hk : e.kind with
  | plugin =>
    have hx' := hx (by rw [hk]; intro h; cases h)
    simp only [decide_true, if_true, hx']
    have ⟨h1, h2⟩ := hP py.network hI
    rw [← hR.net, h1]
    cases hp : netPlugin py.network x with
    | mk n' r =>
      rw [hp] at h1 h2
      cases r with
      | error er =>
        have hn : absN n' = absN py.network := hN _ _ _ _ h1
        exact ⟨rfl, ⟨by show absN n' = g.net; rw [hn, hR.net], hR.queue, hR.hist, hR.resolve, hR.lastUpd⟩, h2⟩
      | ok u =>
        refine ⟨rfl, ?_, h2⟩
        have hf : x.session ∉ py.evHistory.map (·.1) := by rw [hR.hist]; exact hfresh hk
        constructor
        · rfl
        · show absQ (queueAdd py.queue _) = ops.push g.core.pending _
          rw [hQ, hR.queue]; rfl
        · show (dictSet py.evHistory x.session x).map (·.1) = g.core.evHist ++ [_]
          rw [Dict.set_keys_new _ _ _ hf, hR.hist]; rfl
        · rfl
        · rfl
  | unplug =>
    have hx' := hx (by rw [hk]; intro h; cases h)
    simp only [hx']
    have ⟨h1, h2⟩ := hU py.network hI
    rw [← hR.net, h1]
    cases hp : netUnplug py.network x.station (some x.session) with
    | mk n' r =>
      rw [hp] at h1 h2
      cases r with
      | error er =>
        have hn : absN n' = absN py.network := hNu _ _ _ _ h1
        simp only [simOutcome]
        exact ⟨rfl, ⟨by show absN n' = g.net; rw [hn, hR.net], hR.queue, hR.hist, hR.resolve, hR.lastUpd⟩, h2⟩
      | ok u =>
        simp only [simOutcome]
        exact ⟨rfl, ⟨rfl, hR.queue, hR.hist, rfl, rfl⟩, h2⟩
  | recompute =>
    simp [simOutcome]
    exact ⟨⟨hR.net, hR.queue, hR.hist, rfl, hR.lastUpd⟩, hI⟩

end

/-- every target of this group was translated in this run -/
theorem all_translated_simevent : translatedSimEvent = ["sim_process_event"] := rfl

end Acn.CodeTie
