/-
  T1c (DESIGN §17), stateful methods — `BaseEVSE.plugin` / `unplug` / `set_pilot` ARE `Evse.plugin` / `unplug` /
  `setPilot`, by proof (group EvseOps; properties C13, C01).

  `AcnModel/Gen/CodeEvseOps.lean` is regenerated on every run from acnportal/acnsim/models/evse.py (class BaseEVSE):
  `self` is the model's record `Evse.Evse K` (`_ev`, `_current_pilot`, `_station_id`); the abstract
  `self._valid_rate(pilot)` (subclass dispatch, default tolerance) is the model's `validRate` on the EVSE's class
  (tied per class in CodeTieEvse), `self._ev.charge(..)` is `Evse.Ev.charge` with the noise draw `ν` as an input
  (tied in CodeTieBattery); `self._ev.charge` on `None` would be `AttributeError`, `raise` is `.error .<class>`,
  and a raising method returns the EVSE as it is at the raise (`set_pilot` has already stored the pilot when
  `EV.charge` raises — `evse_set_pilot_err`).

  A pilot stored after instead of before the validity test, a dropped `_current_pilot = 0` in `unplug`, `is not None`
  for `is None` in `plugin`, a swallowed exception … change `Gen.Code.*` and the theorems below stop compiling.

  The model's side of `set_pilot` is read off `Evse.SetPilotOut` (Lemmas/Evse.lean, its four outcomes). That module
  rests on the hand model `AcnModel/Evse.lean` alone — on no translation, on no other `CodeTie*` module, not on
  Mathlib (the `simp` calls below see the core simp set only) —: this group compiles whenever its own
  translation does, whatever happens to another group's (the check reads a tie module that does not compile as a
  lost tie of its group).
-/
import AcnModel.Gen.CodeEvseOps
import AcnProofs.Lemmas.Evse

set_option linter.unusedSectionVars false


namespace Acn.CodeTie
open Acn Acn.Battery Acn.Evse Acn.Gen.Code

/-- the error classes of the hand model `AcnModel/Evse.lean` as abstractions of the Python exception classes:
    the model does not distinguish what `Battery.charge` raised -/
def evseErrOfPy : PyErr → Evse.Err
  | .InvalidRateError => .invalidRate
  | .StationOccupiedError => .stationOccupied
  | _ => .valueError

section
variable {K : Type} [Add K] [Sub K] [Mul K] [Div K] [Neg K] [LT K] [LE K]
  [DecidableLT K] [DecidableLE K] [OfNat K 0] [OfNat K 1] [NatCast K] [HasExp K]

/-- what a translated method reports: `none`, or the model's class of the exception -/
def evseOutcome : Except PyErr Unit → Option Evse.Err
  | .ok _ => none
  | .error e => some (evseErrOfPy e)

/-- `BaseEVSE.plugin` is `Evse.plugin`; the only exception is `StationOccupiedError` (the f-string of its
    message reads `self._ev.session_id`, which cannot fail in that branch), and it leaves the EVSE as it was -/
theorem evse_plugin_tie (s : Evse K) (e : Ev K) :
    evse_plugin s e =
      match Evse.plugin s e with
      | .ok s' => (s', .ok ())
      | .error _ => (s, .error .StationOccupiedError) := by
  unfold evse_plugin Evse.plugin
  cases s.ev <;> simp

/-- `BaseEVSE.unplug`, translated, is the model's `Evse.unplug` (EV dropped, pilot reset to 0) -/
theorem evse_unplug_tie (s : Evse K) : evse_unplug s = Evse.unplug s := rfl

/-- `BaseEVSE.set_pilot`, accepted: exactly when `Evse.setPilot` accepts, with the same EVSE afterwards -/
theorem evse_set_pilot_ok (atol fixedAtol ν : K) (s s' : Evse K) (p V T : K) :
    evse_set_pilot atol fixedAtol ν s p V T = (s', .ok ()) ↔ Evse.setPilot atol fixedAtol s p V T ν = .ok s' := by
  generalize hr : Evse.setPilot atol fixedAtol s p V T ν = r
  cases SetPilotOut.of_eq hr <;> simp_all [evse_set_pilot]

/-- `BaseEVSE.set_pilot`, rejected: the model reports the class of what the code raises — `InvalidRateError`
    with the EVSE untouched, or what `Battery.charge` raised with the new pilot ALREADY stored (the assignment
    precedes the call) — and never the `AttributeError` of the translated `self._ev.charge` on `None` -/
theorem evse_set_pilot_err (atol fixedAtol ν : K) (s : Evse K) (p V T : K) (err : Evse.Err)
    (h : Evse.setPilot atol fixedAtol s p V T ν = .error err) :
    ∃ pe, (evse_set_pilot atol fixedAtol ν s p V T).2 = .error pe ∧ evseErrOfPy pe = err ∧
      ((pe = .InvalidRateError ∧ (evse_set_pilot atol fixedAtol ν s p V T).1 = s) ∨
       ((pe = .ValueError ∨ pe = .ZeroDivisionError) ∧
         (evse_set_pilot atol fixedAtol ν s p V T).1 = { s with pilot := p })) := by
  cases SetPilotOut.of_eq h with
  | invalid hv => exact ⟨.InvalidRateError, by simp [evse_set_pilot, hv], rfl, Or.inl ⟨rfl, by simp [evse_set_pilot, hv]⟩⟩
  | @chargeRaise e x hv he hc =>
    cases x
    · exact ⟨.ValueError, by simp [evse_set_pilot, hv, he, hc, battErrToPy], rfl,
        Or.inr ⟨Or.inl rfl, by simp [evse_set_pilot, hv, he, hc]⟩⟩
    · exact ⟨.ZeroDivisionError, by simp [evse_set_pilot, hv, he, hc, battErrToPy], rfl,
        Or.inr ⟨Or.inr rfl, by simp [evse_set_pilot, hv, he, hc]⟩⟩

end

/-- every target of this group was translated in this run -/
theorem all_translated_evseops : translatedEvseOps = ["evse_plugin", "evse_unplug", "evse_set_pilot"] := rfl

end Acn.CodeTie
