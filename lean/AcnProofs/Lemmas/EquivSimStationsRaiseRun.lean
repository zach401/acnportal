/-
  Helper lemmas for C10 (Sim level, stations, RAISING runs and STATEFUL schedulers).
  ONE statement for all station-order results (`runSt_equiv_E`, from the stage record `sim2_st`): the simulator
  loop with a scheduler state threaded (`SimSortedRd.runSt`; `Sim.run` is the instance with a scheduler that
  ignores its state, `runSt_lift`), a relation `R` between the scheduler states of the two runs, a predicate `P`
  that every (state, view) pair of the ORIGINAL run satisfies (tie-freeness for the sorted algorithms), a pair of
  schedulers that on such pairs answer related views with the same dict and related next states, or with the
  same error.  Conclusion, errors included: either the two runs end alike — same error (or none) in fully related
  states (`StEquiv`) and related scheduler states — or both were aborted by `update_pilots`, in states related on
  everything `update_pilots` does not write (`AbortEquiv`).  The views are related by `ViewRelL` (`EquivSimView`).
-/
import AcnProofs.Lemmas.EquivSimStationsRaise
import AcnModel.SimSortedRd
import AcnProofs.Lemmas.SchedView
import AcnProofs.Lemmas.SimStRun

set_option linter.unusedSectionVars false

namespace Acn.SimEquiv
open Acn.Sim Acn.EventCore Acn.Evse Acn.Ledger Acn.SimSortedRd Acn.Steps

variable {K : Type} [Field K] [LinearOrder K] [IsStrictOrderedRing K] [HasExp K]

/-- on the (state, view) pairs that satisfy `P`: related states and related views are answered with
    schedules that `_update_schedules` cannot tell apart (equal lists, or the same dict:
    `updateSchedules_dictEq`) and related next states, or with the same error -/
def SchedEquivariantSt {τ τ' : Type} (σ : List Nat) (R : τ → τ' → Prop) (P : τ → View K → Prop)
    (sched : τ → View K → Except EventCore.Err (Schedule K × τ))
    (sched' : τ' → View K → Except EventCore.Err (Schedule K × τ')) : Prop :=
  ∀ st st' v v', R st st' → ViewRelL σ v v' → P st v →
    (∀ a st1, sched st v = .ok (a, st1) →
      ∃ a' st1', sched' st' v' = .ok (a', st1') ∧
        (∀ ids m t l, Pilots.updateSchedules ids m t l a' = Pilots.updateSchedules ids m t l a) ∧ R st1 st1') ∧
    (∀ e, sched st v = .error e → sched' st' v' = .error e)

/-- the (scheduler state, view) pairs handed out along `runSt` -/
def runViewsSt {τ : Type} (cfg : Cfg K) (sched : τ → View K → Except EventCore.Err (Schedule K × τ)) :
    Nat → τ → State K → List (τ × View K)
  | 0, _, _ => []
  | n + 1, st, s =>
    if guard s.core then
      match bodySt cfg sched st s with
      | ((s', none), st') => (handedView cfg s).toList.map (fun v => (st, v)) ++ runViewsSt cfg sched n st' s'
      | ((_, some _), _) => (handedView cfg s).toList.map (fun v => (st, v))
    else []

theorem runViewsSt_eq {τ : Type} (cfg : Cfg K) (sched : τ → View K → Except EventCore.Err (Schedule K × τ)) (n : Nat)
    (st : τ) (s : State K) : runViewsSt cfg sched n st s =
      (heads guardP (bodyP cfg sched) n (s, st)).flatMap fun p => (handedView cfg p.1).toList.map fun v => (p.2, v) :=
  heads_unique (F := fun n p => runViewsSt cfg sched n p.2 p.1) (fun _ => rfl) (fun n p => by
    obtain ⟨s, st⟩ := p
    simp only [runViewsSt, bodyP, guardP]
    rcases bodySt cfg sched st s with ⟨⟨s1, _ | e⟩, st1⟩ <;> rfl) n (s, st)

theorem runViewsSt_lift {τ : Type} (cfg : Cfg K) (sched : View K → Except EventCore.Err (Schedule K)) (n : Nat)
    (st : τ) (s : State K) : runViewsSt cfg (lift sched) n st s = (runViews cfg sched n s).map (fun v => (st, v)) := by
  rw [runViewsSt_eq, runViews_eq, List.map_flatMap]
  -- the heads of the pair loop are those of `Sim.run`, each with the scheduler state `st`
  refine heads_out (R := fun s p => p = (s, st)) (X := sep (fun s p => p = (s, st)) Eq) (fun _ _ h => by rw [h]; rfl)
    (fun a _ h _ => ?_) (fun _ _ h => by rw [h]) n s (s, st) rfl
  rw [h, bodyP, bodySt_lift]
  exact Out.of_eq rfl rfl

section
variable {σ : List Nat} {d : Station K} {cfg : Cfg K} {τ τ' : Type} {R : τ → τ' → Prop} {P : τ → View K → Prop}
  {sched : τ → View K → Except EventCore.Err (Schedule K × τ)}
  {sched' : τ' → View K → Except EventCore.Err (Schedule K × τ')}

theorem schedStageSt_equiv_E (h : PermOK σ cfg) (hsch : SchedEquivariantSt σ R P sched sched')
    {st : τ} {st' : τ'} (hR : R st st') {s s' : State K} (he : StEquiv σ s s')
    (hs : Shape cfg.stations.length s) (ho : OccSound cfg.core s.core.occ)
    (hP : (activeEvs cfg s).any (fun e => !sessionInfoOk e) = false → P st (view cfg s)) :
    (∀ m st1, schedStageSt cfg sched st s = .ok (m, st1) →
      ∃ st1', schedStageSt (permCfg σ d cfg) sched' st' s' = .ok (m.reidx σ, st1') ∧ R st1 st1') ∧
    (∀ e, schedStageSt cfg sched st s = .error e → schedStageSt (permCfg σ d cfg) sched' st' s' = .error e) := by
  unfold schedStageSt
  rw [(activeEvs_perm (d := d) h he).any_eq, permCfg_ids h, he.pilots, he.core]
  by_cases ha : (activeEvs cfg s).any (fun e => !sessionInfoOk e) = true
  · simp only [ha, if_true]
    exact ⟨fun m st1 hm => (by cases hm), fun e he' => (by simpa using he')⟩
  · have ha' : (activeEvs cfg s).any (fun e => !sessionInfoOk e) = false := by simpa using ha
    simp only [ha, Bool.false_eq_true, if_false]
    obtain ⟨hok, herr⟩ := hsch st st' _ _ hR (view_relL (d := d) h he hs ho) (hP ha')
    have hσ' : σ.Perm (List.range (cfg.stations.map (·.id)).length) := by simpa using h.perm
    cases hsv : sched st (view cfg s) with
    | error e0 =>
      rw [herr e0 hsv]
      exact ⟨fun m st1 hm => (by cases hm), fun e he' => (by simpa using he')⟩
    | ok p =>
      obtain ⟨a, st1⟩ := p
      obtain ⟨a', st1', hsv', hde, hR1⟩ := hok a st1 hsv
      rw [hsv']
      simp only
      rw [hde, Pilots.updateSchedules_reidx σ _ hσ' s.pilots (by simpa using hs.pilots)]
      cases hu : Pilots.updateSchedules (cfg.stations.map (·.id)) s.pilots s.core.iter
          ((lastTs s.core.pending).map Int.toNat) a with
      | error e1 =>
        simp only [Except.map]
        exact ⟨fun m st1 hm => (by cases hm), fun e he' => (by simpa using he')⟩
      | ok m0 =>
        simp only [Except.map]
        refine ⟨?_, fun e he' => by cases he'⟩
        intro m st2 hm
        simp only [Except.ok.injEq, Prod.mk.injEq] at hm
        obtain ⟨rfl, rfl⟩ := hm
        exact ⟨st1', rfl, hR1⟩

theorem schedStageSt_rows {st : τ} {s : State K} {m : Pilots.Mat K} {st1 : τ}
    (hs : Shape cfg.stations.length s) (h : schedStageSt cfg sched st s = .ok (m, st1)) :
    m.rows.length = cfg.stations.length := by
  have h' : schedStage cfg (frozen sched st) s = .ok m := by rw [schedStageSt_frozen, h]
  obtain ⟨-, sch, -, hu⟩ := schedStage_ok h'
  exact (updateSchedules_rows (by rw [List.length_map]; exact hs.pilots) hu).trans (List.length_map _)

theorem sim2_st (h : PermOK σ cfg) (hsch : SchedEquivariantSt σ R P sched sched') :
    Sim2St cfg (permCfg σ d cfg) sched sched' R
      (fun st s => (activeEvs cfg { s with core := markInvoked s.core }).any (fun e => !sessionInfoOk e) = false →
        P st (view cfg { s with core := markInvoked s.core }))
      (StI σ cfg) (StI σ cfg) (StI σ cfg) (AbX σ) where
  events := fun _ _ hi => (eventsStage_equiv_st h hi).toAbX
  needs := fun s s' ⟨he, _, _⟩ => by rw [he.core]; rfl
  sched := fun s s' st st' ⟨he, hs, ho⟩ hR hQ => by
    have he2 : StEquiv σ { s with core := markInvoked s.core } { s' with core := markInvoked s'.core } :=
      ⟨by rw [he.core], he.pilots, he.rates, he.peak, he.evs, he.evsePilot, he.noiseIdx, he.occLog⟩
    have hs2 : Shape cfg.stations.length { s with core := markInvoked s.core } := ⟨hs.pilots, hs.rates, hs.evsePilot⟩
    obtain ⟨hok, herr⟩ := schedStageSt_equiv_E (d := d) h hsch hR he2 hs2 ho hQ
    unfold schedSetSt
    dsimp only
    cases hss : schedStageSt cfg sched st { s with core := markInvoked s.core } with
    | error e =>
      rw [herr e hss]
      exact .err (.inl ⟨rfl, he2⟩)
    | ok p =>
      obtain ⟨m, st1⟩ := p
      obtain ⟨st1', hss', hR1⟩ := hok m st1 hss
      rw [hss']
      exact .ok ⟨⟨⟨by simp only [he.core], rfl, he.rates, he.peak, he.evs, he.evsePilot, he.noiseIdx, he.occLog⟩,
        ⟨schedStageSt_rows hs2 hss, hs.rates, hs.evsePilot⟩, ho⟩, hR1⟩
  widen := fun _ _ hi => widenStage_st h hi
  pilots := fun _ _ hi => updatePilots_out h hi
  store := fun _ _ hi => storeStage_st h hi
  finish := fun _ _ hi => finishStage_st h hi

theorem runSt_equiv_E (h : PermOK σ cfg) (hsch : SchedEquivariantSt σ R P sched sched') :
    ∀ (n : Nat) {st : τ} {st' : τ'} {s s' : State K}, R st st' → StEquiv σ s s' →
    Shape cfg.stations.length s → OccSound cfg.core s.core.occ →
    (∀ p ∈ runViewsSt cfg sched n st s, P p.1 p.2) →
    ((runSt (permCfg σ d cfg) sched' n st' s').1.2 = (runSt cfg sched n st s).1.2 ∧
      StEquiv σ (runSt cfg sched n st s).1.1 (runSt (permCfg σ d cfg) sched' n st' s').1.1 ∧
      ((runSt cfg sched n st s).1.2 = none → R (runSt cfg sched n st s).2 (runSt (permCfg σ d cfg) sched' n st' s').2)) ∨
    (∃ e e', (runSt cfg sched n st s).1.2 = some e ∧ (runSt (permCfg σ d cfg) sched' n st' s').1.2 = some e' ∧
      IsPilotErr e ∧ IsPilotErr e' ∧
      AbortEquiv σ (runSt cfg sched n st s).1.1 (runSt (permCfg σ d cfg) sched' n st' s').1.1) := by
  intro n st st' s s' hR he hs ho hP
  rw [runViewsSt_eq] at hP
  -- the two periods are related at every loop head whose handed view satisfies `P`
  have key := loopE_out_heads (X := fun p e p' e' => AbX σ p.1 e p'.1 e')
    (g := guardP (σ := τ)) (g' := guardP (σ := τ'))
    (body := bodyP cfg sched) (body' := bodyP (permCfg σ d cfg) sched')
    (R := fun p p' => StI σ cfg p.1 p'.1 ∧ R p.2 p'.2) (H := fun p => ∀ v, handedView cfg p.1 = some v → P p.2 v)
    (fun p p' hh => by rw [guardP, guardP, hh.1.1.core])
    (fun p p' ⟨hi, hR⟩ _ hH => (sim2_st (d := d) h hsch).body hi hR fun s1 hev hn hany => hH _ (by
      unfold handedView consulted
      simp [hev, hn, hany]))
    n (s, st) (s', st') ⟨⟨he, hs, ho⟩, hR⟩
    (fun x hx v hv => hP (x.2, v) (List.mem_flatMap.2 ⟨x, hx, List.mem_map.2 ⟨v, Option.mem_toList.2 hv, rfl⟩⟩))
  rw [runSt_eq_loop, runSt_eq_loop]
  generalize loopE _ _ n (s, st) = x at key
  generalize loopE _ _ n (s', st') = y at key
  cases key with
  | ok hk => exact Or.inl ⟨rfl, hk.1.1, fun _ => hk.2⟩
  | err hx =>
    rcases hx with ⟨rfl, he'⟩ | ⟨p1, p2, hab⟩
    · exact Or.inl ⟨rfl, he', fun hc => by cases hc⟩
    · exact Or.inr ⟨_, _, rfl, rfl, p1, p2, hab⟩

end

/-- on the views that satisfy `P`: related views are answered with the same dict, or the same error -/
def SchedEquivariantE (σ : List Nat) (P : View K → Prop)
    (sched sched' : View K → Except EventCore.Err (Schedule K)) : Prop :=
  ∀ v v', ViewRelL σ v v' → P v →
    (∀ a, sched v = .ok a → ∃ a', sched' v' = .ok a' ∧ DictEq a' a) ∧
    (∀ e, sched v = .error e → sched' v' = .error e)

theorem SchedEquivariantE.toSt {σ : List Nat} {P : View K → Prop}
    {sched sched' : View K → Except EventCore.Err (Schedule K)} (h : SchedEquivariantE σ P sched sched') :
    SchedEquivariantSt σ (fun (_ _ : Unit) => True) (fun _ v => P v) (lift sched) (lift sched') := by
  intro st st' v v' _ hv hp
  obtain ⟨hok, herr⟩ := h v v' hv hp
  unfold lift
  cases hs : sched v with
  | error e0 =>
    rw [herr e0 hs]
    exact ⟨fun a st1 ha => (by cases ha), fun e he => he⟩
  | ok a0 =>
    obtain ⟨a', ha', hde⟩ := hok a0 hs
    rw [ha']
    refine ⟨fun a st1 ha => ?_, fun e he => by cases he⟩
    cases ha
    exact ⟨a', st', rfl, fun _ _ _ _ => updateSchedules_dictEq _ _ _ _ hde, trivial⟩

theorem SchedEquivariant.toSt {σ : List Nat} {sched sched' : View K → Except EventCore.Err (Schedule K)}
    (h : SchedEquivariant σ sched sched') :
    SchedEquivariantSt σ (fun (_ _ : Unit) => True) (fun _ _ => True) (lift sched) (lift sched') := by
  intro st st' v v' _ hv _
  unfold lift
  rw [h v v' hv.rel]
  cases sched v with
  | error e0 => exact ⟨fun a st1 ha => (by cases ha), fun e he => he⟩
  | ok a0 =>
    refine ⟨fun a st1 ha => ?_, fun e he => by cases he⟩
    cases ha
    exact ⟨a0, st', rfl, fun _ _ _ _ => rfl, trivial⟩

theorem SchedEquivariantD.toE {σ : List Nat} {sched sched' : View K → Except EventCore.Err (Schedule K)}
    (h : SchedEquivariantD σ sched sched') : SchedEquivariantE σ (fun v => ∃ a, sched v = .ok a) sched sched' :=
  fun v v' hv ⟨a0, ha0⟩ => ⟨fun a ha => h v v' a hv.rel ha, fun e he => by rw [ha0] at he; cases he⟩

section
variable {σ : List Nat} {d : Station K} {cfg : Cfg K}

theorem run_equiv_lift (h : PermOK σ cfg) {P : View K → Prop}
    {sched sched' : View K → Except EventCore.Err (Schedule K)}
    (hsch : SchedEquivariantSt σ (fun (_ _ : Unit) => True) (fun _ v => P v) (lift sched) (lift sched'))
    (n : Nat) {s s' : State K} (he : StEquiv σ s s') (hs : Shape cfg.stations.length s)
    (ho : OccSound cfg.core s.core.occ) (hP : ∀ v ∈ runViews cfg sched n s, P v) :
    ((Sim.run (permCfg σ d cfg) sched' n s').2 = (Sim.run cfg sched n s).2 ∧
      StEquiv σ (Sim.run cfg sched n s).1 (Sim.run (permCfg σ d cfg) sched' n s').1) ∨
    (∃ e e', (Sim.run cfg sched n s).2 = some e ∧ (Sim.run (permCfg σ d cfg) sched' n s').2 = some e' ∧
      IsPilotErr e ∧ IsPilotErr e' ∧
      AbortEquiv σ (Sim.run cfg sched n s).1 (Sim.run (permCfg σ d cfg) sched' n s').1) := by
  have key := runSt_equiv_E (d := d) h hsch n (st := ()) (st' := ()) trivial he hs ho (by
    intro p hp
    rw [runViewsSt_lift] at hp
    obtain ⟨v, hv, rfl⟩ := List.mem_map.1 hp
    exact hP v hv)
  rw [runSt_lift, runSt_lift] at key
  rcases key with ⟨a1, a2, _⟩ | ⟨e, e', b1, b2, b3, b4, b5⟩
  · exact Or.inl ⟨a1, a2⟩
  · exact Or.inr ⟨e, e', b1, b2, b3, b4, b5⟩

theorem run_equiv_ok (h : PermOK σ cfg) {P : View K → Prop}
    {sched sched' : View K → Except EventCore.Err (Schedule K)}
    (hsch : SchedEquivariantSt σ (fun (_ _ : Unit) => True) (fun _ v => P v) (lift sched) (lift sched'))
    (n : Nat) {s s' r : State K} (he : StEquiv σ s s') (hs : Shape cfg.stations.length s)
    (ho : OccSound cfg.core s.core.occ) (hP : ∀ v ∈ runViews cfg sched n s, P v)
    (hr : Sim.run cfg sched n s = (r, none)) :
    ∃ r', Sim.run (permCfg σ d cfg) sched' n s' = (r', none) ∧ StEquiv σ r r' := by
  rcases run_equiv_lift (d := d) h hsch n he hs ho hP with ⟨a1, a2⟩ | ⟨e, e', b1, _⟩
  · rw [hr] at a1 a2
    exact ⟨_, Prod.ext rfl a1, a2⟩
  · rw [hr] at b1
    cases b1

end
end Acn.SimEquiv
