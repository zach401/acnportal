/-
  EventCore ⟷ event queue (C11).

  (A) `EventCore.popCurrent` and the push of the unplug event are instances of the queue
      specification `QSpec.Cur` / `QSpec.Step` of `AcnModel/Queue.lean`.
  (B) `QOps.Ok`: a queue implementation `ops : QOps` satisfies that specification up to the order
      in which it stores the pending events.  `QOps.Ok.pop_period` is all the run loop uses of it
      at a loop head (`EventCoreNetH.lean`) — nothing in C01 depends on which
      of several equal-key events is handed out first.
  (C) The canonical queue of `EventCore.lean` satisfies it (`canonQ_ok`), and with it `bodyQ` IS
      `body`.  (CPython's array heap: `EventCoreHeap.lean`.)
-/
import AcnModel.EventCoreQ
import AcnProofs.Lemmas.EventCoreInv
import AcnProofs.Lemmas.QueueSpec
import AcnProofs.Lemmas.Steps

namespace Acn.EventCore
open Acn

/-- any key-sorted enumeration of the due events is a `get_current_events(t)` of the specification -/
theorem cur_of_sorted (t : Int) : ∀ (es q : List Event), es.Pairwise (fun a b => a.keyLe b = true) →
    es.Perm (q.filter fun e => decide (e.ts ≤ t)) →
    QSpec.Cur t q es (q.filter fun e => !decide (e.ts ≤ t))
  | [], q, _, hp => by
    have hnone : ∀ x ∈ q, t < x.ts := fun x hx => by
      by_contra hle
      have : x ∈ q.filter fun e => decide (e.ts ≤ t) := List.mem_filter.2 ⟨hx, by simpa using hle⟩
      rw [← hp.mem_iff] at this
      simp at this
    rw [List.filter_eq_self.2 (fun x hx => by simpa using hnone x hx)]
    cases q with
    | nil => exact .stopEmpty
    | cons x xs =>
      have hmin := QSpec.pickFirst_isMin x xs
      exact .stopLater hmin (hnone _ hmin.1)
  | e :: es, q, hs, hp => by
    rw [List.pairwise_cons] at hs
    have hef := List.mem_filter.1 (hp.mem_iff.1 List.mem_cons_self)
    have hle : e.ts ≤ t := by simpa using hef.2
    have hmin : QSpec.IsMin q e := by
      refine ⟨hef.1, fun x hx => (keyLe_eq_true_iff _ _).1 ?_⟩
      by_cases hxt : x.ts ≤ t
      · rcases List.mem_cons.1 (hp.mem_iff.2 (List.mem_filter.2 ⟨hx, by simpa using hxt⟩)) with rfl | hxm
        · exact keyLe_refl _
        · exact hs.1 x hxm
      · exact keyLe_of_ts_lt (by omega)
    have hq := (List.perm_cons_erase hef.1).filter (fun e => decide (e.ts ≤ t))
    rw [List.filter_cons_of_pos (by simpa using hle)] at hq
    have h := cur_of_sorted t es (q.erase e) hs.2 (hp.trans hq).cons_inv
    rw [QSpec.filter_erase_of_false (fun e => !decide (e.ts ≤ t)) q e (by simpa using hle)] at h
    exact .pop hmin hle h

theorem popCurrent_cur (t : Nat) (q : List Event) : QSpec.Cur (t : Int) q (popCurrent t q).1 (popCurrent t q).2 :=
  cur_of_sorted t _ q (sortByKey_sorted _) (sortByKey_perm _)

theorem popCurrent_step (s : QSpec.State) (t : Nat) :
    QSpec.Step s (.getCurrent t) (.events (popCurrent t s.pending).1)
      { pending := (popCurrent t s.pending).2, timestep := t } :=
  QSpec.Step.cur s t _ _ (popCurrent_cur t s.pending)

/-- pushing the unplug event (simulator.py:225) is `add_event` of the specification -/
theorem push_step (s : QSpec.State) (x : Session) :
    QSpec.Step s (.add (unplugEv x)) .unit { s with pending := s.pending ++ [unplugEv x] } :=
  QSpec.Step.add s _

/-- `ops` implements the queue specification, up to the order in which it stores the pending
    events; `good` is its representation invariant (the heap property for `heapq`) -/
structure QOps.Ok (ops : QOps) (good : List Event → Prop) : Prop where
  build : ∀ es, (ops.build es).Perm es ∧ good (ops.build es)
  pop : ∀ (t : Nat) (q : List Event), good q →
    ∃ q0, QSpec.Cur (t : Int) q (ops.pop t q).1 q0 ∧ ((ops.pop t q).2).Perm q0 ∧ good (ops.pop t q).2
  push : ∀ q e, good q → (ops.push q e).Perm (q ++ [e]) ∧ good (ops.push q e)

theorem PendOK.perm {cfg : Cfg} {t : Int} {todo p p' : List Event} (h : PendOK cfg t todo p)
    (hp : p'.Perm p) : PendOK cfg t todo p' :=
  ⟨hp.nodup_iff.2 h.1, fun e => by rw [hp.mem_iff]; exact h.2 e⟩

theorem QOps.Ok.pop_period {ops : QOps} {good : List Event → Prop} (hq : ops.Ok good) {cfg : Cfg} {t : Nat}
    {pend hist : List Event} (hpn : pend.Nodup) (hpm : ∀ e, e ∈ pend ↔ Expected cfg t e)
    (hhn : hist.Nodup) (hhm : ∀ e, e ∈ hist ↔ Done cfg t e)
    (hhs : hist.Pairwise (fun a b => a.keyLe b = true)) (hG : good pend) :
    (∀ e, e ∈ (ops.pop t pend).1 ↔ Cur cfg t e) ∧ HistOK cfg t (ops.pop t pend).1 hist ∧
    PendOK cfg t (ops.pop t pend).1 (ops.pop t pend).2 ∧ good (ops.pop t pend).2 := by
  obtain ⟨q0, hcur, hperm, hgood⟩ := hq.pop t pend hG
  obtain ⟨hp1, hp2, hp3⟩ := hcur.spec
  have hmem : ∀ e, e ∈ (ops.pop t pend).1 ↔ Cur cfg (t : Int) e := by
    intro e
    rw [hp1.mem_iff, List.mem_filter, hpm, cur_iff_expected_le]
    simp
  -- what is done lies before what is due now
  have hlt : ∀ h ∈ hist, ∀ d ∈ (ops.pop t pend).1, h.ts < d.ts := fun h hh d hd =>
    lt_of_lt_of_eq ((hhm h).1 hh).ts_lt ((hmem d).1 hd).ts_eq.symm
  refine ⟨hmem,
    ⟨List.nodup_append.2 ⟨hhn, hp1.nodup_iff.2 (hpn.filter _),
        fun a ha b hb e => absurd (hlt a ha b hb) (e ▸ lt_irrefl _)⟩,
      fun e => by rw [List.mem_append, hhm, hmem],
      List.pairwise_append.2 ⟨hhs, hp2.imp fun h => (keyLe_eq_true_iff _ _).2 h,
        fun a ha b hb => keyLe_of_ts_lt (hlt a ha b hb)⟩⟩,
    ⟨hperm.nodup_iff.2 (hp3 ▸ hpn.filter _), fun e => ?_⟩, hgood⟩
  · rw [hperm.mem_iff, hp3, List.mem_filter, hpm e]
    simp only [Bool.not_eq_true', decide_eq_false_iff_not, not_le]
    constructor
    · exact Or.inl
    · rintro (h | ⟨x, hx, rfl, hxa, hn⟩)
      · exact h
      · exact absurd ((hmem _).2 (Or.inl ⟨x, hx, rfl, hxa⟩)) hn

theorem canonQ_ok : canonQ.Ok (fun _ => True) where
  build := fun _ => ⟨List.Perm.refl _, trivial⟩
  pop := fun t q _ => ⟨_, popCurrent_cur t q, List.Perm.refl _, trivial⟩
  push := fun _ _ _ => ⟨List.Perm.refl _, trivial⟩

theorem processAllQ_eq (ops : QOps) (cfg : Cfg) : ∀ (l : List Event) (c : Core),
    processAllQ ops cfg l c = Steps.foldE (stepQ ops cfg) l c :=
  Steps.foldE_unique (fun _ => rfl) fun e es c => by
    rw [processAllQ]
    rcases stepQ ops cfg e c with ⟨c2, _ | err⟩ <;> rfl

theorem runQ_eq (ops : QOps) (cfg : Cfg) (sched apply : Core → Option Err) : ∀ (n : Nat) (c : Core),
    runQ ops cfg sched apply n c = Steps.loopE guard (bodyQ ops cfg sched apply) n c :=
  Steps.loopE_unique (fun _ => rfl) fun n c => by
    rw [runQ]
    rcases bodyQ ops cfg sched apply c with ⟨c', _ | e⟩ <;> rfl

theorem processAllQ_canon (cfg : Cfg) (l : List Event) (c : Core) :
    processAllQ canonQ cfg l c = processAll cfg l c := by
  rw [processAllQ_eq, processAll_eq]
  exact Steps.foldE_congr (fun _ _ _ => rfl) c

theorem eventsStageQ_canon (cfg : Cfg) (c : Core) : eventsStageQ canonQ cfg c = eventsStage cfg c :=
  processAllQ_canon cfg _ _

theorem bodyQ_canon (cfg : Cfg) (sched apply : Core → Option Err) (c : Core) :
    bodyQ canonQ cfg sched apply c = body cfg sched apply c := by
  unfold bodyQ body
  rw [eventsStageQ_canon]
  rfl

theorem runQ_canon (cfg : Cfg) (sched apply : Core → Option Err) (n : Nat) (c : Core) :
    runQ canonQ cfg sched apply n c = run cfg sched apply n c := by
  rw [runQ_eq, run_eq]
  exact Steps.loopE_congr (fun _ => rfl) (fun c _ => bodyQ_canon cfg sched apply c) n c

end Acn.EventCore
