/-
  C19, starvation freedom: the position of a waiting EV in the queue drops by (at least) one
  with every vacating event — the unplug of an EV that holds a station, or an early departure —
  so after `position + 1` of them it has been admitted (unless it departed first).
  A step takes the first `vacOf` entries off the queue, perhaps one more, and perhaps appends the
  arriving EV (`step_queue`); positions are read off that, step by step and along a run (`run_queue`).
-/
import AcnProofs.Lemmas.StochasticRun

namespace Acn.Stoch

theorem idxOf_le_of_sublist {α : Type} [DecidableEq α] {y : α} {l w : List α} (h : l.Sublist w) (hn : w.Nodup)
    (hy : y ∈ l) : l.idxOf y ≤ w.idxOf y := by
  induction h with
  | slnil => cases hy
  | @cons l w a hlw ih =>
    rw [List.nodup_cons] at hn
    have hay : a ≠ y := fun e => hn.1 (e ▸ hlw.subset hy)
    rw [List.idxOf_cons_ne _ hay]
    exact Nat.le_succ_of_le (ih hn.2 hy)
  | @cons_cons l w a hlw ih =>
    rw [List.nodup_cons] at hn
    by_cases hay : a = y
    · subst hay; simp
    · rw [List.idxOf_cons_ne _ hay, List.idxOf_cons_ne _ hay]
      exact Nat.succ_le_succ (ih hn.2 ((List.mem_cons.1 hy).resolve_left (Ne.symm hay)))

theorem idxOf_drop {α : Type} [DecidableEq α] (y : α) : ∀ (k : Nat) (w : List α), w.Nodup →
    y ∈ w.drop k → (w.drop k).idxOf y + k = w.idxOf y := by
  intro k
  induction k with
  | zero => intro w _ _; simp
  | succ k ih =>
    intro w hn hy
    cases w with
    | nil => simp at hy
    | cons a t =>
      rw [List.drop_succ_cons] at hy ⊢
      rw [List.nodup_cons] at hn
      have hay : a ≠ y := fun e => hn.1 (e ▸ (List.drop_sublist k t).subset hy)
      rw [List.idxOf_cons_ne _ hay, ← ih t hn.2 hy]
      omega

/-- the unplug of `x` vacates a station: `x` is not queued and sits on the station named by its
    station id -/
def Net.vacates (s : Net) (x : Sess) : Bool :=
  !(s.waiting.contains x) &&
    (match (s.ev x).station with
     | some st => decide (st ∈ s.stations) && (s.occ st == some x)
     | none => false)

/-- number of stations a step hands on to the queue (at most the queue's length is used) -/
def vacOf (s : Net) : Step → Nat
  | .ev e => if e.kind = .unplug ∧ s.vacates e.sess = true then 1 else 0
  | .post full => if s.earlyDeparture then min (s.fullyCharged full).length s.waiting.length else 0

def vacCount (cs : Nat → Nat) : Net → List Step → Nat
  | _, [] => 0
  | s, st :: r =>
    match s.step cs st with
    | .ok s1 => vacOf s st + vacCount cs s1 r
    | .error _ => 0

theorem step_queue {cs : Nat → Nat} {s s1 : Net} {st : Step} (h : Inv s) (hs : s.step cs st = .ok s1) :
    ∃ l, l.Sublist (s.waiting.drop (vacOf s st)) ∧
      (s1.waiting = l ∨ ∃ e, st = .ev e ∧ e.kind = .plugin ∧ s1.waiting = l ++ [e.sess]) := by
  cases st with
  | post full =>
    refine ⟨s1.waiting, ?_, Or.inl rfl⟩
    rw [h.post_waiting full hs, vacOf]
    split
    · exact List.drop_sublist_drop_left _ (Nat.min_le_left _ _)
    · exact List.Sublist.refl _
  | ev e =>
    simp only [Net.step] at hs
    rcases processEvent_ok hs with ⟨hk, rfl⟩ | ⟨hk, s2, h2, rfl⟩ | ⟨hk, s2, h2, rfl⟩
    · exact ⟨s1.waiting, by simp [vacOf, hk], Or.inl rfl⟩
    · refine ⟨s2.waiting, ?_, Or.inl rfl⟩
      simp only [vacOf, hk, true_and]
      rcases unplug_ok h2 with ⟨hx, rfl⟩ | ⟨hx, st, hst, hm, ⟨ho, rfl⟩ | ⟨ho, h3⟩⟩
      · simpa [Net.vacates, hx] using List.erase_sublist
      · simp [Net.vacates, hst, hx, ho]
      · simp [Net.vacates, hst, hx, hm, ho, (admitNext_frame h3).2.2.2, Net.setOcc]
    · have h0 : vacOf s (.ev e) = 0 := by simp [vacOf, hk]
      rw [h0, List.drop_zero]
      unfold Net.plugin at h2
      split at h2
      · cases h2; exact ⟨s.waiting.erase e.sess, List.erase_sublist, Or.inr ⟨e, rfl, hk, rfl⟩⟩
      · exact ⟨s.waiting, List.Sublist.refl _, Or.inl (by simpa [Net.modEv] using (attach_frame h2).2.2.2)⟩

theorem step_advance {cs : Nat → Nat} {s s1 : Net} {st : Step} (h : Inv s) (hs : s.step cs st = .ok s1)
    {y : Sess} (hy1 : y ∈ s1.waiting) :
    (y ∈ s.waiting ∧ s1.waiting.idxOf y + vacOf s st ≤ s.waiting.idxOf y) ∨
      ∃ e, st = .ev e ∧ e.kind = .plugin ∧ e.sess = y := by
  obtain ⟨l, hl, hw⟩ := step_queue h hs
  have key : y ∈ l → y ∈ s.waiting ∧ l.idxOf y + vacOf s st ≤ s.waiting.idxOf y := fun hy => by
    have hd := hl.subset hy
    have := idxOf_le_of_sublist hl (h.waiting_nodup.sublist (List.drop_sublist _ _)) hy
    have := idxOf_drop y _ _ h.waiting_nodup hd
    exact ⟨(List.drop_sublist _ _).subset hd, by omega⟩
  rcases hw with hw | ⟨e, he, hk, hw⟩
  · rw [hw] at hy1 ⊢; exact Or.inl (key hy1)
  · rw [hw] at hy1 ⊢
    rcases List.mem_append.1 hy1 with hy | hy
    · rw [List.idxOf_append_of_mem hy]; exact Or.inl (key hy)
    · exact Or.inr ⟨e, he, hk, (List.mem_singleton.1 hy).symm⟩

theorem run_queue (cs : Nat → Nat) (y : Sess) : ∀ (steps : List Step) (done : List Event) (s s' : Net),
    Inv s → Track done s → WFHist (done ++ evProj steps) → s.run cs steps = .ok s' → y ∈ s'.waiting →
    (y ∈ s.waiting ∧ s'.waiting.idxOf y + vacCount cs s steps ≤ s.waiting.idxOf y) ∨
      ∃ e ∈ evProj steps, e.kind = .plugin ∧ e.sess = y := by
  intro steps
  induction steps with
  | nil => intro done s s' _ _ _ h hy; cases h; exact Or.inl ⟨hy, by simp [vacCount]⟩
  | cons st r ih =>
    intro done s s' h tr hwf hrun hy'
    obtain ⟨s1, h1, hrun⟩ := Net.run_cons.1 hrun
    obtain ⟨_, h1', hi1, tr1⟩ := step_good (cs := cs) h tr hwf
    rw [h1] at h1'; cases h1'
    have hwf1 : WFHist ((done ++ evProj [st]) ++ evProj r) := by
      cases st <;> simpa [evProj] using hwf
    rcases ih _ s1 s' hi1 tr1 hwf1 hrun hy' with ⟨hy1, hle⟩ | ⟨e, he, hk⟩
    · rcases step_advance h h1 hy1 with ⟨hy, hle1⟩ | ⟨e, rfl, hk⟩
      · refine Or.inl ⟨hy, ?_⟩
        simp only [vacCount, h1]
        omega
      · exact Or.inr ⟨e, by simp [evProj], hk⟩
    · exact Or.inr ⟨e, by cases st <;> simp [evProj, he], hk⟩

theorem run_advance (cs : Nat → Nat) (y : Sess) (steps : List Step) (done : List Event) (s s' : Net)
    (h : Inv s) (tr : Track done s) (hwf : WFHist (done ++ evProj steps)) (hy : y ∈ s.waiting)
    (hrun : s.run cs steps = .ok s') (hy' : y ∈ s'.waiting) :
    s'.waiting.idxOf y + vacCount cs s steps ≤ s.waiting.idxOf y := by
  rcases run_queue cs y steps done s s' h tr hwf hrun hy' with ⟨-, hle⟩ | ⟨e, he, hk, hs⟩
  · exact hle
  · -- `y` has arrived: a second plug-in event of `y` contradicts well-formedness
    obtain ⟨a, ha, hak, has⟩ := (tr.arrived_iff y).1 ((h.mem_waiting y).1 hy).1
    rcases (List.pairwise_append.1 hwf.1).2.2 a ha e he with hc | hc | hc
    · rw [hak] at hc; cases hc
    · exact absurd (hak.trans hk.symm) hc
    · exact absurd (has.trans hs.symm) hc

end Acn.Stoch
