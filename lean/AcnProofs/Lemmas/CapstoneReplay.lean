/-
  Capstone helper: every run of the simulator loop with a STATEFUL scheduler (`SimSortedRd.runSt`: the
  scheduler object persists from call to call — the rampdown estimator, any estimator) IS a run of the stateless loop
  `Sim.run` under some pure scheduler, namely the one that answers, for a view of period `t`, what the stateful
  scheduler answered in period `t` of that run ("replay").  The loop consults the scheduler at most once per period and
  the period counter increases by one per trip, so the replay scheduler is well defined.

  Consequence: every theorem proved about `Sim.run` for ANY scheduler (C01, C02, C05, C18Sim) holds verbatim for the
  runs with a stateful scheduler (C07's rampdown / any-estimator runs) — `runSt_replay`.
-/
import AcnProofs.Lemmas.SimStRun
import AcnProofs.Lemmas.SortedSimInd

namespace Acn.Capstone
open Acn Acn.EventCore Acn.Sim Acn.SimSortedRd

section sim
variable {K : Type} [Add K] [Sub K] [Mul K] [Div K] [Neg K] [LT K] [LE K]
  [DecidableLT K] [DecidableLE K] [OfNat K 0] [OfNat K 1] [NatCast K] [HasExp K]
variable {σ : Type}

theorem body_iter (cfg : Cfg K) (sched : View K → Except Err (Schedule K)) (s s' : State K)
    (h : Sim.body cfg sched s = (s', none)) : s'.core.iter = s.core.iter + 1 :=
  (EventCore.body_ok_next (Sim.body_core_ok h)).1

theorem body_congr (cfg : Cfg K) (f g : View K → Except Err (Schedule K)) (s : State K)
    (h : ∀ v, v.iter = s.core.iter → f v = g v) : Sim.body cfg f s = Sim.body cfg g s := by
  refine Sim.body_congr_view fun s1 hes _ _ => h _ ?_
  have hi := Sim.eventsStage_iter cfg s
  rw [hes] at hi
  exact hi

theorem run_congr_ge (cfg : Cfg K) (f g : View K → Except Err (Schedule K)) (n : Nat) (s : State K)
    (h : ∀ v, s.core.iter ≤ v.iter → f v = g v) : Sim.run cfg f n s = Sim.run cfg g n s := by
  rw [Sim.run_eq, Sim.run_eq]
  refine Steps.loopE_congr_on (I := fun s => ∀ v, s.core.iter ≤ v.iter → f v = g v)
    (fun s s' h _ hb v hv => h v ?_) (fun s h _ => body_congr cfg f g s fun v hv => h v (by omega)) n s h
  have := body_iter cfg f s s' hb
  omega

/-- **Replay.**  For every stateful scheduler, fuel, scheduler state and simulator state there is a PURE scheduler
    `f` — pointwise an answer of the stateful scheduler in one of its states — such that the stateless run under `f`
    is the stateful run: same final simulator state, same error. -/
theorem runSt_replay (cfg : Cfg K) (sched : σ → View K → Except Err (Schedule K × σ)) :
    ∀ (n : Nat) (st : σ) (s : State K),
      ∃ f : View K → Except Err (Schedule K),
        Sim.run cfg f n s = (runSt cfg sched n st s).1 ∧ ∀ v, ∃ st', f v = frozen sched st' v := by
  intro n
  induction n with
  | zero => intro st s; exact ⟨frozen sched st, rfl, fun v => ⟨st, rfl⟩⟩
  | succ n ih =>
    intro st s
    by_cases hg : guard s.core = true
    · have hfst := bodySt_fst cfg sched st s
      rcases hb : bodySt cfg sched st s with ⟨⟨s', _ | e⟩, st'⟩
      · rw [hb] at hfst
        simp only at hfst
        obtain ⟨f', hf', hfr⟩ := ih st' s'
        refine ⟨fun v => if v.iter = s.core.iter then frozen sched st v else f' v, ?_, ?_⟩
        · unfold Sim.run runSt
          simp only [hg, if_true, hb]
          rw [body_congr cfg _ (frozen sched st) s (fun v hv => by simp only [hv, if_true]), ← hfst]
          simp only
          have hi := body_iter cfg (frozen sched st) s s' hfst.symm
          rw [run_congr_ge cfg _ f' n s' (fun v hv => by
            have : v.iter ≠ s.core.iter := by omega
            simp only [this, if_false])]
          exact hf'
        · intro v
          by_cases hv : v.iter = s.core.iter
          · exact ⟨st, by simp only [hv, if_true]⟩
          · obtain ⟨st2, h2⟩ := hfr v
            exact ⟨st2, by simp only [hv, if_false]; exact h2⟩
      · rw [hb] at hfst
        simp only at hfst
        refine ⟨frozen sched st, ?_, fun v => ⟨st, rfl⟩⟩
        unfold Sim.run runSt
        simp only [hg, if_true, hb, ← hfst]
    · refine ⟨frozen sched st, ?_, fun v => ⟨st, rfl⟩⟩
      unfold Sim.run runSt
      simp only [hg]
      rfl

end sim

/-- the per-call guarantees of C07 (`SchedSafe`) pass from the frozen states of a stateful scheduler to every pure
    scheduler that pointwise answers like one of them (in particular to the replay scheduler) -/
theorem schedSafe_of_pointwise {σ : Type} (feasP : List ℝ → Bool) (cfg : Sim.Cfg ℝ) (inf : ℝ)
    (sched : σ → Sim.View ℝ → Except Err (Sim.Schedule ℝ × σ))
    (hs : ∀ st, Sorted.SchedSafe feasP cfg inf (frozen sched st))
    (f : Sim.View ℝ → Except Err (Sim.Schedule ℝ)) (hf : ∀ v, ∃ st', f v = frozen sched st' v) :
    Sorted.SchedSafe feasP cfg inf f := by
  constructor
  · intro v e h
    obtain ⟨st', h'⟩ := hf v
    rw [h'] at h
    exact (hs st').err v e h
  · intro a ho hev sch h
    obtain ⟨st', h'⟩ := hf (Sim.view cfg a)
    rw [h'] at h
    exact (hs st').ok a ho hev sch h

end Acn.Capstone
