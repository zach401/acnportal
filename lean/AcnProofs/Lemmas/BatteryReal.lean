/-
  Charge-level facts over ℝ (all three calculations, dispatched as `Battery.charge` does):
  a successful call satisfies the physical bounds and preserves the invariant; which calls
  fail; one operation of a sequence (`OpAdmissible`, `OpBounds`, `HistoryOK`, `applyOp_ok`: the induction over
  histories is `C03.bounds_along_history`); the same through `EV.charge` (`ev_rate_le_pilot`).
-/
import AcnProofs.Lemmas.BatteryAlg
import AcnProofs.Lemmas.BatteryCont
import AcnProofs.Lemmas.Evse

namespace Acn.BattReal
open Acn Acn.Battery Acn.BattAlg Acn.BattFlow

/-- SoC-level bounds of the closed form, all three regimes (`1 + x ≤ exp x` inside `W_ge`) -/
theorem contSoc_bounds {s ts pd0 md : ℝ} (hmd : 0 < md) (hpd : 0 < pd0) (hts : ts < 1)
    (hs : s ≤ 1) :
    s ≤ contSoc s ts pd0 md ∧ contSoc s ts pd0 md - s ≤ min pd0 md ∧ contSoc s ts pd0 md ≤ 1 := by
  rw [contSoc_eq_flow hmd hpd hts]
  have h1ts : 0 < 1 - ts := by linarith
  have := flowSoc_bounds (p := min pd0 md) (κ := md / (1 - ts)) (s := s) (t := 1)
    (lt_min hpd hmd) (div_pos hmd h1ts) hs zero_le_one
  simpa using this

/-- the power of the closed form lies between 0 and the ideal battery's: the noise clamp keeps the final SoC
    between the initial one and the noise-free one, which `contSoc_bounds` places, and SoC per period times
    `capacity / (T/60)` is power -/
theorem contPower_bounds {b : Batt ℝ} (hb : Inv b) (hm : 0 < b.maxPower) (ν : ℝ) {pilot V T : ℝ} (hp : 0 < pilot)
    (hV : 0 < V) (hT : 0 < T) :
    0 ≤ (currOf b pilot V T ν - b.charge / b.capacity) * b.capacity / (T / 60) ∧
    (currOf b pilot V T ν - b.charge / b.capacity) * b.capacity / (T / 60) ≤ idealPower b pilot V T := by
  obtain ⟨h1, h2, h3⟩ := contSoc_bounds (mdOf_pos hb.cap_pos hm hT) (pd0Of_pos hb.cap_pos hp hV hT) hb.ts_lt
    hb.soc_le_one
  have hc := hb.cap_pos
  have hT' : 0 < T / 60 := div_pos hT (by norm_num)
  have hcur : b.charge / b.capacity ≤ currOf b pilot V T ν ∧
      currOf b pilot V T ν ≤ contSoc (b.charge / b.capacity) b.ts (pd0Of b pilot V T) (mdOf b T) := by
    unfold currOf
    simp only []
    split_ifs
    · exact ⟨le_max_right _ _, max_le (sub_le_self _ (abs_nonneg _)) h1⟩
    · exact ⟨h1, le_refl _⟩
  -- `x ↦ x · capacity / (T/60)` is monotone and takes SoC rates to powers
  have mono : ∀ {x y : ℝ}, x ≤ y → x * b.capacity / (T / 60) ≤ y * b.capacity / (T / 60) :=
    fun h => div_le_div_of_nonneg_right (mul_le_mul_of_nonneg_right h hc.le) hT'.le
  have e1 : pd0Of b pilot V T * b.capacity / (T / 60) = pilot * V / 1000 := by
    unfold pd0Of; field_simp
  have e2 : mdOf b T * b.capacity / (T / 60) = b.maxPower := by
    unfold mdOf; field_simp
  have e3 : (1 - b.charge / b.capacity) * b.capacity / (T / 60) =
      (b.capacity - b.charge) / (T / 60) := by
    rw [sub_mul, one_mul, div_mul_cancel₀ _ hc.ne']
  have hd : currOf b pilot V T ν - b.charge / b.capacity ≤ min (pd0Of b pilot V T) (mdOf b T) :=
    (sub_le_sub_right hcur.2 _).trans h2
  refine ⟨div_nonneg (mul_nonneg (sub_nonneg.mpr hcur.1) hc.le) hT'.le, le_min (le_min ?_ ?_) ?_⟩
  · exact e1 ▸ mono (hd.trans (min_le_left _ _))
  · exact e2 ▸ mono (hd.trans (min_le_right _ _))
  · exact e3 ▸ mono (sub_le_sub_right (hcur.2.trans h3) _)

theorem contCharge_bounds {b : Batt ℝ} (hb : Inv b) (hm : 0 < b.maxPower) (ν : ℝ)
    {pilot V T : ℝ} (hV : 0 < V) (hT : 0 < T) (hp : 0 ≤ pilot) :
    ∃ b' r, contCharge b pilot V T ν = .ok (b', r) ∧ StepBounds b pilot b' r ∧
      SameParams b b' := by
  rcases eq_or_lt_of_le hp with h0 | h0
  · subst h0
    exact ⟨_, _, contCharge_zero b ν hV hT, .idle hb (le_refl _), (Delivers.idle b hV hT).params⟩
  · have e := contCharge_ok b ν hV hT h0 hb.cap_pos hm hb.ts_lt hb.charge_le
    have hd := contCharge_delivers e
    have hP := contPower_bounds hb hm ν h0 hV hT
    exact ⟨_, _, e, .of_power hb hp hV hT hP.1 hP.2 hd.charge_eq hd.rate_eq, hd.params⟩

/-- whenever a call returns, whatever the calculation, its power lies between 0 and the ideal
    battery's (the continuous calculation reaches the closed form only with `maxPower ≠ 0`) -/
theorem charge_power_bounds {b : Batt ℝ} (hb : Inv b) {pilot V T ν : ℝ} (hp : 0 ≤ pilot)
    {b' : Batt ℝ} {r : ℝ} (h : charge b pilot V T ν = .ok (b', r)) :
    0 ≤ b'.power ∧ b'.power ≤ idealPower b pilot V T := by
  have hV := (charge_delivers h).V_pos
  have hT := (charge_delivers h).T_pos
  have h0 := (idealPower_bounds hb hp hV hT).1
  revert h
  refine charge_cases (P := fun x => x = .ok (b', r) → _) b pilot V T ν (fun _ _ h => ?_) (fun _ _ h => ?_)
    (fun _ h => ?_)
  · rw [contCharge_eq b pilot ν hV hT] at h
    split_ifs at h with h1 _ _ h4
    · cases h; exact ⟨le_refl _, h0⟩
    · cases h; exact ⟨le_refl _, h0⟩
    · cases h
      have hm : 0 < b.maxPower := lt_of_le_of_ne hb.maxp_nonneg
        fun e => h4 (by unfold mdOf; rw [← e, zero_div, zero_div])
      exact contPower_bounds hb hm ν (lt_of_le_of_ne hp (Ne.symm h1)) hV hT
  · rw [stepCharge_ok b pilot ν hV hT hb.cap_pos.ne'] at h
    cases h
    exact stepPower_bounds hb ν hp hV hT
  · rw [idealCharge_ok b pilot hV hT] at h
    cases h
    exact ⟨h0, le_refl _⟩

theorem charge_ok_bounds {b : Batt ℝ} (hb : Inv b) {pilot V T ν : ℝ} (hp : 0 ≤ pilot)
    {b' : Batt ℝ} {r : ℝ} (h : charge b pilot V T ν = .ok (b', r)) :
    StepBounds b pilot b' r ∧ Inv b' :=
  (charge_delivers h).bounds hb hp (charge_power_bounds hb hp h).1 (charge_power_bounds hb hp h).2

/-- which calls return: exactly those that pass the guards (and, for the continuous
    calculation with a non-zero pilot, a non-zero maximum power — Python raises
    `ZeroDivisionError` there) -/
theorem charge_total {b : Batt ℝ} (hb : Inv b) {pilot V T : ℝ} (ν : ℝ) (hV : 0 < V) (hT : 0 < T)
    (hm : 0 < b.maxPower ∨ pilot = 0 ∨ b.twoStage = false ∨ b.cmode = .stepwise) :
    ∃ b' r, charge b pilot V T ν = .ok (b', r) := by
  refine charge_cases (P := fun x => ∃ b' r, x = .ok (b', r)) b pilot V T ν (fun htwo hmode => ?_)
    (fun _ _ => ⟨_, _, stepCharge_ok b pilot ν hV hT hb.cap_pos.ne'⟩) (fun _ => ⟨_, _, idealCharge_ok b pilot hV hT⟩)
  rcases hm with hm | hm | hm | hm
  · rcases eq_or_ne pilot 0 with h0 | h0
    · subst h0; exact ⟨_, _, contCharge_zero b ν hV hT⟩
    · by_cases hf : 1 ≤ b.charge / b.capacity
      · exact ⟨_, _, by rw [contCharge_eq b pilot ν hV hT, if_neg h0, if_neg hb.cap_pos.ne', if_pos hf]⟩
      · exact ⟨_, _, by rw [contCharge_eq b pilot ν hV hT, if_neg h0, if_neg hb.cap_pos.ne', if_neg hf,
          if_neg (mdOf_pos hb.cap_pos hm hT).ne']⟩
  · subst hm; exact ⟨_, _, contCharge_zero b ν hV hT⟩
  · rw [hm] at htwo; cases htwo
  · rw [hm] at hmode; cases hmode

/-- the only requirement on a history: pilots are non-negative (any voltage, period, draw,
    any `reset` argument — the code's own guards deal with those) -/
def OpAdmissible : Op ℝ → Prop
  | .charge pilot _ _ _ => 0 ≤ pilot
  | .reset _ => True

def OpBounds (b : Batt ℝ) : Op ℝ → Batt ℝ → ℝ → Prop
  | .charge pilot _ _ _, b', r => StepBounds b pilot b' r
  | .reset _, b', r => b'.charge ≤ b.capacity ∧ b'.power = 0 ∧ r = 0

/-- the bounds hold at every call of a history (a failing call leaves the state alone and
    the history goes on, as in `runOps`) -/
def HistoryOK : Batt ℝ → List (Op ℝ) → Prop
  | _, [] => True
  | b, o :: os =>
    match applyOp b o with
    | .ok (b', r) => OpBounds b o b' r ∧ Inv b' ∧ SameParams b b' ∧ HistoryOK b' os
    | .error _ => HistoryOK b os

theorem reset_sameParams {b b' : Batt ℝ} {i : Option ℝ} (h : reset b i = .ok b') :
    SameParams b b' := by
  unfold reset at h
  cases i with
  | none => cases h; exact .of_with b _ _
  | some c =>
    simp only at h
    split_ifs at h
    cases h
    exact .of_with b _ _

theorem reset_ok {b : Batt ℝ} (hb : Inv b) {i : Option ℝ} {b' : Batt ℝ}
    (h : reset b i = .ok b') :
    b'.charge ≤ b.capacity ∧ b'.power = 0 ∧ SameParams b b' ∧
      b'.charge = (match i with | none => b.init | some c => c) := by
  unfold reset at h
  cases i with
  | none =>
    simp only [Except.ok.injEq] at h; subst h
    exact ⟨hb.init_le, rfl, .of_with b _ _, rfl⟩
  | some c =>
    simp only at h
    split_ifs at h with hc
    simp only [Except.ok.injEq] at h; subst h
    exact ⟨not_lt.mp hc, rfl, .of_with b _ _, rfl⟩

theorem applyOp_ok {b : Batt ℝ} (hb : Inv b) {o : Op ℝ} (ho : OpAdmissible o) {b' : Batt ℝ} {r : ℝ}
    (h : applyOp b o = .ok (b', r)) : OpBounds b o b' r ∧ Inv b' ∧ SameParams b b' := by
  cases o with
  | charge pilot V T ν =>
    obtain ⟨hs, hi⟩ := charge_ok_bounds hb ho h
    exact ⟨hs, hi, (charge_delivers h).params⟩
  | reset i =>
    simp only [applyOp] at h
    cases hr : reset b i with
    | error e => rw [hr] at h; cases h
    | ok b1 =>
      rw [hr] at h; simp only [Except.ok.injEq, Prod.mk.injEq] at h
      obtain ⟨rfl, rfl⟩ := h
      obtain ⟨h1, h2, h3, _⟩ := reset_ok hb hr
      exact ⟨⟨h1, h2, rfl⟩, hb.of_sameParams h3 h1, h3⟩

/-- `EV.charge` wraps `Battery.charge`: what the EV records after a call that returns -/
theorem ev_rate_le_pilot {e e' : Evse.Ev ℝ} (hb : Inv e.batt) {pilot V T ν : ℝ} (hp : 0 ≤ pilot)
    (h : e.charge pilot V T ν = .ok e') :
    0 ≤ e'.rate ∧ e'.rate ≤ pilot ∧ e.delivered ≤ e'.delivered ∧
    e'.delivered = e.delivered + e'.rate * V / 1000 * (T / 60) ∧ Inv e'.batt := by
  obtain ⟨b', r, hc, rfl⟩ := Evse.Ev.charge_ok h
  have hV := (charge_delivers hc).V_pos
  have hT := (charge_delivers hc).T_pos
  obtain ⟨hs, hi⟩ := charge_ok_bounds hb hp hc
  have : 0 ≤ r * V / 1000 * (T / 60) := by
    have := hs.rate_nonneg; positivity
  refine ⟨hs.rate_nonneg, hs.rate_le_pilot, ?_, ?_, hi⟩
  · show e.delivered ≤ e.delivered + r * V / ((1000 : ℕ) : ℝ) * (T / ((60 : ℕ) : ℝ))
    simp only [Nat.cast_ofNat]; linarith
  · show e.delivered + r * V / ((1000 : ℕ) : ℝ) * (T / ((60 : ℕ) : ℝ)) = _
    simp only [Nat.cast_ofNat]

end Acn.BattReal
