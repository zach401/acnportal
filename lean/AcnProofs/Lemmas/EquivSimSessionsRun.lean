/-
  Helper lemmas for C10 (Sim level, sessions): one trip round the loop and the whole run from two states
  that differ by the listing order of the EV records / the queue, stage by stage (`sim2_perm`).
  On a `Valid` scenario the events of a period never raise (C01), so such a run can only be aborted by
  the scheduler (`BaseAlgorithm.run`, `_update_schedules`) or by the pilot application — and those stages
  read the listing order nowhere (`schedStage_mid`, `setPilotAt_mid`, `storeRates_mid` are two-sided):
  the same error, in the same period, in states related as at any other point in the middle of a
  period (`MidC`: `Mid` + `CoreEquiv`).  At a loop head `EVSE.current_pilot` is equal again (`NC`), because a
  completed period leaves the pilot column in it (`body_evse`).
-/
import AcnProofs.Lemmas.EquivSimSessions
import AcnProofs.Lemmas.EventCoreSimFail

set_option linter.unusedSectionVars false

namespace Acn.SimPerm
open Acn.Sim Acn.EventCore Acn.Evse Acn.SimEquiv Acn.Pilots Acn.Steps

variable {K : Type} [Field K] [LinearOrder K] [IsStrictOrderedRing K] [HasExp K]

section
variable {cfg : Cfg K}

theorem currentRates_mid {s s' : State K} (h : Mid s s') : currentRates cfg s' = currentRates cfg s := by
  unfold currentRates
  apply List.map_congr_left
  intro st _
  rw [occupantEv_mid h]

theorem storeRates_mid (w : Nat) {s s' : State K} (h : Mid s s') :
    Out Mid (sep Mid Eq) (storeRates cfg w s) (storeRates cfg w s') := by
  have hr : ratesFor w s' = ratesFor w s := by unfold ratesFor; rw [h.iter, h.rates]
  by_cases hw : s.core.iter < (ratesFor w s).width
  · rw [storeRates_stored hw, storeRates_stored (s := s') (by rw [hr, h.iter]; exact hw), currentRates_mid h, hr,
      h.iter, h.peak]
    exact .ok ⟨h.occ, h.iter, h.pend, h.pilots, rfl, rfl, h.evs, h.evseLen, h.noiseIdx, h.occLog⟩
  · rw [storeRates_noColumn hw, storeRates_noColumn (s := s') (by rw [hr, h.iter]; exact hw), hr]
    exact .err ⟨rfl, h.occ, h.iter, h.pend, h.pilots, rfl, h.peak, h.evs, h.evseLen, h.noiseIdx, h.occLog⟩

theorem widthInc_mid {s s' : State K} (h : Mid s s') : widthInc s' = widthInc s := by
  unfold widthInc
  rw [lastTs_perm h.pend, h.iter]

theorem widen_mid {s s' : State K} (h : Mid s s') : Mid (widen s) (widen s') := by
  have hwi := widthInc_mid h
  refine ⟨h.occ, h.iter, h.pend, ?_, ?_, h.peak, h.evs, h.evseLen, h.noiseIdx, h.occLog⟩
  · simp only [widen, hwi, h.pilots]
  · simp only [widen, hwi, h.rates]

theorem applyStage_evse {s r : State K} (hl : s.evsePilot.length = cfg.stations.length)
    (hr : applyStage cfg s = (r, none)) :
    r.evsePilot = (List.range cfg.stations.length).map (fun j => r.pilots.get j (r.core.iter - 1)) := by
  cases Apply.of_eq hr with
  | @done s2 s3 _ hu hs =>
    have e2 := updatePilots_evse (cfg := cfg) hu hl
    have f2 := updatePilotsFrom_frame cfg cfg.stations 0 (widenW (widthInc s) s)
    have f3 := storeRates_frame cfg (widthInc s) s2
    rw [show updatePilotsFrom cfg 0 cfg.stations (widenW (widthInc s) s) = (s2, none) from hu] at f2
    rw [hs] at f3
    show s3.evsePilot = (List.range cfg.stations.length).map (fun j => s3.pilots.get j (s3.core.iter + 1 - 1))
    rw [f3.2.2.2.1, f3.2.1, f3.1, e2, f2.pilots, f2.core, Nat.add_sub_cancel]

theorem body_evse {sched : View K → Except EventCore.Err (Schedule K)} {s r : State K}
    (hl : s.evsePilot.length = cfg.stations.length) (hb : Sim.body cfg sched s = (r, none)) :
    r.evsePilot = (List.range cfg.stations.length).map (fun j => r.pilots.get j (r.core.iter - 1)) := by
  obtain ⟨a, hpa, ⟨-, hne⟩ | ha⟩ := body_preApply hb
  · exact absurd rfl hne
  · exact applyStage_evse (hpa.evseLen.trans hl) ha

def MidC (s s' : State K) : Prop := CoreEquiv s.core s'.core ∧ Mid s s'

theorem midC_of_core {s s' : State K} {x y : State K × Option EventCore.Err} (hc : CoreEquiv s.core s'.core)
    (hx : x.1.core = s.core) (hy : y.1.core = s'.core) (h : Out Mid (sep Mid Eq) x y) : Out MidC (sep MidC Eq) x y := by
  cases h with
  | ok h => exact .ok ⟨by simp only at hx hy; rw [hx, hy]; exact hc, h⟩
  | err h => exact .err ⟨h.1, by simp only at hx hy; rw [hx, hy]; exact hc, h.2⟩

theorem apply2_mid : Apply2 cfg cfg (MidC (K := K)) MidC (sep MidC Eq) where
  widen := fun s s' ⟨hc, h⟩ => by
    have hm := widen_mid h
    unfold widenStage
    rw [hm.pilots, h.iter]
    split
    · exact .err ⟨rfl, hc, hm⟩
    · exact .ok ⟨hc, hm⟩
  pilots := fun s s' hm =>
    updatePilotsFrom_out
      (fun i st s s' ⟨hc, h⟩ =>
        midC_of_core hc (setPilotAt_core cfg s i st) (setPilotAt_core cfg s' i st) (setPilotAt_mid h i st))
      cfg.stations 0 s s' hm
  store := fun s s' ⟨hc, h⟩ => by
    unfold storeStage
    rw [widthInc_mid h]
    exact midC_of_core hc (storeRates_core cfg _ s) (storeRates_core cfg _ s') (storeRates_mid _ h)
  finish := fun s s' ⟨hc, h⟩ =>
    ⟨⟨by simp only [finishStage, advance, hc.iter], hc.pending, hc.occ, hc.resolve, hc.lastUpd, hc.eventHist,
        hc.evHist, hc.invoked⟩,
      h.occ, by simp only [finishStage, advance, h.iter], h.pend, h.pilots, h.rates, h.peak, h.evs, h.evseLen,
      h.noiseIdx, by simp only [finishStage, h.occLog, h.occ]⟩

/-- the non-core (NC) part of two states that differ by the listing order, at a loop head -/
structure NC (s s' : State K) : Prop where
  pilots : s'.pilots = s.pilots
  rates : s'.rates = s.rates
  peak : s'.peak = s.peak
  evs : EvsPerm s.evs s'.evs
  evsePilot : s'.evsePilot = s.evsePilot
  noiseIdx : s'.noiseIdx = s.noiseIdx
  occLog : s'.occLog = s.occLog

theorem eventsStage_mid (hv : Valid cfg.core) {t : Nat} {s s' : State K} (hrel : Rel cfg.core t s.core s'.core)
    (hnc : NC s s') : Out MidC (sep MidC Eq) (Sim.eventsStage cfg s) (Sim.eventsStage cfg s') := by
  obtain ⟨c1, c1', hc, hc', hce⟩ := eventsStage_equiv hv hrel
  obtain ⟨hk1, hk2⟩ := Prod.mk.inj ((Sim.eventsStage_core cfg s).trans hc)
  obtain ⟨hk1', hk2'⟩ := Prod.mk.inj ((Sim.eventsStage_core cfg s').trans hc')
  obtain ⟨f1, f2, f3, f4, f5, f6, f7⟩ := Sim.eventsStage_frame cfg s
  obtain ⟨g1, g2, g3, g4, g5, g6, g7⟩ := Sim.eventsStage_frame cfg s'
  refine .of_eq (hk2'.trans hk2.symm) ⟨by rw [hk1, hk1']; exact hce, ?_⟩
  exact ⟨by rw [hk1, hk1', hce.occ], by rw [hk1, hk1', hce.iter], by rw [hk1, hk1']; exact hce.pending.symm,
    by rw [f1, g1, hnc.pilots], by rw [f2, g2, hnc.rates], by rw [f3, g3, hnc.peak],
    by rw [f4, g4]; exact hnc.evs, by rw [f7, g7, hnc.evsePilot], by rw [f5, g5, hnc.noiseIdx],
    by rw [f6, g6, hnc.occLog]⟩

theorem sim2_perm (hv : Valid cfg.core) {sched : View K → Except EventCore.Err (Schedule K)}
    (hsch : SchedIgnoresEvsePilot sched) :
    Sim2 cfg cfg sched sched (fun _ => True) (fun s s' => ∃ t, Rel cfg.core t s.core s'.core ∧ NC s s')
      MidC MidC (sep MidC Eq) where
  toApply2 := apply2_mid
  events := fun _ _ ⟨_, hrel, hnc⟩ => eventsStage_mid hv hrel hnc
  needs := fun _ _ ⟨hc, _⟩ => needsSched_coreEquiv hc cfg.maxRecompute
  sched := fun s s' ⟨hc, h⟩ _ => by
    have hm2 : Mid { s with core := markInvoked s.core } { s' with core := markInvoked s'.core } :=
      ⟨h.occ, h.iter, h.pend, h.pilots, h.rates, h.peak, h.evs, h.evseLen, h.noiseIdx, h.occLog⟩
    unfold schedSet
    rw [schedStage_mid (cfg := cfg) hsch hm2]
    cases schedStage cfg sched { s with core := markInvoked s.core } with
    | error e => exact .err ⟨rfl, coreEquiv_markInvoked hc, hm2⟩
    | ok m =>
      exact .ok ⟨coreEquiv_markScheduled (coreEquiv_markInvoked hc), h.occ, h.iter, h.pend, rfl, h.rates, h.peak,
        h.evs, h.evseLen, h.noiseIdx, h.occLog⟩

/-- what goes round the loop: the cores satisfy the invariant of the same period and agree on what it does not
    mention, the rest is equal up to the listing of the EV records, `EVSE.current_pilot` has one entry per station -/
def Head (cfg : Cfg K) (s s' : State K) : Prop :=
  ∃ t, Rel cfg.core t s.core s'.core ∧ NC s s' ∧ s.evsePilot.length = cfg.stations.length

theorem body_perm_sim (hv : Valid cfg.core) {sched : View K → Except EventCore.Err (Schedule K)}
    (hsch : SchedIgnoresEvsePilot sched) {s s' : State K} (h : Head cfg s s') :
    Out (Head cfg) (sep MidC Eq) (Sim.body cfg sched s) (Sim.body cfg sched s') := by
  obtain ⟨t, hrel, hnc, hl⟩ := h
  refine ((sim2_perm hv hsch).body ⟨t, hrel, hnc⟩ fun _ _ _ => trivial).ok_imp fun r r' hb hb' ⟨_, hm⟩ => ?_
  -- `EVSE.current_pilot` is the pilot column on both sides
  have e := body_evse hl hb
  have e' := body_evse (hnc.evsePilot ▸ hl) hb'
  rw [hm.pilots, hm.iter, ← e] at e'
  refine ⟨t + 1, ?_, ⟨hm.pilots, hm.rates, hm.peak, hm.evs, e', hm.noiseIdx, hm.occLog⟩, by rw [e]; simp⟩
  -- the cores: through the event-core run
  obtain ⟨d, d', hd, hd', hR⟩ := body_equiv hv (sched := noFail) (apply := noFail) (fun _ => rfl) (fun _ => rfl) hrel
  rw [body_core_ok hb] at hd
  rw [body_core_ok hb'] at hd'
  cases hd
  cases hd'
  exact hR

theorem run_perm_sim_any (hv : Valid cfg.core) {sched : View K → Except EventCore.Err (Schedule K)}
    (hsch : SchedIgnoresEvsePilot sched) (n : Nat) {s s' : State K} (h : Head cfg s s') :
    Out (Head cfg) (sep MidC Eq) (Sim.run cfg sched n s) (Sim.run cfg sched n s') := by
  rw [Sim.run_eq, Sim.run_eq]
  exact loopE_out (fun _ _ ⟨_, hrel, _, _⟩ => (guard_equiv hrel.equiv).symm)
    (fun _ _ h _ => body_perm_sim hv hsch h) n s s' h

theorem init_perm (cfg : Cfg K) (evs' : List (Ev K)) (recs' : List (Int × String)) (hv : Valid cfg.core)
    (he : evs'.Perm cfg.evs) (hrc : recs'.Perm cfg.recomputes) :
    CfgPerm cfg.core ({ cfg with evs := evs', recomputes := recs' } : Cfg K).core ∧
    Rel cfg.core 0 (Sim.init cfg).core (Sim.init ({ cfg with evs := evs', recomputes := recs' } : Cfg K)).core ∧
    NC (Sim.init cfg) (Sim.init ({ cfg with evs := evs', recomputes := recs' } : Cfg K)) := by
  have hp : CfgPerm cfg.core ({ cfg with evs := evs', recomputes := recs' } : Cfg K).core :=
    ⟨he.map _, hrc, fun _ => Iff.rfl, rfl⟩
  have hrel : Rel cfg.core 0 (Sim.init cfg).core (Sim.init ({ cfg with evs := evs', recomputes := recs' } : Cfg K)).core :=
    ⟨init_inv hv, (init_inv (hv.of_perm hp)).of_perm hp, rfl, rfl⟩
  have hlt : lastTs (EventCore.init ({ cfg with evs := evs', recomputes := recs' } : Cfg K).core).pending =
      lastTs (EventCore.init cfg.core).pending := lastTs_perm hrel.equiv.pending.symm
  refine ⟨hp, hrel, ?_, ?_, rfl, ⟨he, ?_⟩, rfl, rfl, rfl⟩
  · simp only [Sim.init, hlt]
  · simp only [Sim.init, hlt]
  · have h1 : (cfg.evs.map (·.session)) = cfg.core.sessions.map (·.id) := by
      simp only [Cfg.core, List.map_map]
      rfl
    show (cfg.evs.map (·.session)).Nodup
    rw [h1]
    exact hv.ids_nodup

/-- the simulator reads the EV list and the recompute list of its configuration only through the lookup of a
    session: with another listing that looks up alike, `Sim.run` is literally the same function of the state -/
theorem run_congr_listing (cfg : Cfg K) (evs' : List (Evse.Ev K)) (recs' : List (Int × String))
    (hf : ∀ id, findSession ({ cfg with evs := evs', recomputes := recs' } : Cfg K).core id = findSession cfg.core id)
    (sched : View K → Except EventCore.Err (Schedule K)) (n : Nat) (s : State K) :
    Sim.run { cfg with evs := evs', recomputes := recs' } sched n s = Sim.run cfg sched n s := by
  have hstep : ∀ e s, stepEv ({ cfg with evs := evs', recomputes := recs' } : Cfg K) e s = stepEv cfg e s := by
    intro e s
    unfold stepEv
    have h1 : EventCore.step ({ cfg with evs := evs', recomputes := recs' } : Cfg K).core e s.core =
        EventCore.step cfg.core e s.core := by
      simp only [EventCore.step, process_congr hf (fun _ => Iff.rfl)]
    rw [h1, hf]
    rfl
  have hev : ∀ s, Sim.eventsStage ({ cfg with evs := evs', recomputes := recs' } : Cfg K) s = Sim.eventsStage cfg s := by
    intro s
    unfold Sim.eventsStage
    rw [Sim.processAll_eq, Sim.processAll_eq]
    exact foldE_congr (fun e _ s => hstep e s) _
  -- every other stage reads the configuration through fields the two share
  have hup : ∀ x, updatePilots ({ cfg with evs := evs', recomputes := recs' } : Cfg K) x = updatePilots cfg x := by
    intro x
    unfold updatePilots
    rw [updatePilotsFrom_foldE, updatePilotsFrom_foldE]
    rfl
  have has : applyStage ({ cfg with evs := evs', recomputes := recs' } : Cfg K) = applyStage cfg := by
    funext x
    rw [applyStage_eq, applyStage_eq]
    simp only [hup]
    rfl
  rw [Sim.run_eq, Sim.run_eq]
  refine loopE_congr (fun _ => rfl) (fun s _ => ?_) n s
  rw [body_eq, body_eq, hev, has]
  rfl

theorem run_listing (cfg : Cfg K) (evs' : List (Evse.Ev K)) (recs' : List (Int × String)) (hv : Valid cfg.core)
    (he : evs'.Perm cfg.evs) (hrc : recs'.Perm cfg.recomputes)
    {sched : View K → Except EventCore.Err (Schedule K)} (hsch : SchedIgnoresEvsePilot sched) (n : Nat) :
    Out (Head cfg) (sep MidC Eq) (Sim.run cfg sched n (Sim.init cfg))
      (Sim.run { cfg with evs := evs', recomputes := recs' } sched n
        (Sim.init { cfg with evs := evs', recomputes := recs' })) := by
  obtain ⟨hp, hrel, hnc⟩ := init_perm cfg evs' recs' hv he hrc
  rw [run_congr_listing cfg evs' recs' (findSession_perm hv hp)]
  exact run_perm_sim_any hv hsch n ⟨0, hrel, hnc, by simp [Sim.init]⟩

end
end Acn.SimPerm
