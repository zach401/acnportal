/-
  Helper lemmas for C10 (Sim level, shift): the queue never holds a negative timestamp (`PendNonneg`, which
  `width_increase` needs); one trip round the loop and the whole run under a time shift, from related
  states (every `maxRecompute`, errors included).
-/
import AcnProofs.Lemmas.EquivSimShift
import AcnProofs.Lemmas.ResumeInv

set_option linter.unusedSectionVars false

namespace Acn.SimShift
open Acn.Sim Acn.EventCore Acn.Evse Acn.SimEquiv Acn.Pilots Acn.Steps

def DepNonneg (cfg : EventCore.Cfg) : Prop := ∀ x ∈ cfg.sessions, 0 ≤ x.departure

theorem processAll_pendNonneg {cfg : EventCore.Cfg} (hd : DepNonneg cfg) (es : List Event) (c : Core)
    (h : PendNonneg c) : PendNonneg (EventCore.processAll cfg es c).1 := by
  obtain ⟨us, hus, hmem⟩ := EventCore.processAll_pending cfg es c
  intro d hdm
  rw [hus, List.mem_append] at hdm
  rcases hdm with h1 | h1
  · exact h d h1
  · obtain ⟨_, _, _, x, hx, rfl⟩ := hmem d h1
    exact hd x (List.mem_of_find?_eq_some hx)

theorem eventsStage_pendNonneg {cfg : EventCore.Cfg} (hd : DepNonneg cfg) (c : Core) (h : PendNonneg c) :
    PendNonneg (EventCore.eventsStage cfg c).1 := by
  unfold EventCore.eventsStage
  apply processAll_pendNonneg hd
  intro e he
  simp only [popCurrent, List.mem_filter] at he
  exact h e he.1

variable {K : Type} [Field K] [LinearOrder K] [IsStrictOrderedRing K] [HasExp K]

theorem sim_eventsStage_pendNonneg {cfg : Cfg K} (hd : DepNonneg cfg.core) (s : State K) (h : PendNonneg s.core) :
    PendNonneg (Sim.eventsStage cfg s).1.core := by
  have := Sim.eventsStage_core cfg s
  have h2 : (Sim.eventsStage cfg s).1.core = (EventCore.eventsStage cfg.core s.core).1 := by rw [← this]
  rw [h2]
  exact eventsStage_pendNonneg hd _ h

section
variable {k : Nat} {V : List Nat} {pre : List (List (Option String))} {cfg : Cfg K}
  {sched sched' : View K → Except EventCore.Err (Schedule K)}

/-- `width_increase` reads the last timestamp of the queue as a natural number, so the relation inside the loop
    carries `PendNonneg` -/
theorem sim2_shift (hd : DepNonneg cfg.core) (hsch : SchedShiftInvariant k sched sched') :
    Sim2 cfg (shiftCfgS k cfg) sched sched' (fun _ => True)
      (fun s s' => ShEquiv k V pre s s' ∧ PendNonneg s.core) (fun s s' => ShEquiv k V pre s s' ∧ PendNonneg s.core)
      (fun s s' => ShEquiv k V pre s s' ∧ PendNonneg s.core) (sep (ShEquiv k V pre) Eq) where
  events := fun s _ ⟨he, hp⟩ =>
    (eventsStage_shift_sim (cfg := cfg) he).inv fun _ => sim_eventsStage_pendNonneg hd s hp
  needs := fun s s' ⟨he, _⟩ => by
    rw [he.core]
    exact needsSched_sh k V cfg.maxRecompute s.core
  sched := fun s s' ⟨he, hp⟩ _ => by
    have he2 : ShEquiv k V pre { s with core := markInvoked s.core } { s' with core := markInvoked s'.core } :=
      ⟨by simp only [he.core, markInvoked_sh], he.pilots, he.rates, he.peak, he.evs, he.evsePilot, he.noiseIdx,
        he.occLog⟩
    unfold schedSet
    rw [schedStage_shift (cfg := cfg) hsch he2 hp]
    cases schedStage cfg sched { s with core := markInvoked s.core } with
    | error e => exact .err ⟨rfl, he2⟩
    | ok m =>
      exact .ok ⟨⟨by simp only [he.core, markInvoked_sh, markScheduled_sh], rfl, he.rates, he.peak, he.evs,
        he.evsePilot, he.noiseIdx, he.occLog⟩, hp⟩
  widen := fun s s' ⟨he, hp⟩ => by
    have hwi := widthInc_shift he hp
    have he1 : ShEquiv k V pre (widen s) (widen s') :=
      ⟨he.core, by simp only [widen, hwi, he.pilots, increaseWidth_shift],
        by simp only [widen, hwi, he.rates, increaseWidth_shift], he.peak, he.evs, he.evsePilot, he.noiseIdx,
        he.occLog⟩
    have hw : (widen s').pilots.width = (widen s).pilots.width + k := by rw [he1.pilots]; rfl
    unfold widenStage
    rw [hw, he.core, sh_iter]
    simp only [Nat.add_le_add_iff_right]
    split
    · exact .err ⟨rfl, he1⟩
    · exact .ok ⟨he1, hp⟩
  pilots := fun s s' hm =>
    updatePilotsFrom_out (cfg' := shiftCfgS k cfg)
      (fun i st s _ ⟨he, hp⟩ =>
        (setPilotAt_shift (cfg := cfg) he i st).inv fun _ => by rw [setPilotAt_core]; exact hp)
      cfg.stations 0 s s' hm
  store := fun s s' ⟨he, hp⟩ => by
    unfold storeStage
    rw [widthInc_shift he hp]
    exact (storeRates_shift (cfg := cfg) _ he).inv fun _ => by rw [storeRates_core]; exact hp
  finish := fun s s' ⟨he, hp⟩ =>
    ⟨⟨by simp only [finishStage, he.core, advance_sh], he.pilots, he.rates, he.peak, he.evs, he.evsePilot,
      he.noiseIdx, by
        simp only [finishStage, he.occLog, he.core, occ_sh, List.append_assoc]
        congr 3
        apply List.map_congr_left
        intro st _
        cases s.core.occ st.id <;> rfl⟩, hp⟩

theorem run_shift_sim (hd : DepNonneg cfg.core) {sched sched' : View K → Except EventCore.Err (Schedule K)}
    (hsch : SchedShiftInvariant k sched sched') : ∀ (n : Nat) {s s' : State K}, ShEquiv k V pre s s' →
    PendNonneg s.core →
    (Sim.run (shiftCfgS k cfg) sched' n s').2 = (Sim.run cfg sched n s).2 ∧
    ShEquiv k V pre (Sim.run cfg sched n s).1 (Sim.run (shiftCfgS k cfg) sched' n s').1 := by
  intro n s s' he hp
  have h := (sim2_shift (V := V) (pre := pre) hd hsch).run (fun _ => trivial)
    (fun s s' h => by rw [h.1.core, guard_sh]) n ⟨he, hp⟩
  exact ⟨h.snd_eq, h.rel fun _ _ h => h.1⟩

end
end Acn.SimShift
