/-
  Projection of the full simulator model onto the event core:
  `Sim.body` / `Sim.run` restricted to `.core` ARE `EventCore.body` / `EventCore.run`
  (whenever the full step raises nothing), for every carrier, scheduler, period length,
  battery, EVSE class and noise stream.  Core theorems therefore lift to the full model.
-/
import AcnProofs.Lemmas.EventCoreSimFail
import AcnProofs.Lemmas.QueueSpec
import Mathlib.Tactic

set_option linter.unusedSectionVars false

namespace Acn.Sim
open Acn Acn.EventCore Acn.Steps

variable {K : Type} [Add K] [Sub K] [Mul K] [Div K] [Neg K] [LT K] [LE K]
  [DecidableLT K] [DecidableLE K] [OfNat K 0] [OfNat K 1] [NatCast K] [HasExp K]

theorem body_core_ok {cfg : Cfg K} {sched : View K → Except Err (Schedule K)} {s r : State K}
    (h : body cfg sched s = (r, none)) : EventCore.body cfg.core noFail noFail s.core = (r.core, none) := by
  have := body_core_any cfg sched s
  rw [h] at this
  exact body_noFail_of_ok this

theorem run_core (cfg : Cfg K) (sched : View K → Except Err (Schedule K)) (n : Nat) (s : State K)
    (h : (run cfg sched n s).2 = none) :
    EventCore.run cfg.core noFail noFail n s.core = ((run cfg sched n s).1.core, none) := by
  rw [run_eq] at h ⊢
  rw [EventCore.run_eq]
  exact loopE_proj (·.core) (fun _ => rfl) (fun _ _ _ hb => body_core_ok hb) n s h

/-- What every pass through the loop body keeps, a run keeps: `P` across the passes that
    returned, and across the one that raised `e` provided `Q e`. -/
theorem run_induction {cfg : Cfg K} (sched : View K → Except Err (Schedule K))
    {P : State K → Prop} {Q : Err → Prop}
    (hstep : ∀ s s1, P s → body cfg sched s = (s1, none) → P s1)
    (hraise : ∀ s s1 e, P s → body cfg sched s = (s1, some e) → Q e → P s1)
    (n : Nat) (s s' : State K) (err : Option Err) (hP : P s)
    (h : run cfg sched n s = (s', err)) (he : ∀ e, err = some e → Q e) : P s' := by
  have hends : Ends P (fun s1 e => Q e → P s1) (run cfg sched n s) := by
    rw [run_eq]
    refine loopE_ends (fun a ha _ => ?_) n s hP
    rcases hb : body cfg sched a with ⟨s1, _ | e⟩
    · exact .ok (hstep a s1 ha hb)
    · exact .err (hraise a s1 e ha hb)
  rw [h] at hends
  cases err with
  | none => exact hends.ok_of rfl
  | some e => exact hends.err_of rfl (he e rfl)

theorem run_induction_ok {cfg : Cfg K} (sched : View K → Except Err (Schedule K))
    {P : State K → Prop} (hstep : ∀ s s1, P s → body cfg sched s = (s1, none) → P s1)
    (n : Nat) (s s' : State K) (hP : P s) (h : run cfg sched n s = (s', none)) : P s' :=
  run_induction sched (Q := fun _ => False) hstep (fun _ _ _ _ _ h => h.elim) n s s' none hP h
    (fun _ h => nomatch h)

theorem run_induction_any {cfg : Cfg K} (sched : View K → Except Err (Schedule K))
    {P : State K → Prop} (hstep : ∀ s, P s → P (body cfg sched s).1) (n : Nat) (s : State K) (hP : P s) :
    P (run cfg sched n s).1 := by
  rw [run_eq]
  exact loopE_inv (fun a ha _ => hstep a ha) n hP

theorem init_core (cfg : Cfg K) : (init cfg).core = EventCore.init cfg.core := rfl

/-- the simulator's and the queue's `get_last_timestamp` are the same fold -/
theorem lastTs_eq (p : List Event) : lastTs p = lastTsList p := by
  cases p with
  | nil => rfl
  | cons e es =>
    simp only [lastTs, lastTsList]
    congr 2
    funext m d
    rw [max_def]
    split_ifs <;> omega

theorem lastTs_spec {p : List Event} {l : Int} (h : lastTs p = some l) :
    (∃ d ∈ p, d.ts = l) ∧ ∀ d ∈ p, d.ts ≤ l :=
  ((lastTsList_spec p).2 l).1 (lastTs_eq p ▸ h)

theorem lastTs_perm {p p' : List Event} (h : p'.Perm p) : lastTs p' = lastTs p := by
  rw [lastTs_eq, lastTs_eq, lastTsList_perm h]

theorem lastTs_nonneg {p : List Event} (h : ∀ e ∈ p, 0 ≤ e.ts) {l : Int} (hl : lastTs p = some l) : 0 ≤ l := by
  obtain ⟨⟨d, hd, rfl⟩, -⟩ := lastTs_spec hl
  exact h d hd

theorem occupantEv_mem {s : State K} {st : String} {e : Evse.Ev K} (h : occupantEv s st = some e) : e ∈ s.evs := by
  unfold occupantEv at h
  split at h
  · exact List.mem_of_find?_eq_some h
  · cases h

theorem mem_replaceEv {evs : List (Evse.Ev K)} {e' d : Evse.Ev K} (h : d ∈ replaceEv evs e') : d = e' ∨ d ∈ evs := by
  unfold replaceEv at h
  obtain ⟨d0, hd0, rfl⟩ := List.mem_map.mp h
  split
  · exact Or.inl rfl
  · exact Or.inr hd0

theorem charge_session {e e' : Evse.Ev K} {p V T ν : K} (h : e.charge p V T ν = .ok e') : e'.session = e.session := by
  obtain ⟨b', r, -, rfl⟩ := Evse.Ev.charge_ok h
  rfl

end Acn.Sim
