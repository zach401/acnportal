/-
  Round robin (`RoundRobin.round_robin`): what one trip round the loop can do (`RRMove`), the loop
  invariant for an arbitrary feasibility predicate and arbitrary per-session level lists, and the initial
  state (the termination measure is in `SortedRRTerm`).
-/
import AcnProofs.Lemmas.SortedBasic

set_option linter.unusedSectionVars false

namespace Acn.Sorted
open Acn

variable {K : Type} [Field K] [LinearOrder K] [IsStrictOrderedRing K]

/-- the level station `i` currently sits at: `allowable_pilots[i][rate_idx[i]]` -/
def levelAt (levels : List (List K)) (rateIdx : List Nat) (i : Nat) : K :=
  (levels.getD i []).getD (rateIdx.getD i 0) 0

/-- invariant of the `while len(queue) > 0` loop -/
structure RRInv (feas : List K → Bool) (levels : List (List K)) (all : List (Session K))
    (sch0 : List K) (st : RRState K) : Prop where
  feasible : feas st.sched = true
  level : ∀ s ∈ all, st.sched.set s.idx (levelAt levels st.rateIdx s.idx) = st.sched
  sub : ∀ s ∈ st.queue, s ∈ all
  idx : ∀ s ∈ all, s.idx < st.rateIdx.length
  other : ∀ j, (∀ t ∈ all, t.idx ≠ j) → st.sched[j]? = sch0[j]?
  len : st.sched.length = sch0.length

theorem getD_set_self (l : List Nat) (i v : Nat) (h : i < l.length) : (l.set i v).getD i 0 = v := by
  simp [List.getD_eq_getElem?_getD, h]

theorem getD_set_ne (l : List Nat) (i j v : Nat) (h : i ≠ j) : (l.set i v).getD j 0 = l.getD j 0 := by
  simp [List.getD_eq_getElem?_getD, List.getElem?_set_ne h]

/-- the three things `rrStep` does with the head `s` of the deque (`rest` behind it): raise its station to the
    next level and re-queue it; find the next level infeasible and put the current one back; find no next level -/
inductive RRMove (feas : List K → Bool) (levels : List (List K)) (st : RRState K) (s : Session K)
    (rest : List (Session K)) : RRState K → Prop
  | raise : st.rateIdx.getD s.idx 0 + 1 < (levels.getD s.idx []).length →
      feas (st.sched.set s.idx ((levels.getD s.idx []).getD (st.rateIdx.getD s.idx 0 + 1) 0)) = true →
      RRMove feas levels st s rest
        { sched := st.sched.set s.idx ((levels.getD s.idx []).getD (st.rateIdx.getD s.idx 0 + 1) 0),
          rateIdx := st.rateIdx.set s.idx (st.rateIdx.getD s.idx 0 + 1), queue := rest ++ [s],
          trace := (s.session, s.idx, true) :: st.trace }
  | blocked : st.rateIdx.getD s.idx 0 + 1 < (levels.getD s.idx []).length →
      feas (st.sched.set s.idx ((levels.getD s.idx []).getD (st.rateIdx.getD s.idx 0 + 1) 0)) = false →
      RRMove feas levels st s rest
        { sched := st.sched.set s.idx (levelAt levels st.rateIdx s.idx), rateIdx := st.rateIdx, queue := rest,
          trace := (s.session, s.idx, false) :: st.trace }
  | top : ¬ st.rateIdx.getD s.idx 0 + 1 < (levels.getD s.idx []).length →
      RRMove feas levels st s rest { st with queue := rest, trace := (s.session, s.idx, false) :: st.trace }

theorem rrStep_nil (feas : List K → Bool) (levels : List (List K)) {st : RRState K} (hq : st.queue = []) :
    rrStep feas levels st = st := by
  unfold rrStep; rw [hq]

theorem rrStep_move (feas : List K → Bool) (levels : List (List K)) {st : RRState K} {s : Session K}
    {rest : List (Session K)} (hq : st.queue = s :: rest) :
    RRMove feas levels st s rest (rrStep feas levels st) := by
  unfold rrStep
  rw [hq]
  simp only
  split
  · split
    · exact .raise ‹_› ‹_›
    · rw [List.set_set]
      exact .blocked ‹_› (Bool.eq_false_iff.2 ‹_›)
  · exact .top ‹_›

theorem RRMove.eq {feas : List K → Bool} {levels : List (List K)} {st st' : RRState K} {s : Session K}
    {rest : List (Session K)} (h : RRMove feas levels st s rest st') (hq : st.queue = s :: rest) :
    rrStep feas levels st = st' := by
  unfold rrStep
  rw [hq]
  cases h with
  | raise hk hfe => simp only [hk, hfe, if_true]
  | blocked hk hfe => simp only [hk, hfe, if_true, Bool.false_eq_true, if_false, List.set_set]; rfl
  | top hk => simp only [hk, if_false]

theorem rrStep_inv (feas : List K → Bool) (levels : List (List K)) (all : List (Session K))
    (sch0 : List K) (st : RRState K) (h : RRInv feas levels all sch0 st) :
    RRInv feas levels all sch0 (rrStep feas levels st) := by
  cases hq : st.queue with
  | nil => rw [rrStep_nil feas levels hq]; exact h
  | cons s rest =>
    have hs : s ∈ all := h.sub s (by rw [hq]; exact List.mem_cons_self)
    have hrest : ∀ t ∈ rest, t ∈ all := fun t ht => h.sub t (by rw [hq]; exact List.mem_cons_of_mem _ ht)
    have hm := rrStep_move feas levels hq
    generalize rrStep feas levels st = st' at hm
    cases hm with
    | raise hk hfe =>
      refine ⟨hfe, fun t ht => ?_, fun t ht => ?_, fun t ht => by rw [List.length_set]; exact h.idx t ht,
        fun j hj => (List.getElem?_set_ne (hj s hs)).trans (h.other j hj), by rw [List.length_set]; exact h.len⟩
      · by_cases hti : s.idx = t.idx
        · -- the raised station sits at its new level
          rw [← hti, levelAt, getD_set_self _ _ _ (h.idx s hs), List.set_set]
        · rw [levelAt, getD_set_ne _ _ _ _ hti]
          exact set_noop_of_comm _ _ _ _ _ hti (h.level t ht)
      · rcases List.mem_append.mp ht with ht | ht
        · exact hrest t ht
        · rw [List.mem_singleton.mp ht]; exact hs
    | blocked _ _ =>
      -- the station is put back to the level it was at: the schedule is the one before
      simp only [h.level s hs]
      exact ⟨h.feasible, h.level, hrest, h.idx, h.other, h.len⟩
    | top _ => exact ⟨h.feasible, h.level, hrest, h.idx, h.other, h.len⟩

theorem rrLoop_inv (feas : List K → Bool) (levels : List (List K)) (all : List (Session K))
    (sch0 : List K) : ∀ (fuel : Nat) (st : RRState K), RRInv feas levels all sch0 st →
      RRInv feas levels all sch0 (rrLoop feas levels fuel st) := by
  intro fuel
  induction fuel with
  | zero => intro st h; exact h
  | succ n ih =>
    intro st h
    unfold rrLoop
    split
    · exact h
    · exact ih _ (rrStep_inv feas levels all sch0 st h)

theorem rrInit_eq (levelsOf : Session K → List K) (n : Nat) (allow0 : List (List K)) (q : List (Session K)) :
    rrInit levelsOf n allow0 q =
      (writes (·.idx) (fun s => (levelsOf s).headD 0) q (List.replicate n 0), writes (·.idx) levelsOf q allow0) :=
  foldl_prod (fun (a : List K) (s : Session K) => a.set s.idx ((levelsOf s).headD 0))
    (fun (b : List (List K)) (s : Session K) => b.set s.idx (levelsOf s)) q _ _

/-- the first loop of `round_robin`: every queued station starts at the first entry of the level
    list stored for it (or 0 if that list is empty) — also when two sessions name one station: the later
    one wrote both arrays; other stations stay 0 -/
theorem rrInit_spec (levelsOf : Session K → List K) (n : Nat) (allow0 : List (List K)) (q : List (Session K))
    (hidx : ∀ s ∈ q, s.idx < allow0.length) :
    (∀ s ∈ q, (rrInit levelsOf n allow0 q).1.set s.idx (((rrInit levelsOf n allow0 q).2.getD s.idx []).getD 0 0) =
      (rrInit levelsOf n allow0 q).1) ∧
    (rrInit levelsOf n allow0 q).1.length = n ∧
    (∀ j, (∀ t ∈ q, t.idx ≠ j) → (rrInit levelsOf n allow0 q).1[j]? = (List.replicate n (0 : K))[j]?) ∧
    ((q.map (·.idx)).Nodup → ∀ s ∈ q, (rrInit levelsOf n allow0 q).2.getD s.idx [] = levelsOf s) := by
  rw [rrInit_eq]
  dsimp only
  -- the entry of the level table at a written position, from "writing it again changes nothing"
  have hget : ∀ s ∈ q, ∀ lv, (writes (·.idx) levelsOf q allow0).set s.idx lv = writes (·.idx) levelsOf q allow0 →
      (writes (·.idx) levelsOf q allow0).getD s.idx [] = lv := fun s hs lv h => by
    rw [List.getD_eq_getElem?_getD, getElem?_of_set_noop _ _ _ h (by simpa using hidx s hs)]; rfl
  refine ⟨fun s hs => ?_, by simp, fun j hj => getElem?_writes_of_ne _ _ q _ hj, fun hnd s hs =>
    hget s hs _ (writes_own _ _ hnd hs _)⟩
  obtain ⟨u, _, _, h⟩ := writes_last (·.idx) q s hs
  rw [hget s hs _ (h levelsOf allow0), ← List.headD_eq_getD]
  exact h (fun s => (levelsOf s).headD 0) _

theorem getD_mem_or_zero (l : List K) (k : Nat) : l.getD k 0 = 0 ∨ l.getD k 0 ∈ l := by
  by_cases h : k < l.length
  · right; simp [List.getD_eq_getElem?_getD, h]
  · left; simp [List.getD_eq_getElem?_getD, not_lt.mp h]

theorem roundRobin_spec (feas : List K → Bool) (levelsOf : Session K → List K) (infra : Infra K)
    (queue : List (Session K)) (st : RRState K)
    (h : roundRobin feas levelsOf infra queue = .ok st)
    (hidx : ∀ s ∈ queue, s.idx < infra.ids.length) (hlen : infra.allow.length = infra.ids.length) :
    feas st.sched = true ∧ st.sched.length = infra.ids.length ∧
    (∀ j, (∀ t ∈ queue, t.idx ≠ j) → st.sched[j]? = (List.replicate infra.ids.length (0 : K))[j]?) ∧
    ((queue.map (·.idx)).Nodup → ∀ s ∈ queue, ∃ r, st.sched[s.idx]? = some r ∧ (r = 0 ∨ r ∈ levelsOf s)) := by
  obtain ⟨h1, h3, h4, h5⟩ := rrInit_spec levelsOf infra.ids.length infra.allow queue (hlen ▸ hidx)
  unfold roundRobin at h
  simp only at h
  generalize rrInit levelsOf infra.ids.length infra.allow queue = p at h h1 h3 h4 h5
  obtain ⟨sch0, levels⟩ := p
  split at h
  · cases h
  · injection h with h
    -- the invariant at the start: every rate index is 0, every queued station sits at the head of its list
    have hinv : RRInv feas levels queue sch0 st := by
      rw [← h]
      refine rrLoop_inv feas levels queue sch0 _ _ ⟨by simpa using ‹¬ (!feas _) = true›, fun s hs => ?_,
        fun s hs => hs, fun s hs => by simpa using hidx s hs, fun _ _ => rfl, rfl⟩
      have : levelAt levels (List.replicate infra.ids.length 0) s.idx = (levels.getD s.idx []).getD 0 0 := by
        simp [levelAt, List.getD_eq_getElem?_getD, hidx s hs]
      rw [this]; exact h1 s hs
    have hl : st.sched.length = infra.ids.length := hinv.len.trans h3
    refine ⟨hinv.feasible, hl, fun j hj => (hinv.other j hj).trans (h4 j hj), fun hnd s hs =>
      ⟨_, getElem?_of_set_noop _ _ _ (hinv.level s hs) (hl ▸ hidx s hs), ?_⟩⟩
    rw [levelAt, h5 hnd s hs]
    exact getD_mem_or_zero _ _

end Acn.Sorted
