/-
  T1c — the hand-written numeric kernels ARE the code, by proof (Net group, property C06).

  `AcnModel/Gen/CodeNet.lean` is regenerated on every run from the Python ASTs of /repo's working tree
  (harness/translate_code.py).  Translated here is the SCALAR FORM — one constraint with limit `lim`,
  one period, aggregate-current magnitude `mag` — of the comparison that decides feasibility:

  * `ChargingNetwork.is_feasible` (charging_network.py): the final
    `np.all(np.tile(self.magnitudes + np.maximum(violation_tolerance, rel_magnitude_tol), …).T
            >= np.abs(aggregate_currents))`
    over the assignments before it (the `None` defaults of the two tolerances, `rel_magnitude_tol`);
  * `infrastructure_constraints_feasible` (algorithms/utils.py): `line_currents <= limits[j] + tol[j]`
    in the loop of each branch, over `tol = np.maximum(violation_tolerance, relative_tolerance * limits)`.

  Each equals `decide (mag ≤ lim + Feas.tolOf vt rt lim)`: the bound `lim + tolOf vt rt lim` is what
  `Feas.rowOk` / `Feas.algFeasible` hand to `magLe` (the phase-aware comparison `|z| ≤ b` without a
  square root, `C06.net_feasible_iff_phasor`) and what `Feas.netFeasibleLinear` / `Feas.algLinear`
  compare the linear aggregate with.  A change of the comparison (`>` for `>=`), of the tolerance rule
  (`max` dropped, `+` for `max`), of an operand or of a default in one of these Python expressions
  changes `Gen.Code.*` and the theorems below stop compiling.

  Not covered by this tie (T2 only): how `aggregate_currents` / `line_currents` are computed, the
  empty-`magnitudes` guard, the loops.  `is_feasible` multiplies `magnitudes * relative_tolerance`, the
  model (and utils.py) `relative_tolerance * limit`: the tie for `is_feasible` carries commutativity of
  that one product as a hypothesis (it holds for IEEE doubles and in every field).
-/
import AcnModel.Gen.CodeNet
import AcnModel.Feas

set_option linter.unusedSectionVars false

namespace Acn.CodeTie
open Acn Acn.Feas

section
variable {K : Type} [Add K] [Sub K] [Mul K] [Div K] [Neg K] [LT K] [LE K]
  [DecidableLT K] [DecidableLE K] [OfNat K 0] [OfNat K 1] [NatCast K] [HasExp K]

/-- utils.py, phase-aware branch: the per-constraint test is `mag ≤ lim + tolOf vt rt lim` -/
theorem alg_limit_test_tie (lim mag vt rt : K) :
    Gen.Code.alg_limit_test lim mag vt rt = decide (mag ≤ lim + tolOf vt rt lim) := rfl

/-- utils.py, linear branch: the same test -/
theorem alg_limit_test_linear_tie (lim mag vt rt : K) :
    Gen.Code.alg_limit_test_linear lim mag vt rt = decide (mag ≤ lim + tolOf vt rt lim) := rfl

/-- `Feas.algLinear` is, constraint by constraint, the translated test on `|Σ_j |a_j| x_j|` -/
theorem algLinear_is_code (M : List (List K)) (lims : List K) (vt rt : K) (x : List K) :
    algLinear M lims vt rt x
      = (List.zip M lims).all fun (row, lim) =>
          Gen.Code.alg_limit_test_linear lim (absK (dotK (row.map absK) x)) vt rt := rfl

/-- `ChargingNetwork.is_feasible`: with `vt`, `rt` the tolerances after their `None` defaults
    (`Feas.Net.isFeasible` computes them as `vt?.getD net.vt`, `rt?.getD net.rt`), the final comparison
    is `mag ≤ lim + tolOf vt rt lim`. -/
theorem net_limit_test_tie (lim nvt nrt mag : K) (vt? rt? : Option K)
    (hc : lim * rt?.getD nrt = rt?.getD nrt * lim) :
    Gen.Code.net_limit_test lim nvt nrt mag vt? rt?
      = decide (mag ≤ lim + tolOf (vt?.getD nvt) (rt?.getD nrt) lim) := by
  unfold Gen.Code.net_limit_test tolOf
  cases vt? <;> cases rt? <;> simp only [Option.getD] at hc ⊢ <;> rw [hc]

/-- `Feas.netFeasibleLinear` (hence `Feas.netLinear`, the `linear=True` path of `Net.isFeasible`) is,
    constraint by constraint and period by period, the translated comparison of `is_feasible`. -/
theorem netFeasibleLinear_is_code (hmul : ∀ a b : K, a * b = b * a) (agg : List K → List K → K)
    (M : List (List K)) (lims : List K) (nvt nrt : K) (vt? rt? : Option K) (S : List (List K)) :
    netFeasibleLinear agg M lims (vt?.getD nvt) (rt?.getD nrt) S
      = (if lims.isEmpty then true
         else (List.range (periods S)).all fun t =>
           (List.zip M lims).all fun (row, lim) =>
             Gen.Code.net_limit_test lim nvt nrt (agg row (col S t)) vt? rt?) := by
  unfold netFeasibleLinear
  simp only [fun lim mag => net_limit_test_tie lim nvt nrt mag vt? rt? (hmul _ _)]

/-- the phase-aware row test of the network model compares (through `magLe`, i.e. squared) with the
    bound `b` of the translated comparison: `net_limit_test … mag = decide (mag ≤ b)` for every `mag` -/
theorem rowOk_bound_is_code (hmul : ∀ a b : K, a * b = b * a) (row : List K) (lim nvt nrt : K)
    (vt? rt? : Option K) (c s x : List K) :
    ∃ b : K, rowOk row lim (vt?.getD nvt) (rt?.getD nrt) c s x = magLe (aggRe row x c) (aggIm row x s) b ∧
      ∀ mag, Gen.Code.net_limit_test lim nvt nrt mag vt? rt? = decide (mag ≤ b) :=
  ⟨lim + tolOf (vt?.getD nvt) (rt?.getD nrt) lim, rfl,
   fun mag => net_limit_test_tie lim nvt nrt mag vt? rt? (hmul _ _)⟩

end

/-- every target of this group was translated in this run -/
theorem all_translated_net : Gen.Code.translatedNet
    = ["net_limit_test", "alg_limit_test", "alg_limit_test_linear"] := rfl

end Acn.CodeTie
