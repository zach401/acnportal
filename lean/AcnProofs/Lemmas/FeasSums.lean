/-
  Helper lemmas for C06: the model's left folds (`sumK`, `dotK`) as `List.sum`, the aggregate of a
  constraint row by station number (`wsum_eq_sum`: a `Finset.range` sum of `getD · 0` entries, valid
  without any assumption on the lengths of schedule and phasor lists because a product with a missing
  factor is 0), the square-root-free magnitude test, and the triangle inequality for phasor sums.
-/
import AcnModel.Feas
import AcnProofs.Lemmas.Basic
import Mathlib.Tactic

namespace Acn.Feas
open Acn

set_option linter.unusedSectionVars false

variable {K : Type} [Field K] [LinearOrder K] [IsStrictOrderedRing K]

attribute [simp] sumK_eq_sum

@[simp] theorem dotK_eq_sum (a b : List K) : dotK a b = (List.zipWith (· * ·) a b).sum := by
  simp [dotK]

theorem length_col (S : List (List K)) (t : Nat) : (col S t).length = S.length := by simp [col]

theorem getD_col (S : List (List K)) (t j : Nat) : (col S t).getD j 0 = (S.getD j []).getD t 0 := by
  simpa [col] using List.getD_map (l := S) (d := []) (n := j) fun row : List K => row.getD t 0

/-- a single column `x` is the one-period matrix `x.map fun v => [v]` -/
theorem periods_singletons {x : List K} (hne : x ≠ []) : periods (x.map fun v => [v]) = 1 := by
  cases x with
  | nil => exact absurd rfl hne
  | cons y x => simp [periods]

theorem col_singletons (x : List K) : col (x.map fun v => [v]) 0 = x := by
  simp [col, List.map_map, Function.comp_def]

theorem col_mem_nonneg (S : List (List K)) (hS : ∀ row ∈ S, ∀ v ∈ row, (0 : K) ≤ v) (t : Nat) :
    ∀ v ∈ col S t, 0 ≤ v := by
  intro v hv
  obtain ⟨row, hrow, rfl⟩ := List.mem_map.1 hv
  rw [List.getD_eq_getElem?_getD]
  -- an entry of the row, or the 0 that pads a short row
  cases hg : row[t]? with
  | none => exact le_refl _
  | some w => exact hS row hrow w (List.mem_of_getElem? hg)

/-- `Σ_j row_j · (x_j · z_j)` — the weighted sum of one constraint row in one period against one
    coordinate (`z = c` or `z = s`) of the station phasors; lists truncate to the shortest. -/
def wsum (row x z : List K) : K :=
  (List.zipWith (· * ·) row (List.zipWith (· * ·) x z)).sum

def lsum (row x : List K) : K := (List.zipWith (· * ·) (row.map fun a => |a|) x).sum

theorem aggRe_eq (row x c : List K) : aggRe row x c = wsum row x c := by simp [aggRe, wsum]
theorem aggIm_eq (row x s : List K) : aggIm row x s = wsum row x s := by simp [aggIm, wsum]
theorem linAggDoc_eq (row x : List K) : linAggDoc row x = lsum row x := by
  simp [linAggDoc, lsum, funext absK_eq_abs]

section index
open Finset

theorem getD_map_abs (x : List K) (j : Nat) : (x.map fun v => |v|).getD j 0 = |x.getD j 0| := by
  simpa using List.getD_map (l := x) (d := 0) (n := j) fun v : K => |v|

theorem wsum_eq_sum (row x z : List K) (n : Nat) (h : row.length ≤ n) :
    wsum row x z = ∑ j ∈ range n, row.getD j 0 * (x.getD j 0 * z.getD j 0) := by
  rw [wsum, sum_eq_sum_range _ n (by simp only [List.length_zipWith]; omega)]
  simp only [getD_zipWith_mul]

theorem lsum_eq_sum (row x : List K) (n : Nat) (h : row.length ≤ n) :
    lsum row x = ∑ j ∈ range n, |row.getD j 0| * x.getD j 0 := by
  rw [lsum, sum_eq_sum_range _ n (by simp only [List.length_zipWith, List.length_map]; omega)]
  simp only [getD_zipWith_mul, getD_map_abs]

theorem getD_ofFn {α : Type} {n i : Nat} (f : Fin n → α) (h : i < n) (d : α) :
    (List.ofFn f).getD i d = f ⟨i, h⟩ := by
  rw [List.getD_eq_getElem _ _ (by simpa using h), List.getElem_ofFn]

theorem wsum_ofFn {n : Nat} (a x z : Fin n → K) :
    wsum (List.ofFn a) (List.ofFn x) (List.ofFn z) = ∑ j, a j * (x j * z j) := by
  rw [wsum_eq_sum _ _ _ n (by simp), ← Fin.sum_univ_eq_sum_range
    (fun j => (List.ofFn a).getD j 0 * ((List.ofFn x).getD j 0 * (List.ofFn z).getD j 0))]
  exact Fintype.sum_congr _ _ fun j => by rw [getD_ofFn a j.2, getD_ofFn x j.2, getD_ofFn z j.2]

/-- an all-ones row against a constant phasor coordinate `u`: `u · Σ x`  (`simple_acn`: `u = 1`, `u = 0`) -/
theorem wsum_ones (x : List K) (u : K) :
    wsum (List.replicate x.length 1) x (List.replicate x.length u) = x.sum * u := by
  rw [wsum_eq_sum _ _ _ x.length (by simp), sum_eq_sum_range x _ le_rfl, sum_mul]
  refine sum_congr rfl fun j hj => ?_
  have hj := mem_range.1 hj
  rw [List.getD_eq_getElem _ _ (by simpa using hj), List.getD_eq_getElem (List.replicate _ u) _ (by simpa using hj)]
  simp

/-- the algorithm side multiplies the row by the phasor first (utils.py:43-44), the network side the
    schedule (charging_network.py:481-484): the same sum -/
theorem alg_dot_eq (row z x : List K) : dotK (List.zipWith (· * ·) row z) x = wsum row x z := by
  rw [dotK_eq_sum, wsum_eq_sum row x z _ le_rfl,
    sum_eq_sum_range _ row.length (by simp only [List.length_zipWith]; omega)]
  exact sum_congr rfl fun j _ => by rw [getD_zipWith_mul, getD_zipWith_mul]; ring

end index

theorem magLe_iff (re im b : K) :
    magLe re im b = true ↔ 0 ≤ b ∧ re ^ 2 + im ^ 2 ≤ b ^ 2 := by
  simp [magLe, pow_two]

theorem magLe_of_neg (re im b : K) (hb : b < 0) : magLe re im b = false := by
  simp [magLe, not_le.mpr hb]

theorem tolOf_eq (vt rt lim : K) : tolOf vt rt lim = max vt (rt * lim) := by simp [tolOf]

theorem tolOf_nonneg {vt : K} (hvt : 0 ≤ vt) (rt lim : K) : 0 ≤ tolOf vt rt lim := by
  rw [tolOf_eq]; exact le_trans hvt (le_max_left _ _)

def UnitPhasors (c s : List K) : Prop :=
  c.length = s.length ∧ ∀ p ∈ c.zip s, p.1 ^ 2 + p.2 ^ 2 = 1

section triangle
open Finset

theorem UnitPhasors.getD_le {c s : List K} (h : UnitPhasors c s) (j : Nat) :
    c.getD j 0 * c.getD j 0 + s.getD j 0 * s.getD j 0 ≤ 1 := by
  by_cases hj : j < c.length
  · have hs : j < s.length := h.1 ▸ hj
    rw [List.getD_eq_getElem _ _ hj, List.getD_eq_getElem _ _ hs, ← sq, ← sq]
    exact (h.2 (c[j], s[j]) (List.mem_iff_getElem.2 ⟨j, by simp [hj, hs], by simp⟩)).le
  · rw [List.getD_eq_default _ _ (by omega), List.getD_eq_default _ _ (by rw [← h.1]; omega)]; simp

/-- Cauchy–Schwarz for two vectors of the unit disc, from `(a ∓ d)² + (b ∓ e)² ≥ 0` -/
theorem unit_dot_le {a b d e : K} (h1 : a * a + b * b ≤ 1) (h2 : d * d + e * e ≤ 1) :
    |a * d + b * e| ≤ 1 := by
  rw [abs_le]
  constructor
  · linarith only [h1, h2, mul_self_nonneg (a + d), mul_self_nonneg (b + e)]
  · linarith only [h1, h2, mul_self_nonneg (a - d), mul_self_nonneg (b - e)]

theorem phasor_sq_le (w c s : Nat → K) (hcs : ∀ j, c j * c j + s j * s j ≤ 1) (n : Nat) :
    (∑ j ∈ range n, w j * c j) ^ 2 + (∑ j ∈ range n, w j * s j) ^ 2 ≤ (∑ j ∈ range n, |w j|) ^ 2 ∧
    0 ≤ ∑ j ∈ range n, |w j| := by
  refine ⟨?_, sum_nonneg fun _ _ => abs_nonneg _⟩
  -- all three squares are double sums; compare them term by term
  rw [sq, sq, sq, sum_mul_sum, sum_mul_sum, sum_mul_sum, ← sum_add_distrib]
  refine sum_le_sum fun i _ => ?_
  rw [← sum_add_distrib]
  refine sum_le_sum fun k _ => ?_
  calc w i * c i * (w k * c k) + w i * s i * (w k * s k)
      = (w i * w k) * (c i * c k + s i * s k) := by ring
    _ ≤ |w i * w k| * |c i * c k + s i * s k| := (le_abs_self _).trans (abs_mul _ _).le
    _ ≤ |w i * w k| := mul_le_of_le_one_right (abs_nonneg _) (unit_dot_le (hcs i) (hcs k))
    _ = |w i| * |w k| := abs_mul _ _

/-- the triangle inequality for phasor sums, `|Σ_j a_j x_j e^{iφ_j}|² ≤ (Σ_j |a_j| |x_j|)²`:
    `phasor_sq_le` at `w_j = a_j · x_j` -/
theorem phasor_sq_le_abs (row x c s : List K) (hu : UnitPhasors c s) :
    0 ≤ lsum row (x.map fun v => |v|) ∧
    wsum row x c ^ 2 + wsum row x s ^ 2 ≤ lsum row (x.map fun v => |v|) ^ 2 := by
  obtain ⟨h, h0⟩ := phasor_sq_le (fun j => row.getD j 0 * x.getD j 0) (c.getD · 0) (s.getD · 0)
    hu.getD_le row.length
  simp only [abs_mul, mul_assoc] at h h0
  rw [lsum_eq_sum _ _ _ le_rfl, wsum_eq_sum _ _ _ _ le_rfl, wsum_eq_sum _ _ _ _ le_rfl]
  simp only [getD_map_abs]
  exact ⟨h0, h⟩

end triangle

theorem rowOk_of_linear (row : List K) (lim vt rt : K) (c s x : List K) (hu : UnitPhasors c s)
    (hx : ∀ v ∈ x, 0 ≤ v) (h : linAggFixed row x ≤ lim + tolOf vt rt lim) :
    rowOk row lim vt rt c s x = true := by
  obtain ⟨hnn, hle⟩ := phasor_sq_le_abs row x c s hu
  have hab : (x.map fun v => |v|) = x := by
    rw [List.map_congr_left fun v hv => abs_of_nonneg (hx v hv), List.map_id']
  rw [hab] at hnn hle
  rw [linAggFixed, absK_eq_abs, linAggDoc_eq, abs_of_nonneg hnn] at h
  rw [rowOk, magLe_iff, aggRe_eq, aggIm_eq]
  exact ⟨hnn.trans h, hle.trans (pow_le_pow_left₀ hnn h 2)⟩

end Acn.Feas
