/-
  C06 extra (used by C08): the feasible set of the phase-aware check is convex, hence the
  feasible values of one station's rate form an interval (`IntervalFeasible` for the phasor check).
-/
import AcnProofs.Lemmas.FeasAgree

namespace Acn.Feas
open Acn
set_option linter.unusedSectionVars false
variable {K : Type} [Field K] [LinearOrder K] [IsStrictOrderedRing K]

/-- the disc is convex, with the defect written out: what a convex combination has to spare is the combination
    of what the two points have to spare, plus `λ(1−λ)` times their squared distance -/
theorem disc_convex {r1 i1 r2 i2 b lam : K} (h1 : r1 ^ 2 + i1 ^ 2 ≤ b ^ 2) (h2 : r2 ^ 2 + i2 ^ 2 ≤ b ^ 2)
    (h0 : 0 ≤ lam) (h1' : lam ≤ 1) :
    (lam * r1 + (1 - lam) * r2) ^ 2 + (lam * i1 + (1 - lam) * i2) ^ 2 ≤ b ^ 2 := by
  have hmu : 0 ≤ 1 - lam := sub_nonneg.2 h1'
  have e : b ^ 2 - ((lam * r1 + (1 - lam) * r2) ^ 2 + (lam * i1 + (1 - lam) * i2) ^ 2) =
      lam * (b ^ 2 - (r1 ^ 2 + i1 ^ 2)) + (1 - lam) * (b ^ 2 - (r2 ^ 2 + i2 ^ 2)) +
        lam * (1 - lam) * ((r1 - r2) ^ 2 + (i1 - i2) ^ 2) := by ring
  rw [← sub_nonneg, e]
  exact add_nonneg (add_nonneg (mul_nonneg h0 (sub_nonneg.2 h1)) (mul_nonneg hmu (sub_nonneg.2 h2)))
    (mul_nonneg (mul_nonneg h0 hmu) (add_nonneg (sq_nonneg _) (sq_nonneg _)))

def mix (lam : K) (x y : List K) : List K := List.zipWith (fun a b => lam * a + (1 - lam) * b) x y

theorem getD_mix (lam : K) (x y : List K) (h : x.length = y.length) (j : Nat) :
    (mix lam x y).getD j 0 = lam * x.getD j 0 + (1 - lam) * y.getD j 0 := by
  simp only [mix, List.getD_eq_getElem?_getD, List.getElem?_zipWith]
  by_cases hj : j < x.length
  · rw [List.getElem?_eq_getElem hj, List.getElem?_eq_getElem (h ▸ hj)]; rfl
  · rw [List.getElem?_eq_none (by omega), List.getElem?_eq_none (by omega)]; simp

theorem wsum_mix (lam : K) (row x y z : List K) (h : x.length = y.length) :
    wsum row (mix lam x y) z = lam * wsum row x z + (1 - lam) * wsum row y z := by
  simp only [wsum_eq_sum _ _ _ _ le_rfl, getD_mix lam x y h, Finset.mul_sum, ← Finset.sum_add_distrib]
  exact Finset.sum_congr rfl fun j _ => by ring

theorem algFeasible_convex (M : List (List K)) (lims c s : List K) (vt rt : K) (x y : List K)
    (h : x.length = y.length) (lam : K) (h0 : 0 ≤ lam) (h1 : lam ≤ 1)
    (hx : algFeasible M lims c s vt rt x = true) (hy : algFeasible M lims c s vt rt y = true) :
    algFeasible M lims c s vt rt (mix lam x y) = true := by
  rw [algFeasible_eq_rows, List.all_eq_true] at *
  intro p hp
  have a := hx p hp
  have b := hy p hp
  simp only [rowOk, magLe_iff, aggRe_eq, aggIm_eq] at a b ⊢
  refine ⟨a.1, ?_⟩
  rw [wsum_mix lam _ _ _ _ h, wsum_mix lam _ _ _ _ h]
  exact disc_convex a.2 b.2 h0 h1

theorem mix_self (lam : K) (x : List K) : mix lam x x = x := by
  induction x with
  | nil => rfl
  | cons p x ih =>
    simp only [mix, List.zipWith_cons_cons] at ih ⊢
    rw [ih]; congr 1; ring

theorem mix_set (lam : K) (x : List K) (j : Nat) (a b : K) :
    mix lam (x.set j a) (x.set j b) = x.set j (lam * a + (1 - lam) * b) := by
  induction x generalizing j with
  | nil => rfl
  | cons p x ih =>
    cases j with
    | zero =>
      have := mix_self lam x
      simp only [mix, List.set_cons_zero, List.zipWith_cons_cons] at this ⊢
      rw [this]
    | succ j =>
      have := ih j
      simp only [mix, List.set_cons_succ, List.zipWith_cons_cons] at this ⊢
      rw [this]; congr 1; ring

/-- what bisection and the greedy maximum of the sorting algorithms rely on (C08) -/
theorem algFeasible_interval (M : List (List K)) (lims c s : List K) (vt rt : K) (x : List K)
    (j : Nat) (a b v : K) (hav : a ≤ v) (hvb : v ≤ b)
    (ha : algFeasible M lims c s vt rt (x.set j a) = true)
    (hb : algFeasible M lims c s vt rt (x.set j b) = true) :
    algFeasible M lims c s vt rt (x.set j v) = true := by
  rcases eq_or_lt_of_le (le_trans hav hvb) with hab | hab
  · have : v = a := le_antisymm (hab ▸ hvb) hav
    rw [this]; exact ha
  · have hd : 0 < b - a := by linarith
    have key := algFeasible_convex M lims c s vt rt (x.set j a) (x.set j b) (by simp)
      ((b - v) / (b - a)) (div_nonneg (by linarith) hd.le)
      ((div_le_one hd).mpr (by linarith)) ha hb
    rw [mix_set] at key
    have e : (b - v) / (b - a) * a + (1 - (b - v) / (b - a)) * b = v := by
      field_simp; ring
    rwa [e] at key

/-- the hypotheses are satisfiable: station 0 at 0 A and at 10 A are both feasible -/
example : algFeasible [[(1 : ℚ), -1, 0]] [20] [1, 0, 3/5] [0, 1, 4/5] (1/100) 0 ([5, 12, 3].set 0 0) = true ∧
    algFeasible [[(1 : ℚ), -1, 0]] [20] [1, 0, 3/5] [0, 1, 4/5] (1/100) 0 ([5, 12, 3].set 0 10) = true := by
  decide +kernel

end Acn.Feas
