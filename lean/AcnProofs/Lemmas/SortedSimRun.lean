/-
  Composition lemmas for `sim_consequences`: the dict `format_array_schedule` builds is accepted by
  `_update_schedules`, and after `schedStage` column `iter` of the pilot matrix holds, station by
  station, exactly the array the algorithm returned (C04 `submit_get_row`), all other columns and the
  shape invariant being preserved.
-/
import AcnModel.SimSorted
import AcnProofs.Lemmas.PilotsSched
import AcnProofs.Lemmas.SortedSim

set_option linter.unusedSectionVars false

namespace Acn.Sorted
open Acn Acn.Pilots

section
variable {K : Type} [Field K] [LinearOrder K] [IsStrictOrderedRing K]

theorem zipWith_fmt_mem (ids : List String) (sch : List K) (p : String × List K)
    (h : p ∈ List.zipWith (fun id r => (id, [r])) ids sch) : p.1 ∈ ids ∧ p.2.length = 1 := by
  obtain ⟨i, hi, rfl⟩ := List.mem_iff_getElem.1 h
  rw [List.getElem_zipWith]
  exact ⟨List.getElem_mem _, rfl⟩

theorem format_accepted (infra : Infra K) (sch : List K) (hne : infra.ids ≠ [])
    (hlen : sch.length = infra.ids.length) :
    accepted infra.ids (formatArraySchedule infra sch) = true ∧
    schedLen (formatArraySchedule infra sch) = 1 := by
  unfold formatArraySchedule
  cases hids : infra.ids with
  | nil => exact absurd hids hne
  | cons a t =>
    cases sch with
    | nil => rw [hids] at hlen; simp at hlen
    | cons r rs =>
      have hsl : schedLen (List.zipWith (fun id r => (id, [r])) (a :: t) (r :: rs)) = 1 := by
        simp [schedLen]
      refine ⟨?_, hsl⟩
      rw [accepted_iff]
      refine ⟨by simp, ?_, ?_⟩
      · intro p hp; exact (zipWith_fmt_mem _ _ p hp).1
      · intro p hp; rw [hsl]; exact (zipWith_fmt_mem _ _ p hp).2

/-- the ids are distinct, so reading the dict at the `k`-th id is finding the `k`-th pair in it -/
theorem format_lookup (ids : List String) (hnd : ids.Nodup) (sch : List K) (hlen : sch.length = ids.length)
    (k : Nat) (hk : k < ids.length) :
    (List.zipWith (fun id r => (id, [r])) ids sch).lookup (ids.getD k "") = some [sch.getD k 0] := by
  rw [Assoc.lookup_eq_some (by rw [Assoc.keys, map_fst_format ids sch hlen.symm]; exact hnd), List.mem_iff_getElem]
  exact ⟨k, by simpa [hlen] using hk, by simp [List.getD_eq_getElem?_getD, hk, hlen ▸ hk]⟩

theorem update_with_array (infra : Infra K) (hnd : infra.ids.Nodup) (hne : infra.ids ≠ [])
    (sch : List K) (hlen : sch.length = infra.ids.length) (m m' : Mat K) (hwf : m.WF infra.ids.length)
    (t : Nat) (lastTs : Option Nat)
    (h : updateSchedules infra.ids m t lastTs (formatArraySchedule infra sch) = .ok m') :
    m'.WF infra.ids.length ∧
    (∀ k, k < infra.ids.length → m'.get k t = sch.getD k 0) ∧
    (∀ k τ, k < infra.ids.length → τ ≠ t → m'.get k τ = m.get k τ) := by
  obtain ⟨hacc, hsl⟩ := format_accepted infra sch hne hlen
  have hsub : submit infra.ids m ⟨t, lastTs, formatArraySchedule infra sch⟩ = m' := by
    unfold submit; simp only; rw [h]
  subst hsub
  refine ⟨submit_wf hwf _, fun k hk => ?_, fun k τ hk hτ => ?_⟩
  · -- row `k` of the dense block is the entry of station `k`: the one-element list of the array's entry
    have hrow : (densify infra.ids (formatArraySchedule infra sch) 1).getD k [] = [sch.getD k 0] := by
      have hl := format_lookup _ hnd sch hlen k hk
      rw [List.getD_eq_getElem?_getD, List.getElem?_eq_getElem hk, Option.getD_some] at hl
      simp only [densify, List.getD_eq_getElem?_getD, List.getElem?_map, List.getElem?_eq_getElem hk,
        Option.map_some, Option.getD_some, formatArraySchedule, hl]
    rw [submit_get_row hwf, if_pos (by simp [covers, hacc, hsl]), hsl, hrow]
    simp
  · rw [submit_get_row hwf, if_neg]
    simp only [covers, hacc, hsl, Bool.true_and, Bool.and_eq_true, decide_eq_true_eq]
    omega

end
end Acn.Sorted
