/-
  The queue half of the C01 invariant for an ARBITRARY charging network (and queue).

  `bodyG ops net` (`AcnModel/EventCoreG.lean`) is the run loop with the network operations as a
  parameter.  `InvG` is the queue/history half of `Inv`; it needs `ValidQ` only: distinct ids/tags,
  `0 ≤ arrival < departure`, recomputes ≥ 0, and NO per-station non-overlap clause.  That a network
  which never raises on the scenario's sessions (`NetOps.NoFail`; e.g. a stochastic network, which
  assigns the spaces itself) preserves it is proved in `EventCoreNetH.lean` / `EventCoreGM.lean` for the more
  general history-indexed `NoFailH`.  (Used by C19: `eventCore_history_wellFormed` composes with
  `history_sorted_complete_any_network` of `AcnProofs/C01.lean`.)

  `InvG`'s clauses are written over `relabel cfg` (every session on a private station), which has the
  same events as `cfg` (`expected_relabel`, `done_relabel`): proofs read and build `InvG`
  through `InvG.pend_iff`, `InvG.hist_iff`, `InvG.of_head`; outside this file `relabel` is named once, by
  `hist_complete_at_horizon` (`StochasticLoopInst.lean`, which reads the raw field `hist_mem` through `horizon_relabel`).

  Also: with `chargingNet` the generalised loop IS the loop of `EventCoreQ.lean`, for every queue (`bodyG_charging`).
-/
import AcnModel.EventCoreG
import AcnProofs.Lemmas.EventCoreHead

namespace Acn.EventCore
open Acn

/-- the session on a station of its own -/
def own (x : Session) : Session := { x with station := x.id }

/-- the same scenario with one private station per session -/
def relabel (cfg : Cfg) : Cfg :=
  { cfg with stations := cfg.sessions.map (·.id), sessions := cfg.sessions.map own }

section
variable {cfg : Cfg} {t : Int} {e : Event}

theorem expected_relabel : Expected (relabel cfg) t e ↔ Expected cfg t e := by
  simp only [Expected, relabel, List.mem_map, exists_exists_and_eq_and]
  exact Iff.rfl

theorem done_relabel : Done (relabel cfg) t e ↔ Done cfg t e := by
  simp only [Done, relabel, List.mem_map, exists_exists_and_eq_and]
  exact Iff.rfl

end

theorem horizon_relabel (cfg : Cfg) : horizon (relabel cfg) = horizon cfg := by
  simp [horizon, maxTs, tsList, relabel, List.map_map, Function.comp_def, own]

/-- the network never raises on the scenario's sessions, given its representation invariant `P` -/
structure NetOps.NoFail {σ : Type} (net : NetOps σ) (cfg : Cfg) (P : σ → Prop) : Prop where
  plugin : ∀ s, ∀ x ∈ cfg.sessions, P s → (net.plugin s x).2 = none ∧ P (net.plugin s x).1
  unplug : ∀ s, ∀ x ∈ cfg.sessions, P s → (net.unplug s x).2 = none ∧ P (net.unplug s x).1

/-- the queue/history half of the loop invariant (no statement about the network state) -/
structure InvG (cfg : Cfg) (t : Nat) (c : Core) : Prop where
  iter : c.iter = t
  pend_nodup : c.pending.Nodup
  pend_mem : ∀ e, e ∈ c.pending ↔ Expected (relabel cfg) t e
  resolve : c.resolve = false
  hist_nodup : c.eventHist.Nodup
  hist_mem : ∀ e, e ∈ c.eventHist ↔ Done (relabel cfg) t e
  hist_sorted : c.eventHist.Pairwise (fun a b => a.keyLe b = true)
  evh : EvhOK c

theorem Inv.toG {cfg : Cfg} {t : Nat} {c : Core} (h : Inv (relabel cfg) t c) : InvG cfg t c :=
  ⟨h.iter, h.pend_nodup, h.pend_mem, h.resolve, h.hist_nodup, h.hist_mem, h.hist_sorted, h.evh⟩

theorem InvG.pend_iff {cfg : Cfg} {t : Nat} {c : Core} (h : InvG cfg t c) (e : Event) :
    e ∈ c.pending ↔ Expected cfg t e :=
  (h.pend_mem e).trans expected_relabel

theorem InvG.hist_iff {cfg : Cfg} {t : Nat} {c : Core} (h : InvG cfg t c) (e : Event) :
    e ∈ c.eventHist ↔ Done cfg t e :=
  (h.hist_mem e).trans done_relabel

theorem InvG.of_head {cfg : Cfg} {t : Nat} {c : Core} (iter : c.iter = t) (pend_nodup : c.pending.Nodup)
    (pend_mem : ∀ e, e ∈ c.pending ↔ Expected cfg t e) (resolve : c.resolve = false)
    (hist_nodup : c.eventHist.Nodup) (hist_mem : ∀ e, e ∈ c.eventHist ↔ Done cfg t e)
    (hist_sorted : c.eventHist.Pairwise (fun a b => a.keyLe b = true)) (evh : EvhOK c) : InvG cfg t c :=
  ⟨iter, pend_nodup, fun e => (pend_mem e).trans expected_relabel.symm, resolve, hist_nodup,
    fun e => (hist_mem e).trans done_relabel.symm, hist_sorted, evh⟩

theorem InvG.with_occ {cfg : Cfg} {t : Nat} {c : Core} (h : InvG cfg t c) (occ : String → Option Session) :
    InvG cfg t { c with occ := occ } :=
  ⟨h.iter, h.pend_nodup, h.pend_mem, h.resolve, h.hist_nodup, h.hist_mem, h.hist_sorted, h.evh⟩

/-- the core after the events of period `t`: history and queue with nothing of the period left to do -/
structure MidG (cfg : Cfg) (t : Nat) (c : Core) : Prop where
  iter : c.iter = t
  hist : HistOK cfg t [] c.eventHist
  pend : PendOK cfg t [] c.pending
  evh : EvhOK c

section
variable {σ : Type} {cfg : Cfg} {ops : QOps} {good : List Event → Prop} {net : NetOps σ} {P : σ → Prop}

theorem stepG_plugin (hq : ValidQ cfg) {x : Session} (hx : x ∈ cfg.sessions) (g : CoreG σ) (n' : σ)
    (hn : net.plugin g.net x = (n', none)) :
    stepG ops net cfg (plugEv x) g =
      ({ core := { g.core with eventHist := g.core.eventHist ++ [plugEv x],
                               evHist := g.core.evHist ++ [x.id],
                               pending := ops.push g.core.pending (unplugEv x), resolve := true,
                               lastUpd := some x.arrival },
         net := n' }, none) := by
  simp [stepG, processG, plugEv, findSession_of_nodup hq.ids_nodup hx, hn]

theorem stepG_unplug (hq : ValidQ cfg) {x : Session} (hx : x ∈ cfg.sessions) (g : CoreG σ) (n' : σ)
    (hn : net.unplug g.net x = (n', none)) :
    stepG ops net cfg (unplugEv x) g =
      ({ core := { g.core with eventHist := g.core.eventHist ++ [unplugEv x], resolve := true,
                               lastUpd := some x.departure },
         net := n' }, none) := by
  simp [stepG, processG, unplugEv, findSession_of_nodup hq.ids_nodup hx, hn]

theorem stepG_rec (r : Int × String) (g : CoreG σ) :
    stepG ops net cfg (recEv r) g =
      ({ g with core := { g.core with eventHist := g.core.eventHist ++ [recEv r], resolve := true } }, none) := by
  simp [stepG, processG, recEv]

theorem MidG.next (hq : ValidQ cfg) {t : Nat} {c1 c2 : Core} (h : MidG cfg t c1) (e1 : c2.iter = t + 1)
    (e2 : c2.pending = c1.pending) (e4 : c2.resolve = false) (e5 : c2.eventHist = c1.eventHist)
    (e6 : c2.evHist = c1.evHist) : InvG cfg (t + 1) c2 := by
  have hc : ((t + 1 : Nat) : Int) = (t : Int) + 1 := by push_cast; rfl
  obtain ⟨hpm, hhm⟩ := next_period hq h.hist h.pend
  obtain ⟨hhn, -, hhs⟩ := HistOK.nil.1 h.hist
  refine InvG.of_head e1 (e2 ▸ h.pend.1) ?_ e4 (e5 ▸ hhn) ?_ (e5 ▸ hhs) ?_
  · rw [e2, hc]; exact hpm
  · rw [e5, hc]; exact hhm
  · have hE := h.evh
    unfold EvhOK at hE ⊢
    rw [e6, e5, hE]

theorem initG_inv (hq : ValidQ cfg) (hops : ops.Ok good) (net0 : σ) :
    InvG cfg 0 (initG ops cfg net0).core ∧ good (initG ops cfg net0).core.pending := by
  obtain ⟨hp, hg⟩ := hops.build (initPending cfg)
  refine ⟨InvG.of_head rfl (hp.nodup_iff.2 (initPending_nodup hq))
    (fun e => hp.mem_iff.trans (mem_initPending_iff hq e)) rfl List.nodup_nil
    (fun e => ⟨fun h => absurd h List.not_mem_nil, fun h => absurd h (not_done_zero hq e)⟩)
    List.Pairwise.nil rfl, hg⟩

theorem pendingG_ne_nil_iff (hq : ValidQ cfg) {t : Nat} {c : Core} (hI : InvG cfg t c) :
    c.pending ≠ [] ↔ t < horizon cfg :=
  expected_ne_nil_iff hq hI.pend_iff

theorem InvG.guard_iff (hq : ValidQ cfg) {t : Nat} {c : Core} (hI : InvG cfg t c) :
    guard c = true ↔ t < horizon cfg :=
  (guard_iff_pending hI.resolve).trans (pendingG_ne_nil_iff hq hI)

end

/-- the state of `EventCore.lean` described by a generalised state over the occupancy map -/
def ofG (g : CoreG (String → Option Session)) : Core := { g.core with occ := g.net }

/-- a core as a generalised state over its own occupancy map (`ofG (toG c)` is `c`) -/
def toG (c : Core) : CoreG (String → Option Session) := ⟨c, c.occ⟩

theorem processAllG_eq {σ : Type} (ops : QOps) (net : NetOps σ) (cfg : Cfg) : ∀ (l : List Event) (g : CoreG σ),
    processAllG ops net cfg l g = Steps.foldE (stepG ops net cfg) l g :=
  Steps.foldE_unique (fun _ => rfl) fun e es g => by
    rw [processAllG]
    rcases stepG ops net cfg e g with ⟨g2, _ | err⟩ <;> rfl

theorem stepG_charging (ops : QOps) (cfg : Cfg) (e : Event) (g : CoreG (String → Option Session)) :
    (ofG (stepG ops (chargingNet cfg.stations) cfg e g).1, (stepG ops (chargingNet cfg.stations) cfg e g).2)
      = stepQ ops cfg e (ofG g) := by
  unfold stepG processG stepQ processQ
  cases e.kind <;> simp only []
  · -- unplug
    cases findSession cfg e.sess with
    | none => rfl
    | some x =>
      simp only [chargingNet, ofG]
      by_cases hc : cfg.stations.contains x.station = true
      · simp only [hc, if_true]
        cases hocc : g.net x.station <;> simp [unplugHits, hocc]
      · simp only [hc]; rfl
  · -- plug-in
    cases findSession cfg e.sess with
    | none => rfl
    | some x =>
      simp only [chargingNet, ofG]
      by_cases hc : cfg.stations.contains x.station = true
      · simp only [hc, if_true]
        cases hocc : g.net x.station <;> simp
      · simp only [hc]; rfl
  · rfl

theorem eventsStageG_charging (ops : QOps) (cfg : Cfg) (g : CoreG (String → Option Session)) :
    (ofG (eventsStageG ops (chargingNet cfg.stations) cfg g).1,
     (eventsStageG ops (chargingNet cfg.stations) cfg g).2) = eventsStageQ ops cfg (ofG g) := by
  unfold eventsStageG eventsStageQ
  rw [processAllG_eq, processAllQ_eq]
  exact Steps.foldE_comm ofG (stepG_charging ops cfg) _ _

theorem bodyG_charging (ops : QOps) (cfg : Cfg) (sched apply : Core → Option Err)
    (g : CoreG (String → Option Session)) :
    (ofG (bodyG ops (chargingNet cfg.stations) cfg (fun g => sched (ofG g)) (fun g => apply (ofG g)) g).1,
     (bodyG ops (chargingNet cfg.stations) cfg (fun g => sched (ofG g)) (fun g => apply (ofG g)) g).2)
      = bodyQ ops cfg sched apply (ofG g) := by
  have he := eventsStageG_charging ops cfg g
  unfold bodyG bodyQ
  rw [← he]
  rcases eventsStageG ops (chargingNet cfg.stations) cfg g with ⟨g1, _ | err⟩
  · simp only
    have hn : needsSched cfg.maxRecompute (ofG g1) = needsSched cfg.maxRecompute g1.core := rfl
    rw [hn]
    by_cases hns : needsSched cfg.maxRecompute g1.core = true
    · simp only [hns, if_true, finish]
      have em : ofG { g1 with core := markInvoked g1.core } = markInvoked (ofG g1) := rfl
      have es : ofG { g1 with core := markScheduled (markInvoked g1.core) } = markScheduled (markInvoked (ofG g1)) := rfl
      rw [em]
      cases sched (markInvoked (ofG g1)) with
      | some e => rfl
      | none =>
        simp only
        rw [es]
        cases apply (markScheduled (markInvoked (ofG g1))) with
        | some e => rfl
        | none => rfl
    · simp only [hns, finish]
      simp only [Bool.false_eq_true, if_false]
      cases apply (ofG g1) with
      | some e => rfl
      | none => rfl
  · rfl

end Acn.EventCore
