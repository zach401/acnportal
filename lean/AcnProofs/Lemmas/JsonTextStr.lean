/-
  `py_scanstring` undoes `py_encode_basestring_ascii` (`AcnModel/JsonText.lean`: `scanStr`, `escape`) for every
  string (`scanStr_escape`) — quote, backslash, the named control escapes, `\u00XX` for the other control characters
  and DEL, `\uXXXX` for the BMP, surrogate pairs beyond.
-/
import AcnModel.JsonText
import Mathlib.Tactic
namespace Acn.JsonText

theorem char_range (c : Char) : c.toNat < 0xd800 ∨ (0xdfff < c.toNat ∧ c.toNat < 0x110000) := by
  have h := c.valid
  have e : c.toNat = c.val.toNat := rfl
  rw [e]
  unfold UInt32.isValidChar Nat.isValidChar at h
  omega

theorem hexVal_digitChar : ∀ d < 16, hexVal (Nat.digitChar d) = some d := by
  decide

theorem hex4_u4 (n : Nat) (h : n < 0x10000) :
    hex4 (Nat.digitChar (n / 4096 % 16)) (Nat.digitChar (n / 256 % 16)) (Nat.digitChar (n / 16 % 16))
      (Nat.digitChar (n % 16)) = some n := by
  have h16 : ∀ m, m % 16 < 16 := fun m => Nat.mod_lt m (by decide)
  unfold hex4
  rw [hexVal_digitChar _ (h16 _), hexVal_digitChar _ (h16 _), hexVal_digitChar _ (h16 _), hexVal_digitChar _ (h16 _)]
  simp only [Option.some.injEq]
  omega

theorem scanStr_cons (pend : Option Nat) (c : Char) (rest : List Char) :
    scanStr pend (c :: rest) =
    if c = '\\' then
      match rest with
      | [] => none
      | e :: rest1 =>
        if e = 'u' then
          match rest1 with
          | a :: b :: c' :: d :: rest2 =>
            match hex4 a b c' d with
            | none => none
            | some n =>
              match pend with
              | some hi =>
                if 0xdc00 ≤ n ∧ n ≤ 0xdfff then
                  consTo (Char.ofNat (0x10000 + (hi - 0xd800) * 1024 + (n - 0xdc00))) (scanStr none rest2)
                else none
              | none =>
                if 0xd800 ≤ n ∧ n ≤ 0xdbff then scanStr (some n) rest2
                else if 0xdc00 ≤ n ∧ n ≤ 0xdfff then none
                else consTo (Char.ofNat n) (scanStr none rest2)
          | _ => none
        else
          match pend, unescSimple e with
          | none, some ch => consTo ch (scanStr none rest1)
          | _, _ => none
    else if pend.isSome then none
    else if c = '"' then some ([], rest)
    else if c.toNat < 0x20 then none
    else consTo c (scanStr none rest) := by
  rw [scanStr.eq_def]; rfl

/-! `scanStr` on each form of input that `escChar` produces. -/

theorem scanStr_quote (rest : List Char) : scanStr none ('"' :: rest) = some ([], rest) := by
  rw [scanStr_cons]; rfl

theorem scanStr_plain {c : Char} (rest : List Char) (h1 : c ≠ '\\') (h2 : c ≠ '"') (h3 : 0x20 ≤ c.toNat) :
    scanStr none (c :: rest) = consTo c (scanStr none rest) := by
  rw [scanStr_cons, if_neg h1, if_neg (by simp), if_neg h2, if_neg (Nat.not_lt.2 h3)]

theorem scanStr_esc {e ch : Char} (rest : List Char) (he : e ≠ 'u') (h : unescSimple e = some ch) :
    scanStr none ('\\' :: e :: rest) = consTo ch (scanStr none rest) := by
  rw [scanStr_cons, if_pos rfl]
  simp only [if_neg he, h]

theorem scanStr_u4 (pend : Option Nat) (n : Nat) (h : n < 0x10000) (tail : List Char) :
    scanStr pend (u4 n ++ tail) =
      match pend with
      | some hi =>
        if 0xdc00 ≤ n ∧ n ≤ 0xdfff then
          consTo (Char.ofNat (0x10000 + (hi - 0xd800) * 1024 + (n - 0xdc00))) (scanStr none tail)
        else none
      | none =>
        if 0xd800 ≤ n ∧ n ≤ 0xdbff then scanStr (some n) tail
        else if 0xdc00 ≤ n ∧ n ≤ 0xdfff then none
        else consTo (Char.ofNat n) (scanStr none tail) := by
  simp only [u4, List.cons_append, List.nil_append, scanStr_cons, if_true, hex4_u4 n h]

theorem escChar_cases {P : List Char → Prop} (c : Char)
    (esc : ∀ e, e ≠ 'u' → unescSimple e = some c → P ['\\', e])
    (plain : c ≠ '\\' → c ≠ '"' → 0x20 ≤ c.toNat → P [c])
    (bmp : c.toNat < 0x10000 → P (u4 c.toNat))
    (astral : 0x10000 ≤ c.toNat →
      P (u4 (0xd800 + (c.toNat - 0x10000) / 1024) ++ u4 (0xdc00 + (c.toNat - 0x10000) % 1024))) :
    P (escChar c) := by
  unfold escChar
  refine iteInduction (fun h => esc '"' (by decide) (by rw [h]; rfl)) fun h1 => ?_
  refine iteInduction (fun h => esc '\\' (by decide) (by rw [h]; rfl)) fun h2 => ?_
  refine iteInduction (fun h => esc 'n' (by decide) (by rw [h]; rfl)) fun _ => ?_
  refine iteInduction (fun h => esc 'r' (by decide) (by rw [h]; rfl)) fun _ => ?_
  refine iteInduction (fun h => esc 't' (by decide) (by rw [h]; rfl)) fun _ => ?_
  refine iteInduction (fun h => esc 'b' (by decide) (by rw [h]; rfl)) fun _ => ?_
  refine iteInduction (fun h => esc 'f' (by decide) (by rw [h]; rfl)) fun _ => ?_
  refine iteInduction (fun h => plain h2 h1 h.1) fun _ => ?_
  exact iteInduction bmp fun h => astral (Nat.not_lt.1 h)

theorem scan_escChar (c : Char) (tail : List Char) :
    scanStr none (escChar c ++ tail) = consTo c (scanStr none tail) := by
  have hr := char_range c
  refine escChar_cases (P := fun l => scanStr none (l ++ tail) = consTo c (scanStr none tail)) c
    (fun e he h => scanStr_esc tail he h) (fun h1 h2 h3 => scanStr_plain tail h1 h2 h3) (fun h => ?_) (fun h => ?_)
  · -- a character of the BMP is not a surrogate
    rw [scanStr_u4 none _ h]
    simp only []
    rw [if_neg (by omega), if_neg (by omega), Char.ofNat_toNat]
  · -- the high half is held back in `pend`, the low half completes it
    rw [List.append_assoc, scanStr_u4 none _ (by omega)]
    simp only []
    rw [if_pos (by omega), scanStr_u4 _ _ (by omega)]
    simp only []
    rw [if_pos (by omega)]
    have : 0x10000 + (0xd800 + (c.toNat - 0x10000) / 1024 - 0xd800) * 1024 +
        (0xdc00 + (c.toNat - 0x10000) % 1024 - 0xdc00) = c.toNat := by omega
    rw [this, Char.ofNat_toNat]

theorem consTo_some (c : Char) (s r : List Char) : consTo c (some (s, r)) = some (c :: s, r) := rfl

theorem scanStr_escape (s rest : List Char) : scanStr none (escape s ++ '"' :: rest) = some (s, rest) := by
  induction s with
  | nil => exact scanStr_quote rest
  | cons c s ih =>
    have : escape (c :: s) = escChar c ++ escape s := by simp [escape]
    rw [this, List.append_assoc, scan_escChar, ih, consTo_some]

theorem scanStr_renderStr (s rest : List Char) :
    ∃ t, renderStr s ++ rest = '"' :: t ∧ scanStr none t = some (s, rest) :=
  ⟨escape s ++ '"' :: rest, by simp [renderStr], scanStr_escape s rest⟩

end Acn.JsonText
