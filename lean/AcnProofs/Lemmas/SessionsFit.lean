/-
  For C15, the capacity fit (`batt_cap_fn`):
  * `binsearch` — what an answer satisfies (any fuel) and fuel adequacy (any ordered field);
  * over ℝ: structure of `getInitCap` / `battCapFn`; `delta_soc_from_init_soc` is the two-stage flow of
    `Lemmas/BatteryCont.lean` below the transition SoC and a lower bound of it above; the closed-form candidate.
-/
import AcnModel.Sessions
import AcnProofs.Lemmas.Basic
import AcnProofs.Lemmas.BatteryCont
import Mathlib.Tactic

set_option linter.unusedSectionVars false


namespace Acn.SessionsFit
open Acn.Sessions Acn.Battery

section bis
variable {K : Type} [Field K] [LinearOrder K] [IsStrictOrderedRing K]

theorem binsearch_succ (f : K → K) (target tol : K) (fuel : Nat) (lb ub : K) :
    binsearch f target tol (fuel + 1) lb ub =
      if |f ((lb + ub) / 2) - target| < tol then .ok ((lb + ub) / 2)
      else if 0 < f ((lb + ub) / 2) - target then binsearch f target tol fuel ((lb + ub) / 2) ub
      else binsearch f target tol fuel lb ((lb + ub) / 2) := by
  simp only [binsearch, Nat.cast_ofNat, absK_eq_abs]

theorem binsearch_spec (f : K → K) (target tol : K) :
    ∀ (fuel : Nat) (lb ub s : K), lb ≤ ub → binsearch f target tol fuel lb ub = .ok s →
      lb ≤ s ∧ s ≤ ub ∧ |f s - target| < tol := by
  intro fuel
  induction fuel with
  | zero => intro lb ub s _ h; cases h
  | succ n ih =>
    intro lb ub s hlu h
    obtain ⟨hmid1, hmid2, -⟩ := mid_mem hlu
    rw [binsearch_succ] at h
    split at h
    · cases h
      exact ⟨hmid1, hmid2, ‹_›⟩
    · split at h
      · obtain ⟨h1, h2, h3⟩ := ih _ _ _ hmid2 h
        exact ⟨hmid1.trans h1, h2, h3⟩
      · obtain ⟨h1, h2, h3⟩ := ih _ _ _ hmid1 h
        exact ⟨h1, h2.trans hmid2, h3⟩

/-- Fuel adequacy: for a decreasing `f` that loses at most one unit per unit (as
    `delta_soc_from_init_soc` does), bracketing the target, `n+1` levels of recursion suffice once
    `ub − lb < tol·2^(n+1)`.  Each level halves the bracket and keeps the target bracketed; at the
    last level the bracket is narrower than `2·tol`, so its midpoint meets the tolerance. -/
theorem binsearch_terminates (f : K → K) (target tol A B : K)
    (hf : ∀ x y, A ≤ x → x ≤ y → y ≤ B → f y ≤ f x ∧ f x - f y ≤ y - x) :
    ∀ (n : Nat) (lb ub : K), A ≤ lb → lb ≤ ub → ub ≤ B → ub - lb < tol * 2 ^ (n + 1) →
      f ub ≤ target → target ≤ f lb → ∃ s, binsearch f target tol (n + 1) lb ub = .ok s := by
  intro n
  induction n with
  | zero =>
    intro lb ub hA hlu hB hw h1 h2
    obtain ⟨hm1, hm2, -⟩ := mid_mem hlu
    have ha := hf lb ((lb + ub) / 2) hA hm1 (hm2.trans hB)
    have hb := hf ((lb + ub) / 2) ub (hA.trans hm1) hm2 hB
    rw [zero_add, pow_one] at hw
    rw [binsearch_succ, if_pos]
    · exact ⟨_, rfl⟩
    · rw [abs_lt]
      constructor
      · linarith only [hw, ha.2, h2]
      · linarith only [hw, hb.2, h1]
  | succ n ih =>
    intro lb ub hA hlu hB hw h1 h2
    obtain ⟨hm1, hm2, -⟩ := mid_mem hlu
    rw [pow_succ, ← mul_assoc] at hw
    rw [binsearch_succ]
    split
    · exact ⟨_, rfl⟩
    · split
      · next hpos =>
        exact ih _ _ (hA.trans hm1) hm2 hB (by linarith only [hw]) h1 (sub_pos.1 hpos).le
      · next hpos =>
        exact ih _ _ hA hm1 (hm2.trans hB) (by linarith only [hw]) (sub_nonpos.1 (not_lt.1 hpos)) h2

end bis

section struct

/-- the three ways `_get_init_cap` can answer, `(δ, m, s0)` being its closed-form candidate -/
inductive InitSpec (ts tol T cap δ m s0 init : ℝ) : Prop
  | closed (h : ts ≤ s0) (hi : init = s0 * cap)
  | infeasible (h : ¬ ts ≤ s0) (hinf : deltaSocFrom m T ts 0 < δ) (hi : init = -1)
  | bisect (s : ℝ) (h : ¬ ts ≤ s0) (hfeas : ¬ deltaSocFrom m T ts 0 < δ) (hs1 : s ≤ 1)
      (hlb : ts - m * T ≤ s) (htol : |deltaSocFrom m T ts s - δ| < tol) (hi : init = s * cap)

theorem getInitCap_spec {maxRate ts tol E T V P cap init δ m s0 : ℝ} {fuel : Nat}
    (hcl : closedInitSoc maxRate ts E T V P cap = (δ, m, s0)) (hT : 0 ≤ m * T) (hts : ts ≤ 1)
    (h : getInitCap maxRate ts tol fuel E T V P cap = .ok init) :
    InitSpec ts tol T cap δ m s0 init := by
  unfold getInitCap at h
  rw [hcl] at h
  simp only at h
  split at h
  · cases h
    exact .closed ‹_› rfl
  · split at h
    · cases h
      exact .infeasible ‹_› ‹_› rfl
    · split at h
      · cases h
      · rename_i s hs
        cases h
        obtain ⟨h1, h2, h3⟩ := binsearch_spec _ _ _ _ _ _ _ (by linarith only [hT, hts]) hs
        exact .bisect s ‹_› ‹_› h2 h1 h3 rfl

theorem battCapFn_spec {maxRate ts tol E T V P cap init : ℝ} {fuel : Nat} :
    ∀ (caps : List ℝ), battCapFn caps maxRate ts tol fuel E T V P = .ok (cap, init) →
      E ≤ cap ∧ getInitCap maxRate ts tol fuel E T V P cap = .ok init ∧ 0 ≤ init ∧
      ∃ pre post, caps = pre ++ cap :: post ∧
        ∀ c ∈ pre, c < E ∨ ∃ i, getInitCap maxRate ts tol fuel E T V P c = .ok i ∧ i < 0 := by
  intro caps
  induction caps with
  | nil => intro h; cases h
  | cons c cs ih =>
    intro h
    -- `c` is skipped (for the reason `hskip`) and the answer comes from the rest of the ladder
    have skip (hskip : c < E ∨ ∃ i, getInitCap maxRate ts tol fuel E T V P c = .ok i ∧ i < 0)
        (h : battCapFn cs maxRate ts tol fuel E T V P = .ok (cap, init)) :
        E ≤ cap ∧ getInitCap maxRate ts tol fuel E T V P cap = .ok init ∧ 0 ≤ init ∧
        ∃ pre post, c :: cs = pre ++ cap :: post ∧
          ∀ c ∈ pre, c < E ∨ ∃ i, getInitCap maxRate ts tol fuel E T V P c = .ok i ∧ i < 0 := by
      obtain ⟨h1, h2, h3, pre, post, he, hall⟩ := ih h
      refine ⟨h1, h2, h3, c :: pre, post, by rw [he]; rfl, ?_⟩
      intro c' hc'
      rcases List.mem_cons.mp hc' with rfl | h'
      · exact hskip
      · exact hall c' h'
    rw [battCapFn] at h
    split at h
    · exact skip (Or.inl ‹_›) h
    · rename_i hc
      split at h
      · cases h
      · rename_i i hi
        split at h
        · rename_i h0
          cases h
          exact ⟨not_lt.mp hc, hi, h0, [], cs, rfl, fun _ h => nomatch h⟩
        · exact skip (Or.inr ⟨i, hi, not_le.mp ‹_›⟩) h

end struct

section real
open Acn.BattFlow Real

/-- `max_dsoc`: SoC per period at the fit's maximum rate -/
noncomputable def fitM (mr V P cap : ℝ) : ℝ := mr * V / 1000 / cap / (60 / P)

theorem fitM_pos {mr V P cap : ℝ} (hmr : 0 < mr) (hV : 0 < V) (hP : 0 < P) (hc : 0 < cap) :
    0 < fitM mr V P cap := by unfold fitM; positivity

theorem closed_eq (mr ts E T V P cap : ℝ) :
    closedInitSoc mr ts E T V P cap =
      (E / cap, fitM mr V P cap,
        1 + E / cap / (Real.exp (fitM mr V P cap * T / (ts - 1)) - 1)) := by
  simp only [closedInitSoc, fitM, HasExp.exp, Nat.cast_ofNat]

variable {m T ts s δ : ℝ}

/-- SoC the two-stage battery (maximum rate `m` per period, transition SoC `ts`) takes in `T` periods at full
    rate from the initial SoC `s`: the function of the initial SoC that `_get_init_cap` inverts -/
noncomputable def taken (m ts T s : ℝ) : ℝ := flowSoc m (m / (1 - ts)) s T - s

theorem expQ_lt_one (hm : 0 < m) (hT : 0 < T) (hts : ts < 1) : Real.exp (m * T / (ts - 1)) < 1 := by
  rw [Real.exp_lt_one_iff]
  exact div_neg_of_pos_of_neg (mul_pos hm hT) (by linarith)

/-- From the transition SoC on the flow is the pure exponential approach to 1, so during the stay
    the battery takes the fraction `1 − e^{mT/(ts−1)}` of what it lacks. -/
theorem taken_ramp (hm : 0 < m) (hts : ts < 1) (h1 : ts ≤ s) :
    taken m ts T s = (1 - s) * (1 - Real.exp (m * T / (ts - 1))) := by
  have h1ts : 0 < 1 - ts := by linarith
  have hw : m / (1 - ts) * (1 - s) / m = (1 - s) / (1 - ts) := by field_simp
  have hw1 : (1 - s) / (1 - ts) ≤ 1 := by rw [div_le_one h1ts]; linarith
  have he : -(m / (1 - ts) * T) = m * T / (ts - 1) := by
    rw [← neg_sub 1 ts, div_neg, mul_div_right_comm]
  unfold taken flowSoc
  rw [hw, W_ramp hw1, he]
  field_simp
  ring

/-- the exponential-stage expression of `delta_soc_from_init_soc`, in terms of the kink `c = ts − m·T` -/
noncomputable def hExp (c κ s : ℝ) : ℝ := 1 - κ * Real.exp (-((s - c) / κ)) - s

theorem delta_linear (hm : 0 < m) (h : s ≤ ts - m * T) : deltaSocFrom m T ts s = m * T := by
  unfold deltaSocFrom
  rw [if_pos]
  rw [le_div_iff₀ hm]; linarith

theorem delta_exp (hm : 0 < m) (h : ts - m * T < s) :
    deltaSocFrom m T ts s = hExp (ts - m * T) (1 - ts) s := by
  unfold deltaSocFrom hExp
  rw [if_neg (by rw [le_div_iff₀ hm]; linarith)]
  simp only [HasExp.exp]
  rw [← neg_sub 1 ts, div_neg, mul_neg]
  ring_nf

theorem delta_above (hm : 0 < m) (hT : 0 < T) (h : ts ≤ s) :
    deltaSocFrom m T ts s =
      1 - (1 - ts) * (Real.exp (m * T / (ts - 1)) * Real.exp (-((s - ts) / (1 - ts)))) - s := by
  have e : -((s - (ts - m * T)) / (1 - ts)) = m * T / (ts - 1) + -((s - ts) / (1 - ts)) := by
    rw [← neg_sub 1 ts, div_neg]; ring
  rw [delta_exp hm (by linarith [mul_pos hm hT]), hExp, e, Real.exp_add]

theorem delta_eq_taken (hm : 0 < m) (hT : 0 < T) (hts : ts < 1) (hs : s ≤ ts) :
    deltaSocFrom m T ts s = taken m ts T s := by
  rcases eq_or_lt_of_le hs with rfl | hs
  · rw [delta_above hm hT le_rfl, taken_ramp hm hts le_rfl, sub_self, zero_div, neg_zero,
      Real.exp_zero]
    ring
  have h := contSoc_eq_flow_t (s := s) (ts := ts) (p0 := m) (m := m) (t := T) hm hm hts hT
  rw [min_self] at h
  rw [taken, ← h]
  have hmT : 0 < m * T := mul_pos hm hT
  unfold deltaSocFrom contSoc
  simp only [lt_irrefl, if_false, sub_self, zero_div, zero_mul, add_zero, if_pos hs, HasExp.exp]
  have hiff : T ≤ (ts - s) / m ↔ 1 ≤ (ts - s) / (m * T) := by
    rw [le_div_iff₀ hm, le_div_iff₀ hmT, one_mul, mul_comm]
  by_cases hc : T ≤ (ts - s) / m
  · rw [if_pos hc, if_pos (hiff.mp hc)]; ring
  · rw [if_neg hc, if_neg (fun h' => hc (hiff.mpr h'))]

/-- `delta_soc_from_init_soc` never overestimates what the battery takes (above the transition SoC
    by `1 − u ≤ e^{−u}` for the excess `u`), which in turn fits into the free SoC -/
theorem delta_le_free (hm : 0 < m) (hT : 0 < T) (hts : ts < 1) (h2 : s ≤ 1) :
    deltaSocFrom m T ts s ≤ taken m ts T s ∧ taken m ts T s ≤ 1 - s := by
  have h1ts : 0 < 1 - ts := by linarith
  have hb := (flowSoc_bounds (s := s) (t := T) hm (div_pos hm h1ts) h2 hT.le).2.2
  refine ⟨?_, by unfold taken; linarith⟩
  rcases le_or_gt s ts with h | h
  · exact le_of_eq (delta_eq_taken hm hT hts h)
  · have hv : 1 - s ≤ (1 - ts) * Real.exp (-((s - ts) / (1 - ts))) :=
      calc 1 - s = (1 - ts) * (1 - (s - ts) / (1 - ts)) := by field_simp; ring
        _ ≤ _ := mul_le_mul_of_nonneg_left (Real.one_sub_le_exp_neg _) h1ts.le
    have := mul_le_mul_of_nonneg_left hv (Real.exp_pos (m * T / (ts - 1))).le
    rw [delta_above hm hT h.le, taken_ramp hm hts h.le]
    linarith

/-- the closed-form candidate `1 + δ/(e^{mT/(ts−1)} − 1)` is `1 − δ/q` for the fraction `q` of
    `taken_ramp` -/
theorem closed_missing :
    1 - (1 + δ / (Real.exp (m * T / (ts - 1)) - 1)) = δ / (1 - Real.exp (m * T / (ts - 1))) := by
  rw [← neg_sub 1 (Real.exp (m * T / (ts - 1))), div_neg]; ring

theorem closed_spec {s0 : ℝ} (hm : 0 < m) (hT : 0 < T) (hts : ts < 1) (hδ : 0 ≤ δ)
    (h0 : 1 - s0 = δ / (1 - Real.exp (m * T / (ts - 1)))) :
    s0 ≤ 1 ∧ δ ≤ 1 - s0 ∧ (ts ≤ s0 → taken m ts T s0 = δ) ∧
      (¬ ts ≤ s0 → ∀ {s}, ts ≤ s → taken m ts T s < δ) := by
  have hq := sub_pos.2 (expQ_lt_one hm hT hts)
  have hδq := div_nonneg hδ hq.le
  refine ⟨by linarith, ?_, fun h => ?_, fun h s hs => ?_⟩
  · rw [h0, le_div_iff₀ hq]
    exact mul_le_of_le_one_right hδ (by linarith [Real.exp_pos (m * T / (ts - 1))])
  · rw [taken_ramp hm hts h, h0, div_mul_cancel₀ _ hq.ne']
  · have h3 : 1 - ts < δ / (1 - Real.exp (m * T / (ts - 1))) := by linarith [not_le.mp h]
    rw [lt_div_iff₀ hq] at h3
    rw [taken_ramp hm hts hs]
    exact lt_of_le_of_lt (mul_le_mul_of_nonneg_right (by linarith) hq.le) h3

end real

end Acn.SessionsFit
