/-
  Helper lemmas for the "network in use" layer of C12 (`AcnModel/NetworkUse.lean`): a use other
  than a resume leaves the object alone by construction; a resume rebuilds the same object; the
  exceptions the edits of a history with uses raise are those of its edits alone.
-/
import AcnModel.Network
import AcnModel.NetworkUse
import AcnProofs.Lemmas.NetworkFeas
import Mathlib.Tactic

set_option linter.unusedSectionVars false

namespace Acn.Network

theorem bcast_of_length {α : Type} {W : Nat} {l : List α} (h : l.length = W) : bcast W l = l := by
  match l, h with
  | [], _ => rfl
  | [x], h => subst h; rfl
  | _ :: _ :: _, _ => rfl

section plain
variable {K : Type}

theorem UNet.resume_eq' (ids : String → Nat) (u : UNet K) : u.resume ids = u := by
  obtain ⟨⟨⟨st, m, mg, ix⟩, c, s, v⟩, vt, rt⟩ := u
  simp [UNet.resume, UNet.fromDict, UNet.toDict, List.map_map, Function.comp_def]

end plain

section ordered
variable {K : Type} [Field K] [LinearOrder K] [IsStrictOrderedRing K]

theorem UNet.afterUse_eq (u : UNet K) (x : Use K) : u.afterUse x = u := by
  cases x <;> simp [UNet.afterUse, UNet.resume_eq']

theorem UNet.step_use (u : UNet K) (x : Use K) : (u.step (.use x)).1 = u := by
  simp [UNet.step, UNet.afterUse_eq]

def editErrs : List (Answer K) → List (Option Err)
  | [] => []
  | .edited e :: r => e :: editErrs r
  | _ :: r => editErrs r

theorem UNet.answer_not_edited (u : UNet K) (x : Use K) (e : Option Err) :
    u.answer x ≠ .edited e := by
  cases x <;> simp [UNet.answer]
  split <;> simp

theorem UNet.editErrs_answers (u : UNet K) (h : List (HOp K)) :
    editErrs (u.answers h) = u.full.trace (edits h) := by
  induction h generalizing u with
  | nil => rfl
  | cons o os ih =>
    cases o with
    | edit e =>
      simp only [UNet.answers, UNet.step, editErrs, edits, FullNet.trace]
      rw [ih]
    | use x =>
      simp only [UNet.answers, edits]
      have hne : ∀ e, (u.step (.use x)).2 ≠ .edited e := by
        intro e; simpa [UNet.step] using UNet.answer_not_edited u x e
      have hstep : editErrs ((u.step (.use x)).2 :: UNet.answers (u.step (.use x)).1 os) =
          editErrs (UNet.answers (u.step (.use x)).1 os) := by
        generalize (u.step (.use x)).2 = a at hne
        cases a <;> first | rfl | exact absurd rfl (hne _)
      rw [hstep, ih, UNet.step_use]

end ordered

end Acn.Network
