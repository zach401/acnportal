/-
  Traces of the run loop (the loop-head states passed), under any continuation test: the trigger characterisation
  at every head of a trace (`trace_at`), and for valid configurations `popsAt h ≠ [] ↔ some event of the scenario
  carries timestamp h.iter` (C05).

  `Acn.EventCore.runG` here is the loop with a continuation test (`AcnModel/Ignored.lean`); `AcnModel/EventCoreGRun.lean`
  declares another function of that name (the loop over a generic queue and network), so this file and what imports it
  cannot be imported next to `Lemmas/EventCoreNetRun.lean` and what imports that.  The suffix `G` follows the two: in this
  `runG`, `Sim.runG`, `runViewsG` and `TraceG` it stands for any loop guard `g`; in `CoreG`, `bodyG`, `stepG`, `InvG`, `MidG` and the
  other `runG` for any network.
-/
import AcnProofs.Lemmas.SchedTrigger
import AcnProofs.Lemmas.EventCoreRun
import AcnModel.Ignored

namespace Acn.EventCore
open Acn Acn.Steps

/-- `TraceG g cfg sched apply c hs c'`: starting at loop head `c`, a loop whose continuation test is `g`
    passes the heads `hs` (`c` first), each trip raising nothing, and arrives at loop head `c'`.
    Nothing below depends on WHAT keeps the loop going: `g = guard` is `Simulator.run` over plug-in /
    unplug / recompute events (`Trace`), `g = guardI ign` is the same loop over a queue that also holds
    events of ignored types (`AcnModel/Ignored.lean`). -/
inductive TraceG (g : Core → Bool) (cfg : Cfg) (sched apply : Core → Option Err) : Core → List Core → Core → Prop
  | nil (c : Core) : TraceG g cfg sched apply c [] c
  | cons {c c1 c' : Core} {hs : List Core} : g c = true → body cfg sched apply c = (c1, none) →
      TraceG g cfg sched apply c1 hs c' → TraceG g cfg sched apply c (c :: hs) c'

abbrev Trace (cfg : Cfg) (sched apply : Core → Option Err) : Core → List Core → Core → Prop :=
  TraceG guard cfg sched apply

section
variable {cfg : Cfg} {sched apply : Core → Option Err} {g : Core → Bool}

theorem runG_eq (g : Core → Bool) (cfg : Cfg) (sched apply : Core → Option Err) : ∀ (n : Nat) (c : Core),
    runG g cfg sched apply n c = loopE g (body cfg sched apply) n c :=
  loopE_unique (fun _ => rfl) fun n c => by
    rw [runG]
    rcases body cfg sched apply c with ⟨c1, _ | e⟩ <;> rfl

theorem runG_trace (n : Nat) (c c' : Core) (o : Option Err) : runG g cfg sched apply n c = (c', o) →
    match o with
    | none => ∃ hs, TraceG g cfg sched apply c hs c' ∧ hs.length ≤ n ∧ (hs.length = n ∨ g c' = false)
    | some e => ∃ hs cl, TraceG g cfg sched apply c hs cl ∧ hs.length < n ∧ g cl = true ∧
        body cfg sched apply cl = (c', some e) := by
  intro h
  have hch := fun n c c' => heads_chain (g := g) (body := body cfg sched apply) (C := TraceG g cfg sched apply)
    TraceG.nil (fun _ _ _ _ hg hb ht => TraceG.cons hg hb ht) n c c'
  rw [runG_eq] at h
  cases o with
  | none => exact ⟨_, hch n c c' h⟩
  | some e =>
    obtain ⟨_, hn, _⟩ | ⟨k, cl, hk, h1, h2, h3, _⟩ := loopE_last n c c' _ h
    · cases hn
    · obtain ⟨t1, t2, _⟩ := hch k c cl h1
      exact ⟨_, cl, t1, Nat.lt_of_le_of_lt t2 hk, h2, h3⟩

theorem runG_guard (n : Nat) (c : Core) : runG guard cfg sched apply n c = run cfg sched apply n c := by
  rw [runG_eq, run_eq]

theorem run_trace : ∀ (n : Nat) (c c' : Core) (o : Option Err), run cfg sched apply n c = (c', o) →
    match o with
    | none => ∃ hs, Trace cfg sched apply c hs c' ∧ hs.length ≤ n ∧ (hs.length = n ∨ guard c' = false)
    | some e => ∃ hs cl, Trace cfg sched apply c hs cl ∧ hs.length < n ∧ guard cl = true ∧
        body cfg sched apply cl = (c', some e) :=
  fun n c c' o h => runG_trace (g := guard) n c c' o (by rw [runG_guard]; exact h)

theorem trace_head {c c' : Core} {hs : List Core} (ht : TraceG g cfg sched apply c hs c') (hc : Head c) :
    Head c' ∧ c'.iter = c.iter + hs.length ∧ c'.invoked = c.invoked ++ hs.flatMap (delta cfg.maxRecompute) ∧
      hs.map (·.iter) = List.range' c.iter hs.length := by
  induction ht with
  | nil c => exact ⟨hc, rfl, (List.append_nil _).symm, rfl⟩
  | @cons c c1 c' hs hg hb _ ih =>
    obtain ⟨h1, h2, h3⟩ := body_head hc hb
    obtain ⟨i1, i2, i3, i4⟩ := ih h1
    refine ⟨i1, by rw [i2, h2, List.length_cons]; omega, by rw [i3, h3, List.flatMap_cons, List.append_assoc], ?_⟩
    rw [List.map_cons, List.length_cons, List.range'_succ, i4, h2]

theorem mem_trace_delta {c c' : Core} {hs : List Core} (ht : TraceG g cfg sched apply c hs c') (hc : Head c) {t : Nat}
    (h : t ∈ hs.flatMap (delta cfg.maxRecompute)) : (∃ h ∈ hs, h.iter = t) ∧ c.iter ≤ t ∧ t < c'.iter := by
  obtain ⟨x, hx, hxt⟩ := List.mem_flatMap.1 h
  obtain rfl := (mem_delta.1 hxt).1
  obtain ⟨_, h2, _, h4⟩ := trace_head ht hc
  have := List.mem_range'_1.1 (h4 ▸ List.mem_map_of_mem (f := Core.iter) hx)
  exact ⟨⟨x, hx, rfl⟩, this.1, by omega⟩

theorem trace_split {c c' : Core} {hs : List Core} (ht : TraceG g cfg sched apply c hs c') {h : Core} (hh : h ∈ hs) :
    ∃ hs1 hs2, hs = hs1 ++ h :: hs2 ∧ TraceG g cfg sched apply c hs1 h ∧ TraceG g cfg sched apply h (h :: hs2) c' := by
  induction ht with
  | nil c => simp at hh
  | @cons c c1 c' hs hg hb ht' ih =>
    rcases List.mem_cons.1 hh with rfl | hh
    · exact ⟨[], hs, rfl, TraceG.nil _, TraceG.cons hg hb ht'⟩
    · obtain ⟨hs1, hs2, e, t1, t2⟩ := ih hh
      exact ⟨c :: hs1, hs2, by rw [e]; rfl, TraceG.cons hg hb t1, t2⟩

theorem trace_at {c c' : Core} {hs : List Core} (ht : TraceG g cfg sched apply c hs c') (hc : Head c)
    {h : Core} (hh : h ∈ hs) :
    Head h ∧ c.iter ≤ h.iter ∧ h.iter < c'.iter ∧ c'.invoked.filter (· < h.iter) = h.invoked ∧
      (h.iter ∈ c'.invoked ↔ trig cfg.maxRecompute (popsAt h) h.invoked.getLast? h.iter = true) := by
  obtain ⟨hs1, hs2, _, t1, t2⟩ := trace_split ht hh
  obtain ⟨hH, hit, _⟩ := trace_head t1 hc
  cases t2 with
  | @cons _ h1 _ _ hg hb t3 =>
    obtain ⟨b1, b2, b3⟩ := body_head hH hb
    obtain ⟨_, e2, e3, _⟩ := trace_head t3 b1
    -- the record at the end: what `h` had seen (all before `h.iter`), what `h` itself adds (`h.iter` at most), then
    -- what the later heads add (all after `h.iter`)
    have hext : ∀ t ∈ hs2.flatMap (delta cfg.maxRecompute), h.iter < t := fun t ht' => by
      have := (mem_trace_delta t3 b1 ht').2.1
      omega
    generalize hs2.flatMap (delta cfg.maxRecompute) = ext at e3 hext
    rw [e3, b3]
    refine ⟨hH, by omega, by omega, ?_, ?_⟩
    · rw [List.filter_append, List.filter_append, List.filter_eq_self.2 fun t ht' => by simpa using hH.lt_iter t ht',
        List.filter_eq_nil_iff.2 fun t ht' => by simp [(mem_delta.1 ht').1],
        List.filter_eq_nil_iff.2 fun t ht' => by simpa using Nat.le_of_lt (hext t ht'), List.append_nil, List.append_nil]
    · simp only [List.mem_append, mem_delta]
      constructor
      · rintro ((hm | hm) | hm)
        · exact absurd (hH.lt_iter _ hm) (lt_irrefl _)
        · exact hm.2
        · exact absurd (hext _ hm) (lt_irrefl _)
      · exact fun htr => .inl (.inr ⟨trivial, htr⟩)

theorem trace_cover {c c' : Core} {hs : List Core} (ht : TraceG g cfg sched apply c hs c') (hc : Head c) :
    ∀ t ∈ c'.invoked, t ∈ c.invoked ∨ ∃ h ∈ hs, h.iter = t := by
  intro t ht'
  rw [(trace_head ht hc).2.2.1] at ht'
  exact (List.mem_append.1 ht').imp id fun h => (mem_trace_delta ht hc h).1

def EventAt (cfg : Cfg) (t : Nat) : Prop :=
  (∃ x ∈ cfg.sessions, x.arrival = t ∨ x.departure = t) ∨ ∃ r ∈ cfg.recomputes, r.1 = t

theorem exists_cur_iff (hv : Valid cfg) (t : Nat) : (∃ e, Cur cfg (t : Int) e) ↔ EventAt cfg t := by
  unfold Cur EventAt
  constructor
  · rintro ⟨e, ⟨x, hx, _, h⟩ | ⟨x, hx, _, _, h⟩ | ⟨r, hr, _, h⟩⟩
    · exact Or.inl ⟨x, hx, Or.inl h⟩
    · exact Or.inl ⟨x, hx, Or.inr h⟩
    · exact Or.inr ⟨r, hr, h⟩
  · rintro (⟨x, hx, h | h⟩ | ⟨r, hr, h⟩)
    · exact ⟨plugEv x, Or.inl ⟨x, hx, rfl, h⟩⟩
    · have := hv.arr_lt_dep x hx
      exact ⟨unplugEv x, Or.inr (Or.inl ⟨x, hx, rfl, by omega, h⟩)⟩
    · exact ⟨recEv r, Or.inr (Or.inr ⟨r, hr, rfl, h⟩)⟩

theorem popsAt_ne_nil_iff (hv : Valid cfg) {t : Nat} {c : Core} (hI : Inv cfg t c) :
    popsAt c ≠ [] ↔ EventAt cfg t := by
  rw [← exists_cur_iff hv]
  have hmem : ∀ e, e ∈ popsAt c ↔ Cur cfg (t : Int) e := by
    intro e
    unfold popsAt popCurrent
    rw [mem_sortByKey, List.mem_filter, hI.pend_mem, cur_iff_expected_le, hI.iter]
    simp
  constructor
  · intro h
    obtain ⟨e, he⟩ := List.exists_mem_of_ne_nil _ h
    exact ⟨e, (hmem e).1 he⟩
  · rintro ⟨e, he⟩ hn
    have := (hmem e).2 he
    rw [hn] at this
    simp at this

theorem trace_inv (hv : Valid cfg) {c c' : Core} {hs : List Core} (ht : TraceG g cfg sched apply c hs c')
    {t : Nat} (hI : Inv cfg t c) : Inv cfg (t + hs.length) c' ∧ ∀ h ∈ hs, Inv cfg h.iter h := by
  induction ht generalizing t with
  | nil c => exact ⟨by simpa using hI, by simp⟩
  | @cons c c1 c' hs hg hb _ ih =>
    obtain ⟨c2, hb2, hI2⟩ := body_ok (cfg := cfg) hv (sched := noFail) (apply := noFail) (fun _ => rfl) (fun _ => rfl) hI
    have := body_noFail_of_ok hb
    rw [hb2] at this
    simp only [Prod.mk.injEq, and_true] at this
    subst this
    obtain ⟨i1, i2⟩ := ih hI2
    refine ⟨by simpa [Nat.add_assoc, Nat.add_comm 1] using i1, ?_⟩
    intro h hh
    rcases List.mem_cons.1 hh with rfl | hh
    · rw [hI.iter]; exact hI
    · exact i2 h hh

end
end Acn.EventCore
