/-
  Simulator-level clause of C03: 0 ≤ charging_rates[st][t] ≤ pilot_signals[st][t] for every station and period: one
  period first (`BattReal.ev_rate_le_pilot` for each call of the pass), then whole runs with a scheduler that only submits
  non-negative pilots (`BInv`).  Carrier ℝ (`HasExp ℝ = Real.exp`, as in C03, because the closed-form two-stage law
  needs analysis).
-/
import AcnProofs.Lemmas.PilotsSched
import AcnProofs.Lemmas.LedgerStep
import AcnProofs.Lemmas.BatteryReal

set_option linter.unusedSectionVars false

namespace Acn.Ledger
open Acn Acn.Sim Acn.EventCore Acn.Evse Finset

theorem evIn_none_of_ids {evs evs' : List (Ev ℝ)} (h : evs.map (·.session) = evs'.map (·.session))
    {id : String} (he : evIn evs id = none) : evIn evs' id = none := by
  cases h' : evIn evs' id with
  | none => rfl
  | some e' =>
    obtain ⟨e, he2⟩ := evIn_exists_of_ids h.symm h'
    rw [he] at he2; simp at he2

theorem Served.bounds {cfg : Cfg ℝ} {occ : String → Option Session} {pil : Nat → ℝ} {i : Nat}
    {rest : List (Station ℝ)} {evs evs' : List (Ev ℝ)} (hS : Served cfg occ pil i rest evs evs')
    (hb : ∀ e ∈ evs, BattAlg.Inv e.batt) (hp : ∀ j, 0 ≤ pil j) :
    (∀ e ∈ evs', BattAlg.Inv e.batt) ∧
    (∀ j st x e', rest[j]? = some st → occ st.id = some x → evIn evs' x.id = some e' →
      0 ≤ e'.rate ∧ e'.rate ≤ pil (i + j)) := by
  refine ⟨hS.forall hb fun e d j st x ν _ _ _ hc hI => (BattReal.ev_rate_le_pilot hI (hp _) hc).2.2.2.2, ?_⟩
  intro j st x e' hj hx he'
  cases he : evIn evs x.id with
  | none =>
    -- the occupant is not in the list of EVs: it cannot be there afterwards either
    rw [evIn_none_of_ids hS.ids.symm he] at he'
    cases he'
  | some e =>
    obtain ⟨e'', ν, hc, he''⟩ := hS.served j st x e hj hx he
    obtain rfl : e'' = e' := Option.some.inj (he''.symm.trans he')
    obtain ⟨r0, r1, -⟩ := BattReal.ev_rate_le_pilot (hb e (List.mem_of_find?_eq_some he)) (hp _) hc
    exact ⟨r0, r1⟩

theorem applyStage_bounds {cfg : Cfg ℝ} (hn : StationsNodup cfg) {a s' : State ℝ}
    (hL : Inv cfg a) (hb : ∀ e ∈ a.evs, BattAlg.Inv e.batt) (hp : ∀ j, 0 ≤ a.pilots.get j a.core.iter)
    (h : applyStage cfg a = (s', none)) :
    (∀ e ∈ s'.evs, BattAlg.Inv e.batt) ∧
    (∀ i, 0 ≤ s'.rates.get i a.core.iter ∧ s'.rates.get i a.core.iter ≤ a.pilots.get i a.core.iter) ∧
    (∀ i τ, τ ≠ a.core.iter → s'.rates.get i τ = a.rates.get i τ) := by
  have hP := applyStage_period (distinctOcc_of hn hL.occ_sound) hL.rates_wf h
  obtain ⟨hB1, hB2⟩ := hP.served.bounds hb hp
  refine ⟨hB1, fun i => ?_, fun i τ hτ => by rw [hP.rates, if_neg hτ]⟩
  rw [hP.rates, if_pos rfl]
  rcases rateAt_cases cfg a.core.occ s'.evs i with h0 | ⟨st, x, e', hi, hx, he, hr⟩
  · rw [h0]
    exact ⟨le_refl _, hp i⟩
  · rw [hr]
    exact (Nat.zero_add i) ▸ hB2 i st x e' hi hx he

end Acn.Ledger

namespace Acn.Ledger
open Acn Acn.Sim Acn.EventCore Acn.Evse Acn.Pilots Finset

def SchedNonneg (sched : View ℝ → Except EventCore.Err (Schedule ℝ)) : Prop :=
  ∀ v sch, sched v = .ok sch → ∀ p ∈ sch, ∀ r ∈ p.2, 0 ≤ r

theorem densify_nonneg (stations : List String) (sch : Sched ℝ) (len : Nat)
    (hs : ∀ p ∈ sch, ∀ r ∈ p.2, 0 ≤ r) (i k : Nat) :
    0 ≤ ((densify stations sch len).getD i []).getD k 0 := by
  -- a row of the dense block is a row of the schedule or a row of zeros
  have hrow : ∀ row ∈ densify stations sch len, ∀ r ∈ row, 0 ≤ r := by
    intro row hrow r hr
    obtain ⟨st, -, rfl⟩ := List.mem_map.1 hrow
    cases hl : sch.lookup st with
    | none => rw [hl] at hr; exact (List.eq_of_mem_replicate hr).ge
    | some row => rw [hl] at hr; exact hs _ (Assoc.mem_of_lookup hl) r hr
  by_cases hi : i < (densify stations sch len).length
  · rw [List.getD_eq_getElem (densify stations sch len) [] hi]
    exact getD_nonneg (hrow _ (List.getElem_mem hi)) k
  · rw [List.getD_eq_default (densify stations sch len) [] (Nat.le_of_not_lt hi)]
    exact getD_nonneg (l := ([] : List ℝ)) (fun _ h => absurd h List.not_mem_nil) k

theorem updateSchedules_nonneg {stations : List String} {m m' : Mat ℝ} {t : Nat} {lastTs : Option Nat}
    {sch : Sched ℝ} (h : updateSchedules stations m t lastTs sch = .ok m') (hwf : m.WF stations.length)
    (hs : ∀ p ∈ sch, ∀ r ∈ p.2, 0 ≤ r) (hm : ∀ i τ, 0 ≤ m.get i τ) :
    m'.WF stations.length ∧ (∀ i τ, 0 ≤ m'.get i τ) ∧ (∀ i τ, τ < t → m'.get i τ = m.get i τ) := by
  obtain rfl : submit stations m ⟨t, lastTs, sch⟩ = m' := by simp only [submit, h]
  refine ⟨submit_wf hwf _, fun i τ => ?_, fun i τ hτ => ?_⟩
  · rw [submit_get_row hwf]
    split
    · exact densify_nonneg _ _ _ hs _ _
    · exact hm i τ
  · rw [submit_get_row hwf, if_neg]
    simp only [covers, Bool.and_eq_true, decide_eq_true_eq]
    omega

structure BInv (cfg : Cfg ℝ) (s : State ℝ) : Prop where
  led : Inv cfg s
  batts : ∀ e ∈ s.evs, BattAlg.Inv e.batt
  pwf : s.pilots.WF cfg.stations.length
  pil : ∀ i τ, 0 ≤ s.pilots.get i τ
  bound : ∀ i τ, τ < s.core.iter → 0 ≤ s.rates.get i τ ∧ s.rates.get i τ ≤ s.pilots.get i τ

/-- `bound` compares with the pilots of past periods: it survives because `_update_schedules` never rewrites a
    past column -/
theorem BInv.preApply {cfg : Cfg ℝ} {sched : View ℝ → Except EventCore.Err (Schedule ℝ)} (hs : SchedNonneg sched)
    {s a : State ℝ} (hI : BInv cfg s) (p : PreApply cfg sched s a) : BInv cfg a := by
  have hit := (preApply_core hI.led.occ_sound p).1
  have hlen : (cfg.stations.map (·.id)).length = cfg.stations.length := List.length_map _
  have hpil : a.pilots.WF cfg.stations.length ∧ (∀ i τ, 0 ≤ a.pilots.get i τ) ∧
      ∀ i τ, τ < a.core.iter → a.pilots.get i τ = s.pilots.get i τ := by
    rcases p.pilots with h | ⟨v, sch, last, hsch, hu⟩
    · rw [h]
      exact ⟨hI.pwf, hI.pil, fun _ _ _ => rfl⟩
    · have := updateSchedules_nonneg hu (hlen.symm ▸ hI.pwf) (hs v sch hsch) hI.pil
      rwa [hlen] at this
  refine ⟨hI.led.preApply p, by rw [p.evs]; exact hI.batts, hpil.1, hpil.2.1, fun i τ hτ => ?_⟩
  rw [p.rates, hpil.2.2 i τ hτ]
  exact hI.bound i τ (hit ▸ hτ)

theorem applyStage_binv {cfg : Cfg ℝ} (hn : StationsNodup cfg) {a s' : State ℝ} (hI : BInv cfg a)
    (h : applyStage cfg a = (s', none)) : BInv cfg s' := by
  have hP := applyStage_period (distinctOcc_of hn hI.led.occ_sound) hI.led.rates_wf h
  obtain ⟨b1, b3, b4⟩ := applyStage_bounds hn hI.led hI.batts (fun j => hI.pil j _) h
  refine ⟨applyStage_ledger hn hI.led h, b1, hP.pilots_wf _ hI.pwf,
    fun i τ => by rw [hP.pilots]; exact hI.pil i τ, fun i τ hτ => ?_⟩
  have hτ' : τ < a.core.iter + 1 := by rw [hP.core] at hτ; exact hτ
  rw [hP.pilots]
  by_cases hτt : τ = a.core.iter
  · subst hτt
    exact b3 i
  · rw [b4 i τ hτt]
    exact hI.bound i τ (by omega)

theorem body_binv {cfg : Cfg ℝ} (hn : StationsNodup cfg)
    (sched : View ℝ → Except EventCore.Err (Schedule ℝ)) (hs : SchedNonneg sched) {s s' : State ℝ}
    (hI : BInv cfg s) (h : Sim.body cfg sched s = (s', none)) : BInv cfg s' :=
  body_keeps (P := BInv cfg) (M := BInv cfg) (fun _ _ hI p => hI.preApply hs p)
    (fun _ _ ha hap => applyStage_binv hn ha hap) hI h

theorem run_binv {cfg : Cfg ℝ} (hn : StationsNodup cfg)
    (sched : View ℝ → Except EventCore.Err (Schedule ℝ)) (hs : SchedNonneg sched) :
    ∀ (n : Nat) (s s' : State ℝ), BInv cfg s → Sim.run cfg sched n s = (s', none) → BInv cfg s' :=
  run_induction_ok sched fun _ _ hI hb => body_binv hn sched hs hI hb

theorem init_binv (cfg : Cfg ℝ) (hb : ∀ e ∈ cfg.evs, BattAlg.Inv e.batt) : BInv cfg (Sim.init cfg) := by
  refine ⟨init_ledger cfg, hb, Pilots.zeros_wf _ _, ?_, ?_⟩
  · intro i τ; simp only [Sim.init]; rw [Pilots.zeros_get]
  · intro i τ hτ; simp [Sim.init, EventCore.init] at hτ

end Acn.Ledger
