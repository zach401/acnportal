/-
  The specification sums of C02 and the ledger invariant `LedgerP`; what storing one column of rates and appending
  one occupancy snapshot do to the matrix and the log; and `Period`: the state the pilots/rates half of a period
  (`applyStage`: pilots applied, rates stored, snapshot, `iteration += 1`) returns, component by component, in the
  terms the invariants of the loop read a state with (`evIn`, `occId`, `Mat.get`).  Each invariant is kept because
  of what `Period` says, without looking into the model again.  At the end, the configuration of a second
  simulation over the same EV objects (`AcnModel/Rerun.lean`).
-/
import AcnProofs.Lemmas.LedgerSim
import AcnProofs.Lemmas.Pilots
import AcnModel.Rerun

set_option linter.unusedSectionVars false

namespace Acn.Ledger
open Acn Acn.Sim Acn.EventCore Acn.Evse Finset

variable {K : Type} [Field K] [LinearOrder K] [IsStrictOrderedRing K] [HasExp K]

/-! ### specification -/

/-- `network._voltages[i]` -/
def volt (cfg : Cfg K) (i : Nat) : K := (cfg.stations.map (·.voltage)).getD i 0

/-- the occupant recorded by `post_charging_update` for station number `i` in period `τ` -/
def occAt (log : List (List (Option String))) (τ i : Nat) : Option String := (log.getD τ []).getD i none

/-- energy that the recorded rate of station `i` in period `τ` carries, counted for session `id`
    iff that session was connected there -/
def term (cfg : Cfg K) (rates : Pilots.Mat K) (log : List (List (Option String))) (id : String)
    (τ i : Nat) : K :=
  if occAt log τ i = some id then energy (rates.get i τ) (volt cfg i) cfg.period else 0

def sessionEnergy (cfg : Cfg K) (rates : Pilots.Mat K) (log : List (List (Option String)))
    (id : String) (t : Nat) : K :=
  ∑ τ ∈ range t, ∑ i ∈ range cfg.stations.length, term cfg rates log id τ i

/-- `charging_rates[:, τ].sum()` -/
def aggCurrent (m : Pilots.Mat K) (n τ : Nat) : K := ∑ i ∈ range n, m.get i τ

def peakUpTo (m : Pilots.Mat K) (n : Nat) : Nat → K
  | 0 => 0
  | t + 1 => max (peakUpTo m n t) (aggCurrent m n t)

def OccSound (cfg : EventCore.Cfg) (occ : String → Option Session) : Prop :=
  ∀ st x, occ st = some x → findSession cfg x.id = some x ∧ x.station = st

theorem OccSound.inj {cfg : EventCore.Cfg} {occ : String → Option Session} (ho : OccSound cfg occ) {a b : String}
    {x y : Session} (hx : occ a = some x) (hy : occ b = some y) (hid : x.id = y.id) : a = b := by
  obtain ⟨fx, sx⟩ := ho a x hx
  obtain ⟨fy, sy⟩ := ho b y hy
  rw [hid] at fx
  rw [← sx, ← sy, Option.some.inj (fx.symm.trans fy)]

/-- the ledger invariant at the head of period `t`, on the components of a `Sim.State` (`Inv`: at a state).  Its clauses
    are explained at `LedgerQ` (`Lemmas/LedgerStoch`), which is this structure without `occ_sound` / `log_sound` (an
    occupant sits at the station its session record names). -/
structure LedgerP (cfg : Cfg K) (t : Nat) (occ : String → Option Session) (rates : Pilots.Mat K)
    (peak : K) (evs : List (Ev K)) (log : List (List (Option String))) : Prop where
  log_len : log.length = t
  rates_wf : rates.WF cfg.stations.length
  occ_sound : OccSound cfg.core occ
  log_sound : ∀ τ i id, occAt log τ i = some id →
    ∃ x st, findSession cfg.core id = some x ∧ cfg.stations[i]? = some st ∧ x.station = st.id
  ids : evs.map (·.session) = cfg.evs.map (·.session)
  gain : ∀ id e0 e, evIn cfg.evs id = some e0 → evIn evs id = some e →
    e.delivered - e0.delivered = e.batt.charge - e0.batt.charge
  sess : ∀ id e0 e, evIn cfg.evs id = some e0 → evIn evs id = some e →
    e.delivered - e0.delivered = sessionEnergy cfg rates log id t
  vacant : ∀ τ i, τ < t → i < cfg.stations.length → occAt log τ i = none → rates.get i τ = 0
  future : ∀ τ i, t ≤ τ → rates.get i τ = 0
  peak_eq : peak = peakUpTo rates cfg.stations.length t

def Inv (cfg : Cfg K) (s : State K) : Prop :=
  LedgerP cfg s.core.iter s.core.occ s.rates s.peak s.evs s.occLog

/-- station ids are pairwise distinct (the network keeps its EVSEs in a dict keyed by id) -/
def StationsNodup (cfg : Cfg K) : Prop := (cfg.stations.map (·.id)).Nodup

theorem stationIndex_eq_idxOf (cfg : Cfg K) (st : String) :
    stationIndex cfg st = (cfg.stations.map (·.id)).idxOf st := by
  unfold stationIndex List.idxOf
  rw [List.findIdx_map]
  rfl

theorem evIn_isSome_iff (evs : List (Ev K)) (id : String) :
    (evIn evs id).isSome = true ↔ id ∈ evs.map (·.session) := by
  unfold evIn
  rw [List.find?_isSome]
  simp only [List.mem_map, beq_iff_eq]

theorem evIn_of_mem_nodup : ∀ (evs : List (Ev K)), (evs.map (·.session)).Nodup → ∀ e ∈ evs,
    evIn evs e.session = some e :=
  fun _ hnd _ he => find?_key_of_nodup (fun d : Ev K => d.session) hnd he

theorem evIn_exists_of_ids {evs evs' : List (Ev K)} (h : evs.map (·.session) = evs'.map (·.session))
    {id : String} {e : Ev K} (he : evIn evs id = some e) : ∃ e', evIn evs' id = some e' := by
  have h1 : (evIn evs id).isSome = true := by rw [he]; rfl
  rw [evIn_isSome_iff, h, ← evIn_isSome_iff] at h1
  exact Option.isSome_iff_exists.1 h1

theorem peakUpTo_congr {m m' : Pilots.Mat K} (n : Nat) : ∀ t : Nat,
    (∀ i τ, τ < t → m'.get i τ = m.get i τ) → peakUpTo m' n t = peakUpTo m n t := by
  intro t
  induction t with
  | zero => intro _; rfl
  | succ t ih =>
    intro h
    simp only [peakUpTo]
    rw [ih (fun i τ hτ => h i τ (Nat.lt_succ_of_lt hτ))]
    congr 1
    unfold aggCurrent
    exact Finset.sum_congr rfl (fun i _ => h i t (Nat.lt_succ_self t))

theorem writeCol_eq (m : Pilots.Mat K) (t : Nat) (col : List K) :
    writeCol m t col = Pilots.writeBlock m t (col.map fun v => [v]) := by
  simp [writeCol, Pilots.writeBlock, List.zipWith_map_right]

theorem writeCol_wf {n : Nat} {m : Pilots.Mat K} (h : m.WF n) (t : Nat) (col : List K)
    (hc : col.length = n) (ht : t < m.width) : (writeCol m t col).WF n := by
  rw [writeCol_eq]
  exact Pilots.writeBlock_wf h t 1 _ (by simpa using hc) (by simp) (by omega)

theorem writeCol_get {n : Nat} {m : Pilots.Mat K} (h : m.WF n) (t : Nat) (col : List K)
    (hc : col.length = n) (ht : t < m.width) (i τ : Nat) :
    (writeCol m t col).get i τ = if τ = t then col.getD i 0 else m.get i τ := by
  rw [writeCol_eq, Pilots.writeBlock_get' h t 1 _ (by simpa using hc) (by simp) (by omega)]
  by_cases hτ : τ = t
  · subst hτ
    have : τ ≤ τ ∧ τ < τ + 1 := ⟨le_refl _, Nat.lt_succ_self _⟩
    rw [if_pos this, if_pos rfl]
    simp only [Nat.sub_self, List.getD_eq_getElem?_getD, List.getElem?_map]
    cases col[i]? <;> simp
  · have : ¬ (t ≤ τ ∧ τ < t + 1) := by omega
    rw [if_neg this, if_neg hτ]

/-- `_store_actual_charging_rates` (simulator.py:310-323) when it does not raise -/
theorem storeRates_ok {cfg : Cfg K} {w : Nat} {s s3 : State K} (h : storeRates cfg w s = (s3, none))
    (hwf : s.rates.WF cfg.stations.length) :
    s3.core = s.core ∧ s3.evs = s.evs ∧ s3.occLog = s.occLog ∧
    s3.peak = max s.peak (sumK (currentRates cfg s)) ∧
    s3.rates.WF cfg.stations.length ∧
    ∀ i τ, s3.rates.get i τ =
      if τ = s.core.iter then (currentRates cfg s).getD i 0 else s.rates.get i τ := by
  have hlen : (currentRates cfg s).length = cfg.stations.length := by simp [currentRates]
  have hwf' : (ratesFor w s).WF cfg.stations.length := by
    unfold ratesFor
    split
    · exact hwf
    · exact Pilots.increaseWidth_wf hwf w
  have hget : ∀ i τ, (ratesFor w s).get i τ = s.rates.get i τ := by
    intro i τ
    unfold ratesFor
    split
    · rfl
    · exact Pilots.increaseWidth_get' _ _ _ _
  cases StoreRates.of_eq h with
  | stored hw =>
    refine ⟨rfl, rfl, rfl, by simp, writeCol_wf hwf' _ _ hlen hw, fun i τ => ?_⟩
    simp only
    rw [writeCol_get hwf' _ _ hlen hw, hget]

theorem occAt_append_lt (log : List (List (Option String))) (row : List (Option String)) {τ : Nat}
    (h : τ < log.length) (i : Nat) : occAt (log ++ [row]) τ i = occAt log τ i := by
  simp [occAt, List.getD_eq_getElem?_getD, List.getElem?_append_left h]

theorem occAt_append_eq (log : List (List (Option String))) (row : List (Option String)) (i : Nat) :
    occAt (log ++ [row]) log.length i = row.getD i none := by
  simp [occAt, List.getD_eq_getElem?_getD]

theorem occAt_none_of_ge (log : List (List (Option String))) {τ : Nat} (h : log.length ≤ τ) (i : Nat) :
    occAt log τ i = none := by
  simp [occAt, List.getD_eq_getElem?_getD, List.getElem?_eq_none h]

theorem occRow_getD (cfg : Cfg K) (occ : String → Option Session) (i : Nat) :
    (cfg.stations.map fun st => (occ st.id).map (·.id)).getD i none =
      match cfg.stations[i]? with
      | some st => occId occ st
      | none => none := by
  simp only [List.getD_eq_getElem?_getD, List.getElem?_map]
  cases cfg.stations[i]? <;> rfl

theorem occAt_snapshot {cfg : Cfg K} {occ : String → Option Session} {log : List (List (Option String))}
    {τ i : Nat} {id : String} :
    occAt (log ++ [cfg.stations.map fun st => (occ st.id).map (·.id)]) τ i = some id ↔
      (τ < log.length ∧ occAt log τ i = some id) ∨
      (τ = log.length ∧ ∃ st x, cfg.stations[i]? = some st ∧ occ st.id = some x ∧ x.id = id) := by
  rcases Nat.lt_trichotomy τ log.length with hlt | rfl | hgt
  · rw [occAt_append_lt _ _ hlt]
    constructor
    · exact fun h => Or.inl ⟨hlt, h⟩
    · rintro (⟨_, h⟩ | ⟨rfl, _⟩)
      · exact h
      · omega
  · rw [occAt_append_eq, occRow_getD]
    cases hi : cfg.stations[i]? with
    | none =>
      constructor
      · intro h; cases h
      · rintro (⟨h, _⟩ | ⟨_, st, x, hst, _⟩)
        · omega
        · cases hst
    | some st =>
      refine occId_eq_some.trans ⟨fun ⟨x, hx, hid⟩ => Or.inr ⟨rfl, st, x, rfl, hx, hid⟩, ?_⟩
      rintro (⟨h, _⟩ | ⟨_, st', x, hst, hx, hid⟩)
      · omega
      · cases hst; exact ⟨x, hx, hid⟩
  · rw [occAt_none_of_ge _ (by rw [List.length_append]; exact hgt)]
    constructor
    · exact fun h => nomatch h
    · rintro (⟨_, _⟩ | ⟨rfl, _⟩) <;> omega

theorem currentRates_getD (cfg : Cfg K) (s : State K) (i : Nat) :
    (currentRates cfg s).getD i 0 =
      match cfg.stations[i]? with
      | some st => (match occupantEv s st.id with
                    | some e => e.rate
                    | none => 0)
      | none => 0 := by
  simp only [currentRates, List.getD_eq_getElem?_getD, List.getElem?_map]
  cases cfg.stations[i]? <;> rfl

theorem volt_of_getElem? {cfg : Cfg K} {i : Nat} {st : Station K} (h : cfg.stations[i]? = some st) :
    volt cfg i = st.voltage := by
  simp [volt, List.getD_eq_getElem?_getD, List.getElem?_map, h]

theorem distinctOcc_of_inj {sts : List (Station K)} {occ : String → Option Session} (hn : (sts.map (·.id)).Nodup)
    (hinj : ∀ a b x y, occ a = some x → occ b = some y → x.id = y.id → a = b) : DistinctOcc occ sts := by
  rw [List.Nodup, List.pairwise_map] at hn
  exact hn.imp fun hab x y hx hy hxy => hab (hinj _ _ x y hx hy hxy)

theorem distinctOcc_of {cfg : Cfg K} {occ : String → Option Session} (hn : StationsNodup cfg)
    (ho : OccSound cfg.core occ) : DistinctOcc occ cfg.stations :=
  distinctOcc_of_inj hn fun _ _ _ _ hx hy hxy => ho.inj hx hy hxy

theorem distinctOcc_index {cfg : Cfg K} {occ : String → Option Session}
    (hd : DistinctOcc occ cfg.stations) {i j : Nat} {a b : Station K} {id : String}
    (ha : cfg.stations[i]? = some a) (hb : cfg.stations[j]? = some b)
    (hia : occId occ a = some id) (hib : occId occ b = some id) : i = j := by
  unfold DistinctOcc at hd
  rw [List.pairwise_iff_getElem] at hd
  obtain ⟨hi, rfl⟩ := List.getElem?_eq_some_iff.1 ha
  obtain ⟨hj, rfl⟩ := List.getElem?_eq_some_iff.1 hb
  obtain ⟨x, hx, hxi⟩ := occId_eq_some.1 hia
  obtain ⟨y, hy, hyi⟩ := occId_eq_some.1 hib
  rcases Nat.lt_trichotomy i j with h | h | h
  · exact absurd (hxi.trans hyi.symm) (hd i j hi hj h x y hx hy)
  · exact h
  · exact absurd (hyi.trans hxi.symm) (hd j i hj hi h y x hy hx)

theorem applyStage_ok {cfg : Cfg K} {a s' : State K} (h : applyStage cfg a = (s', none)) :
    ∃ w s2 s3,
      updatePilots cfg { a with pilots := Pilots.increaseWidth a.pilots w,
                                rates := Pilots.increaseWidth a.rates w } = (s2, none) ∧
      storeRates cfg w s2 = (s3, none) ∧
      s' = { s3 with occLog := s3.occLog ++ [cfg.stations.map fun st => (s3.core.occ st.id).map (·.id)],
                     core := advance s3.core } := by
  generalize hn : (none : Option EventCore.Err) = err at h
  cases Apply.of_eq h with
  | noColumn _ => cases hn
  | pilotsRaise _ _ => cases hn
  | storeRaise _ _ _ => cases hn
  | done _ h2 h3 => exact ⟨_, _, _, h2, h3, rfl⟩

/-- the current station number `i` reports after the pass (`EVSE.ev.current_charging_rate`, 0 when
    vacant): the entry of `currentRates` -/
def rateAt (cfg : Cfg K) (occ : String → Option Session) (evs : List (Ev K)) (i : Nat) : K :=
  match cfg.stations[i]? with
  | some st => (match occ st.id with
    | some x => (match evIn evs x.id with
      | some e => e.rate
      | none => 0)
    | none => 0)
  | none => 0

theorem rateAt_cases (cfg : Cfg K) (occ : String → Option Session) (evs : List (Ev K)) (i : Nat) :
    rateAt cfg occ evs i = 0 ∨ ∃ st x e, cfg.stations[i]? = some st ∧ occ st.id = some x ∧
      evIn evs x.id = some e ∧ rateAt cfg occ evs i = e.rate := by
  unfold rateAt
  cases hi : cfg.stations[i]? with
  | none => exact Or.inl rfl
  | some st =>
    cases hx : occ st.id with
    | none => exact Or.inl (by simp only [hx])
    | some x =>
      cases he : evIn evs x.id with
      | none => exact Or.inl (by simp only [hx, he])
      | some e => exact Or.inr ⟨st, x, e, rfl, hx, he, by simp only [hx, he]⟩

theorem rateAt_of {cfg : Cfg K} {occ : String → Option Session} {evs : List (Ev K)} {i : Nat} {st : Station K}
    {x : Session} {e : Ev K} (hi : cfg.stations[i]? = some st) (hx : occ st.id = some x)
    (he : evIn evs x.id = some e) : rateAt cfg occ evs i = e.rate := by
  simp only [rateAt, hi, hx, he]

theorem currentRates_eq_rateAt (cfg : Cfg K) (s : State K) (i : Nat) :
    (currentRates cfg s).getD i 0 = rateAt cfg s.core.occ s.evs i := by
  rw [currentRates_getD]
  unfold rateAt
  cases cfg.stations[i]? with
  | none => rfl
  | some st => simp only [occupantEv_eq]; cases s.core.occ st.id <;> rfl

/-- `s'` is what `applyStage` (the pilots/rates half of a period, `Sim.Apply`; NOT the whole trip `Sim.Pass`) returns
    on `a` -/
structure Period (cfg : Cfg K) (a s' : State K) : Prop where
  core : s'.core = advance a.core
  pilots : ∀ i τ, s'.pilots.get i τ = a.pilots.get i τ
  pilots_wf : ∀ n, a.pilots.WF n → s'.pilots.WF n
  log : s'.occLog = a.occLog ++ [cfg.stations.map fun st => (a.core.occ st.id).map (·.id)]
  served : Served cfg a.core.occ (fun k => a.pilots.get k a.core.iter) 0 cfg.stations a.evs s'.evs
  rates_wf : s'.rates.WF cfg.stations.length
  rates : ∀ i τ, s'.rates.get i τ =
    if τ = a.core.iter then rateAt cfg a.core.occ s'.evs i else a.rates.get i τ
  peak : s'.peak = max a.peak (∑ i ∈ range cfg.stations.length, rateAt cfg a.core.occ s'.evs i)

theorem applyStage_period {cfg : Cfg K} {a s' : State K} (hd : DistinctOcc a.core.occ cfg.stations)
    (hwf : a.rates.WF cfg.stations.length) (h : applyStage cfg a = (s', none)) : Period cfg a s' := by
  obtain ⟨w, s2, s3, h2, h3, rfl⟩ := applyStage_ok h
  have hS := updatePilotsFrom_served_ok h2 hd
  obtain ⟨c2, q2, r2, p2, l2, -⟩ := Sim.updatePilotsFrom_frame cfg cfg.stations 0
    { a with pilots := Pilots.increaseWidth a.pilots w, rates := Pilots.increaseWidth a.rates w }
  rw [show updatePilotsFrom cfg 0 cfg.stations _ = (s2, none) from h2] at c2 q2 r2 p2 l2
  simp only at c2 q2 r2 p2 l2 hS
  obtain ⟨c3, e3, l3, pk3, wf3, g3⟩ := storeRates_ok h3 (r2 ▸ Pilots.increaseWidth_wf hwf w)
  have q3 : s3.pilots = Pilots.increaseWidth a.pilots w := by
    have := (Sim.storeRates_frame cfg w s2).2.1
    rw [h3] at this
    exact this.trans q2
  have hcol : ∀ i, (currentRates cfg s2).getD i 0 = rateAt cfg a.core.occ s2.evs i := fun i =>
    c2 ▸ currentRates_eq_rateAt cfg s2 i
  refine ⟨by rw [c3, c2], fun i τ => ?_, fun n hn => ?_, by simp only [l3, l2, c3, c2], ?_, wf3,
    fun i τ => ?_, ?_⟩
  · show s3.pilots.get i τ = _
    rw [q3, Pilots.increaseWidth_get']
  · show s3.pilots.WF n
    rw [q3]
    exact Pilots.increaseWidth_wf hn w
  · -- `update_pilots` read the same pilots out of the widened matrix
    simpa only [e3, Pilots.increaseWidth_get'] using hS
  · show s3.rates.get i τ = _
    rw [g3, c2, r2, Pilots.increaseWidth_get', e3, hcol]
  · show s3.peak = _
    rw [pk3, p2, e3, sumK_eq_sum, sum_eq_sum_getD _ cfg.stations.length (by simp [currentRates])]
    exact congrArg _ (Finset.sum_congr rfl fun i _ => hcol i)

end Acn.Ledger

/-! ### the second simulation: what `EV.reset()` leaves of an EV, and the events of `rerunCfg` -/

namespace Acn.Ledger
open Acn Acn.Sim Acn.EventCore Acn.Evse Acn.Rerun

variable {K : Type} [Field K] [LinearOrder K] [IsStrictOrderedRing K] [HasExp K]

theorem resetEv_sessionOf (e : Ev K) : sessionOf (resetEv e) = sessionOf e := rfl

theorem evIn_map_resetEv (evs : List (Ev K)) (id : String) :
    evIn (evs.map resetEv) id = (evIn evs id).map resetEv := by
  unfold evIn
  rw [List.find?_map]
  rfl

theorem evIn_rerunCfg {cfg : Cfg K} {s1 : State K} {id : String} {e0 : Ev K}
    (h0 : evIn (rerunCfg cfg s1).evs id = some e0) :
    ∃ e1, evIn s1.evs id = some e1 ∧ e0 = resetEv e1 := by
  have h : evIn (s1.evs.map resetEv) id = some e0 := h0
  rw [evIn_map_resetEv] at h
  cases h1 : evIn s1.evs id with
  | none => simp [h1] at h
  | some e1 =>
    refine ⟨e1, rfl, ?_⟩
    simpa [h1] using h.symm

theorem rerunCfg_core {cfg : Cfg K} {s1 : State K} (hs : s1.evs.map sessionOf = cfg.evs.map sessionOf) :
    (rerunCfg cfg s1).core = cfg.core := by
  unfold Cfg.core rerunCfg
  simp only [List.map_map]
  have : (sessionOf ∘ resetEv : Ev K → Session) = sessionOf := by
    funext e
    rfl
  rw [this, hs]

end Acn.Ledger
