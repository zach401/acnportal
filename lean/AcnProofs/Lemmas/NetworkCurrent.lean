/-
  Helper lemmas for C12.  A `Current` is a dict (`Lemmas/Assoc`): `coeff` is its lookup with 0 for a missing station
  (`coeff_eq_lookup`), `dictInsert` its assignment, `ofDict` the dict built from the wire form; `ofDict` and the
  operators yield distinct keys (`nodup_*`).  The coefficient identities of `+`, `−`, `k *` (`coeff_add` …) are in
  `AcnProofs/C12.lean`.
-/
import AcnModel.Network
import AcnProofs.Lemmas.Assoc
import Mathlib.Tactic

set_option linter.unusedSectionVars false

namespace Acn.Network
namespace Current

section zero
variable {K : Type} [Zero K]

@[simp] theorem coeff_nil (s : String) : coeff ([] : Current K) s = 0 := rfl

@[simp] theorem coeff_cons (k : String) (v : K) (r : Current K) (s : String) :
    coeff ((k, v) :: r) s = if k = s then v else coeff r s := rfl

@[simp] theorem keys_nil : keys ([] : Current K) = [] := rfl

@[simp] theorem keys_cons (p : String × K) (r : Current K) : keys (p :: r) = p.1 :: keys r := rfl

theorem coeff_eq_lookup (c : Current K) (s : String) : coeff c s = (c.lookup s).getD 0 := by
  induction c with
  | nil => rfl
  | cons p r ih =>
    obtain ⟨k, v⟩ := p
    rw [Assoc.lookup_cons]
    by_cases h : k = s <;> simp [coeff, h, ih]

theorem hasKey_eq (a : Current K) (s : String) : hasKey a s = (a.lookup s).isSome :=
  Bool.eq_iff_iff.2 (decide_eq_true_iff.trans (Assoc.lookup_isSome a s).symm)

theorem dictInsert_eq (k : String) (v : K) (c : Current K) : dictInsert k v c = Assoc.set c k v := by
  induction c with
  | nil => rfl
  | cons p r ih => simp only [dictInsert, Assoc.set, ih]

theorem ofDict_eq (items : List (String × K)) : ofDict items = Assoc.ofPairs items := by
  simp only [ofDict, Assoc.ofPairs, dictInsert_eq]

theorem coeff_of_not_mem (c : Current K) (s : String) (h : s ∉ c.keys) : c.coeff s = 0 := by
  rw [coeff_eq_lookup, (Assoc.lookup_eq_none c s).2 h]; rfl

theorem coeff_of_mem (c : Current K) (hn : c.keys.Nodup) (s : String) (v : K) (h : (s, v) ∈ c) :
    c.coeff s = v := by
  rw [coeff_eq_lookup, (Assoc.lookup_eq_some hn s v).2 h]; rfl

theorem coeff_perm {c c' : Current K} (hn : c.keys.Nodup) (hp : c.Perm c') (s : String) :
    coeff c s = coeff c' s := by
  rw [coeff_eq_lookup, coeff_eq_lookup, Assoc.lookup_perm hn hp]

theorem coeff_mapVal (f : String → K → K) (hf : ∀ k, f k 0 = 0) (c : Current K) (s : String) :
    coeff (c.map fun p => (p.1, f p.1 p.2)) s = f s (coeff c s) := by
  rw [coeff_eq_lookup, Assoc.lookup_mapVal, coeff_eq_lookup]
  cases c.lookup s with
  | none => exact (hf s).symm
  | some v => rfl

theorem keys_map (f : String → K → K) (a : Current K) :
    keys (a.map (fun p => (p.1, f p.1 p.2))) = keys a :=
  Assoc.keys_mapVal f a

theorem keys_filter (q : String → Bool) (b : Current K) :
    keys (b.filter (fun p => q p.1)) = (keys b).filter q :=
  Assoc.keys_filterKey q b

theorem coeff_dictInsert (k : String) (v : K) (c : Current K) (s : String) :
    coeff (dictInsert k v c) s = if k = s then v else coeff c s := by
  rw [coeff_eq_lookup, dictInsert_eq, Assoc.lookup_set, coeff_eq_lookup]; split <;> rfl

theorem nodup_ofDict (items : List (String × K)) : (keys (ofDict items)).Nodup := by
  rw [ofDict_eq]; exact Assoc.nodup_ofPairs items

/-- `Current({...})`: the coefficient of a station is the LAST value the wire form lists for it -/
theorem coeff_ofDict (items : List (String × K)) (s : String) :
    coeff (ofDict items) s = (items.reverse.lookup s).getD 0 := by
  rw [coeff_eq_lookup, ofDict_eq, Assoc.lookup_ofPairs]

end zero

section ring
variable {K : Type} [Ring K]

theorem nodup_add (a b : Current K) (ha : (keys a).Nodup) (hb : (keys b).Nodup) :
    (keys (add a b)).Nodup := by
  have e : keys (add a b) = keys a ++ (keys b).filter (fun k => !hasKey a k) := by
    rw [add, keys, List.map_append]
    exact congrArg₂ (· ++ ·) (keys_map (fun k v => v + coeff b k) a)
      ((keys_map (fun _ v => 0 + v) _).trans (keys_filter (fun k => !hasKey a k) b))
  rw [e]
  refine List.nodup_append.mpr ⟨ha, hb.filter _, fun x hx y hy e => ?_⟩
  subst e
  -- a key of the second half is not a key of `a`
  have h1 := (List.mem_filter.1 hy).2
  rw [hasKey_eq, (Assoc.lookup_isSome a x).2 hx] at h1
  cases h1

theorem nodup_smulL (k : K) (c : Current K) (h : (keys c).Nodup) : (keys (smulL k c)).Nodup := by
  unfold smulL; rw [keys_map (fun _ v => k * v)]; exact h

theorem nodup_smulR (c : Current K) (k : K) (h : (keys c).Nodup) : (keys (smulR c k)).Nodup := by
  unfold smulR; rw [keys_map (fun _ v => v * k)]; exact h

theorem nodup_sub (a b : Current K) (ha : (keys a).Nodup) (hb : (keys b).Nodup) :
    (keys (sub a b)).Nodup :=
  nodup_add a _ ha (nodup_smulL _ b hb)

end ring
end Current

def LitsNodup {K : Type} : Expr K → Prop
  | .lit c => c.keys.Nodup
  | .add l r => LitsNodup l ∧ LitsNodup r
  | .sub l r => LitsNodup l ∧ LitsNodup r
  | .lmul _ e => LitsNodup e
  | .rmul e _ => LitsNodup e

end Acn.Network
