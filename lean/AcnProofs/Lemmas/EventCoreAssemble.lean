/-
  The run-loop invariant does not care HOW the events reached the queue (`AcnModel/SimAssemble.lean`).

  `assembled ops cfg first later` is the core of a simulator that was constructed on a queue holding `first` and
  whose queue object received `later` (through any reference to it) before `run()` — in whatever order, split
  anywhere (`first = []`: the queue was empty at construction).  If together these are the events of the scenario
  (`(first ++ later).Perm (initPending cfg)`), the state satisfies the same loop invariant `Inv cfg 0` as the
  state of `initQ` and the queue's representation invariant, so everything proved from `Inv` applies.

  Also: `runQ` on a state whose guard is false (a finished simulator) is the identity, for any fuel.
-/
import AcnModel.SimAssemble
import AcnProofs.Lemmas.EventCoreRun
import AcnProofs.Lemmas.EventCoreSimQ

set_option linter.unusedSectionVars false

namespace Acn.EventCore
open Acn

section
variable {cfg : Cfg} {ops : QOps} {good : List Event → Prop}

theorem foldl_push_ok (hq : ops.Ok good) : ∀ (es q : List Event), good q →
    (es.foldl ops.push q).Perm (q ++ es) ∧ good (es.foldl ops.push q) := by
  intro es
  induction es with
  | nil => intro q hg; simpa using hg
  | cons e es ih =>
    intro q hg
    obtain ⟨hp, hg'⟩ := hq.push q e hg
    obtain ⟨hp2, hg2⟩ := ih (ops.push q e) hg'
    refine ⟨?_, hg2⟩
    simp only [List.foldl_cons]
    refine hp2.trans ?_
    have := hp.append_right es
    simpa [List.append_assoc] using this

/-- core state of `Simulator(…, EventQueue(first), …)` followed by `add_events(later)` on that queue -/
def assembled (ops : QOps) (cfg : Cfg) (first later : List Event) : Core :=
  { init cfg with pending := later.foldl ops.push (ops.build first) }

theorem assembled_inv (hv : Valid cfg) (hq : ops.Ok good) {first later : List Event}
    (hp : (first ++ later).Perm (initPending cfg)) :
    Inv cfg 0 (assembled ops cfg first later) ∧ good (assembled ops cfg first later).pending := by
  obtain ⟨hb, hg⟩ := hq.build first
  obtain ⟨hpa, hg2⟩ := foldl_push_ok hq later (ops.build first) hg
  exact ⟨init_inv_of_perm hv ((hpa.trans (hb.append_right later)).trans hp), hg2⟩

theorem runQ_of_guard_false (sched apply : Core → Option Err) (n : Nat) {c : Core} (h : guard c = false) :
    runQ ops cfg sched apply n c = (c, none) :=
  (runQ_eq ops cfg sched apply n c).trans (Steps.loopE_stop n h)

end
end Acn.EventCore

namespace Acn.Sim
open Acn Acn.EventCore

variable {K : Type} [Add K] [Sub K] [Mul K] [Div K] [Neg K] [LT K] [LE K]
  [DecidableLT K] [DecidableLE K] [OfNat K 0] [OfNat K 1] [NatCast K] [HasExp K]

theorem addEvents_initOn_core (ops : QOps) (cfg : Cfg K) (first later : List Event) :
    (addEvents ops later (initOn ops cfg first)).core = assembled ops cfg.core first later := rfl

theorem runQ_of_guard_false (ops : QOps) (cfg : Cfg K) (sched : View K → Except Err (Schedule K)) (n : Nat)
    {s : State K} (h : guard s.core = false) : runQ ops cfg sched n s = (s, none) :=
  (runQ_eq ops cfg sched n s).trans (Steps.loopE_stop n h)

theorem addEvents_nil (ops : QOps) (s : State K) : addEvents ops [] s = s := rfl

theorem runStages_replicate_nil (ops : QOps) (cfg : Cfg K) (sched : View K → Except Err (Schedule K)) (n : Nat)
    {s : State K} (h : guard s.core = false) (k : Nat) :
    runStages ops cfg sched n (List.replicate k []) s = (s, none) := by
  induction k with
  | zero => rfl
  | succ k ih =>
    simp only [List.replicate_succ, runStages, addEvents_nil, runQ_of_guard_false ops cfg sched n h]
    exact ih

end Acn.Sim
