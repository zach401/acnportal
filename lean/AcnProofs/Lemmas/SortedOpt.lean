/-
  Helper lemmas for C08: the discrete walk returns the FIRST passing level, the bisection brackets
  the supremum under interval feasibility, stability of the insertion sort (that it sorts: `Lemmas/InsertSort`) and
  with it the five orders of `sortSessions` (`sortSessions_key`; `C08.sameKey`, the tie of the key, is defined here);
  then what one `greedyRate` call on a continuous station and one trip round the round-robin loop do within the
  bounds `[lbOf s, ubOf s]` / `[lbOf s, rrUb s]` the session came with (used by `C08Est` for the bounds an arbitrary
  estimator leaves).
-/
import AcnProofs.Lemmas.SortedBasic

set_option linter.unusedSectionVars false

namespace Acn.Sorted
open Acn

/-- stability of one insertion: if no two elements picked by `p` are strictly ordered (they all
    share one key), `x` is not moved behind any of them -/
theorem insertBy_filter {α : Type} (lt : α → α → Bool) (p : α → Bool) (x : α)
    (hp : ∀ y, p x = true → p y = true → lt y x = false) (l : List α) :
    (insertBy lt x l).filter p = (x :: l).filter p := by
  induction l with
  | nil => simp [insertBy]
  | cons y ys ih =>
    unfold insertBy
    split
    · rename_i hyx
      cases hpx : p x
      · simp only [List.filter_cons, hpx] at ih ⊢
        simp only [Bool.false_eq_true, if_false] at ih ⊢
        rw [ih]
      · have hpy : p y = false := by
          cases hpy : p y
          · rfl
          · have := hp y hpx hpy
            rw [hyx] at this; exact absurd this (by simp)
        simp only [List.filter_cons, hpx, hpy] at ih ⊢
        simp only [Bool.false_eq_true, if_false, if_true] at ih ⊢
        exact ih
    · rfl

theorem sortBy_filter {α : Type} (lt : α → α → Bool) (p : α → Bool)
    (hp : ∀ x y, p x = true → p y = true → lt y x = false) (l : List α) :
    (sortBy lt l).filter p = l.filter p := by
  induction l with
  | nil => simp [sortBy]
  | cons x xs ih =>
    have : sortBy lt (x :: xs) = insertBy lt x (sortBy lt xs) := by simp [sortBy]
    rw [this, insertBy_filter lt p x (hp x)]
    simp only [List.filter_cons]
    rw [ih]

/-- the last conjunct is stability: the elements sharing the key of any `a` keep their input order -/
theorem sortBy_key {α β : Type} [LinearOrder β] (f : α → β) (lt : α → α → Bool)
    (hlt : ∀ a b, lt a b = true ↔ f a < f b) (l : List α) :
    (sortBy lt l).Perm l ∧ (sortBy lt l).Pairwise (fun a b => lt b a = false) ∧
    ∀ a, (sortBy lt l).filter (fun b => !lt a b && !lt b a) =
      l.filter (fun b => !lt a b && !lt b a) := by
  have hle : ∀ a b, lt a b = false ↔ f b ≤ f a := fun a b => by
    rw [← not_lt, ← hlt, Bool.not_eq_true]
  refine ⟨sortBy_perm lt l, sortBy_pairwise lt ?_ ?_ l, fun a => sortBy_filter lt _ ?_ l⟩
  · intro a b c h1 h2
    rw [hle] at *
    exact le_trans h1 h2
  · intro a b h
    rw [hle]
    exact le_of_lt ((hlt a b).mp h)
  · intro x y hx hy
    simp only [Bool.and_eq_true, Bool.not_eq_true', hle] at hx hy
    rw [hle]
    exact le_trans hx.1 hy.2

section
variable {K : Type} [Field K] [LinearOrder K] [IsStrictOrderedRing K]

/-- two sessions have the same sort key (neither is strictly before the other) -/
def _root_.Acn.C08.sameKey (kind : SortKind) (infra : Infra K) (period : K) (time : Int) (a b : Session K) : Bool :=
  !sortLt kind infra period time a b && !sortLt kind infra period time b a

/-- each of the five orders is `sortBy` on a linearly ordered key (the reverse orders on its order dual) -/
theorem sortSessions_key (kind : SortKind) (infra : Infra K) (period : K) (time : Int) (l : List (Session K)) :
    (sortSessions kind infra period time l).Perm l ∧
    (sortSessions kind infra period time l).Pairwise (fun a b => sortLt kind infra period time b a = false) ∧
    ∀ a, (sortSessions kind infra period time l).filter (C08.sameKey kind infra period time a) =
      l.filter (C08.sameKey kind infra period time a) := by
  cases kind
  · exact sortBy_key (fun s : Session K => s.arrival) _ (fun a b => by simp [sortLt]) l
  · exact sortBy_key (fun s : Session K => OrderDual.toDual s.arrival) _ (fun a b => by simp [sortLt]) l
  · exact sortBy_key (fun s : Session K => s.estDeparture) _ (fun a b => by simp [sortLt]) l
  · exact sortBy_key (laxity infra period time) _ (fun a b => by simp [sortLt]) l
  · exact sortBy_key (fun s => OrderDual.toDual (processingTime infra period s)) _
      (fun a b => by simp [sortLt]) l

theorem walkDown_max (feas : List K → Bool) (sched : List K) (i : Nat) (l : List K) (hsorted : l.Pairwise (· < ·)) :
    (walkDown feas sched i l.reverse ∈ l ∧ feas (sched.set i (walkDown feas sched i l.reverse)) = true ∧
        ∀ a ∈ l, walkDown feas sched i l.reverse < a → feas (sched.set i a) = false) ∨
    (walkDown feas sched i l.reverse = 0 ∧ ∀ a ∈ l, feas (sched.set i a) = false) := by
  have hrev : l.reverse.Pairwise (· > ·) := by
    rw [List.pairwise_reverse]; exact hsorted
  rw [walkDown_eq_find]
  cases hf : l.reverse.find? (fun a => feas (sched.set i a)) with
  | none =>
    exact Or.inr ⟨rfl, fun a ha => by simpa using List.find?_eq_none.1 hf a (List.mem_reverse.mpr ha)⟩
  | some w =>
    obtain ⟨hw, pre, post, e, hpre⟩ := List.find?_eq_some_iff_append.1 hf
    refine Or.inl ⟨List.mem_reverse.mp (List.mem_of_find?_eq_some hf), hw, fun a ha hlt => ?_⟩
    -- a level above `w` stands before `w` in the descending list, where every level failed
    rw [e, List.pairwise_append] at hrev
    rcases List.mem_append.mp (e ▸ List.mem_reverse.mpr ha) with hp | hp
    · simpa using hpre a hp
    · rcases List.mem_cons.mp hp with rfl | hp
      · exact absurd hlt (lt_irrefl _)
      · exact absurd hlt (not_lt.mpr (le_of_lt ((List.pairwise_cons.mp hrev.2.1).1 a hp)))

def IntervalFeasible (feas : List K → Bool) (sched : List K) (i : Nat) : Prop :=
  ∀ x y z : K, x ≤ y → y ≤ z → feas (sched.set i x) = true → feas (sched.set i z) = true →
    feas (sched.set i y) = true

theorem two_pow_cast (n : Nat) : (0 : K) < 2 ^ n := by positivity

/-- The invariant of the bisection is its bracket: the upper end fails the check, the gap is within what the fuel left can
    halve down to `eps`.  So the value returned is the lower end of a bracket no wider than `eps` whose upper end fails. -/
theorem bisect_final (feas : List K → Bool) (sched : List K) (i : Nat) (eps : K) :
    ∀ (fuel : Nat) (lb ub : K), lb ≤ ub → ub - lb ≤ eps * 2 ^ fuel → feas (sched.set i ub) = false →
      ∃ u, bisect feas sched i eps fuel lb ub ≤ u ∧ u - bisect feas sched i eps fuel lb ub ≤ eps ∧
        feas (sched.set i u) = false := by
  intro fuel
  induction fuel with
  | zero => exact fun lb ub hle hgap hu => ⟨ub, hle, by simpa [bisect] using hgap, hu⟩
  | succ n ih =>
    intro lb ub hle hgap hu
    unfold bisect
    simp only
    split
    · rename_i hg
      exact ⟨ub, hle, hg, hu⟩
    · obtain ⟨hm1, hm2, hhalf⟩ := mid_props hle
      obtain ⟨hgapU, hgapL⟩ := hhalf (eps * 2 ^ n) (by rwa [pow_succ', mul_left_comm] at hgap)
      split
      · exact ih _ ub hm2 hgapU hu
      · rename_i hmid
        exact ih lb _ hm1 hgapL (by simpa using hmid)

/-- … and with interval sections and a lower end that passes, every value that passes is less than `eps` above the one
    returned: a value further up would make the failing end of the final bracket pass -/
theorem bisect_bracket (feas : List K → Bool) (sched : List K) (i : Nat) (eps : K)
    (hint : IntervalFeasible feas sched i) (fuel : Nat) (lb ub : K) (hle : lb ≤ ub)
    (hgap : ub - lb ≤ eps * 2 ^ fuel) (hl : feas (sched.set i lb) = true)
    (hu : feas (sched.set i ub) = false) :
    feas (sched.set i (bisect feas sched i eps fuel lb ub)) = true ∧
    ∀ x, feas (sched.set i x) = true → x < bisect feas sched i eps fuel lb ub + eps := by
  obtain ⟨u, hbu, hgu, hfu⟩ := bisect_final feas sched i eps fuel lb ub hle hgap hu
  have hb := (bisect_cases feas sched i eps fuel lb ub).elim (fun e => e.symm ▸ hl) id
  refine ⟨hb, fun x hfx => ?_⟩
  by_contra hcon
  have := hint _ u x hbu (le_trans (sub_le_iff_le_add'.mp hgu) (not_lt.mp hcon)) hb hfx
  rw [hfu] at this; exact absurd this (by simp)

/-- `max_feasible_rate` on a feasible schedule that holds `lb` at station `i`, with interval sections and
    enough fuel: the grant is feasible, lies in `[lb, ub]`, is `ub` when `ub` is feasible (the short
    circuit), and otherwise no feasible value at all is `eps` or more above it (the bisection) -/
theorem maxFeasibleRate_max (feas : List K → Bool) (fuel : Nat) (i : Nat) (ub : K) (sched : List K)
    (eps lb : K) (heps : 0 < eps) (hint : IntervalFeasible feas sched i)
    (h0 : feas sched = true) (hlb : sched.set i lb = sched) (hle : lb ≤ ub)
    (hfuel : ub - lb ≤ eps * 2 ^ fuel) :
    ∃ r, maxFeasibleRate feas fuel i ub sched eps lb = .ok r ∧ feas (sched.set i r) = true ∧
      lb ≤ r ∧ r ≤ ub ∧ (feas (sched.set i ub) = true → r = ub) ∧
      ∀ x, (feas (sched.set i ub) = true → x ≤ ub) → feas (sched.set i x) = true → x < r + eps := by
  cases hub : feas (sched.set i ub) with
  | true =>
    exact ⟨ub, by simp [maxFeasibleRate, h0, hub], hub, hle, le_refl _, fun _ => rfl,
      fun x hx _ => lt_of_le_of_lt (hx rfl) (lt_add_of_pos_right _ heps)⟩
  | false =>
    have hl : feas (sched.set i lb) = true := by rw [hlb]; exact h0
    obtain ⟨h1, h2⟩ := bisect_bracket feas sched i eps hint fuel lb ub hle hfuel hl hub
    have hr := bisect_range feas sched i eps (le_of_lt heps) fuel lb ub
    exact ⟨bisect feas sched i eps fuel lb ub, by simp [maxFeasibleRate, h0, hub], h1, hr.1,
      by simpa [max_eq_right hle] using hr.2, fun hc => absurd hc (by simp), fun x _ hf => h2 x hf⟩

theorem set_eq_of_getElem? {α : Type} (l : List α) (i : Nat) (a : α) (h : l[i]? = some a) :
    l.set i a = l := by
  obtain ⟨hi, rfl⟩ := List.getElem?_eq_some_iff.mp h
  exact List.set_getElem_self hi

theorem greedyRate_cont_max (feas : List K → Bool) (fuel : Nat) (eps : K) (heps : 0 < eps)
    (infra : Infra K) (period : K) (cur : List K) (s : Session K) (r : K)
    (hc : infra.cont.getD s.idx true = true) (hcur : cur[s.idx]? = some (lbOf s))
    (hint : IntervalFeasible feas cur s.idx)
    (hle : lbOf s ≤ ubOf infra period s) (hfuel : ubOf infra period s - lbOf s ≤ eps * 2 ^ fuel)
    (h : greedyRate feas fuel eps infra period cur s = .ok r) :
    feas cur = true ∧ feas (cur.set s.idx r) = true ∧ lbOf s ≤ r ∧ r ≤ ubOf infra period s ∧
    (feas (cur.set s.idx (ubOf infra period s)) = true → r = ubOf infra period s) ∧
    ∀ x, lbOf s ≤ x → x ≤ ubOf infra period s → feas (cur.set s.idx x) = true → x < r + eps := by
  unfold greedyRate at h
  simp only [hc, if_true] at h
  cases h0 : feas cur with
  | false => simp [maxFeasibleRate, h0] at h
  | true =>
    obtain ⟨r', hr', g1, g2, g3, g4, g5⟩ := maxFeasibleRate_max feas fuel s.idx _ cur eps _ heps hint h0
      (set_eq_of_getElem? cur s.idx (lbOf s) hcur) hle hfuel
    rw [hr'] at h
    cases h
    exact ⟨rfl, g1, g2, g3, g4, fun x _ hx => g5 x fun _ => hx⟩

/-- the unfiltered level list of a session in `round_robin` (sorted_algorithms.py:386-397) -/
def rrBase [HasCeilNat K] (infra : Infra K) (inc : K) (s : Session K) : List K :=
  if infra.cont.getD s.idx true then arange s.minRate (s.maxRate + inc / ((2 : Nat) : K)) inc
  else infra.allow.getD s.idx []

theorem rrLevels_eq [HasCeilNat K] (infra : Infra K) (period inc : K) (s : Session K) :
    rrLevels infra period inc s =
      ((rrBase infra inc s).filter fun a => decide (lbOf s ≤ a)).filter
        fun a => decide (a ≤ rrUb infra period s) := rfl

/-- nothing within the session's own bound is left untried -/
theorem no_level_left (base : List K) (lb ub : K) (k : Nat)
    (hk : ¬ (k + 1 < ((base.filter fun a => decide (lb ≤ a)).filter fun a => decide (a ≤ ub)).length)) :
    ∀ a ∈ base, lb ≤ a → a ≤ ub → ∃ j, j ≤ k ∧
      ((base.filter fun a => decide (lb ≤ a)).filter fun a => decide (a ≤ ub))[j]? = some a := by
  intro a ha h1 h2
  have hmem : a ∈ (base.filter fun a => decide (lb ≤ a)).filter fun a => decide (a ≤ ub) := by
    simp only [List.mem_filter, decide_eq_true_eq]
    exact ⟨⟨ha, h1⟩, h2⟩
  obtain ⟨j, hj, hja⟩ := List.mem_iff_getElem.mp hmem
  refine ⟨j, by omega, ?_⟩
  rw [List.getElem?_eq_getElem hj, hja]

end
end Acn.Sorted
