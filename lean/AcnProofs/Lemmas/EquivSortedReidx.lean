/-
  A permutation `σ` of `0..n-1` as a new registration order of the stations: new position `j` holds old
  station `σ[j]`, `pos σ i` is the new position of old station `i`, `mv σ s` the session with its station index
  moved.  Reading and writing a re-indexed per-station array at the new position is reading and writing the
  array at the old one — what makes `reidx σ` an instance of `Moves` (`EquivSortedMoves`).
-/
import AcnModel.Sorted
import AcnProofs.Lemmas.Reidx

set_option linter.unusedSectionVars false

namespace Acn.Sorted
open Acn.SimEquiv

variable {K : Type} [Field K] [LinearOrder K] [IsStrictOrderedRing K]

def pos (σ : List Nat) (i : Nat) : Nat := σ.idxOf i

theorem pos_spec {σ : List Nat} {n : Nat} (hσ : σ.Perm (List.range n)) {i : Nat} (hi : i < n) :
    pos σ i < σ.length ∧ σ.getD (pos σ i) 0 = i := by
  have hm : i ∈ σ := hσ.mem_iff.2 (List.mem_range.2 hi)
  have h1 : σ.idxOf i < σ.length := List.idxOf_lt_length_iff.2 hm
  refine ⟨h1, ?_⟩
  unfold pos
  rw [List.getD_eq_getElem?_getD, List.getElem?_eq_getElem h1]
  simp

theorem getD_reidx_pos {α : Type} {σ : List Nat} {n : Nat} (hσ : σ.Perm (List.range n)) (l : List α) (d : α)
    {i : Nat} (hi : i < n) : (reidx σ l d).getD (pos σ i) d = l.getD i d := by
  obtain ⟨h1, h2⟩ := pos_spec hσ hi
  rw [getD_reidx σ l d _ h1, h2]

theorem reidx_set_pos {α : Type} {σ : List Nat} {n : Nat} (hσ : σ.Perm (List.range n)) (l : List α) (d v : α)
    {i : Nat} (hi : i < n) (hl : l.length = n) : (reidx σ l d).set (pos σ i) v = reidx σ (l.set i v) d := by
  obtain ⟨h1, h2⟩ := pos_spec hσ hi
  exact (reidx_set σ l d v (pos σ i) i (perm_nodup hσ) h1 h2 (by omega)).symm

def mv (σ : List Nat) (s : Session K) : Session K := { s with idx := pos σ s.idx }

section
variable {σ : List Nat} {n : Nat} (hσ : σ.Perm (List.range n))
include hσ

theorem lbOf_mv (s : Session K) : lbOf (mv σ s) = lbOf s := rfl

end
end Acn.Sorted
