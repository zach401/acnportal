/-
  Link C12 → C06: every network a user can build with register / add / remove / update — viewed
  as the object the feasibility checks read (`Feas.Net`) — satisfies the shape invariant
  `Feas.Net.WF` under which C06's agreement theorems are proved, PROVIDED no station id was
  registered twice (re-registration makes `_phase_angles` / `_voltages` longer than the station
  list: `reregistration_breaks_wf` in `AcnProofs/C12.lean`).
-/
import AcnModel.Network
import AcnModel.Feas
import AcnProofs.Lemmas.NetworkAlign
import AcnProofs.Lemmas.NetworkQuery
import AcnProofs.Lemmas.FeasAgree
import Mathlib.Tactic

set_option linter.unusedSectionVars false

namespace Acn.Network

section proj
variable {K : Type} [Zero K]

/-- the `ChargingNetwork` attributes the feasibility checks read (charging_network.py:42-55);
    `constraint_matrix.shape[1]` is the number of stations (the matrix is built by
    `reindex(columns=station_ids)` and stations are frozen from then on) -/
def FullNet.toFeas (f : FullNet K) (vt rt : K) : Feas.Net K :=
  { stations := f.base.stations, c := f.c, s := f.s, voltages := f.voltages,
    matrix := f.base.matrix.map (fun rows => { cols := f.base.stations.length, rows := rows }),
    lims := f.base.magnitudes, cids := f.base.index, vt := vt, rt := rt }

theorem FullNet.step_base (f : FullNet K) (o : FOp K) :
    (f.step o).1.base = (f.base.step o.toOp).1 ∧ (f.step o).2 = (f.base.step o.toOp).2 := by
  cases o with
  | register id c s v =>
    simp only [FullNet.step, FullNet.register, FOp.toOp, Net.step, Net.register]
    split <;> exact ⟨rfl, rfl⟩
  | add c l nm => exact ⟨rfl, rfl⟩
  | remove nm => exact ⟨rfl, rfl⟩
  | update nm c l nn => exact ⟨rfl, rfl⟩

theorem FullNet.run_base (f : FullNet K) (ops : List (FOp K)) :
    (f.run ops).base = f.base.run (ops.map FOp.toOp) := by
  induction ops generalizing f with
  | nil => rfl
  | cons o os ih =>
    have h := ih (f.step o).1
    rw [(FullNet.step_base f o).1] at h
    simpa [FullNet.run, Net.run] using h

theorem FullNet.trace_base (f : FullNet K) (ops : List (FOp K)) :
    f.trace ops = f.base.trace (ops.map FOp.toOp) := by
  induction ops generalizing f with
  | nil => rfl
  | cons o os ih =>
    simp only [FullNet.trace, List.map_cons, Net.trace, ih, (FullNet.step_base f o).1,
      (FullNet.step_base f o).2]

theorem full_refines (ops : List (FOp K)) :
    Refines ((FullNet.init : FullNet K).run ops).base ((Spec.init : Spec K).run (ops.map FOp.toOp)) := by
  rw [FullNet.run_base]
  exact (run_refines refines_init _).2

structure VecInv (f : FullNet K) : Prop where
  hc : f.c.length = f.base.stations.length
  hs : f.s.length = f.base.stations.length
  hv : f.voltages.length = f.base.stations.length

theorem vecInv_init : VecInv (FullNet.init : FullNet K) := ⟨rfl, rfl, rfl⟩

/-- a schedule with one row per station broadcasts against the angle vector without change of width -/
theorem VecInv.width {f : FullNet K} (hv : VecInv f) {R : Nat} (hR : R = f.base.stations.length) :
    FullNet.broadcastWidth R f.c.length = some f.base.stations.length := by
  rw [FullNet.broadcastWidth, if_pos (by rw [hv.hc, hR]), hR]

theorem step_vecInv {f : FullNet K} (h : VecInv f) (o : FOp K) (hf : FullNet.FreshOp f o) :
    VecInv (f.step o).1 := by
  cases o with
  | register id c s v =>
    simp only [FullNet.step, FullNet.register]
    by_cases hm : f.base.matrix.isSome = true
    · rw [if_pos hm]; exact h
    · rw [if_neg hm]
      have hid : id ∉ f.base.stations := by
        rcases hf with hf | hf
        · exact hf
        · exact absurd hf hm
      have hst : (f.base.register id).1.stations = f.base.stations ++ [id] := by
        simp only [Net.register, hm]
        simp [hid]
      constructor <;> simp [hst, h.hc, h.hs, h.hv]
  | _ =>
    -- the other edits leave the station list and the vectors alone
    refine ⟨?_, ?_, ?_⟩ <;>
      simp only [FullNet.step, addConstraint_stations, removeConstraint_stations,
        updateConstraint_stations]
    exacts [h.hc, h.hs, h.hv]

theorem run_vecInv {f : FullNet K} (h : VecInv f) (ops : List (FOp K))
    (hf : FullNet.FreshRun f ops) : VecInv (f.run ops) := by
  induction ops generalizing f with
  | nil => exact h
  | cons o os ih => exact ih (step_vecInv h o hf.1) hf.2

/-- the vectors never get SHORTER than the station list, whatever is registered -/
theorem step_vec_ge {f : FullNet K} (h : f.base.stations.length ≤ f.c.length) (o : FOp K) :
    (f.step o).1.base.stations.length ≤ (f.step o).1.c.length := by
  cases o with
  | register id c s v =>
    simp only [FullNet.step, FullNet.register]
    by_cases hm : f.base.matrix.isSome = true
    · rw [if_pos hm]; exact h
    · rw [if_neg hm]
      simp only [Net.register, hm]
      by_cases hid : id ∈ f.base.stations
      · simp [hid]; omega
      · simp [hid]; omega
  | _ =>
    simp only [FullNet.step, addConstraint_stations, removeConstraint_stations,
      updateConstraint_stations]
    exact h

end proj

section wf
variable {K : Type} [Field K] [LinearOrder K] [IsStrictOrderedRing K]

theorem toFeas_wf {f : FullNet K} {sp : Spec K} (hr : Refines f.base sp) (hv : VecInv f)
    (vt rt : K) : (f.toFeas vt rt).WF := by
  refine ⟨hv.hc, hv.hs, hv.hv, ?_, ?_, ?_⟩
  · show f.base.index.length = f.base.magnitudes.length
    rw [hr.index, hr.mags, List.length_map, List.length_map]
  · intro hm
    have hm' : f.base.matrix = none := by simpa [FullNet.toFeas] using hm
    show f.base.magnitudes = []
    rw [hr.mags, hr.cons_nil_of_not_frozen (by rw [← hr.frozen, hm']; rfl)]
    rfl
  · intro M hM
    simp only [FullNet.toFeas, Option.map_eq_some_iff] at hM
    obtain ⟨rows, hrows, rfl⟩ := hM
    refine ⟨rfl, ?_⟩
    show rows.length = f.base.magnitudes.length
    have h2 := hr.rows
    rw [hrows, Option.getD_some] at h2
    rw [h2, hr.mags, List.length_map, List.length_map]

end wf
end Acn.Network
