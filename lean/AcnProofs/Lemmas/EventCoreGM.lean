/-
  The run loop with MUTATING scheduler / pilot stages (`bodyGM` / `runGM`, AcnModel/EventCoreGM.lean), the most
  general of the loops.  Hypotheses: the network operations and the per-period hook never raise and keep the
  history-indexed predicate `P` (`NetInv`, or the stronger `NoFailH`), the two stages keep `P` whether they raise
  or not (`KeepsP`).  `PassGM`: the five outcomes of one trip round the loop (the twin of `Pass`; `SchedOut`: the
  state in which the apply stage starts).  `bodyGM_ok`: what each outcome keeps.  `runGM_specJ`, `runGM_spec`: after
  `n` iterations from a loop head at period `t`, `P` holds; if nothing was raised the core is at loop head
  `min (t+n) horizon`; anything raised was raised by one of the two stages (so: never by the network), before the
  horizon.
  The loops whose stages only look and never raise are instances: `bodyG` is `bodyGM` at the empty hook
  (`bodyG_eq_bodyGM`), `bodyGP` is `bodyG` followed by the hook (`bodyG_ok`, `bodyGP_ok`, `runGP_spec`).  Each run
  theorem is the body theorem put through the counted loop of `Steps.lean`.
-/
import AcnModel.EventCoreGM
import AcnProofs.Lemmas.EventCoreNetH
import AcnProofs.Lemmas.Steps

namespace Acn.EventCore
open Acn Acn.Steps

/-- a stage keeps the predicate on (event_history, state), raising or not -/
def KeepsP {σ : Type} (P : List Event → σ → Prop) (f : CoreG σ → σ × Option Err) : Prop :=
  ∀ g, P g.core.eventHist g.net → P g.core.eventHist (f g).1

/-- `e` is raised by the stage `f` in some state -/
def RaisedBy {σ : Type} (f : CoreG σ → σ × Option Err) (e : Err) : Prop := ∃ g, (f g).2 = some e

section
variable {σ : Type} {cfg : Cfg} {ops : QOps} {good : List Event → Prop} {net : NetOps σ}
  {post : Nat → σ → σ × Option Err} {P : List Event → σ → Prop}

/-- a second invariant `J`, which may look at the core (the iteration counter): kept by the events
    of a period, insensitive to the scheduling flags, kept by a scheduler stage that does not raise,
    and re-established by apply stage + hook + `iteration += 1` (where `P` may be used) -/
structure KeepsJ (ops : QOps) (net : NetOps σ) (post : Nat → σ → σ × Option Err) (cfg : Cfg)
    (sched apply : CoreG σ → σ × Option Err) (P : List Event → σ → Prop) (J : CoreG σ → Prop) : Prop where
  events : ∀ g g1, eventsStageG ops net cfg g = (g1, none) → J g → J g1
  flags : ∀ (g : CoreG σ) (c : Core), c.iter = g.core.iter → J g → J { core := c, net := g.net }
  sched : ∀ g n1, sched g = (n1, none) → J g → J { core := g.core, net := n1 }
  finish : ∀ g n1 n2, P g.core.eventHist g.net → apply g = (n1, none) → post g.core.iter n1 = (n2, none) →
    J g → J { core := advance g.core, net := n2 }

theorem KeepsJ.trivial (ops : QOps) (net : NetOps σ) (post : Nat → σ → σ × Option Err) (cfg : Cfg)
    (sched apply : CoreG σ → σ × Option Err) (P : List Event → σ → Prop) :
    KeepsJ ops net post cfg sched apply P (fun _ => True) :=
  ⟨fun _ _ _ _ => True.intro, fun _ _ _ _ => True.intro, fun _ _ _ _ => True.intro,
   fun _ _ _ _ _ _ _ => True.intro⟩

/-- the state `gB` in which the apply stage starts, given the state `g1` after the events: `g1`
    itself if no scheduler call was due, else the scheduler stage's result with both flags set -/
def SchedOut (cfg : Cfg) (sched : CoreG σ → σ × Option Err) (g1 gB : CoreG σ) : Prop :=
  (needsSched cfg.maxRecompute g1.core = false ∧ gB = g1) ∨
  (∃ ns, needsSched cfg.maxRecompute g1.core = true ∧
    sched { g1 with core := markInvoked g1.core } = (ns, none) ∧
    gB = { core := markScheduled (markInvoked g1.core), net := ns })

/-- the five outcomes of `bodyGM ops net post cfg sched apply g` (the twin of `Pass` for mutating stages and a hook) -/
inductive PassGM (ops : QOps) (net : NetOps σ) (post : Nat → σ → σ × Option Err) (cfg : Cfg)
    (sched apply : CoreG σ → σ × Option Err) (g : CoreG σ) : CoreG σ → Option Err → Prop
  | eventRaise {g1 : CoreG σ} {e : Err} : eventsStageG ops net cfg g = (g1, some e) →
      PassGM ops net post cfg sched apply g g1 (some e)
  | schedRaise {g1 : CoreG σ} {n1 : σ} {e : Err} : eventsStageG ops net cfg g = (g1, none) →
      needsSched cfg.maxRecompute g1.core = true → sched { g1 with core := markInvoked g1.core } = (n1, some e) →
      PassGM ops net post cfg sched apply g { core := markInvoked g1.core, net := n1 } (some e)
  | applyRaise {g1 gB : CoreG σ} {n1 : σ} {e : Err} : eventsStageG ops net cfg g = (g1, none) →
      SchedOut cfg sched g1 gB → apply gB = (n1, some e) →
      PassGM ops net post cfg sched apply g { gB with net := n1 } (some e)
  | postRaise {g1 gB : CoreG σ} {n1 n2 : σ} {e : Err} : eventsStageG ops net cfg g = (g1, none) →
      SchedOut cfg sched g1 gB → apply gB = (n1, none) → post gB.core.iter n1 = (n2, some e) →
      PassGM ops net post cfg sched apply g { gB with net := n2 } (some e)
  | done {g1 gB : CoreG σ} {n1 n2 : σ} : eventsStageG ops net cfg g = (g1, none) →
      SchedOut cfg sched g1 gB → apply gB = (n1, none) → post gB.core.iter n1 = (n2, none) →
      PassGM ops net post cfg sched apply g { core := advance gB.core, net := n2 } none

theorem PassGM.of_eq {sched apply : CoreG σ → σ × Option Err} {g g' : CoreG σ} {r : Option Err}
    (h : bodyGM ops net post cfg sched apply g = (g', r)) : PassGM ops net post cfg sched apply g g' r := by
  have hfin : ∀ {g1 gB}, eventsStageG ops net cfg g = (g1, none) → SchedOut cfg sched g1 gB →
      finishGM apply post gB = (g', r) → PassGM ops net post cfg sched apply g g' r := by
    intro g1 gB hes hso hf
    unfold finishGM at hf
    rcases hap : apply gB with ⟨n1, _ | e⟩ <;> rw [hap] at hf <;> dsimp only at hf
    · rcases hpo : post gB.core.iter n1 with ⟨n2, _ | e⟩ <;> rw [hpo] at hf <;> cases hf
      · exact .done hes hso hap hpo
      · exact .postRaise hes hso hap hpo
    · cases hf
      exact .applyRaise hes hso hap
  unfold bodyGM at h
  rcases hes : eventsStageG ops net cfg g with ⟨g1, _ | e1⟩ <;> rw [hes] at h <;> dsimp only at h
  · cases hn : needsSched cfg.maxRecompute g1.core with
    | false =>
      rw [hn, if_neg Bool.false_ne_true] at h
      exact hfin hes (.inl ⟨hn, rfl⟩) h
    | true =>
      rw [hn, if_pos rfl] at h
      rcases hs : sched { g1 with core := markInvoked g1.core } with ⟨ns, _ | e⟩ <;> rw [hs] at h <;> dsimp only at h
      · exact hfin hes (.inr ⟨ns, hn, hs, rfl⟩) h
      · cases h
        exact .schedRaise hes hn hs
  · cases h
    exact .eventRaise hes

theorem SchedOut.core {sched : CoreG σ → σ × Option Err} {g1 gB : CoreG σ} (h : SchedOut cfg sched g1 gB) :
    gB.core.iter = g1.core.iter ∧ gB.core.eventHist = g1.core.eventHist ∧
      gB.core.pending = g1.core.pending := by
  rcases h with ⟨_, rfl⟩ | ⟨ns, _, _, rfl⟩
  · exact ⟨rfl, rfl, rfl⟩
  · exact ⟨rfl, rfl, rfl⟩

theorem SchedOut.next (hq : ValidQ cfg) {sched : CoreG σ → σ × Option Err} {g1 gB : CoreG σ} {t : Nat}
    (h : SchedOut cfg sched g1 gB) (hM : MidG cfg t g1.core) : InvG cfg (t + 1) (advance gB.core) := by
  rcases h with ⟨hn, rfl⟩ | ⟨ns, _, _, rfl⟩
  · have hr : gB.core.resolve = false := resolve_of_not_needsSched (hn ▸ Bool.false_ne_true)
    exact hM.next hq (congrArg (· + 1) hM.iter) rfl hr rfl rfl
  · exact hM.next hq (congrArg (· + 1) hM.iter) rfl rfl rfl rfl

theorem SchedOut.keepsP {sched : CoreG σ → σ × Option Err} {g1 gB : CoreG σ} (h : SchedOut cfg sched g1 gB)
    (hs : KeepsP P sched) (hN : P g1.core.eventHist g1.net) : P gB.core.eventHist gB.net := by
  rcases h with ⟨_, rfl⟩ | ⟨ns, _, hsc, rfl⟩
  · exact hN
  · have := hs { g1 with core := markInvoked g1.core } hN
    rwa [hsc] at this

theorem KeepsJ.schedOut {sched apply : CoreG σ → σ × Option Err} {J : CoreG σ → Prop}
    (hK : KeepsJ ops net post cfg sched apply P J) {g1 gB : CoreG σ}
    (h : SchedOut cfg sched g1 gB) (hJ : J g1) : J gB := by
  rcases h with ⟨_, rfl⟩ | ⟨ns, _, hsc, rfl⟩
  · exact hJ
  · have h1 : J { core := markInvoked g1.core, net := g1.net } := hK.flags g1 _ rfl hJ
    exact hK.flags { core := markInvoked g1.core, net := ns } _ rfl (hK.sched _ ns hsc h1)

theorem bodyGM_ok (hq : ValidQ cfg) (hops : ops.Ok good) (hnet : NetInv net post cfg P)
    {sched apply : CoreG σ → σ × Option Err} (hs : KeepsP P sched) (ha : KeepsP P apply)
    {J : CoreG σ → Prop} (hJ : KeepsJ ops net post cfg sched apply P J)
    {t : Nat} {g : CoreG σ} (hI : InvG cfg t g.core) (hG : good g.core.pending)
    (hN : P g.core.eventHist g.net) (hJg : J g) :
    Ends (fun g' => InvG cfg (t + 1) g'.core ∧ good g'.core.pending ∧ P g'.core.eventHist g'.net ∧ J g')
      (fun g' e => P g'.core.eventHist g'.net ∧ g'.core.iter = t ∧ (RaisedBy sched e ∨ RaisedBy apply e))
      (bodyGM ops net post cfg sched apply g) := by
  obtain ⟨g1, h1, _, hM, hG1, hN1⟩ := eventsStageG_ok hq hops hnet hI hG hN
  -- what holds where the apply stage starts, and what that stage leaves
  have hB : ∀ {gB n1 r}, SchedOut cfg sched g1 gB → apply gB = (n1, r) →
      P gB.core.eventHist gB.net ∧ P gB.core.eventHist n1 ∧ gB.core.iter = t := fun hso hap =>
    ⟨hso.keepsP hs hN1, by have := ha _ (hso.keepsP hs hN1); rwa [hap] at this, hso.core.1.trans hM.iter⟩
  rcases hb : bodyGM ops net post cfg sched apply g with ⟨g', r⟩
  cases PassGM.of_eq hb with
  | eventRaise hes => cases h1.symm.trans hes
  | schedRaise hes hn hsc =>
    cases h1.symm.trans hes
    have := hs { g1 with core := markInvoked g1.core } hN1
    rw [hsc] at this
    exact .err ⟨this, hM.iter, .inl ⟨_, by rw [hsc]⟩⟩
  | applyRaise hes hso hap =>
    cases h1.symm.trans hes
    exact .err ⟨(hB hso hap).2.1, (hB hso hap).2.2, .inr ⟨_, by rw [hap]⟩⟩
  | @postRaise _ gB n1 _ _ hes hso hap hpo =>
    cases h1.symm.trans hes
    have := (hnet.post _ gB.core.iter n1 (hB hso hap).2.1).1
    rw [hpo] at this
    cases this
  | @done _ gB n1 n2 hes hso hap hpo =>
    cases h1.symm.trans hes
    obtain ⟨hPB, hP1, _⟩ := hB hso hap
    have := (hnet.post _ gB.core.iter _ hP1).2
    rw [hpo] at this
    exact .ok ⟨hso.next hq hM, hso.core.2.2 ▸ hG1, this,
      hJ.finish _ n1 n2 hPB hap hpo (hJ.schedOut hso (hJ.events g g1 h1 hJg))⟩

theorem runGM_eq (sched apply : CoreG σ → σ × Option Err) : ∀ (n : Nat) (g : CoreG σ),
    runGM ops net post cfg sched apply n g =
      loopE (fun g => guard g.core) (bodyGM ops net post cfg sched apply) n g :=
  loopE_unique (fun _ => rfl) fun n g => by
    rw [runGM]
    rcases bodyGM ops net post cfg sched apply g with ⟨g', _ | e⟩ <;> rfl

theorem runGM_counted (hq : ValidQ cfg) (hops : ops.Ok good) (hnet : NetInv net post cfg P)
    {sched apply : CoreG σ → σ × Option Err} (hs : KeepsP P sched) (ha : KeepsP P apply)
    {J : CoreG σ → Prop} (hJ : KeepsJ ops net post cfg sched apply P J) (n t : Nat) (g : CoreG σ)
    (hI : InvG cfg t g.core) (hG : good g.core.pending) (hN : P g.core.eventHist g.net) (hJg : J g)
    (ht : t ≤ horizon cfg) :
    Ends (fun g' => InvG cfg (min (t + n) (horizon cfg)) g'.core ∧ good g'.core.pending ∧
        P g'.core.eventHist g'.net ∧ J g')
      (fun g' e => ∃ t', t ≤ t' ∧ t' < min (t + n) (horizon cfg) ∧ P g'.core.eventHist g'.net ∧
        g'.core.iter = t' ∧ (RaisedBy sched e ∨ RaisedBy apply e))
      (runGM ops net post cfg sched apply n g) := by
  rw [runGM_eq]
  exact loopE_counted (body := bodyGM ops net post cfg sched apply)
    (I := fun t g => InvG cfg t g.core ∧ good g.core.pending ∧ P g.core.eventHist g.net ∧ J g)
    (X := fun t g' e => P g'.core.eventHist g'.net ∧ g'.core.iter = t ∧ (RaisedBy sched e ∨ RaisedBy apply e))
    (horizon cfg) (fun _ _ h => h.1.guard_iff hq)
    (fun _ _ h _ => bodyGM_ok hq hops hnet hs ha hJ h.1 h.2.1 h.2.2.1 h.2.2.2) n t g ⟨hI, hG, hN, hJg⟩ ht

theorem runGM_specJ (hq : ValidQ cfg) (hops : ops.Ok good) (hnet : NoFailH net post cfg P)
    {sched apply : CoreG σ → σ × Option Err} (hs : KeepsP P sched) (ha : KeepsP P apply)
    {J : CoreG σ → Prop} (hJ : KeepsJ ops net post cfg sched apply P J) :
    ∀ (n t : Nat) (g : CoreG σ), InvG cfg t g.core → good g.core.pending → P g.core.eventHist g.net →
    J g → t ≤ horizon cfg →
    ∃ g' r, runGM ops net post cfg sched apply n g = (g', r) ∧ P g'.core.eventHist g'.net ∧
      (r = none → InvG cfg (min (t + n) (horizon cfg)) g'.core ∧ J g') ∧
      (∀ e, r = some e → g'.core.iter < min (t + n) (horizon cfg) ∧ (RaisedBy sched e ∨ RaisedBy apply e)) := by
  intro n t g hI hG hN hJg ht
  have h := runGM_counted hq hops hnet.toNetInv hs ha hJ n t g hI hG hN hJg ht
  rcases hr : runGM ops net post cfg sched apply n g with ⟨g', _ | e⟩
  · obtain ⟨h1, _, h3, h4⟩ := h.ok_of hr
    exact ⟨g', none, rfl, h3, fun _ => ⟨h1, h4⟩, fun e he => by cases he⟩
  · obtain ⟨t', _, hlt, hp, hit, hR⟩ := h.err_of hr
    refine ⟨g', some e, rfl, hp, fun h => (by cases h), fun e' he' => ?_⟩
    cases he'
    exact ⟨hit ▸ hlt, hR⟩

theorem runGM_spec (hq : ValidQ cfg) (hops : ops.Ok good) (hnet : NoFailH net post cfg P)
    {sched apply : CoreG σ → σ × Option Err} (hs : KeepsP P sched) (ha : KeepsP P apply) :
    ∀ (n t : Nat) (g : CoreG σ), InvG cfg t g.core → good g.core.pending → P g.core.eventHist g.net →
    t ≤ horizon cfg →
    ∃ g' r, runGM ops net post cfg sched apply n g = (g', r) ∧ P g'.core.eventHist g'.net ∧
      (r = none → InvG cfg (min (t + n) (horizon cfg)) g'.core) ∧
      (∀ e, r = some e → g'.core.iter < min (t + n) (horizon cfg) ∧ (RaisedBy sched e ∨ RaisedBy apply e)) := by
  intro n t g hI hG hN ht
  obtain ⟨g', r, h1, h2, h3, h4⟩ := runGM_specJ hq hops hnet hs ha
    (KeepsJ.trivial ops net post cfg sched apply P) n t g hI hG hN True.intro ht
  exact ⟨g', r, h1, h2, fun h => (h3 h).1, h4⟩

/-- a stage that only looks at the state, as a stage of `bodyGM` -/
def observe (f : CoreG σ → Option Err) : CoreG σ → σ × Option Err := fun g => (g.net, f g)

/-- `bodyG` is `bodyGM` with observing stages and `ChargingNetwork`'s empty hook, raising or not.  (`bodyGP post`
    is not `bodyGM post` at observing stages: it runs the hook after `advance`, so a raising hook leaves the
    iteration counter one higher.) -/
theorem bodyG_eq_bodyGM (ops : QOps) (net : NetOps σ) (cfg : Cfg) (sched apply : CoreG σ → Option Err)
    (g : CoreG σ) :
    bodyG ops net cfg sched apply g = bodyGM ops net noPost cfg (observe sched) (observe apply) g := by
  unfold bodyG bodyGM finishGM observe noPost
  rcases eventsStageG ops net cfg g with ⟨g1, _ | e⟩
  · simp only
    split
    · cases sched { g1 with core := markInvoked g1.core } with
      | some e => rfl
      | none =>
        simp only
        cases apply { g1 with core := markScheduled (markInvoked g1.core) } <;> rfl
    · cases apply g1 <;> rfl
  · rfl

theorem bodyG_ok (hq : ValidQ cfg) (hops : ops.Ok good) (hnet : NetInv net post cfg P)
    {sched apply : CoreG σ → Option Err} (hs : ∀ g, sched g = none) (ha : ∀ g, apply g = none)
    {t : Nat} {g : CoreG σ} (hI : InvG cfg t g.core) (hG : good g.core.pending)
    (hN : P g.core.eventHist g.net) :
    ∃ g', bodyG ops net cfg sched apply g = (g', none) ∧ InvG cfg (t + 1) g'.core ∧
      good g'.core.pending ∧ P g'.core.eventHist g'.net := by
  have hnet0 : NetInv net noPost cfg P := ⟨hnet.plugin, hnet.unplug, hnet.recomp, fun _ _ _ h => ⟨rfl, h⟩⟩
  have h := bodyGM_ok (sched := observe sched) (apply := observe apply) hq hops hnet0 (fun _ h => h)
    (fun _ h => h) (KeepsJ.trivial ..) hI hG hN trivial
  rw [← bodyG_eq_bodyGM] at h
  rcases hb : bodyG ops net cfg sched apply g with ⟨g', _ | e⟩
  · obtain ⟨h1, h2, h3, _⟩ := h.ok_of hb
    exact ⟨g', rfl, h1, h2, h3⟩
  · obtain ⟨_, _, ⟨_, hr⟩ | ⟨_, hr⟩⟩ := h.err_of hb
    · simp [observe, hs] at hr
    · simp [observe, ha] at hr

theorem bodyGP_ok (hq : ValidQ cfg) (hops : ops.Ok good) (hnet : NetInv net post cfg P)
    {sched apply : CoreG σ → Option Err} (hs : ∀ g, sched g = none) (ha : ∀ g, apply g = none)
    {t : Nat} {g : CoreG σ} (hI : InvG cfg t g.core) (hG : good g.core.pending)
    (hN : P g.core.eventHist g.net) :
    ∃ g', bodyGP ops net post cfg sched apply g = (g', none) ∧ InvG cfg (t + 1) g'.core ∧
      good g'.core.pending ∧ P g'.core.eventHist g'.net := by
  obtain ⟨g2, h1, hI2, hG2, hN2⟩ := bodyG_ok hq hops hnet hs ha hI hG hN
  obtain ⟨hpf, hpp⟩ := hnet.post g2.core.eventHist g.core.iter g2.net hN2
  refine ⟨{ g2 with net := (post g.core.iter g2.net).1 }, ?_, hI2, hG2, hpp⟩
  rw [bodyGP, h1]
  simp only
  rw [show post g.core.iter g2.net = ((post g.core.iter g2.net).1, none) from Prod.ext rfl hpf]

theorem runGP_eq (sched apply : CoreG σ → Option Err) : ∀ (n : Nat) (g : CoreG σ),
    runGP ops net post cfg sched apply n g =
      loopE (fun g => guard g.core) (bodyGP ops net post cfg sched apply) n g :=
  loopE_unique (fun _ => rfl) fun n g => by
    rw [runGP]
    rcases bodyGP ops net post cfg sched apply g with ⟨g', _ | e⟩ <;> rfl

theorem runGP_spec (hq : ValidQ cfg) (hops : ops.Ok good) (hnet : NoFailH net post cfg P)
    {sched apply : CoreG σ → Option Err} (hs : ∀ g, sched g = none) (ha : ∀ g, apply g = none) :
    ∀ (n t : Nat) (g : CoreG σ), InvG cfg t g.core → good g.core.pending → P g.core.eventHist g.net →
    t ≤ horizon cfg →
    ∃ g', runGP ops net post cfg sched apply n g = (g', none) ∧
      InvG cfg (min (t + n) (horizon cfg)) g'.core ∧ P g'.core.eventHist g'.net := by
  intro n t g hI hG hN ht
  obtain ⟨g', hr, h⟩ := loopE_counted_ok (body := bodyGP ops net post cfg sched apply)
    (I := fun t g => InvG cfg t g.core ∧ good g.core.pending ∧ P g.core.eventHist g.net) (horizon cfg)
    (fun _ _ h => h.1.guard_iff hq) (fun _ _ h _ => bodyGP_ok hq hops hnet.toNetInv hs ha h.1 h.2.1 h.2.2)
    n t g ⟨hI, hG, hN⟩ ht
  exact ⟨g', (runGP_eq sched apply n g).trans hr, h.1, h.2.2⟩

end
end Acn.EventCore
