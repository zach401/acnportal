/-
  `Simulator.step()` (model: `AcnModel/SimStep.lean`).

  (A) The repaired code (finding F17 fixed):
      * `step_runs_first_pass`      — when events are left, the loop body runs for the current
                                      period whatever `_resolve` / `max_recompute` say;
      * `stepPass_applies_schedule` — the schedule handed in is applied to the CURRENT period: the
                                      pilot column of period `t` (which `update_pilots` hands to the
                                      EVSEs) is the schedule's entry for `t` (0 for omitted stations),
                                      and the period counter advances by one;
      * `stepPass_core`             — relation to `run()`: a pass is the SAME stages as a period of
                                      `run()`, rotated: `run`: events(t) · schedule · apply(t) · t+1;
                                      `step`: schedule · apply(t) · t+1 · events(t+1).
      NOT true (and not repaired; C01 is about `run()`): "a `step()`-driven simulation visits the
      states of `run()`" — the events with timestamp t are processed after the trip of period t−1, so
      timestamp-0 events are processed at iteration 1, and the same schedule is re-submitted in
      every pass of one call.
  (B) The code BEFORE the fix (`…Unfixed`), kept as documentation of finding F17:
      `stepUnfixed_noop_of_resolve`, `stepPass_sets_resolve`, `stepsUnfixed_stall`,
      `stepUnfixed_typeError`.
-/
import AcnProofs.Lemmas.EventCorePilots

set_option linter.unusedSectionVars false

namespace Acn.Sim
open Acn Acn.EventCore

variable {K : Type} [Add K] [Sub K] [Mul K] [Div K] [Neg K] [LT K] [LE K]
  [DecidableLT K] [DecidableLE K] [OfNat K 0] [OfNat K 1] [NatCast K] [HasExp K]

/-- events left ⇒ the first pass of the loop is executed, whatever `_resolve`, `max_recompute`
    and `_last_schedule_update` are (no `TypeError`, no dropped schedule) -/
theorem step_runs_first_pass (cfg : Cfg K) (sch : Schedule K) (n : Nat) (s s' : State K)
    (hp : s.core.pending ≠ []) (hpass : stepPass cfg sch s = (s', none)) :
    stepLoop cfg sch (n + 1) true s = stepLoop cfg sch n false s' := by
  simp [stepLoop, stepCond, List.isEmpty_eq_false_iff.2 hp, hpass]

/-- … and if that pass raises, `step()` raises the same error (never the `TypeError` of the
    unrepaired loop condition) -/
theorem step_first_pass_error (cfg : Cfg K) (sch : Schedule K) (n : Nat) (s s' : State K) (e : Err)
    (hp : s.core.pending ≠ []) (hpass : stepPass cfg sch s = (s', some e)) :
    stepLoop cfg sch (n + 1) true s = (s', some (.base e)) := by
  simp [stepLoop, stepCond, List.isEmpty_eq_false_iff.2 hp, hpass]

theorem stepPass_returns {cfg : Cfg K} {sch : Schedule K} {s : State K} (h : (stepPass cfg sch s).2 = none) :
    ∃ m s2, Pilots.updateSchedules (cfg.stations.map (·.id)) s.pilots s.core.iter
        ((lastTs s.core.pending).map Int.toNat) sch = .ok m ∧
      s2.pilots = Pilots.increaseWidth m (stepWidthInc { s with pilots := m, core := markScheduled s.core }) ∧
      s2.core = advance (markScheduled s.core) ∧ stepPass cfg sch s = eventsStage cfg s2 := by
  unfold stepPass at h ⊢
  rcases hu : Pilots.updateSchedules (cfg.stations.map (·.id)) s.pilots s.core.iter
      ((lastTs s.core.pending).map Int.toNat) sch with e | m
  · simp [hu] at h
  · simp only [hu] at h ⊢
    obtain ⟨hsp, hsc, _⟩ := applyStageW_frame cfg
      (stepWidthInc { s with pilots := m, core := markScheduled s.core })
      { s with pilots := m, core := markScheduled s.core }
    rcases ha : applyStageW cfg (stepWidthInc { s with pilots := m, core := markScheduled s.core })
        { s with pilots := m, core := markScheduled s.core } with ⟨s2, _ | e⟩
    · rw [ha] at hsp hsc
      exact ⟨m, s2, rfl, hsp, hsc, rfl⟩
    · simp [ha] at h

/-- RELATION TO `run()`: a pass of `step()` that raises nothing is, on the event core,
    `markScheduled` · `advance` · `eventsStage` — the stages of a `run()` period, rotated -/
theorem stepPass_core (cfg : Cfg K) (sch : Schedule K) (s : State K) (h : (stepPass cfg sch s).2 = none) :
    ((stepPass cfg sch s).1.core, (none : Option Err)) =
      EventCore.eventsStage cfg.core (advance (markScheduled s.core)) := by
  obtain ⟨m, s2, -, -, hc, he⟩ := stepPass_returns h
  rw [he] at h ⊢
  have hp := eventsStage_core cfg s2
  rwa [h, hc] at hp

/-- THE SCHEDULE HANDED IN IS APPLIED TO THE CURRENT PERIOD: after a pass that raises nothing, with
    a schedule `_update_schedules` accepts and that has at least one column, the pilot of every
    station in period `t = iteration` is the schedule's entry for it (0 if omitted), and the
    iteration has advanced by one -/
theorem stepPass_applies_schedule (cfg : Cfg K) (sch : Schedule K) (s : State K)
    (hwf : s.pilots.WF (cfg.stations.map (·.id)).length) (h : (stepPass cfg sch s).2 = none)
    (hcov : Pilots.covers (cfg.stations.map (·.id))
      ⟨s.core.iter, (lastTs s.core.pending).map Int.toNat, sch⟩ s.core.iter = true) (st : String) :
    (stepPass cfg sch s).1.pilots.get ((cfg.stations.map (·.id)).idxOf st) s.core.iter =
      Pilots.valueOf ⟨s.core.iter, (lastTs s.core.pending).map Int.toNat, sch⟩ st s.core.iter ∧
    (stepPass cfg sch s).1.core.iter = s.core.iter + 1 := by
  obtain ⟨m, s2, hu, hpil, hc, he⟩ := stepPass_returns h
  have hsub := Pilots.submit_get hwf ⟨s.core.iter, (lastTs s.core.pending).map Int.toNat, sch⟩ st s.core.iter
  rw [hcov] at hsub
  simp only [if_true, Pilots.submit, hu] at hsub
  rw [he, eventsStage_pilots, eventsStage_iter, hpil, hc, Pilots.increaseWidth_get', hsub]
  exact ⟨rfl, rfl⟩

theorem stepCondUnfixed_of_resolve (mr : Option Nat) (c : Core) (h : c.resolve = true) :
    stepCondUnfixed mr c = .ok false := by
  unfold stepCondUnfixed
  split
  · rfl
  · simp

/-- F17: a `step()` call made while `_resolve` is set did nothing -/
theorem stepUnfixed_noop_of_resolve (cfg : Cfg K) (sch : Schedule K) (fuel : Nat) (s : State K)
    (h : s.core.resolve = true) : stepUnfixed cfg sch fuel s = (s, .ok s.core.pending.isEmpty) := by
  unfold stepUnfixed
  cases fuel with
  | zero => rfl
  | succ n => simp [stepLoopUnfixed, stepCondUnfixed_of_resolve _ _ h]

/-- F17: `TypeError` in the loop condition (`max_recompute` set, nothing scheduled yet) -/
theorem stepUnfixed_typeError (cfg : Cfg K) (sch : Schedule K) (fuel : Nat) (s : State K) (m : Nat)
    (hm : cfg.maxRecompute = some m) (hp : s.core.pending ≠ []) (hr : s.core.resolve = false)
    (hl : s.core.lastUpd = none) : stepUnfixed cfg sch (fuel + 1) s = (s, .error .typeError) := by
  have hc : stepCondUnfixed cfg.maxRecompute s.core = .error .typeError := by
    unfold stepCondUnfixed
    simp [List.isEmpty_eq_false_iff.2 hp, hr, hm, hl]
  simp [stepUnfixed, stepLoopUnfixed, hc]

theorem stepPass_sets_resolve (cfg : Cfg K) (sch : Schedule K) (s : State K) (m : Pilots.Mat K)
    (s2 : State K)
    (hu : Pilots.updateSchedules (cfg.stations.map (·.id)) s.pilots s.core.iter
      ((lastTs s.core.pending).map Int.toNat) sch = .ok m)
    (ha : applyStageW cfg (stepWidthInc { s with pilots := m, core := markScheduled s.core })
      { s with pilots := m, core := markScheduled s.core } = (s2, none))
    (hok : (stepPass cfg sch s).2 = none)
    (hne : (popCurrent s2.core.iter s2.core.pending).1 ≠ []) :
    (stepPass cfg sch s).1.core.resolve = true := by
  unfold stepPass at hok ⊢
  simp only [hu, ha] at hok ⊢
  exact eventsStage_sets_resolve cfg s2 hok hne

/-- F17: once `_resolve` was set, a whole sequence of `step()` calls left the simulator where it was -/
theorem stepsUnfixed_stall (cfg : Cfg K) (fuel : Nat) : ∀ (scheds : List (Schedule K)) (s : State K),
    s.core.resolve = true →
    stepsUnfixed cfg fuel scheds s = (s, scheds.map fun _ => (.ok s.core.pending.isEmpty, s.core.iter)) := by
  intro scheds
  induction scheds with
  | nil => intro s _; rfl
  | cons sch rest ih =>
    intro s h
    simp only [stepsUnfixed, stepUnfixed_noop_of_resolve cfg sch fuel s h, ih s h, List.map_cons]

end Acn.Sim
