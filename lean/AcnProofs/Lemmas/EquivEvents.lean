/-
  Helper lemmas for C10: the event core under a permutation of the session list /
  recompute list / station list.  `run` reads the static tables only through membership
  (`findSession` with distinct ids, `stations.contains`), so `run cfg' = run cfg`; what is left is
  the order of the initial queue, and the loop invariant `Inv` of C01 pins every component of the
  state down to a permutation (`pending`, `eventHist`, `evHist`) or exactly (`occ`, `resolve`).
-/
import AcnProofs.Lemmas.EventCoreRun
import AcnProofs.Lemmas.SchedTrigger

namespace Acn.EventCore

/-- equal up to the order of the three list components whose order the queue decides -/
structure CoreEquiv (c c' : Core) : Prop where
  iter : c.iter = c'.iter
  pending : c.pending.Perm c'.pending
  occ : c.occ = c'.occ
  resolve : c.resolve = c'.resolve
  lastUpd : c.lastUpd = c'.lastUpd
  eventHist : c.eventHist.Perm c'.eventHist
  evHist : c.evHist.Perm c'.evHist
  invoked : c.invoked = c'.invoked

theorem CoreEquiv.refl (c : Core) : CoreEquiv c c :=
  ⟨rfl, List.Perm.refl _, rfl, rfl, rfl, List.Perm.refl _, List.Perm.refl _, rfl⟩

structure CfgPerm (cfg cfg' : Cfg) : Prop where
  sessions : cfg'.sessions.Perm cfg.sessions
  recomputes : cfg'.recomputes.Perm cfg.recomputes
  stations : ∀ s, s ∈ cfg'.stations ↔ s ∈ cfg.stations
  maxRecompute : cfg'.maxRecompute = cfg.maxRecompute

theorem popCurrent_perm' {p p' : List Event} (h : p.Perm p') (t : Nat) :
    (popCurrent t p).1.Perm (popCurrent t p').1 ∧ (popCurrent t p).2.Perm (popCurrent t p').2 ∧
    (popCurrent t p).1.Pairwise (fun a b => a.keyLe b = true) ∧
    (popCurrent t p').1.Pairwise (fun a b => a.keyLe b = true) := by
  unfold popCurrent
  exact ⟨(sortByKey_perm _).trans ((h.filter _).trans (sortByKey_perm _).symm), h.filter _,
    sortByKey_sorted _, sortByKey_sorted _⟩

section
variable {cfg cfg' : Cfg}

theorem Valid.of_perm (hv : Valid cfg) (hp : CfgPerm cfg cfg') : Valid cfg' where
  ids_nodup := (hp.sessions.map _).nodup_iff.2 hv.ids_nodup
  tags_nodup := (hp.recomputes.map _).nodup_iff.2 hv.tags_nodup
  registered := fun x hx => (hp.stations _).2 (hv.registered x (hp.sessions.mem_iff.1 hx))
  arr_nonneg := fun x hx => hv.arr_nonneg x (hp.sessions.mem_iff.1 hx)
  arr_lt_dep := fun x hx => hv.arr_lt_dep x (hp.sessions.mem_iff.1 hx)
  disjoint := fun x hx y hy => hv.disjoint x (hp.sessions.mem_iff.1 hx) y (hp.sessions.mem_iff.1 hy)
  rec_nonneg := fun r hr => hv.rec_nonneg r (hp.recomputes.mem_iff.1 hr)

theorem expected_of_perm (hp : CfgPerm cfg cfg') (t : Int) (e : Event) : Expected cfg' t e ↔ Expected cfg t e := by
  unfold Expected
  simp only [hp.sessions.mem_iff, hp.recomputes.mem_iff]

theorem done_of_perm (hp : CfgPerm cfg cfg') (t : Int) (e : Event) : Done cfg' t e ↔ Done cfg t e := by
  unfold Done
  simp only [hp.sessions.mem_iff, hp.recomputes.mem_iff]

theorem Inv.of_perm (hp : CfgPerm cfg cfg') {t : Nat} {c : Core} (h : Inv cfg' t c) : Inv cfg t c where
  iter := h.iter
  pend_nodup := h.pend_nodup
  pend_mem := fun e => (h.pend_mem e).trans (expected_of_perm hp t e)
  occ := fun st x => by rw [h.occ st x, hp.sessions.mem_iff]
  resolve := h.resolve
  hist_nodup := h.hist_nodup
  hist_mem := fun e => (h.hist_mem e).trans (done_of_perm hp t e)
  hist_sorted := h.hist_sorted
  evh := h.evh

theorem findSession_perm (hv : Valid cfg) (hp : CfgPerm cfg cfg') (id : String) :
    findSession cfg' id = findSession cfg id := by
  have hv' := hv.of_perm hp
  cases h : findSession cfg id with
  | some x =>
    have hx : x ∈ cfg.sessions := List.mem_of_find?_eq_some h
    have hid : x.id = id := by
      have := List.find?_some h
      simpa using this
    rw [← hid]
    exact findSession_of_nodup hv'.ids_nodup (hp.sessions.mem_iff.2 hx)
  | none =>
    unfold findSession at h ⊢
    rw [List.find?_eq_none] at h ⊢
    intro x hx
    exact h x (hp.sessions.mem_iff.1 hx)

theorem process_congr (hf : ∀ id, findSession cfg' id = findSession cfg id)
    (hst : ∀ s, s ∈ cfg'.stations ↔ s ∈ cfg.stations) (e : Event) (c : Core) :
    process cfg' e c = process cfg e c := by
  have hc : ∀ s, cfg'.stations.contains s = cfg.stations.contains s := by
    intro s
    rw [Bool.eq_iff_iff]
    simp only [List.contains_iff_mem]
    exact hst s
  unfold process
  simp only [hf, hc]

theorem process_perm (hv : Valid cfg) (hp : CfgPerm cfg cfg') (e : Event) (c : Core) :
    process cfg' e c = process cfg e c :=
  process_congr (findSession_perm hv hp) hp.stations e c

theorem processAll_congr (hpr : ∀ e c, process cfg' e c = process cfg e c) (es : List Event) (c : Core) :
    processAll cfg' es c = processAll cfg es c := by
  induction es generalizing c with
  | nil => rfl
  | cons e es ih => simp only [processAll, step, hpr, ih]

theorem run_congr_cfg (hpr : ∀ e c, process cfg' e c = process cfg e c) (hmr : cfg'.maxRecompute = cfg.maxRecompute)
    (sched apply : Core → Option Err) (n : Nat) (c : Core) :
    run cfg' sched apply n c = run cfg sched apply n c := by
  have hb : ∀ c, body cfg' sched apply c = body cfg sched apply c := fun c => by
    simp only [body, eventsStage, processAll_congr hpr, hmr]
  induction n generalizing c with
  | zero => rfl
  | succ n ih => simp only [run, hb, ih]

/-- events of one timestamp: what they leave in `_last_schedule_update` -/
theorem lastEvTs_const (t : Int) : ∀ (es : List Event) (u : Option Int), (∀ e ∈ es, e.ts = t) →
    lastEvTs es u = if es.any (fun e => e.kind != .recompute) then some t else u
  | [], _, _ => rfl
  | e :: es, u, h => by
    rw [lastEvTs, List.foldl_cons, ← lastEvTs, lastEvTs_const t es _ fun d hd => h d (List.mem_cons_of_mem _ hd),
      h e List.mem_cons_self, List.any_cons]
    by_cases hk : e.kind = .recompute <;> simp [hk]

theorem perm_of_nodup_mem {α : Type} {l l' : List α} (hn : l.Nodup) (hn' : l'.Nodup) (h : ∀ a, a ∈ l ↔ a ∈ l') :
    l.Perm l' := (List.perm_ext_iff_of_nodup hn hn').2 h

theorem occ_ext {o o' : String → Option Session} {P : String → Session → Prop}
    (h : ∀ st x, o st = some x ↔ P st x) (h' : ∀ st x, o' st = some x ↔ P st x) : o = o' := by
  funext st
  cases ho : o st with
  | none =>
    cases ho' : o' st with
    | none => rfl
    | some y => have := (h st y).2 ((h' st y).1 ho'); rw [ho] at this; exact absurd this (by simp)
  | some x => exact ((h' st x).2 ((h st x).1 ho)).symm

theorem evHist_perm {c c' : Core} (h : c.eventHist.Perm c'.eventHist) (he : EvhOK c) (he' : EvhOK c') :
    c.evHist.Perm c'.evHist := by
  unfold EvhOK at he he'
  rw [he, he']
  exact (h.filter _).map _

/-- the relation carried round the loop: both states satisfy the invariant of period `t` and agree
    on the two fields the invariant does not mention -/
structure Rel (cfg : Cfg) (t : Nat) (c c' : Core) : Prop where
  inv : Inv cfg t c
  inv' : Inv cfg t c'
  lastUpd : c.lastUpd = c'.lastUpd
  invoked : c.invoked = c'.invoked

theorem Rel.equiv {t : Nat} {c c' : Core} (h : Rel cfg t c c') : CoreEquiv c c' where
  iter := h.inv.iter.trans h.inv'.iter.symm
  pending := perm_of_nodup_mem h.inv.pend_nodup h.inv'.pend_nodup
    (fun e => (h.inv.pend_mem e).trans (h.inv'.pend_mem e).symm)
  occ := occ_ext h.inv.occ h.inv'.occ
  resolve := h.inv.resolve.trans h.inv'.resolve.symm
  lastUpd := h.lastUpd
  eventHist := perm_of_nodup_mem h.inv.hist_nodup h.inv'.hist_nodup
    (fun e => (h.inv.hist_mem e).trans (h.inv'.hist_mem e).symm)
  evHist := evHist_perm (perm_of_nodup_mem h.inv.hist_nodup h.inv'.hist_nodup
    (fun e => (h.inv.hist_mem e).trans (h.inv'.hist_mem e).symm)) h.inv.evh h.inv'.evh
  invoked := h.invoked

theorem eventsStage_equiv (hv : Valid cfg) {t : Nat} {c c' : Core} (h : Rel cfg t c c') :
    ∃ c1 c1', eventsStage cfg c = (c1, none) ∧ eventsStage cfg c' = (c1', none) ∧ CoreEquiv c1 c1' := by
  obtain ⟨c1, h1, hinv, hit, hH, hP, hO, hE⟩ := eventsStage_ok hv h.inv
  obtain ⟨c1', h1', hinv', hit', hH', hP', hO', hE'⟩ := eventsStage_ok hv h.inv'
  -- the flags: the two stages pop the same events up to order, all of them of period `t`
  have hp1 : (popsAt c).Perm (popsAt c') := by
    unfold popsAt
    rw [h.inv.iter, h.inv'.iter]
    exact (popCurrent_perm' h.equiv.pending t).1
  have hts : ∀ e ∈ popsAt c, e.ts = (t : Int) := by
    intro e he
    have he' : e ∈ c.pending ∧ e.ts ≤ (t : Int) := by
      simpa [popsAt, popCurrent, mem_sortByKey, List.mem_filter, h.inv.iter] using he
    exact le_antisymm he'.2 ((h.inv.pend_mem e).1 he'.1).le_ts
  obtain ⟨-, -, hr, hl⟩ := eventsStage_ok_facts h1
  obtain ⟨-, -, hr', hl'⟩ := eventsStage_ok_facts h1'
  rw [lastEvTs_const t _ _ hts] at hl
  rw [lastEvTs_const t _ _ fun e he => hts e (hp1.mem_iff.2 he)] at hl'
  refine ⟨c1, c1', h1, h1', ?_⟩
  have hhist : c1.eventHist.Perm c1'.eventHist :=
    perm_of_nodup_mem (HistOK.nil.1 hH).1 (HistOK.nil.1 hH').1
      (fun e => ((HistOK.nil.1 hH).2.1 e).trans ((HistOK.nil.1 hH').2.1 e).symm)
  exact {
    iter := hit.trans hit'.symm
    pending := perm_of_nodup_mem hP.1 hP'.1 (fun e => (hP.2 e).trans (hP'.2 e).symm)
    occ := occ_ext hO hO'
    resolve := by rw [hr, hr', h.inv.resolve, h.inv'.resolve, hp1.isEmpty_eq]
    lastUpd := by rw [hl, hl', hp1.any_eq, h.lastUpd]
    eventHist := hhist
    evHist := evHist_perm hhist hE hE'
    invoked := by rw [hinv, hinv', h.invoked] }

theorem coreEquiv_markInvoked {c c' : Core} (h : CoreEquiv c c') : CoreEquiv (markInvoked c) (markInvoked c') :=
  ⟨h.iter, h.pending, h.occ, h.resolve, h.lastUpd, h.eventHist, h.evHist, by
    simp only [EventCore.markInvoked, h.invoked, h.iter]⟩

theorem coreEquiv_markScheduled {c c' : Core} (h : CoreEquiv c c') : CoreEquiv (markScheduled c) (markScheduled c') :=
  ⟨h.iter, h.pending, h.occ, rfl, by simp only [EventCore.markScheduled, h.iter], h.eventHist, h.evHist, h.invoked⟩

theorem needsSched_coreEquiv {c c' : Core} (h : CoreEquiv c c') (mr : Option Nat) :
    needsSched mr c' = needsSched mr c := by
  simp only [needsSched, h.resolve, h.lastUpd, h.iter]

theorem Applied.eq {sched : Core → Option Err} {c1 a : Core} (h : Applied cfg sched c1 a) :
    a = if needsSched cfg.maxRecompute c1 then markScheduled (markInvoked c1) else c1 := by
  rcases h with ⟨hn, rfl⟩ | ⟨hn, -, rfl⟩
  · rw [hn, if_neg Bool.false_ne_true]
  · rw [if_pos hn]

theorem body_equiv (hv : Valid cfg) {sched apply : Core → Option Err} (hs : ∀ c, sched c = none)
    (ha : ∀ c, apply c = none) {t : Nat} {c c' : Core} (h : Rel cfg t c c') :
    ∃ d d', body cfg sched apply c = (d, none) ∧ body cfg sched apply c' = (d', none) ∧ Rel cfg (t + 1) d d' := by
  obtain ⟨c1, c1', h1, h1', he⟩ := eventsStage_equiv hv h
  obtain ⟨d, hb, hI⟩ := body_ok hv hs ha h.inv
  obtain ⟨d', hb', hI'⟩ := body_ok hv hs ha h.inv'
  -- the pilots are applied to equivalent cores: both periods schedule, or neither
  obtain ⟨b1, a, e1, hA, -, rfl⟩ := body_returns hb
  obtain ⟨b1', a', e1', hA', -, rfl⟩ := body_returns hb'
  obtain ⟨rfl, -⟩ := Prod.mk.inj (h1.symm.trans e1)
  obtain ⟨rfl, -⟩ := Prod.mk.inj (h1'.symm.trans e1')
  have hea : CoreEquiv a a' := by
    rw [hA.eq, hA'.eq, needsSched_coreEquiv he]
    split
    · exact coreEquiv_markScheduled (coreEquiv_markInvoked he)
    · exact he
  exact ⟨_, _, hb, hb', hI, hI', hea.lastUpd, hea.invoked⟩

theorem guard_equiv {c c' : Core} (h : CoreEquiv c c') : guard c = guard c' := by
  simp only [guard, h.pending.isEmpty_eq, h.resolve]

theorem run_equiv (hv : Valid cfg) {sched apply : Core → Option Err} (hs : ∀ c, sched c = none)
    (ha : ∀ c, apply c = none) (n t : Nat) (c c' : Core) (h : Rel cfg t c c') :
    ∃ d d' t', run cfg sched apply n c = (d, none) ∧ run cfg sched apply n c' = (d', none) ∧ Rel cfg t' d d' := by
  have key := Steps.loopE_out (g := guard) (g' := guard) (body := body cfg sched apply) (body' := body cfg sched apply)
    (X := fun _ _ _ _ => False) (R := fun a b => ∃ t, Rel cfg t a b)
    (fun _ _ ⟨_, h⟩ => (guard_equiv h.equiv).symm)
    (fun _ _ ⟨t, h⟩ _ => by
      obtain ⟨d, d', hb, hb', hR⟩ := body_equiv hv hs ha h
      rw [hb, hb']
      exact .ok ⟨t + 1, hR⟩)
    n c c' ⟨t, h⟩
  rw [← run_eq, ← run_eq] at key
  generalize run cfg sched apply n c = x at key
  generalize run cfg sched apply n c' = y at key
  cases key with
  | ok hk => exact ⟨_, _, hk.choose, rfl, rfl, hk.choose_spec⟩
  | err h => exact h.elim

/-! ### what C10 needs to swap two simultaneous events on different stations -/

theorem setOcc_comm (occ : String → Option Session) {s1 s2 : String} (hne : s1 ≠ s2) (v1 v2 : Option Session) :
    setOcc (setOcc occ s1 v1) s2 v2 = setOcc (setOcc occ s2 v2) s1 v1 := by
  funext s
  unfold setOcc
  by_cases h1 : s = s1
  · subst h1
    simp [hne]
  · simp [h1]

theorem step_plugin {cfg : Cfg} {x : Session} (hx : findSession cfg x.id = some x) (hm : x.station ∈ cfg.stations)
    {c : Core} (ho : c.occ x.station = none) :
    step cfg (plugEv x) c =
      ({ c with eventHist := c.eventHist ++ [plugEv x], occ := setOcc c.occ x.station (some x),
                evHist := c.evHist ++ [x.id], pending := c.pending ++ [unplugEv x], resolve := true,
                lastUpd := some x.arrival }, none) := by
  simp [step, process, plugEv, hx, hm, ho]

theorem unplugHits_congr {c d : Core} {x : Session} (h : d.occ x.station = c.occ x.station) :
    unplugHits d x = unplugHits c x := by
  simp only [unplugHits, h]

theorem step_unplug {cfg : Cfg} {x : Session} (hx : findSession cfg x.id = some x) (hm : x.station ∈ cfg.stations)
    (c : Core) :
    step cfg (unplugEv x) c =
      ({ c with eventHist := c.eventHist ++ [unplugEv x],
                occ := if unplugHits c x then setOcc c.occ x.station none else c.occ,
                resolve := true, lastUpd := some x.departure }, none) := by
  simp [step, process, unplugEv, hx, hm]
  rfl

end
end Acn.EventCore
