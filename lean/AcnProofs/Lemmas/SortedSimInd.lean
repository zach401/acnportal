/-
  What the run-level `sim_consequences` needs of ONE period, for an abstract scheduler (the induction over the run is
  `SimSortedRd.runSt_safe` / `run_safe`, `Lemmas/SortedSimSafe`): `SchedSafe` (the per-call guarantees), the
  loop-head invariant `SInv` — C02's ledger, the pilot matrix (`PInv`: columns applied so far feasible or
  zero, nothing written ahead) and ledger-correct EV records — and one `applyStage` / one period under
  them (`applyStage_safe` on a column that is `ColSafe`, `body_safe` case by case over `Sim.Pass`,
  `init_sinv`).  Before that: which errors the stages can raise, static EV fields, the link station
  occupant ↔ queued session.
-/
import AcnProofs.Lemmas.SortedSimRun
import AcnProofs.Lemmas.SortedLink
import AcnProofs.Lemmas.EventCorePilots
import AcnProofs.Lemmas.LedgerStep
import AcnProofs.Lemmas.EventCoreSim
import AcnProofs.Lemmas.SimStages

set_option linter.unusedSectionVars false

namespace Acn.Sorted
open Acn Acn.Evse Acn.EventCore Acn.Steps

theorem process_not_invalidRate (cfg : EventCore.Cfg) (e : Event) (c : Core) :
    (EventCore.process cfg e c).2 ≠ some .invalidRate := by
  unfold EventCore.process
  split
  · split
    · simp
    · split
      · split <;> simp
      · simp
  · split
    · simp
    · split <;> simp
  · simp

theorem core_processAll_not_invalidRate (cfg : EventCore.Cfg) (l : List Event) (c : Core) :
    (EventCore.processAll cfg l c).2 ≠ some .invalidRate := by
  rw [EventCore.processAll_eq]
  exact Steps.foldE_raises (Q := (· ≠ some EventCore.Err.invalidRate)) nofun
    (fun e _ c => process_not_invalidRate cfg e _) c

theorem eventsStage_not_invalidRate (cfg : Sim.Cfg ℝ) (s : Sim.State ℝ) :
    (Sim.eventsStage cfg s).2 ≠ some .invalidRate := by
  have h := Sim.eventsStage_core cfg s
  have h2 : (Sim.eventsStage cfg s).2 = (EventCore.eventsStage cfg.core s.core).2 := by rw [← h]
  rw [h2]
  unfold EventCore.eventsStage
  exact core_processAll_not_invalidRate _ _ _

def StaticIn (cfg : Sim.Cfg ℝ) (e : Ev ℝ) : Prop :=
  ∃ e0 ∈ cfg.evs, e.session = e0.session ∧ e.station = e0.station

theorem occupant_station (cfg : Sim.Cfg ℝ) (s : Sim.State ℝ)
    (hocc : Ledger.OccSound cfg.core s.core.occ) (hsn : (cfg.evs.map (·.session)).Nodup)
    (hst : ∀ e ∈ s.evs, StaticIn cfg e) (st : String) (e : Ev ℝ)
    (h : Sim.occupantEv s st = some e) : e.station = st := by
  obtain ⟨x, hx, hex⟩ := Ledger.occupantEv_session h
  obtain ⟨e0, h0, h1, h2⟩ := hst e (Sim.occupantEv_mem h)
  obtain ⟨hf, hxs⟩ := hocc st x hx
  unfold EventCore.findSession at hf
  have hxm := List.mem_of_find?_eq_some hf
  simp only [Sim.Cfg.core, List.mem_map] at hxm
  obtain ⟨e1, he1, rfl⟩ := hxm
  have : e1 = e0 := by
    apply List.inj_on_of_nodup_map hsn he1 h0
    show e1.session = e0.session
    rw [← h1, hex]; rfl
  rw [h2, ← this]
  exact hxs

theorem active_is_occupant (cfg : Sim.Cfg ℝ) (s : Sim.State ℝ) (e : Ev ℝ)
    (h : e ∈ Sim.activeEvs cfg s) : ∃ st ∈ cfg.stations, Sim.occupantEv s st.id = some e := by
  unfold Sim.activeEvs at h
  rw [List.mem_filterMap] at h
  obtain ⟨st, hst, hm⟩ := h
  refine ⟨st, hst, ?_⟩
  cases ho : Sim.occupantEv s st.id with
  | none => rw [ho] at hm; cases hm
  | some e' =>
    rw [ho] at hm
    simp only at hm
    split at hm
    · cases hm; rfl
    · cases hm

/-- EVSE classes of C07's quantifier: continuous from zero with a finite maximum (at most the
    carrier value standing for `inf`), or finite-rate with a normalised (0-containing, non-negative)
    level list -/
def KindOk (inf : ℝ) : Evse.Kind ℝ → Prop
  | .cont mn (some mx) => mn = 0 ∧ 0 ≤ mx ∧ mx ≤ inf
  | .finite rates => (0 : ℝ) ∈ rates ∧ ∀ a ∈ rates, 0 ≤ a
  | _ => False

structure CfgOk (cfg : Sim.Cfg ℝ) (inf : ℝ) : Prop where
  nod : Ledger.StationsNodup cfg
  ne : cfg.stations ≠ []
  kinds : ∀ st ∈ cfg.stations, KindOk inf st.kind
  volt : ∀ st ∈ cfg.stations, 0 < st.voltage
  per : 0 < cfg.period
  tol : TolOk cfg
  sess : (cfg.evs.map (·.session)).Nodup

theorem KindOk.cases {inf : ℝ} {k : Evse.Kind ℝ} (h : KindOk inf k) :
    (∃ m, k = .cont 0 (some m) ∧ 0 ≤ m ∧ m ≤ inf) ∨
    (∃ rates, k = .finite rates ∧ (0 : ℝ) ∈ rates ∧ ∀ a ∈ rates, 0 ≤ a) := by
  cases k with
  | cont mn mx =>
    cases mx with
    | none => exact False.elim h
    | some m =>
      obtain ⟨rfl, h2, h3⟩ := h
      exact Or.inl ⟨m, rfl, h2, h3⟩
  | deadband db m => exact False.elim h
  | finite l => exact Or.inr ⟨l, rfl, h.1, h.2⟩

theorem accepts_zero (inf : ℝ) (k : Evse.Kind ℝ) (h : KindOk inf k) : Accepts k 0 := by
  rcases h.cases with ⟨m, rfl, h2, _⟩ | ⟨l, rfl, h0, _⟩
  · exact ⟨le_refl _, le_refl _, h2⟩
  · exact h0

theorem rapEv_nonneg (cfg : Sim.Cfg ℝ) (st : Sim.Station ℝ) (e : Ev ℝ) (hV : 0 < st.voltage)
    (hT : 0 < cfg.period) (h : e.delivered ≤ e.requested) : 0 ≤ rapEv cfg st e := by
  unfold rapEv
  have : 0 ≤ e.requested - e.delivered := by linarith
  positivity

def colOf (m : Pilots.Mat ℝ) (n τ : Nat) : List ℝ := (List.range n).map fun k => m.get k τ

/-- an applied column passes the feasibility predicate, or it is all zero (a period in which the
    scheduler was not consulted applies zeros) -/
def ColOk (feasP : List ℝ → Bool) (m : Pilots.Mat ℝ) (n τ : Nat) : Prop :=
  feasP (colOf m n τ) = true ∨ ∀ k, m.get k τ = 0

theorem colOk_congr (feasP : List ℝ → Bool) (m m' : Pilots.Mat ℝ) (n τ : Nat)
    (h : ∀ k, k < n → m'.get k τ = m.get k τ) (hz : (∀ k, m.get k τ = 0) → ∀ k, m'.get k τ = 0)
    (hc : ColOk feasP m n τ) : ColOk feasP m' n τ := by
  have hcol : colOf m' n τ = colOf m n τ := by
    unfold colOf
    apply List.map_congr_left
    intro k hk
    exact h k (List.mem_range.mp hk)
  rcases hc with h1 | h1
  · left; rw [hcol]; exact h1
  · right; exact hz h1

theorem colOf_eq_arr (m : Pilots.Mat ℝ) (n τ : Nat) (arr : List ℝ) (hl : arr.length = n)
    (h : ∀ k, k < n → m.get k τ = arr.getD k 0) : colOf m n τ = arr := by
  unfold colOf
  apply List.ext_getElem
  · simp [hl]
  · intro i h1 h2
    simp only [List.getElem_map, List.getElem_range]
    rw [h i (by simpa using h1)]
    simp [List.getD_eq_getElem?_getD, h2]

theorem get_of_not_lt {m : Pilots.Mat ℝ} {n : Nat} (h : m.WF n) {k : Nat} (hk : ¬ k < n) (τ : Nat) :
    m.get k τ = 0 := by
  unfold Pilots.Mat.get
  have : m.rows.getD k [] = [] := by simp [List.getD_eq_getElem?_getD, h.1, not_lt.mp hk]
  rw [this]; rfl

/-- the pilot matrix at the head of period `t`: well formed, every column applied so far passes `feasP`
    or is zero, nothing is written from `t` on (the sorted algorithms submit one column at a time) -/
structure PInv (feasP : List ℝ → Bool) (n t : Nat) (m : Pilots.Mat ℝ) : Prop where
  wf : m.WF n
  cols : ∀ τ, τ < t → ColOk feasP m n τ
  fut : ∀ k τ, t ≤ τ → m.get k τ = 0

/-- a period without scheduler call applies the zero column that stands at `t` -/
theorem PInv.skip {feasP : List ℝ → Bool} {n t : Nat} {m : Pilots.Mat ℝ} (h : PInv feasP n t m) :
    PInv feasP n (t + 1) m := by
  refine ⟨h.wf, fun τ hτ => ?_, fun k τ hτ => h.fut k τ (by omega)⟩
  by_cases hcur : τ = t
  · exact Or.inr fun k => h.fut k τ (by omega)
  · exact h.cols τ (by omega)

theorem PInv.congr {feasP : List ℝ → Bool} {n t : Nat} {m m' : Pilots.Mat ℝ} (h : PInv feasP n t m)
    (hwf : m'.WF n) (hg : ∀ k τ, m'.get k τ = m.get k τ) : PInv feasP n t m' :=
  ⟨hwf,
   fun τ hτ => colOk_congr feasP m m' n τ (fun k _ => hg k τ) (fun hz k => (hg k τ).trans (hz k)) (h.cols τ hτ),
   fun k τ hτ => (hg k τ).trans (h.fut k τ hτ)⟩

theorem PInv.submit {feasP : List ℝ → Bool} {t : Nat} {m m' : Pilots.Mat ℝ} (infra : Infra ℝ)
    (hnd : infra.ids.Nodup) (hne : infra.ids ≠ []) (h : PInv feasP infra.ids.length t m)
    {arr : List ℝ} (hlen : arr.length = infra.ids.length) (hfe : feasP arr = true) {lastTs : Option Nat}
    (hup : Pilots.updateSchedules infra.ids m t lastTs (formatArraySchedule infra arr) = .ok m') :
    PInv feasP infra.ids.length (t + 1) m' ∧ ∀ k, k < infra.ids.length → m'.get k t = arr.getD k 0 := by
  obtain ⟨u1, u2, u3⟩ := update_with_array infra hnd hne arr hlen m m' h.wf t lastTs hup
  -- off column `t` an entry is the old one, or lies outside the rows
  have hout : ∀ k τ, τ ≠ t → m'.get k τ = m.get k τ ∨ m'.get k τ = 0 := by
    intro k τ hτ
    by_cases hk : k < infra.ids.length
    · exact Or.inl (u3 k τ hk hτ)
    · exact Or.inr (get_of_not_lt u1 hk τ)
  refine ⟨⟨u1, fun τ hτ => ?_, fun k τ hτ => ?_⟩, u2⟩
  · by_cases hcur : τ = t
    · exact Or.inl (by rw [hcur, colOf_eq_arr m' _ _ arr hlen u2]; exact hfe)
    · refine colOk_congr feasP m m' _ τ (fun k hk => u3 k τ hk hcur) (fun hz k => ?_) (h.cols τ (by omega))
      rcases hout k τ hcur with h1 | h1
      · rw [h1]; exact hz k
      · exact h1
  · rcases hout k τ (by omega) with h1 | h1
    · rw [h1]; exact h.fut k τ (by omega)
    · exact h1

structure SInv (feasP : List ℝ → Bool) (cfg : Sim.Cfg ℝ) (s : Sim.State ℝ) : Prop where
  led : Ledger.Inv cfg s
  pil : PInv feasP cfg.stations.length s.core.iter s.pilots
  evs : ∀ e ∈ s.evs, LedgerOk e ∧ StaticIn cfg e

def EntrySafe (cfg : Sim.Cfg ℝ) (a : Sim.State ℝ) (st : Sim.Station ℝ) (p : ℝ) : Prop :=
  Accepts st.kind p ∧ ∀ e, Sim.occupantEv a st.id = some e → 0 ≤ p ∧ p ≤ rapEv cfg st e

theorem entrySafe_zero (cfg : Sim.Cfg ℝ) (inf : ℝ) (hc : CfgOk cfg inf) (a : Sim.State ℝ)
    (hev : ∀ e ∈ a.evs, LedgerOk e ∧ StaticIn cfg e) {st : Sim.Station ℝ} (hst : st ∈ cfg.stations) :
    EntrySafe cfg a st 0 :=
  ⟨accepts_zero inf st.kind (hc.kinds st hst), fun e he =>
    ⟨le_refl _, rapEv_nonneg cfg st e (hc.volt st hst) hc.per (hev e (Sim.occupantEv_mem he)).1.2⟩⟩

def ColSafe (cfg : Sim.Cfg ℝ) (a : Sim.State ℝ) : Prop :=
  ∀ k st, cfg.stations[k]? = some st → EntrySafe cfg a st (a.pilots.get k a.core.iter)

/-- the pilots/rates half of a period on a safe column: no `InvalidRate`, and the next loop head has the
    invariant (the ledger by C02; the matrix is read as before; a record is an old one or an occupant charged
    once with its entry of the column, `Ledger.Period.served`) -/
theorem applyStage_safe (feasP : List ℝ → Bool) (cfg : Sim.Cfg ℝ) (inf : ℝ) (hc : CfgOk cfg inf)
    (a : Sim.State ℝ) (hL : Ledger.Inv cfg a)
    (hp : PInv feasP cfg.stations.length (a.core.iter + 1) a.pilots)
    (hev : ∀ e ∈ a.evs, LedgerOk e ∧ StaticIn cfg e) (hcol : ColSafe cfg a) :
    Ends (SInv feasP cfg) (fun _ e => e ≠ .invalidRate) (Sim.applyStage cfg a) := by
  rcases h : Sim.applyStage cfg a with ⟨s', _ | err⟩
  · have hP := Ledger.applyStage_period (Ledger.distinctOcc_of hc.nod hL.occ_sound) hL.rates_wf h
    refine .ok ⟨Ledger.applyStage_ledger hc.nod hL h, ?_,
      hP.served.forall hev fun e d j st x ν hj hx he hch hPe => ?_⟩
    · rw [hP.core]
      exact hp.congr (hP.pilots_wf _ hp.wf) hP.pilots
    · have ho : Sim.occupantEv a st.id = some e := by rw [Ledger.occupantEv_eq, hx]; exact he
      obtain ⟨p0, p1⟩ := (hcol j st hj).2 e ho
      rw [Nat.zero_add] at hch
      obtain ⟨h1, h2, -, h4⟩ := charge_le_requested hPe.1.1 p0 (hc.volt st (List.mem_of_getElem? hj)) hc.per p1 hch
      obtain ⟨e0, h0, s1, s2⟩ := hPe.2
      obtain ⟨b', r, -, rfl⟩ := Ev.charge_ok hch
      exact ⟨⟨h4, h2 ▸ h1⟩, e0, h0, s1, s2⟩
  · have hne := applyStage_not_invalidRate cfg hc.tol a fun k st hk => by
      -- `update_pilots` reads the column out of the widened matrix
      show Accepts st.kind ((Sim.widenW (Sim.widthInc a) a).pilots.get k a.core.iter)
      rw [show (Sim.widenW (Sim.widthInc a) a).pilots.get k a.core.iter = a.pilots.get k a.core.iter from
        Pilots.increaseWidth_get' _ _ _ _]
      exact (hcol k st hk).1
    rw [h] at hne
    exact .err fun he => hne (congrArg some he)

/-- what the induction needs of a scheduler: it never raises `InvalidRate` itself, and on every
    state with sound occupancy and ledger-correct EV records its answer is the dict of an array
    with one accepted entry per station that stays within the occupant's remaining demand -/
structure SchedSafe (feasP : List ℝ → Bool) (cfg : Sim.Cfg ℝ) (inf : ℝ)
    (sched : Sim.View ℝ → Except EventCore.Err (Sim.Schedule ℝ)) : Prop where
  err : ∀ v e, sched v = .error e → e ≠ .invalidRate
  ok : ∀ a : Sim.State ℝ, Ledger.OccSound cfg.core a.core.occ →
    (∀ e ∈ a.evs, LedgerOk e ∧ StaticIn cfg e) →
    ∀ sch, sched (Sim.view cfg a) = .ok sch →
      ∃ arr : List ℝ, sch = formatArraySchedule (SimSorted.infraOf inf cfg) arr ∧
        arr.length = cfg.stations.length ∧ feasP arr = true ∧
        (∀ k st, cfg.stations[k]? = some st → Accepts st.kind (arr.getD k 0)) ∧
        (∀ k st e, cfg.stations[k]? = some st → Sim.occupantEv a st.id = some e →
          0 ≤ arr.getD k 0 ∧ arr.getD k 0 ≤ rapEv cfg st e)

theorem body_safe (feasP : List ℝ → Bool) (cfg : Sim.Cfg ℝ) (inf : ℝ) (hc : CfgOk cfg inf)
    (sched : Sim.View ℝ → Except EventCore.Err (Sim.Schedule ℝ)) (hs : SchedSafe feasP cfg inf sched)
    (s : Sim.State ℝ) (hJ : SInv feasP cfg s) :
    Ends (SInv feasP cfg) (fun _ e => e ≠ .invalidRate) (Sim.body cfg sched s) := by
  -- the events of the period keep the invariant: they touch nothing it reads but the occupancy
  obtain ⟨f1, f2, f3, f4, f5, f6⟩ := Ledger.eventsStage_frame cfg s hJ.led.occ_sound
  have h1 : SInv feasP cfg (Sim.eventsStage cfg s).1 :=
    ⟨hJ.led.transfer f1 f2 f3 f4 f5 f6, by rw [f5, Sim.eventsStage_pilots]; exact hJ.pil, by rw [f3]; exact hJ.evs⟩
  have hne := eventsStage_not_invalidRate cfg s
  rcases hb : Sim.body cfg sched s with ⟨s', err⟩
  cases Sim.Pass.of_eq hb with
  | eventRaise hes =>
    rw [hes] at hne
    exact .err fun he => hne (congrArg some he)
  | schedRaise _ _ herr =>
    refine .err ?_
    rcases Sim.schedStage_error herr with rfl | he | ⟨pe, rfl⟩
    · nofun
    · exact hs.err _ _ he
    · cases pe <;> simp [Sim.pilotsErr]
  | @idle s1 _ _ hes _ ha =>
    rw [hes] at h1
    exact ha ▸ applyStage_safe feasP cfg inf hc s1 h1.led h1.pil.skip h1.evs fun k st hk =>
      h1.pil.fut k _ (le_refl _) ▸ entrySafe_zero cfg inf hc s1 h1.evs (List.mem_of_getElem? hk)
  | @scheduled s1 _ m _ hes _ hst ha =>
    rw [hes] at h1
    have hlen : (SimSorted.infraOf inf cfg).ids.length = cfg.stations.length := by simp [SimSorted.infraOf]
    obtain ⟨sch, hsch, hup⟩ := Sim.schedStage_ok_invoked hst
    -- the scheduler's answer is the formatted array of a call, and `_update_schedules` writes it into column `iter`
    obtain ⟨arr, rfl, hal, hfe, hG1, hG2⟩ :=
      hs.ok { s1 with core := markInvoked s1.core } h1.led.occ_sound h1.evs sch hsch
    obtain ⟨hp, hcolm⟩ := PInv.submit (feasP := feasP) (t := s1.core.iter) (m := s1.pilots)
      (SimSorted.infraOf inf cfg) hc.nod (fun h => hc.ne (List.map_eq_nil_iff.mp h))
      (by rw [hlen]; exact h1.pil) (by rw [hal, hlen]) hfe hup
    rw [hlen] at hp hcolm
    refine ha ▸ applyStage_safe feasP cfg inf hc
      { s1 with pilots := m, core := markScheduled (markInvoked s1.core) }
      (h1.led.transfer rfl rfl rfl rfl rfl h1.led.occ_sound) hp h1.evs fun k st hk => ?_
    show EntrySafe cfg { s1 with core := markInvoked s1.core } st (m.get k s1.core.iter)
    rw [hcolm k (List.getElem?_eq_some_iff.mp hk).1]
    exact ⟨hG1 k st hk, fun e he => hG2 k st e hk he⟩

theorem init_sinv (feasP : List ℝ → Bool) (cfg : Sim.Cfg ℝ)
    (hb : ∀ e ∈ cfg.evs, BattAlg.Inv e.batt ∧ e.delivered ≤ e.requested) :
    SInv feasP cfg (Sim.init cfg) := by
  refine ⟨Ledger.init_ledger cfg, ⟨Pilots.zeros_wf _ _, ?_, ?_⟩, ?_⟩
  · intro τ hτ
    simp [Sim.init, EventCore.init] at hτ
  · intro k τ _
    simp only [Sim.init]
    rw [Pilots.zeros_get]
  · intro e he
    have he' : e ∈ cfg.evs := he
    exact ⟨hb e he', e, he', rfl, rfl⟩

end Acn.Sorted
