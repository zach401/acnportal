/-
  A simulation changes only the DYNAMIC part of an EV record (delivered energy, last rate, battery): session id,
  station, arrival and departure of every record (`sessionOf`), and the number of EVSE pilots, are what they
  were, after every stage of a period whatever its outcome (`Frame`).  `Ev.charge` is the only writer of
  `s.evs` (`setPilotAt`), and it finds the record it replaces by its session id: hence the one hypothesis,
  distinct session ids.
-/
import AcnProofs.Lemmas.EventCoreSim

set_option linter.unusedSectionVars false

namespace Acn.RegistrySim
open Acn Acn.EventCore Acn.Sim

variable {K : Type} [Add K] [Sub K] [Mul K] [Div K] [Neg K] [LT K] [LE K]
  [DecidableLT K] [DecidableLE K] [OfNat K 0] [OfNat K 1] [NatCast K] [HasExp K]

/-- what no stage of a period changes: the static data of every EV and the number of EVSE pilots -/
def Frame (s s' : State K) : Prop :=
  s'.evs.map sessionOf = s.evs.map sessionOf ∧ s'.evsePilot.length = s.evsePilot.length

theorem Frame.refl (s : State K) : Frame s s := ⟨rfl, rfl⟩
theorem Frame.trans {a b c : State K} (h : Frame a b) (h' : Frame b c) : Frame a c :=
  ⟨h'.1.trans h.1, h'.2.trans h.2⟩

theorem sessions_eq (evs : List (Evse.Ev K)) : evs.map (·.session) = (evs.map sessionOf).map (·.id) := by
  rw [List.map_map]; rfl

theorem Frame.sessions {s s' : State K} (h : Frame s s') : s'.evs.map (·.session) = s.evs.map (·.session) := by
  rw [sessions_eq, sessions_eq, h.1]

theorem Frame.nodup {s s' : State K} (h : Frame s s') (hn : (s.evs.map (·.session)).Nodup) :
    (s'.evs.map (·.session)).Nodup := by
  rw [h.sessions]
  exact hn

theorem charge_statics {e e' : Evse.Ev K} {p V T ν : K} (h : e.charge p V T ν = .ok e') : sessionOf e' = sessionOf e := by
  obtain ⟨b', r, -, rfl⟩ := Evse.Ev.charge_ok h
  rfl

theorem replaceEv_statics {evs : List (Evse.Ev K)} {e e' : Evse.Ev K} (hn : (evs.map (·.session)).Nodup) (he : e ∈ evs)
    (hs : sessionOf e' = sessionOf e) : (replaceEv evs e').map sessionOf = evs.map sessionOf := by
  unfold replaceEv
  rw [List.map_map]
  apply List.map_congr_left
  intro d hd
  simp only [Function.comp]
  split
  · rename_i hde
    have h1 : e'.session = e.session := congrArg Session.id hs
    have h2 : d.session = e.session := by rw [← h1]; simpa using hde
    have : d = e := List.inj_on_of_nodup_map hn hd he h2
    rw [hs, this]
  · rfl

theorem setPilotAt_statics (cfg : Cfg K) (s : State K) (i : Nat) (st : Station K) (hn : (s.evs.map (·.session)).Nodup) :
    Frame s (setPilotAt cfg s i st).1 := by
  rcases h : setPilotAt cfg s i st with ⟨s', err⟩
  cases SetPilot.of_eq h with
  | invalid _ => exact Frame.refl s
  | chargeRaise _ _ _ => exact Frame.refl s
  | vacant _ _ => exact ⟨rfl, List.length_set⟩
  | charged _ ho hc => exact ⟨replaceEv_statics hn (occupantEv_mem ho) (charge_statics hc), List.length_set⟩

theorem applyStage_statics (cfg : Cfg K) (s : State K) (hn : (s.evs.map (·.session)).Nodup) :
    Frame s (applyStage cfg s).1 :=
  applyStage_keeps (P := Frame s) (fun _ _ h => h.trans ⟨rfl, rfl⟩)
    (fun x i st h => h.trans (setPilotAt_statics cfg x i st (h.nodup hn)))
    (fun x w h => h.trans
      ⟨by rw [(storeRates_frame cfg w x).2.2.1], by rw [(storeRates_frame cfg w x).2.2.2.1]⟩)
    (fun _ h => h.trans ⟨rfl, rfl⟩) s (Frame.refl s)

theorem body_statics (cfg : Cfg K) (sched : View K → Except Err (Schedule K)) (s : State K)
    (hn : (s.evs.map (·.session)).Nodup) : Frame s (body cfg sched s).1 :=
  body_keeps_any (P := Frame s) (fun _ _ hf p => hf.trans ⟨by rw [p.evs], p.evseLen⟩)
    (fun a hf => hf.trans (applyStage_statics cfg a (hf.nodup hn))) (Frame.refl s)

theorem run_statics (cfg : Cfg K) (sched : View K → Except Err (Schedule K)) (n : Nat) (s : State K)
    (hn : (s.evs.map (·.session)).Nodup) : Frame s (run cfg sched n s).1 :=
  run_induction_any sched (P := Frame s)
    (fun x hf => hf.trans (body_statics cfg sched x (hf.nodup hn))) n s (Frame.refl s)

end Acn.RegistrySim
