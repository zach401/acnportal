/-
  Two runs of the simulator, stage by stage.  A symmetry of the simulator (a permutation of the station table, a
  time shift, another listing order of the sessions) relates two scenarios; what it has to say is said per stage,
  in the records `Apply2` (the pilot application) and `Sim2` / `Sim2St` (one trip round the loop, for a scheduler
  without / with state): from related states the two stages end alike (`Steps.Out`).  The relation may change along
  the period — `R₀` at the loop head, `M` inside the period, `R` at the next head, `X` between two aborts.
  `Sim2.body`, `Sim2.run` and `Sim2St.body` then hold for every symmetry, by the chain of stages of `body_eq` /
  `applyStage_eq`.  With a scheduler state the chain runs on pairs (simulator state, scheduler state): `runSt` is
  the loop over `bodyP`.
-/
import AcnProofs.Lemmas.SimStages
import AcnModel.SimSortedRd

set_option linter.unusedSectionVars false

namespace Acn.SimSortedRd
open Acn Acn.EventCore Acn.Sim Acn.Steps

variable {K : Type} [Add K] [Sub K] [Mul K] [Div K] [Neg K] [LT K] [LE K]
  [DecidableLT K] [DecidableLE K] [OfNat K 0] [OfNat K 1] [NatCast K] [HasExp K]
variable {σ : Type}

/-- `bodySt` on the pair (simulator state, scheduler state): `runSt` is the loop over it -/
def bodyP (cfg : Cfg K) (sched : σ → View K → Except Err (Schedule K × σ)) (x : State K × σ) :
    (State K × σ) × Option Err :=
  (((bodySt cfg sched x.2 x.1).1.1, (bodySt cfg sched x.2 x.1).2), (bodySt cfg sched x.2 x.1).1.2)

def guardP (x : State K × σ) : Bool := guard x.1.core

theorem runSt_eq_loop (cfg : Cfg K) (sched : σ → View K → Except Err (Schedule K × σ)) :
    ∀ (n : Nat) (st : σ) (s : State K), runSt cfg sched n st s =
      (((loopE guardP (bodyP cfg sched) n (s, st)).1.1, (loopE guardP (bodyP cfg sched) n (s, st)).2),
        (loopE guardP (bodyP cfg sched) n (s, st)).1.2)
  | 0, _, _ => rfl
  | n + 1, st, s => by
    by_cases hg : guard s.core = true
    · rw [loopE_succ n (a := (s, st)) hg]
      simp only [runSt, hg, if_true, bodyP]
      rcases bodySt cfg sched st s with ⟨⟨s', _ | e⟩, st'⟩ <;> simp only [andThen_ok, andThen_err]
      exact runSt_eq_loop cfg sched n st' s'
    · rw [loopE_stop _ (a := (s, st)) (by simpa [guardP] using hg)]
      simp only [runSt, hg, Bool.false_eq_true, if_false]

/-- `schedSet` for a scheduler with state -/
def schedSetSt (cfg : Cfg K) (sched : σ → View K → Except Err (Schedule K × σ)) (p : State K × σ) :
    (State K × σ) × Option Err :=
  match schedStageSt cfg sched p.2 { p.1 with core := markInvoked p.1.core } with
  | .error e => (({ p.1 with core := markInvoked p.1.core }, p.2), some e)
  | .ok (m, st1) => (({ p.1 with pilots := m, core := markScheduled (markInvoked p.1.core) }, st1), none)

theorem bodyP_eq (cfg : Cfg K) (sched : σ → View K → Except Err (Schedule K × σ)) (p : State K × σ) :
    bodyP cfg sched p =
      andThen (onFst (eventsStage cfg) p) fun p1 =>
        if needsSched cfg.maxRecompute p1.1.core then andThen (schedSetSt cfg sched p1) (onFst (applyStage cfg))
        else onFst (applyStage cfg) p1 := by
  obtain ⟨s, st⟩ := p
  unfold bodyP bodySt onFst
  rcases eventsStage cfg s with ⟨s1, _ | e⟩
  · rw [andThen_ok]
    dsimp only
    by_cases hn : needsSched cfg.maxRecompute s1.core = true
    · simp only [if_pos hn, schedSetSt]
      rcases schedStageSt cfg sched st { s1 with core := markInvoked s1.core } with e | ⟨m, st1⟩ <;> rfl
    · simp only [if_neg hn]
  · rfl

end Acn.SimSortedRd

namespace Acn.Sim
open Acn Acn.EventCore Acn.Steps Acn.SimSortedRd

variable {K : Type} [Add K] [Sub K] [Mul K] [Div K] [Neg K] [LT K] [LE K]
  [DecidableLT K] [DecidableLE K] [OfNat K 0] [OfNat K 1] [NatCast K] [HasExp K]

structure Apply2 (cfg cfg' : Cfg K) (M R : State K → State K → Prop) (X : State K → Err → State K → Err → Prop) :
    Prop where
  widen : ∀ s s', M s s' → Out M X (widenStage s) (widenStage s')
  pilots : ∀ s s', M s s' → Out M X (updatePilots cfg s) (updatePilots cfg' s')
  store : ∀ s s', M s s' → Out M X (storeStage cfg s) (storeStage cfg' s')
  finish : ∀ s s', M s s' → R (finishStage cfg s) (finishStage cfg' s')

/-- `Q`: what is known of the state of the first run in which its scheduler is consulted -/
structure Sim2 (cfg cfg' : Cfg K) (sched sched' : View K → Except Err (Schedule K)) (Q : State K → Prop)
    (R₀ M R : State K → State K → Prop) (X : State K → Err → State K → Err → Prop) : Prop
    extends Apply2 cfg cfg' M R X where
  events : ∀ s s', R₀ s s' → Out M X (eventsStage cfg s) (eventsStage cfg' s')
  needs : ∀ s s', M s s' → needsSched cfg'.maxRecompute s'.core = needsSched cfg.maxRecompute s.core
  sched : ∀ s s', M s s' → Q s → Out M X (schedSet cfg sched s) (schedSet cfg' sched' s')

variable {cfg cfg' : Cfg K} {sched sched' : View K → Except Err (Schedule K)} {Q : State K → Prop}
  {R₀ R M : State K → State K → Prop} {X : State K → Err → State K → Err → Prop}

theorem Apply2.apply (h : Apply2 cfg cfg' M R X) {s s' : State K} (hm : M s s') :
    Out R X (applyStage cfg s) (applyStage cfg' s') := by
  rw [applyStage_eq, applyStage_eq]
  exact (h.widen s s' hm).andThen fun _ _ h1 => (h.pilots _ _ h1).andThen fun _ _ h2 =>
    (h.store _ _ h2).andThen fun _ _ h3 => .ok (h.finish _ _ h3)

theorem Sim2.body (h : Sim2 cfg cfg' sched sched' Q R₀ M R X) {s s' : State K} (hr : R₀ s s')
    (hq : ∀ s1, eventsStage cfg s = (s1, none) → needsSched cfg.maxRecompute s1.core = true → Q s1) :
    Out R X (Sim.body cfg sched s) (Sim.body cfg' sched' s') := by
  rw [body_eq, body_eq]
  refine (h.events s s' hr).andThen_eq fun s1 s1' he _ h1 => ?_
  rw [h.needs s1 s1' h1]
  split
  · exact (h.sched s1 s1' h1 (hq s1 he ‹_›)).andThen fun _ _ h2 => h.toApply2.apply h2
  · exact h.toApply2.apply h1

theorem Sim2.run (h : Sim2 cfg cfg' sched sched' Q R M R X) (hq : ∀ s, Q s)
    (hguard : ∀ s s', R s s' → guard s'.core = guard s.core) (n : Nat) {s s' : State K} (hr : R s s') :
    Out R X (Sim.run cfg sched n s) (Sim.run cfg' sched' n s') := by
  rw [run_eq, run_eq]
  exact loopE_out hguard (fun _ _ hr _ => h.body hr fun s1 _ _ => hq s1) n s s' hr

theorem updatePilotsFrom_out
    (h : ∀ i st s s', M s s' → Out M X (setPilotAt cfg s i st) (setPilotAt cfg' s' i st)) :
    ∀ (sts : List (Station K)) (i : Nat) (s s' : State K), M s s' →
      Out M X (updatePilotsFrom cfg i sts s) (updatePilotsFrom cfg' i sts s') := by
  intro sts
  induction sts with
  | nil => exact fun _ _ _ hm => .ok hm
  | cons st rest ih =>
    intro i s s' hm
    rw [updatePilotsFrom_cons, updatePilotsFrom_cons]
    exact (h i st s s' hm).andThen (ih (i + 1))

theorem processAll_out (f : Event → Event)
    (h : ∀ e s s', M s s' → Out M X (stepEv cfg e s) (stepEv cfg' (f e) s')) (es : List Event) :
    ∀ s s', M s s' → Out M X (Sim.processAll cfg es s) (Sim.processAll cfg' (es.map f) s') := by
  intro s s' hm
  rw [processAll_eq, processAll_eq]
  exact foldE_out (List.forall₂_map_right_iff.2 (List.forall₂_same.2 fun e _ => h e)) s s' hm

section st
variable {τ τ' : Type}

/-- `T` between the scheduler states; `Q`: what is known of the scheduler state and the simulator state of the
    first run in which its scheduler is consulted -/
structure Sim2St (cfg cfg' : Cfg K) (sched : τ → View K → Except Err (Schedule K × τ))
    (sched' : τ' → View K → Except Err (Schedule K × τ')) (T : τ → τ' → Prop) (Q : τ → State K → Prop)
    (R₀ M R : State K → State K → Prop) (X : State K → Err → State K → Err → Prop) : Prop
    extends Apply2 cfg cfg' M R X where
  events : ∀ s s', R₀ s s' → Out M X (eventsStage cfg s) (eventsStage cfg' s')
  needs : ∀ s s', M s s' → needsSched cfg'.maxRecompute s'.core = needsSched cfg.maxRecompute s.core
  sched : ∀ s s' st st', M s s' → T st st' → Q st s →
    Out (fun p p' => M p.1 p'.1 ∧ T p.2 p'.2) (fun p e p' e' => X p.1 e p'.1 e')
      (schedSetSt cfg sched (s, st)) (schedSetSt cfg' sched' (s', st'))

theorem Sim2St.body {sched : τ → View K → Except Err (Schedule K × τ)}
    {sched' : τ' → View K → Except Err (Schedule K × τ')} {T : τ → τ' → Prop} {Q : τ → State K → Prop}
    (h : Sim2St cfg cfg' sched sched' T Q R₀ M R X) {s s' : State K} {st : τ} {st' : τ'} (hr : R₀ s s')
    (ht : T st st')
    (hq : ∀ s1, eventsStage cfg s = (s1, none) → needsSched cfg.maxRecompute s1.core = true → Q st s1) :
    Out (fun p p' => R p.1 p'.1 ∧ T p.2 p'.2) (fun p e p' e' => X p.1 e p'.1 e')
      (bodyP cfg sched (s, st)) (bodyP cfg' sched' (s', st')) := by
  rw [bodyP_eq, bodyP_eq]
  refine (Out.onFst (h.events s s' hr) ht).andThen_eq fun ⟨s1, st1⟩ ⟨s1', st1'⟩ he _ ⟨h1, ht1⟩ => ?_
  simp only [onFst, Prod.mk.injEq] at he
  obtain ⟨⟨hs1, rfl⟩, hnone⟩ := he
  rw [h.needs s1 s1' h1]
  split
  · refine (h.sched s1 s1' st st1' h1 ht1 (hq s1 (Prod.ext hs1 hnone) ‹_›)).andThen fun p2 p2' ⟨h2, ht2⟩ => ?_
    exact Out.onFst (h.toApply2.apply h2) ht2
  · exact Out.onFst (h.toApply2.apply h1) ht1

end st

end Acn.Sim
