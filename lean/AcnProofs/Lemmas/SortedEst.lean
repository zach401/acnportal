/-
  `run_preprocessing` with an ARBITRARY upper-bound estimator (`AcnModel/SortedEst.lean`): what
  `apply_upper_bound_estimate` does to a session whatever the estimator answers, the facts about
  `preprocessEst` that the allocation theorems need, and the link to the rampdown instance
  `Sorted.preprocess` / `Sorted.scheduleCall`.
  `preprocessEst_own` says exactly what the bounds of a surviving session are (`OwnBound`); the
  inequalities the safety theorems need (`DerivedW`, `preprocessEst_bound`, `preprocessEst_lb`,
  `preprocessEst_lbOk`) are read off it: the estimator only lowers `max_rates` (`np.minimum`,
  preprocessing.py:97-99) and `reconcile_max_and_min` lifts it back to `min_rates`
  (preprocessing.py:100).
-/
import AcnModel.SortedEst
import AcnProofs.Lemmas.SortedPre

set_option linter.unusedSectionVars false

namespace Acn.Sorted
open Acn

section
variable {K : Type} [Field K] [LinearOrder K] [IsStrictOrderedRing K]

/-- `np.minimum(max_rates, upper_bounds.get(session_id, inf))` (preprocessing.py:97-99) -/
def capBy (m : K) : Option K → K
  | some b => min m b
  | none => m

/-- The bounds of a session `s` that leaves `run_preprocessing`, from first principles: `s1` is the
    session the estimator was handed (the unfinished input session with `max_rates` already limited to
    the EVSE's maximum pilot), `b` the estimator's answer for it (`none`: no key, or no estimator).
      * no estimator, no uninterrupted charging: `s = s1`;
      * uninterrupted charging refused for this session: both bounds 0;
      * otherwise `min_rates` is the incoming one, or (uninterrupted charging granted, which needs the
        minimum pilot to fit into the remaining demand) `max(min_pilot, incoming)`, and
        `max_rates = max(min(max_rates of s1, b), min_rates)` — the estimator's bound, but never below
        the session's own minimum. -/
def OwnBound (cfg : Config K) (infra : Infra K) (period : K) (b : Option K) (s1 s : Session K) : Prop :=
  s.session = s1.session ∧ s.idx = s1.idx ∧ s.requested = s1.requested ∧ s.delivered = s1.delivered ∧
  ((cfg.estimate = false ∧ cfg.uninterrupted = false ∧ s = s1) ∨
   (cfg.uninterrupted = true ∧ s.minRate = 0 ∧ s.maxRate = 0) ∨
   (((cfg.uninterrupted = false ∧ s.minRate = s1.minRate) ∨
      (cfg.uninterrupted = true ∧ infra.minPilot.getD s1.idx 0 ≤ rap infra period s1 ∧
        s.minRate = max (infra.minPilot.getD s1.idx 0) s1.minRate)) ∧
    s.maxRate = max (capBy s1.maxRate b) s.minRate))

theorem capBy_le (m : K) (b : Option K) : capBy m b ≤ m := by
  cases b with
  | none => exact le_refl _
  | some b => exact min_le_left _ _

theorem lbOf_nonneg (s : Session K) : 0 ≤ lbOf s := by unfold lbOf; simp

theorem lbOf_eq_zero {s : Session K} (h : s.minRate ≤ 0) : lbOf s = 0 := by unfold lbOf; simp [h]

/-- `apply_upper_bound_estimate` on one session: `np.minimum` with the estimator's answer (an absent key is no
    bound), then `reconcile_max_and_min` -/
def capS (b : Option K) (s : Session K) : Session K := reconcile { s with maxRate := capBy s.maxRate b }

theorem applyUpperBoundFn_eq_map (est : Session K → Option K) (l : List (Session K)) :
    applyUpperBoundFn est l = l.map fun s => capS (est s) s := by
  unfold applyUpperBoundFn
  apply List.map_congr_left
  intro s _
  cases est s with
  | none => rfl
  | some b => simp only [capS, capBy, pyMin_eq_min]

theorem capS_fields (b : Option K) (s : Session K) :
    (capS b s).idx = s.idx ∧ (capS b s).session = s.session ∧ (capS b s).minRate = s.minRate ∧
    (capS b s).requested = s.requested ∧ (capS b s).delivered = s.delivered ∧
    (capS b s).maxRate = max (capBy s.maxRate b) s.minRate :=
  reconcile_fields _

theorem applyUpperBoundFn_exact (est : Session K → Option K) (l : List (Session K)) :
    ∀ s ∈ applyUpperBoundFn est l, ∃ s1 ∈ l, s.session = s1.session ∧ s.idx = s1.idx ∧
      s.requested = s1.requested ∧ s.delivered = s1.delivered ∧ s.minRate = s1.minRate ∧
      s.maxRate = max (capBy s1.maxRate (est s1)) s1.minRate := by
  intro s hs
  rw [applyUpperBoundFn_eq_map] at hs
  obtain ⟨s1, h1, rfl⟩ := List.mem_map.mp hs
  obtain ⟨g1, g2, g3, g4, g5, g6⟩ := capS_fields (est s1) s1
  exact ⟨s1, h1, g2, g1, g4, g5, g3, g6⟩

theorem preprocessEst_own (feas : List K → Bool) (cfg : Config K) (infra : Infra K) (period : K)
    (est : List (Session K) → Session K → Option K) (l : List (Session K)) :
    ∀ s ∈ preprocessEst feas cfg infra period est l, ∃ s1 ∈ estInput infra period l,
      OwnBound cfg infra period
        (if cfg.estimate = true then est (estInput infra period l) s1 else none) s1 s := by
  -- `apply_minimum_charging_rate` on `s2`, which is `s1` capped by `b` and reconciled, or (`b = none`) `s1` as it came:
  -- both have the capped `max_rates` above `min_rates`, and the stage reconciles anyway
  have hminrel : ∀ (b : Option K) (s1 s2 s : Session K), cfg.uninterrupted = true →
      s2.session = s1.session → s2.idx = s1.idx → s2.requested = s1.requested →
      s2.delivered = s1.delivered → s2.minRate = s1.minRate →
      max s2.maxRate s1.minRate = max (capBy s1.maxRate b) s1.minRate → MinRel infra period s2 s →
      OwnBound cfg infra period b s1 s := by
    intro b s1 s2 s hun e1 e2 e3 e4 e5 e6 hrel
    obtain ⟨g1, g2, _, g4, g5, hc⟩ := hrel.fields
    refine ⟨g2.trans e1, g1.trans e2, g4.trans e3, g5.trans e4, ?_⟩
    rcases hc with hz | ⟨hrap, g3, g6⟩
    · exact Or.inr (Or.inl ⟨hun, hz⟩)
    · refine Or.inr (Or.inr ⟨Or.inr ⟨hun, ?_, ?_⟩, ?_⟩)
      · rw [← rap_congr infra period s1 s2 e2 e3 e4, ← e2]; exact hrap
      · rw [g3, e2, e5]
      · rw [g6, g3, e2, e5, max_comm (infra.minPilot.getD s1.idx 0), ← max_assoc, e6, max_assoc]
  unfold preprocessEst
  simp only
  intro s hs
  by_cases hest : cfg.estimate = true <;> by_cases hun : cfg.uninterrupted = true <;>
    simp only [hest, hun, if_true, if_false, Bool.false_eq_true] at hs ⊢
  · obtain ⟨s2, hs2, hrel⟩ := forall₂_mem_right (applyMinimumRate_rel feas infra period _) s hs
    rw [mem_sortBy] at hs2
    obtain ⟨s1, hs1, e1, e2, e3, e4, e5, e6⟩ := applyUpperBoundFn_exact _ _ s2 hs2
    exact ⟨s1, hs1, hminrel _ s1 s2 s hun e1 e2 e3 e4 e5 (by rw [e6, max_assoc, max_self]) hrel⟩
  · obtain ⟨s1, hs1, e1, e2, e3, e4, e5, e6⟩ := applyUpperBoundFn_exact _ _ s hs
    have hun' : cfg.uninterrupted = false := by simpa using hun
    refine ⟨s1, hs1, e1, e2, e3, e4, Or.inr (Or.inr ⟨Or.inl ⟨hun', e5⟩, ?_⟩)⟩
    rw [e6, e5]
  · obtain ⟨s1, hs1, hrel⟩ := forall₂_mem_right (applyMinimumRate_rel feas infra period _) s hs
    rw [mem_sortBy] at hs1
    exact ⟨s1, hs1, hminrel none s1 s1 s hun rfl rfl rfl rfl rfl rfl hrel⟩
  · have he' : cfg.estimate = false := by simpa using hest
    have hun' : cfg.uninterrupted = false := by simpa using hun
    exact ⟨s, hs, rfl, rfl, rfl, rfl, Or.inl ⟨he', hun', rfl⟩⟩

theorem applyUpperBoundFn_map_idx (est : Session K → Option K) (l : List (Session K)) :
    (applyUpperBoundFn est l).map (·.idx) = l.map (·.idx) := by
  rw [applyUpperBoundFn_eq_map, List.map_map]
  exact List.map_congr_left fun s _ => (capS_fields (est s) s).1

/-- a bound that is not below the session's current maximum rate is the same as no bound
    (in particular every bound ≥ the EVSE's maximum pilot after `enforce_pilot_limit`, and `inf`) -/
theorem applyUpperBoundFn_inert (est : Session K → Option K) (l : List (Session K))
    (h : ∀ s ∈ l, ∀ b, est s = some b → s.maxRate ≤ b) :
    applyUpperBoundFn est l = applyUpperBoundFn (fun _ => none) l := by
  rw [applyUpperBoundFn_eq_map, applyUpperBoundFn_eq_map]
  apply List.map_congr_left
  intro s hs
  cases hb : est s with
  | none => rfl
  | some b => simp only [capS, capBy, min_eq_left (h s hs b hb)]

theorem estInput_spec (infra : Infra K) (period : K) (l : List (Session K)) :
    ∀ s ∈ estInput infra period l, ∃ s0 ∈ l,
      s = { s0 with maxRate := pyMin s0.maxRate (infra.maxPilot.getD s0.idx 0) } := by
  intro s hs
  unfold estInput enforcePilotLimit at hs
  obtain ⟨s0, h0, rfl⟩ := List.mem_map.mp hs
  unfold removeFinished at h0
  exact ⟨s0, (List.mem_filter.mp h0).1, rfl⟩

/-- `enforce_pilot_limit` comes FIRST: every session the estimator is handed (and whose `max_rates`
    its bound is then `min`-ed into) already has `max_rates ≤ max_pilot` of its EVSE -/
theorem estInput_le_maxPilot (infra : Infra K) (period : K) (l : List (Session K)) :
    ∀ s ∈ estInput infra period l, s.maxRate ≤ infra.maxPilot.getD s.idx 0 := by
  intro s hs
  obtain ⟨s0, _, rfl⟩ := estInput_spec infra period l s hs
  simp only [pyMin_eq_min]
  exact min_le_right _ _

theorem estInput_idx_nodup (infra : Infra K) (period : K) (l : List (Session K))
    (hnd : (l.map (·.idx)).Nodup) : ((estInput infra period l).map (·.idx)).Nodup := by
  unfold estInput enforcePilotLimit
  rw [List.map_map]
  have : ((fun s : Session K => s.idx) ∘ fun s : Session K =>
      ({ s with maxRate := pyMin s.maxRate (infra.maxPilot.getD s.idx 0) } : Session K)) =
      fun s => s.idx := rfl
  rw [this]
  unfold removeFinished
  exact hnd.sublist (List.filter_sublist.map _)

/-- what preprocessing (ANY options, ANY estimator) does to a resolved session `s0`: identity fields
    kept, bounds within those of the estimator-free preprocessing (`W`: `Derived` of `Lemmas/SortedLink`, which says
    what the estimator-free preprocessing does by equations, weakened to these bounds) -/
def DerivedW (infra : Infra K) (period : K) (s0 s : Session K) : Prop :=
  s.idx = s0.idx ∧ s.requested = s0.requested ∧ s.delivered = s0.delivered ∧
  ((s.minRate = s0.minRate ∧
      s.maxRate ≤ max (min s0.maxRate (infra.maxPilot.getD s0.idx 0)) s0.minRate ∧
      (min s0.maxRate (infra.maxPilot.getD s0.idx 0) ≤ s.maxRate ∨ s.minRate ≤ s.maxRate)) ∨
   (s.minRate = 0 ∧ s.maxRate = 0) ∨
   (infra.minPilot.getD s0.idx 0 ≤ rap infra period s0 ∧
    s.minRate = max (infra.minPilot.getD s0.idx 0) s0.minRate ∧ s.minRate ≤ s.maxRate ∧
    s.maxRate ≤ max (min s0.maxRate (infra.maxPilot.getD s0.idx 0)) s.minRate))

theorem preprocessEst_derivedW (feas : List K → Bool) (cfg : Config K) (infra : Infra K) (period : K)
    (est : List (Session K) → Session K → Option K) (l : List (Session K)) :
    ∀ s ∈ preprocessEst feas cfg infra period est l, ∃ s0 ∈ l, DerivedW infra period s0 s := by
  intro s hs
  obtain ⟨s1, hs1, _, hi, hr, hd, hc⟩ := preprocessEst_own feas cfg infra period est l s hs
  obtain ⟨s0, h0, rfl⟩ := estInput_spec infra period l s1 hs1
  simp only [pyMin_eq_min] at hc
  refine ⟨s0, h0, hi, hr, hd, ?_⟩
  rcases hc with ⟨_, _, rfl⟩ | ⟨_, h1, h2⟩ | ⟨⟨_, hm⟩ | ⟨_, hrap, hm⟩, hx⟩
  · refine Or.inl ⟨rfl, ?_, Or.inl ?_⟩ <;> simp [pyMin_eq_min]
  · exact Or.inr (Or.inl ⟨h1, h2⟩)
  · refine Or.inl ⟨hm, ?_, Or.inr (hx ▸ le_max_right _ _)⟩
    rw [hx, hm]
    exact max_le_max (capBy_le _ _) (le_refl _)
  · refine Or.inr (Or.inr ⟨hrap, hm, hx ▸ le_max_right _ _, ?_⟩)
    rw [hx]
    exact max_le_max (capBy_le _ _) (le_refl _)

theorem preprocessEst_idx_nodup (feas : List K → Bool) (cfg : Config K) (infra : Infra K) (period : K)
    (est : List (Session K) → Session K → Option K) (l : List (Session K))
    (hnd : (l.map (·.idx)).Nodup) :
    ((preprocessEst feas cfg infra period est l).map (·.idx)).Nodup := by
  have h1 := estInput_idx_nodup infra period l hnd
  have hmin : ∀ l2 : List (Session K), (l2.map (·.idx)).Nodup →
      ((applyMinimumRate feas infra period l2).map (·.idx)).Nodup := by
    intro l2 h2
    rw [minRel_map_idx infra period _ _ (applyMinimumRate_rel feas infra period _)]
    have hp2 := (sortBy_perm (fun a b : Session K => decide (a.remainingTime < b.remainingTime))
      l2).map (fun s : Session K => s.idx)
    rw [hp2.nodup_iff]
    exact h2
  have h2 : ((if cfg.estimate = true then applyUpperBoundFn (est (estInput infra period l)) (estInput infra period l)
      else estInput infra period l).map (·.idx)).Nodup := by
    split
    · rw [applyUpperBoundFn_map_idx]; exact h1
    · exact h1
  unfold preprocessEst
  simp only
  split
  · exact hmin _ h2
  · exact h2

theorem order_idx_nodup_est (feas : List K → Bool) (cfg : Config K) (infra : Infra K) (period : K)
    (time : Int) (est : List (Session K) → Session K → Option K) (l : List (Session K))
    (hnd : (l.map (·.idx)).Nodup) :
    ((sortSessions cfg.sort infra period time
      (preprocessEst feas cfg infra period est l)).map (·.idx)).Nodup := by
  have hperm := (sortBy_perm (sortLt cfg.sort infra period time)
    (preprocessEst feas cfg infra period est l)).map (·.idx)
  unfold sortSessions
  rw [hperm.nodup_iff]
  exact preprocessEst_idx_nodup feas cfg infra period est l hnd

theorem ownBound_lb {cfg : Config K} {infra : Infra K} {period : K} {b : Option K} {s1 s : Session K}
    (hmp : ∀ i, 0 ≤ infra.minPilot.getD i 0) (h1 : s1.minRate ≤ 0)
    (h : OwnBound cfg infra period b s1 s) :
    lbOf s = 0 ∨ (cfg.uninterrupted = true ∧ lbOf s = infra.minPilot.getD s.idx 0 ∧
      lbOf s ≤ s.maxRate ∧ lbOf s ≤ rap infra period s) := by
  obtain ⟨_, hi, hr, hd, hc⟩ := h
  rcases hc with ⟨_, _, rfl⟩ | ⟨_, hm, _⟩ | ⟨⟨_, hm⟩ | ⟨hun, hrap, hm⟩, hx⟩
  · exact Or.inl (lbOf_eq_zero h1)
  · exact Or.inl (lbOf_eq_zero (le_of_eq hm))
  · exact Or.inl (lbOf_eq_zero (hm ▸ h1))
  · have hlb : lbOf s = infra.minPilot.getD s1.idx 0 := by
      unfold lbOf
      rw [hm]
      simp only [pyMax_eq_max]
      rw [max_eq_left (le_trans h1 (hmp _)), max_eq_right (hmp _)]
    refine Or.inr ⟨hun, hi ▸ hlb, ?_, ?_⟩
    · rw [hlb, hx, hm]
      exact le_trans (le_max_left _ _) (le_max_right _ _)
    · rw [hlb, rap_congr infra period s1 s hi hr hd]
      exact hrap

theorem estInput_minRate_le (infra : Infra K) (period : K) (l : List (Session K))
    (hmin : ∀ s ∈ l, s.minRate ≤ 0) : ∀ s ∈ estInput infra period l, s.minRate ≤ 0 := by
  intro s hs
  obtain ⟨s0, h0, rfl⟩ := estInput_spec infra period l s hs
  exact hmin s0 h0

theorem preprocessEst_lb (feas : List K → Bool) (cfg : Config K) (infra : Infra K) (period : K)
    (est : List (Session K) → Session K → Option K) (l : List (Session K))
    (hmp : ∀ i, 0 ≤ infra.minPilot.getD i 0) (hmin : ∀ s ∈ l, s.minRate ≤ 0) :
    ∀ s ∈ preprocessEst feas cfg infra period est l,
      lbOf s = 0 ∨ (cfg.uninterrupted = true ∧ lbOf s = infra.minPilot.getD s.idx 0) := by
  intro s hs
  obtain ⟨s1, hs1, hown⟩ := preprocessEst_own feas cfg infra period est l s hs
  rcases ownBound_lb hmp (estInput_minRate_le infra period l hmin s1 hs1) hown with h | ⟨h1, h2, _⟩
  · exact Or.inl h
  · exact Or.inr ⟨h1, h2⟩

/-- `min_rates ≤ 0` is what `Interface.active_sessions` hands out, and the estimator never touches `min_rates` -/
theorem preprocessEst_lbOk (feas : List K → Bool) (cfg : Config K) (infra : Infra K) (period : K)
    (est : List (Session K) → Session K → Option K) (l : List (Session K))
    (hinf : InfraOk infra) (hmin : ∀ s ∈ l, s.minRate ≤ 0) :
    ∀ s ∈ preprocessEst feas cfg infra period est l, LbOk infra period s := by
  intro s hs
  obtain ⟨s1, hs1, hown⟩ := preprocessEst_own feas cfg infra period est l s hs
  rcases ownBound_lb (fun i => (hinf i).1) (estInput_minRate_le infra period l hmin s1 hs1) hown with
    h | ⟨_, h2, h3, h4⟩
  · exact Or.inr (Or.inl h)
  · by_cases hc : infra.cont.getD s.idx true = true
    · exact Or.inl hc
    · refine Or.inr (Or.inr (mem_levelsIn.mpr ⟨?_, le_refl _, ?_⟩))
      · rw [h2]; exact (hinf s.idx).2 (by simpa using hc)
      · rw [ubOf, pyMin_eq_min]; exact le_min h3 h4

theorem preprocessEst_bound (feas : List K → Bool) (cfg : Config K) (infra : Infra K) (period : K)
    (est : List (Session K) → Session K → Option K) (l : List (Session K))
    (hest : cfg.estimate = true) :
    ∀ s ∈ preprocessEst feas cfg infra period est l, ∃ s1 ∈ estInput infra period l,
      s.session = s1.session ∧ s.idx = s1.idx ∧
      ∀ b, est (estInput infra period l) s1 = some b → s.maxRate ≤ max b (lbOf s) := by
  intro s hs
  obtain ⟨s1, hs1, hse, hi, _, _, hc⟩ := preprocessEst_own feas cfg infra period est l s hs
  refine ⟨s1, hs1, hse, hi, fun b hb => ?_⟩
  have hlb : s.minRate ≤ lbOf s := by unfold lbOf; simp
  rw [if_pos hest, hb] at hc
  rcases hc with ⟨he, _⟩ | ⟨_, _, h2⟩ | ⟨_, hx⟩
  · rw [hest] at he; cases he
  · rw [h2]; exact le_max_of_le_right (lbOf_nonneg s)
  · rw [hx]
    exact max_le_max (min_le_right _ _) hlb

theorem preprocessEst_inert (feas : List K → Bool) (cfg : Config K) (infra : Infra K) (period : K)
    (est : List (Session K) → Session K → Option K) (l : List (Session K))
    (h : ∀ s ∈ estInput infra period l, ∀ b, est (estInput infra period l) s = some b →
      infra.maxPilot.getD s.idx 0 ≤ b) :
    preprocessEst feas cfg infra period est l =
      preprocessEst feas cfg infra period (fun _ _ => none) l := by
  unfold preprocessEst
  simp only
  rw [applyUpperBoundFn_inert (est (estInput infra period l)) (estInput infra period l)
    (fun s hs b hb => le_trans (estInput_le_maxPilot infra period l s hs) (h s hs b hb))]

def allocResult [HasCeilNat K] (feas : List K → Bool) (cfgS : Config K) (infra : Infra K) (period : K)
    (queue : List (Session K)) : Except Err (List K) :=
  match cfgS.algo with
  | .greedy => sortingAlgorithm feas cfgS.fuel cfgS.eps infra period queue
  | .roundRobin => (roundRobin feas (rrLevels infra period cfgS.inc) infra queue).map (·.sched)

theorem scheduleCallEst_result [HasCeilNat K] (feas : List K → Bool) (cfgS : Config K) (infra : Infra K) (period : K)
    (time : Int) (est : List (Session K) → Session K → Option K) (raw : List (Session K)) :
    (scheduleCallEst feas cfgS infra period time est raw).result =
      match resolve infra raw with
      | .error e => .error e
      | .ok l => allocResult feas cfgS infra period
          (sortSessions cfgS.sort infra period time (preprocessEst feas cfgS infra period est l)) := by
  unfold scheduleCallEst allocResult
  cases resolve infra raw with
  | error e => rfl
  | ok l =>
    simp only
    cases cfgS.algo with
    | greedy => rfl
    | roundRobin =>
      simp only
      cases roundRobin feas (rrLevels infra period cfgS.inc) infra
          (sortSessions cfgS.sort infra period time (preprocessEst feas cfgS infra period est l)) with
      | error e => rfl
      | ok st => rfl

theorem scheduleCall_rd [HasCeilNat K] (feas : List K → Bool) (cfgS : Config K) (infra : Infra K) (period : K)
    (time : Int) (prev : String → Option (K × K)) (rd : Rampdown K) (raw : List (Session K)) :
    (scheduleCall feas cfgS infra period time prev rd raw).rd =
      match resolve infra raw with
      | .error _ => rd
      | .ok l => (preprocess feas cfgS infra period prev rd l).2 := by
  unfold scheduleCall
  cases resolve infra raw with
  | error e => rfl
  | ok l =>
    simp only
    cases cfgS.algo with
    | greedy => rfl
    | roundRobin =>
      simp only
      cases roundRobin feas (rrLevels infra period cfgS.inc) infra
          (sortSessions cfgS.sort infra period time (preprocess feas cfgS infra period prev rd l).1) with
      | error e => rfl
      | ok st => rfl

theorem applyUpperBound_eq_fn (bounds : List (String × K)) (l : List (Session K)) :
    applyUpperBound bounds l = applyUpperBoundFn (estOfDict bounds) l := rfl

/-- `Sorted.preprocess` (the `SimpleRampdown` model) IS `preprocessEst` with the estimator
    "the rampdown dict after its update on the sessions handed over" -/
theorem preprocess_eq_preprocessEst (feas : List K → Bool) (cfg : Config K) (infra : Infra K)
    (period : K) (prev : String → Option (K × K)) (rd : Rampdown K) (l : List (Session K)) :
    (preprocess feas cfg infra period prev rd l).1 =
      preprocessEst feas cfg infra period
        (fun l1 => estOfDict (rampdownCall infra prev rd l1).bounds) l := by
  unfold preprocess preprocessEst estInput
  simp only
  cases cfg.estimate <;> cases cfg.uninterrupted <;> simp [applyUpperBound_eq_fn]

theorem scheduleCall_eq_scheduleCallEst [HasCeilNat K] (feas : List K → Bool) (cfg : Config K)
    (infra : Infra K) (period : K) (time : Int) (prev : String → Option (K × K)) (rd : Rampdown K)
    (raw : List (Session K)) :
    (scheduleCall feas cfg infra period time prev rd raw).result =
      (scheduleCallEst feas cfg infra period time
        (fun l1 => estOfDict (rampdownCall infra prev rd l1).bounds) raw).result ∧
    (scheduleCall feas cfg infra period time prev rd raw).pre =
      (scheduleCallEst feas cfg infra period time
        (fun l1 => estOfDict (rampdownCall infra prev rd l1).bounds) raw).pre ∧
    (scheduleCall feas cfg infra period time prev rd raw).order =
      (scheduleCallEst feas cfg infra period time
        (fun l1 => estOfDict (rampdownCall infra prev rd l1).bounds) raw).order ∧
    (scheduleCall feas cfg infra period time prev rd raw).trace =
      (scheduleCallEst feas cfg infra period time
        (fun l1 => estOfDict (rampdownCall infra prev rd l1).bounds) raw).trace ∧
    (scheduleCall feas cfg infra period time prev rd raw).queueLeft =
      (scheduleCallEst feas cfg infra period time
        (fun l1 => estOfDict (rampdownCall infra prev rd l1).bounds) raw).queueLeft := by
  unfold scheduleCall scheduleCallEst
  cases hres : resolve infra raw with
  | error e => simp
  | ok l =>
    simp only
    have hp := preprocess_eq_preprocessEst feas cfg infra period prev rd l
    rw [← hp]
    cases cfg.algo with
    | greedy => simp
    | roundRobin =>
      simp only
      cases roundRobin feas (rrLevels infra period cfg.inc) infra
        (sortSessions cfg.sort infra period time (preprocess feas cfg infra period prev rd l).1) with
      | error e => simp
      | ok st => simp

theorem scheduleCall_result [HasCeilNat K] (feas : List K → Bool) (cfgS : Config K) (infra : Infra K) (period : K)
    (time : Int) (prev : String → Option (K × K)) (rd : Rampdown K) (raw : List (Session K)) :
    (scheduleCall feas cfgS infra period time prev rd raw).result =
      match resolve infra raw with
      | .error e => .error e
      | .ok l => allocResult feas cfgS infra period
          (sortSessions cfgS.sort infra period time (preprocess feas cfgS infra period prev rd l).1) := by
  rw [(scheduleCall_eq_scheduleCallEst feas cfgS infra period time prev rd raw).1, scheduleCallEst_result]
  cases resolve infra raw with
  | error e => rfl
  | ok l => simp only [preprocess_eq_preprocessEst]

end
end Acn.Sorted
