/-
  Helper lemmas for C06 (ℝ / ℂ only): the squares test is the norm of the complex phasor sum.
-/
import AcnProofs.Lemmas.FeasSums
import Mathlib.Analysis.Complex.Trigonometric
import Mathlib.Analysis.Complex.Norm
import Mathlib.Algebra.BigOperators.Group.Finset.Basic

namespace Acn.Feas
open Complex

theorem norm_le_iff_sq (z : ℂ) (b : ℝ) : ‖z‖ ≤ b ↔ 0 ≤ b ∧ z.re ^ 2 + z.im ^ 2 ≤ b ^ 2 := by
  have hsq : ‖z‖ ^ 2 = z.re ^ 2 + z.im ^ 2 := by
    rw [Complex.sq_norm, Complex.normSq_apply]; ring
  constructor
  · intro h
    refine ⟨le_trans (norm_nonneg z) h, ?_⟩
    rw [← hsq]
    exact pow_le_pow_left₀ (norm_nonneg z) h 2
  · rintro ⟨hb, h⟩
    rw [← hsq] at h
    exact (abs_le_of_sq_le_sq' h hb).2

theorem phasor_sum_re {n : Nat} (w φ : Fin n → ℝ) :
    (∑ j, (w j : ℂ) * Complex.exp ((φ j : ℂ) * I)).re = ∑ j, w j * Real.cos (φ j) := by
  rw [Complex.re_sum]
  congr 1; funext j
  rw [Complex.re_ofReal_mul, Complex.exp_ofReal_mul_I_re]

theorem phasor_sum_im {n : Nat} (w φ : Fin n → ℝ) :
    (∑ j, (w j : ℂ) * Complex.exp ((φ j : ℂ) * I)).im = ∑ j, w j * Real.sin (φ j) := by
  rw [Complex.im_sum]
  congr 1; funext j
  rw [Complex.im_ofReal_mul, Complex.exp_ofReal_mul_I_im]

end Acn.Feas
