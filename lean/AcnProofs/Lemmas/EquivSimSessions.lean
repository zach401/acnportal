/-
  Helper lemmas for C10 (Sim level, sessions): two simulator states that differ only by the
  listing order of the EV records and of the queue.  `Mid s s'`: same occupancy, iteration, pilot /
  rate matrices, peak, draw counter, occupancy log; `pending` and `evs` equal up to order (EV ids
  pairwise different); `evsePilot` only of equal length — `update_pilots` overwrites every entry
  from the pilot column (`updatePilots_evse`), so it is equal again at every loop head.
-/
import AcnProofs.Lemmas.EquivSimPilots
import AcnProofs.Lemmas.EquivEvents
import AcnProofs.Lemmas.SimStages2

set_option linter.unusedSectionVars false

namespace Acn.SimPerm
open Acn.Sim Acn.EventCore Acn.Evse Acn.SimEquiv Acn.Ledger Acn.Pilots Acn.Steps

variable {K : Type} [Field K] [LinearOrder K] [IsStrictOrderedRing K] [HasExp K]

structure EvsPerm (evs evs' : List (Ev K)) : Prop where
  perm : evs'.Perm evs
  nodup : (evs.map (·.session)).Nodup

theorem evIn_perm {evs evs' : List (Ev K)} (h : EvsPerm evs evs') (id : String) : evIn evs' id = evIn evs id := by
  cases h1 : evIn evs id with
  | none =>
    rw [← Option.not_isSome_iff_eq_none, evIn_isSome_iff] at h1 ⊢
    rwa [(h.perm.map _).mem_iff]
  | some e =>
    obtain rfl := evIn_session h1
    exact evIn_of_mem_nodup evs' ((h.perm.map _).nodup_iff.2 h.nodup) e
      (h.perm.mem_iff.2 (List.mem_of_find?_eq_some h1))

theorem EvsPerm.replace {evs evs' : List (Ev K)} (h : EvsPerm evs evs') (e : Ev K) :
    EvsPerm (replaceEv evs e) (replaceEv evs' e) :=
  ⟨h.perm.map _, by rw [replaceEv_sessions]; exact h.nodup⟩

/-- two states that differ by the listing order, anywhere in the MIDDLE of a period (`evsePilot` only of
    equal length; at loop heads the stronger `NC` holds) -/
structure Mid (s s' : State K) : Prop where
  occ : s'.core.occ = s.core.occ
  iter : s'.core.iter = s.core.iter
  pend : s'.core.pending.Perm s.core.pending
  pilots : s'.pilots = s.pilots
  rates : s'.rates = s.rates
  peak : s'.peak = s.peak
  evs : EvsPerm s.evs s'.evs
  evseLen : s'.evsePilot.length = s.evsePilot.length
  noiseIdx : s'.noiseIdx = s.noiseIdx
  occLog : s'.occLog = s.occLog

section
variable {cfg : Cfg K}

theorem occupantEv_mid {s s' : State K} (h : Mid s s') (st : String) : occupantEv s' st = occupantEv s st := by
  rw [occupantEv_eq, occupantEv_eq, h.occ]
  cases s.core.occ st with
  | none => rfl
  | some x => exact evIn_perm h.evs x.id

theorem activeEvs_mid {s s' : State K} (h : Mid s s') : activeEvs cfg s' = activeEvs cfg s := by
  unfold activeEvs
  apply List.filterMap_congr
  intro st _
  rw [occupantEv_mid h]

theorem lastApplied_mid {s s' : State K} (h : Mid s s') : Sim.lastApplied cfg s' = Sim.lastApplied cfg s := by
  unfold Sim.lastApplied
  rw [h.iter, activeEvs_mid h, h.pilots]

/-- the scheduler does not read `EVSE.current_pilot` -/
def SchedIgnoresEvsePilot (sched : View K → Except EventCore.Err (Schedule K)) : Prop :=
  ∀ (v : View K) (l : List K), sched { v with evsePilot := l } = sched v

theorem view_mid {s s' : State K} (h : Mid s s') : view cfg s' = { view cfg s with evsePilot := s'.evsePilot } := by
  unfold view
  rw [h.iter, activeEvs_mid h, lastApplied_mid h, h.peak, h.occ]

theorem schedStage_mid {sched : View K → Except EventCore.Err (Schedule K)} (hsch : SchedIgnoresEvsePilot sched)
    {s s' : State K} (h : Mid s s') : schedStage cfg sched s' = schedStage cfg sched s := by
  unfold schedStage
  rw [activeEvs_mid h, view_mid h, hsch, h.pilots, h.iter, lastTs_perm h.pend]

theorem eff_mid {s s' : State K} (h : Mid s s') (i : Nat) (p : K) (u : Option (Ev K × Bool)) :
    Mid (eff s i p u) (eff s' i p u) := by
  refine ⟨h.occ, h.iter, h.pend, h.pilots, h.rates, h.peak, ?_, ?_, ?_, h.occLog⟩
  · cases u with
    | none => exact h.evs
    | some q => obtain ⟨e', b⟩ := q; exact h.evs.replace e'
  · simp [eff, h.evseLen]
  · simp only [eff, h.noiseIdx]

theorem setPilotAt_mid {s s' : State K} (h : Mid s s') (i : Nat) (st : Station K) :
    Out Mid (sep Mid Eq) (setPilotAt cfg s i st) (setPilotAt cfg s' i st) := by
  rw [setPilotAt_plan, setPilotAt_plan, h.pilots, h.iter, occupantEv_mid h, h.noiseIdx]
  cases plan cfg st (s.pilots.get i s.core.iter) (occupantEv s st.id) (noiseAt cfg s.noiseIdx) with
  | error e => exact .err ⟨rfl, h⟩
  | ok u => exact .ok (eff_mid h i _ u)

/-- a successful station loop overwrites `EVSE.current_pilot` of every station it visits with the
    pilot column; entries before the first visited station are kept -/
theorem updatePilotsFrom_evse : ∀ (sts : List (Station K)) (i : Nat) (s r : State K),
    updatePilotsFrom cfg i sts s = (r, none) → i + sts.length = s.evsePilot.length →
    r.evsePilot = s.evsePilot.take i ++ (List.range sts.length).map (fun j => s.pilots.get (i + j) s.core.iter) := by
  intro sts
  induction sts with
  | nil =>
    intro i s r h hl
    simp only [updatePilotsFrom, Prod.mk.injEq, and_true] at h
    subst h
    simp only [List.length_nil, Nat.add_zero] at hl
    simp [hl]
  | cons st rest ih =>
    intro i s r h hl
    simp only [updatePilotsFrom] at h
    rw [setPilotAt_plan] at h
    cases hp : plan cfg st (s.pilots.get i s.core.iter) (occupantEv s st.id) (noiseAt cfg s.noiseIdx) with
    | error e => rw [hp] at h; simp at h
    | ok u =>
      rw [hp] at h
      simp only at h
      have hlen : i + 1 + rest.length = (eff s i (s.pilots.get i s.core.iter) u).evsePilot.length := by
        simp only [eff, List.length_set]
        simp only [List.length_cons] at hl
        omega
      have := ih (i + 1) _ r h hlen
      rw [this]
      have hp1 : (eff s i (s.pilots.get i s.core.iter) u).pilots = s.pilots := rfl
      have hc1 : (eff s i (s.pilots.get i s.core.iter) u).core = s.core := rfl
      have he1 : (eff s i (s.pilots.get i s.core.iter) u).evsePilot = s.evsePilot.set i (s.pilots.get i s.core.iter) := rfl
      rw [hp1, hc1, he1]
      have hi : i < s.evsePilot.length := by simp only [List.length_cons] at hl; omega
      rw [List.length_cons, List.range_succ_eq_map, List.map_cons, List.map_map]
      have htake : (s.evsePilot.set i (s.pilots.get i s.core.iter)).take (i + 1) =
          s.evsePilot.take i ++ [s.pilots.get i s.core.iter] := by
        rw [List.take_add_one, List.take_set_of_le (le_refl i)]
        simp [hi]
      rw [htake, List.append_assoc]
      congr 1
      simp only [List.singleton_append, Nat.add_zero, List.cons.injEq, true_and]
      apply List.map_congr_left
      intro j _
      simp only [Function.comp]
      congr 1
      omega

theorem updatePilots_evse {s r : State K} (h : updatePilots cfg s = (r, none))
    (hl : s.evsePilot.length = cfg.stations.length) :
    r.evsePilot = (List.range cfg.stations.length).map (fun j => s.pilots.get j s.core.iter) := by
  have := updatePilotsFrom_evse (cfg := cfg) cfg.stations 0 s r h (by omega)
  simpa using this

end
end Acn.SimPerm
