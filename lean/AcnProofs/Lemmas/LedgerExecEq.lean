/-
  The executable specification sums that `drv_C02` evaluates (`LedgerExec.lean`) ARE the `Finset` sums of the
  theorems, over any linear ordered field.
-/
import AcnProofs.Lemmas.LedgerExec
import AcnProofs.Lemmas.LedgerInv

set_option linter.unusedSectionVars false

namespace Acn.LedgerX
open Acn Acn.Sim Acn.Ledger Finset

variable {K : Type} [Field K] [LinearOrder K] [IsStrictOrderedRing K] [HasExp K]

theorem sumRange_eq (n : Nat) (f : Nat → K) : sumRange n f = ∑ i ∈ range n, f i := by
  unfold sumRange
  induction n with
  | zero => simp
  | succ n ih => rw [List.range_succ, List.foldl_append, ih, Finset.sum_range_succ]; rfl

theorem energyX_eq (r V T : K) : energyX r V T = energy r V T := by
  simp [energyX, energy]

theorem sessionEnergyX_eq (cfg : Cfg K) (rates : Pilots.Mat K) (log : List (List (Option String)))
    (id : String) (t : Nat) : sessionEnergyX cfg rates log id t = sessionEnergy cfg rates log id t := by
  unfold sessionEnergyX sessionEnergy
  rw [sumRange_eq]
  apply Finset.sum_congr rfl
  intro τ _
  rw [sumRange_eq]
  apply Finset.sum_congr rfl
  intro i _
  simp only [term, energyX_eq]
  rfl

theorem aggCurrentX_eq (m : Pilots.Mat K) (n τ : Nat) : aggCurrentX m n τ = aggCurrent m n τ := by
  unfold aggCurrentX aggCurrent; exact sumRange_eq _ _

theorem peakX_eq (m : Pilots.Mat K) (n : Nat) : ∀ t, peakX m n t = peakUpTo m n t := by
  intro t
  unfold peakX
  induction t with
  | zero => rfl
  | succ t ih =>
    rw [List.range_succ, List.foldl_append, ih]
    simp [peakUpTo, aggCurrentX_eq]

theorem integralX_eq (cfg : Cfg K) (rates : Pilots.Mat K) (t : Nat) :
    integralX cfg rates t =
      ∑ τ ∈ range t, (∑ i ∈ range cfg.stations.length, volt cfg i * rates.get i τ / 1000) * (cfg.period / 60) := by
  unfold integralX
  rw [sumRange_eq]
  apply Finset.sum_congr rfl
  intro τ _
  rw [sumRange_eq]
  simp only [Nat.cast_ofNat]
  rfl

theorem intervalEnergyX_eq (cfg : Cfg K) (rates : Pilots.Mat K) (k : Nat) (a d : Int) (t : Nat) :
    intervalEnergyX cfg rates k a d t =
      ∑ τ ∈ range t, if a ≤ (τ : Int) ∧ (τ : Int) < d
        then rates.get k τ * volt cfg k / 1000 * (cfg.period / 60) else 0 := by
  unfold intervalEnergyX
  rw [sumRange_eq]
  apply Finset.sum_congr rfl
  intro τ _
  simp only [energyX_eq, energy]
  rfl

end Acn.LedgerX
