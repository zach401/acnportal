/-
  The crash point of a `while` loop.  Two bodies: `b`, and `bf`, which is `b` except that in period `k` it may raise
  instead (a scheduler that fails when entered in period `k`).  Then the loop over `bf` IS the loop over `b`, or it
  stops with the outcome of `bf` at a loop head `h` of period `k` through which the loop over `b` passes
  (`loop_crash`); the heads before `h` (`pre`, all of earlier periods) are common to both runs.  What a second run
  from the state the failed pass left does is then a question about ONE pass of `b` from `h`, not about the loop.
  What a caller wants to know at the crash point goes into the invariant `I`; what was collected before it is read
  off `pre`; neither needs a new induction.  (What the plain run satisfies at its end is `loopE_ends` of the plain
  body; it is no part of the crash point.)
-/
import AcnProofs.Lemmas.Steps

namespace Acn.Steps

variable {α ε : Type}

/-- `t` counts periods.  Off period `k` the failing body is the plain one; in period `k` it differs only by raising.
    A pass in which both agree and return keeps `I` and advances the clock. -/
structure FailsAt (g : α → Bool) (b bf : α → α × Option ε) (t : α → Nat) (k : Nat) (I : α → Prop) : Prop where
  off : ∀ a, t a ≠ k → bf a = b a
  fires : ∀ a, t a = k → bf a ≠ b a → (bf a).2 ≠ none
  pass : ∀ a a', I a → g a = true → bf a = b a → b a = (a', none) → I a' ∧ t a' = t a + 1

variable {g : α → Bool} {b bf : α → α × Option ε} {t : α → Nat} {k : Nat} {I : α → Prop}

theorem FailsAt.after (hf : FailsAt g b bf t k I) (n : Nat) (a : α) (hI : I a) (hk : k < t a) :
    ∀ x ∈ heads g b n a, bf x = b x := by
  have h := heads_inv (g := g) (body := b) (I := fun a => I a ∧ k < t a) (fun a a' h hg hb => by
    obtain ⟨h1, h2⟩ := hf.pass a a' h.1 hg (hf.off a (Nat.ne_of_gt h.2)) hb
    exact ⟨h1, h2 ▸ Nat.lt_succ_of_lt h.2⟩) n a ⟨hI, hk⟩
  exact fun x hx => hf.off x (Nat.ne_of_gt (h x hx).1.2)

/-- **the crash point**: with fuel `n` from a head of period `t a ≤ k`, the failure never fires — the bodies agree at
    every head the plain run passes, so the two runs are one (`loopE_congr_heads`) — or the run ends with the failing
    pass from a head `h` of period `k`, where the plain run has `m + 1 = n - (k - t a)` passes of fuel left; both
    runs have passed the heads `pre` before `h` -/
theorem loop_crash (hf : FailsAt g b bf t k I) (n : Nat) (a : α) :
    I a → t a ≤ k →
      (∀ x ∈ heads g b n a, bf x = b x) ∨
      ∃ h m pre, I h ∧ t h = k ∧ g h = true ∧ bf h ≠ b h ∧ m + 1 = n - (k - t a) ∧
        loopE g bf n a = bf h ∧ loopE g b n a = loopE g b (m + 1) h ∧
        heads g bf n a = pre ++ [h] ∧ heads g b n a = pre ++ heads g b (m + 1) h ∧ ∀ x ∈ pre, t x < k := by
  -- a pass in which the failure fires: this is period `k`, and the pass raises
  have fire : ∀ n a, I a → g a = true → bf a ≠ b a → t a ≤ k →
      ∃ h m pre, I h ∧ t h = k ∧ g h = true ∧ bf h ≠ b h ∧ m + 1 = n + 1 - (k - t a) ∧
        loopE g bf (n + 1) a = bf h ∧ loopE g b (n + 1) a = loopE g b (m + 1) h ∧
        heads g bf (n + 1) a = pre ++ [h] ∧ heads g b (n + 1) a = pre ++ heads g b (m + 1) h ∧
        ∀ x ∈ pre, t x < k := by
    intro n a hI hg he _
    have heq : t a = k := Classical.byContradiction fun h => he (hf.off a h)
    rcases hbf : bf a with ⟨a', _ | e⟩
    · exact absurd (by rw [hbf]) (hf.fires a heq he)
    · refine ⟨a, n, [], hI, heq, hg, he, by omega, ?_, rfl, heads_err n hg hbf, rfl,
        fun x hx => absurd hx List.not_mem_nil⟩
      rw [loopE_succ n hg, hbf]
      rfl
  fun_induction heads g b n a with
  | case1 a => exact fun _ _ => .inl fun x hx => absurd hx List.not_mem_nil
  | case2 n a hg a' hb ih =>
    intro hI hk
    by_cases he : bf a = b a
    · have hbf := he.trans hb
      obtain ⟨hI', ht⟩ := hf.pass a a' hI hg he hb
      have hcons : ∀ {l : List α}, (∀ x ∈ l, bf x = b x) → ∀ x ∈ a :: l, bf x = b x :=
        fun h x hx => (List.mem_cons.1 hx).elim (fun e => e ▸ he) (h x)
      rw [loopE_succ n hg, loopE_succ n hg, hbf, hb, heads_ok n hg hbf]
      rcases Nat.lt_or_eq_of_le hk with hlt | heq
      · rcases ih hI' (by omega) with h1 | ⟨h, m, pre, h1, h2, h3, h4, h5, h6, h7, h8, h9, h10⟩
        · exact .inl (hcons h1)
        · refine .inr ⟨h, m, a :: pre, h1, h2, h3, h4, by omega, h6, h7, congrArg _ h8, congrArg _ h9, ?_⟩
          exact fun x hx => (List.mem_cons.1 hx).elim (fun e => e ▸ hlt) (h10 x)
      · exact .inl (hcons (hf.after n a' hI' (by omega)))
    · have := fire n a hI hg he hk
      rw [heads_ok n hg hb] at this
      exact .inr this
  | case3 n a hg a' e hb =>
    intro hI hk
    by_cases he : bf a = b a
    · exact .inl fun x hx => List.mem_singleton.1 hx ▸ he
    · have := fire n a hI hg he hk
      rw [heads_err n hg hb] at this
      exact .inr this
  | case4 n a hg => exact fun _ _ => .inl fun x hx => absurd hx List.not_mem_nil

end Acn.Steps
