/-
  Helper lemmas for C06: `constraint_current` with `constraints=` / `time_indices=`:
  selecting rows and periods commutes with computing the aggregate currents.
-/
import AcnProofs.Lemmas.FeasSums

namespace Acn.Feas
open Acn

set_option linter.unusedSectionVars false

variable {K : Type} [Field K] [LinearOrder K] [IsStrictOrderedRing K]

theorem periods_selectCols (S : List (List K)) (ts : List Nat)
    (h : ∀ t ∈ ts, t < periods S) :
    periods (S.map fun row => ts.map fun t => row.getD t 0) = ts.length := by
  cases S with
  | nil =>
    cases ts with
    | nil => rfl
    | cons t ts => have := h t (by simp); simp [periods] at this
  | cons r S => simp [periods]

theorem col_selectCols (S : List (List K)) (ts : List Nat) (k : Nat) (hk : k < ts.length) :
    col (S.map fun row => ts.map fun t => row.getD t 0) k = col S ts[k] := by
  simp only [col, List.map_map]
  congr 1
  funext row
  simp [Function.comp, List.getD_eq_getElem?_getD, hk]

/-- **selection commutes with the computation**: the table returned for `constraints=names`,
    `time_indices=ts` consists of the entries `|Σ_j M_ij S_j,ts[k] e^{iφ_j}|²` for the selected rows
    `i` (matrix order) and the requested periods (request order, repeats allowed). -/
theorem constraintCurrentSq_select (cids : List String) (M : List (List K)) (c s : List K)
    (S : List (List K)) (names : Option (List String)) (ts : List Nat)
    (h : ∀ t ∈ ts, t < periods S) :
    constraintCurrentSq cids M c s S names (some ts)
      = .ok ((selectRows cids M names).map fun row => ts.map fun t => sqMag row c s (col S t)) := by
  have hall : ts.all (fun t => decide (t < periods S)) = true := by
    simpa [List.all_eq_true] using h
  simp only [constraintCurrentSq, selectCols, hall, if_true, periods_selectCols S ts h]
  congr 1
  apply List.map_congr_left
  intro row _
  apply List.ext_getElem
  · simp
  · intro k h1 h2
    have hk : k < ts.length := by simpa using h1
    simp only [List.getElem_map, List.getElem_range]
    rw [col_selectCols S ts k hk]

theorem constraintCurrentSq_oob (cids : List String) (M : List (List K)) (c s : List K)
    (S : List (List K)) (names : Option (List String)) (ts : List Nat)
    (h : ∃ t ∈ ts, periods S ≤ t) :
    constraintCurrentSq cids M c s S names (some ts) = .error .indexError := by
  have hall : ts.all (fun t => decide (t < periods S)) = false := by
    rw [List.all_eq_false]
    obtain ⟨t, ht, hle⟩ := h
    exact ⟨t, ht, by simpa using hle⟩
  simp [constraintCurrentSq, selectCols, hall]

theorem selectRows_all (cids : List String) (M : List (List K)) (h : cids.length = M.length) :
    selectRows cids M none = M := by
  simp only [selectRows]
  exact List.map_snd_zip (by omega)
end Acn.Feas
