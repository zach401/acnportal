/-
  The hypothesis `Lawful sh rd` ("the scalar parsers invert the renderings") is satisfiable — a rendering of ℚ and of
  rational matrices that is injective (through `Encodable`), the model's own fixed renderings of ints / nats / strings
  (`Int.repr`, `Nat.repr` are injective: Std), and their partial inverses (`invOf`).
-/
import AcnProofs.Lemmas.RegistryDecode
import Mathlib.Data.Rat.Encodable
import Std.Data.String.ToInt
namespace Acn.RegistrySim
open Acn

noncomputable def invOf {α : Type} (f : α → String) (t : String) : Option α :=
  open Classical in if h : ∃ a, t = f a then some (Classical.choose h) else none

theorem invOf_apply {α : Type} (f : α → String) (hf : Function.Injective f) (a : α) : invOf f (f a) = some a := by
  unfold invOf
  have h : ∃ b, f a = f b := ⟨a, rfl⟩
  rw [dif_pos h]
  exact congrArg some (hf (Classical.choose_spec h).symm)

noncomputable def exShow : Show ℚ :=
  { num := fun x => Nat.repr (Encodable.encode x),
    mat := fun m => Nat.repr (Encodable.encode (m.rows, m.width)) }

noncomputable def exRead : Read ℚ :=
  { num := invOf fun x => "f:" ++ exShow.num x,
    mat := invOf fun m => "m:" ++ exShow.mat m,
    int := invOf fun n : Int => "i:" ++ toString n,
    nat := invOf fun n : Nat => "i:" ++ toString n,
    str := invOf fun x : String => "s:" ++ x }

theorem exLawful : Lawful exShow exRead := by
  refine ⟨fun x => invOf_apply (fun x => "f:" ++ exShow.num x) ?_ x,
    fun m => invOf_apply (fun m => "m:" ++ exShow.mat m) ?_ m,
    fun n => invOf_apply (fun n : Int => "i:" ++ toString n) ?_ n,
    fun n => invOf_apply (fun n : Nat => "i:" ++ toString n) ?_ n,
    fun x => invOf_apply (fun x : String => "s:" ++ x) ?_ x, ?_⟩
  · intro a b h
    exact Encodable.encode_injective (Nat.repr_injective ((String.append_right_inj _).1 h))
  · intro a b h
    have := Encodable.encode_injective (Nat.repr_injective ((String.append_right_inj _).1 h))
    cases a; cases b; simp only [Prod.mk.injEq] at this; obtain ⟨rfl, rfl⟩ := this; rfl
  · intro a b h
    exact Int.repr_injective ((String.append_right_inj _).1 h)
  · intro a b h
    exact Nat.repr_injective ((String.append_right_inj _).1 h)
  · intro a b h
    exact (String.append_right_inj _).1 h
  · show invOf (fun n : Int => "i:" ++ toString n) "null" = none
    unfold invOf
    rw [dif_neg]
    rintro ⟨n, hn⟩
    have := congrArg String.toList hn
    simp [String.toList_append] at this
end Acn.RegistrySim
