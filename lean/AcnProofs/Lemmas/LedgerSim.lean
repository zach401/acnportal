/-
  What one `update_pilots` pass (charging_network.py:403-428) does to the EVs of the full simulator
  model `Acn.Sim`: EV lookup through `replaceEv`, and the station loop.  `Served` names the outcome of
  the loop — the `EV.charge` calls that were made: every connected EV once, by its own station, with
  that station's pilot and voltage; every other EV left alone.  An invariant of the loop is then a fact
  about ONE `EV.charge` call, put through `Served.served` (by session id) or `Served.forall` (by
  membership).
-/
import AcnModel.Sim
import AcnProofs.Lemmas.LedgerBattery
import AcnProofs.Lemmas.EventCoreSim
import AcnProofs.Lemmas.SimStages

set_option linter.unusedSectionVars false

namespace Acn.Ledger
open Acn Acn.Sim Acn.EventCore Acn.Evse

variable {K : Type} [Field K] [LinearOrder K] [IsStrictOrderedRing K] [HasExp K]

/-- lookup of an EV by session id in a list of EVs (what `Sim.evOf` does on `s.evs`) -/
def evIn (evs : List (Ev K)) (id : String) : Option (Ev K) := evs.find? (fun e => e.session == id)

theorem evOf_eq (s : State K) (id : String) : evOf s id = evIn s.evs id := rfl

theorem evIn_session {evs : List (Ev K)} {id : String} {e : Ev K} (h : evIn evs id = some e) :
    e.session = id := by
  have := List.find?_some h
  simpa using this

theorem evIn_replace_same (evs : List (Ev K)) (e1 : Ev K) :
    evIn (replaceEv evs e1) e1.session = (evIn evs e1.session).map (fun _ => e1) := by
  induction evs with
  | nil => simp [evIn, replaceEv]
  | cons d ds ih =>
    unfold evIn replaceEv at *
    by_cases hd : d.session = e1.session
    · simp [hd]
    · have hd' : (d.session == e1.session) = false := by simpa using hd
      simp only [List.map_cons, hd', List.find?_cons, Bool.false_eq_true, if_false]
      exact ih

theorem evIn_replace_other (evs : List (Ev K)) (e1 : Ev K) (id : String) (h : id ≠ e1.session) :
    evIn (replaceEv evs e1) id = evIn evs id := by
  induction evs with
  | nil => simp [evIn, replaceEv]
  | cons d ds ih =>
    unfold evIn replaceEv at *
    by_cases hd : d.session = e1.session
    · have h1 : (e1.session == id) = false := by simpa using fun h' => h h'.symm
      simp only [List.map_cons, hd, beq_self_eq_true, if_true, List.find?_cons, h1]
      exact ih
    · have hd' : (d.session == e1.session) = false := by simpa using hd
      simp only [List.map_cons, hd', List.find?_cons, Bool.false_eq_true, if_false]
      rw [ih]

theorem replaceEv_sessions (evs : List (Ev K)) (e1 : Ev K) :
    (replaceEv evs e1).map (·.session) = evs.map (·.session) := by
  induction evs with
  | nil => simp [replaceEv]
  | cons d ds ih =>
    unfold replaceEv at *
    simp only [List.map_cons, List.cons.injEq]
    refine ⟨?_, ih⟩
    by_cases hd : d.session = e1.session
    · simp [hd]
    · have hd' : (d.session == e1.session) = false := by simpa using hd
      simp [hd']

/-- occupant session id of a station, as the occupancy snapshot records it -/
def occId (occ : String → Option Session) (st : Station K) : Option String := (occ st.id).map (·.id)

def DistinctOcc (occ : String → Option Session) (sts : List (Station K)) : Prop :=
  sts.Pairwise (fun a b => ∀ x y, occ a.id = some x → occ b.id = some y → x.id ≠ y.id)

theorem occupantEv_eq (s : State K) (st : String) :
    occupantEv s st = match s.core.occ st with
      | some x => evIn s.evs x.id
      | none => none := rfl

theorem occId_eq_some {occ : String → Option Session} {st : Station K} {id : String} :
    occId occ st = some id ↔ ∃ x, occ st.id = some x ∧ x.id = id := by
  simp [occId]

theorem occupantEv_some {s : State K} {st : String} {e : Ev K} (h : occupantEv s st = some e) :
    ∃ x, s.core.occ st = some x ∧ evIn s.evs x.id = some e := by
  rw [occupantEv_eq] at h
  cases hx : s.core.occ st with
  | none => simp [hx] at h
  | some x => exact ⟨x, rfl, by simpa only [hx] using h⟩

theorem occupantEv_session {s : State K} {st : String} {e : Ev K} (h : occupantEv s st = some e) :
    ∃ x, s.core.occ st = some x ∧ e.session = x.id :=
  let ⟨x, hx, he⟩ := occupantEv_some h
  ⟨x, hx, evIn_session he⟩

/-- `evs'` is `evs` after the stations `rest` (numbers `i, i+1, …`) have each called `EV.charge` once on
    their occupant, with the pilot `pil` holds for them -/
structure Served (cfg : Cfg K) (occ : String → Option Session) (pil : Nat → K) (i : Nat)
    (rest : List (Station K)) (evs evs' : List (Ev K)) : Prop where
  ids : evs'.map (·.session) = evs.map (·.session)
  mem : ∀ d ∈ evs', d ∈ evs ∨ ∃ e j st x ν, rest[j]? = some st ∧ occ st.id = some x ∧
    evIn evs x.id = some e ∧ e.charge (pil (i + j)) st.voltage cfg.period ν = .ok d
  other : ∀ id, (∀ st ∈ rest, occId occ st ≠ some id) → evIn evs' id = evIn evs id
  served : ∀ j st x e, rest[j]? = some st → occ st.id = some x → evIn evs x.id = some e →
    ∃ e' ν, e.charge (pil (i + j)) st.voltage cfg.period ν = .ok e' ∧ evIn evs' x.id = some e'

section served
variable {cfg : Cfg K} {occ : String → Option Session} {pil : Nat → K} {i : Nat} {st : Station K}
  {rest : List (Station K)} {evs evs' : List (Ev K)}

theorem Served.nil (cfg : Cfg K) (occ : String → Option Session) (pil : Nat → K) (i : Nat)
    (evs : List (Ev K)) : Served cfg occ pil i [] evs evs :=
  ⟨rfl, fun _ h => Or.inl h, fun _ _ => rfl, fun _ _ _ _ hj => nomatch hj⟩

theorem Served.cons_vacant (hv : ∀ x, occ st.id = some x → evIn evs x.id = none)
    (h : Served cfg occ pil (i + 1) rest evs evs') : Served cfg occ pil i (st :: rest) evs evs' := by
  have hidx : ∀ j, i + 1 + j = i + (j + 1) := fun j => by omega
  refine ⟨h.ids, fun d hd => ?_, fun id hid => h.other id fun st' h' => hid st' (List.mem_cons_of_mem _ h'), ?_⟩
  · rcases h.mem d hd with hm | ⟨e, j, st', x, ν, hj, hx, he, hch⟩
    · exact Or.inl hm
    · exact Or.inr ⟨e, j + 1, st', x, ν, List.getElem?_cons_succ.trans hj, hx, he, hidx j ▸ hch⟩
  · intro j st0 x e hj hx hex
    cases j with
    | zero =>
      obtain rfl : st = st0 := Option.some.inj (List.getElem?_cons_zero.symm.trans hj)
      rw [hv x hx] at hex
      cases hex
    | succ j => exact hidx j ▸ h.served j st0 x e (List.getElem?_cons_succ.symm.trans hj) hx hex

theorem Served.cons_charged {x0 : Session} {e0 e1 : Ev K} {ν : K}
    (hd : ∀ st' ∈ rest, ∀ y, occ st'.id = some y → x0.id ≠ y.id)
    (hx0 : occ st.id = some x0) (ho0 : evIn evs x0.id = some e0)
    (hc : e0.charge (pil i) st.voltage cfg.period ν = .ok e1)
    (h : Served cfg occ pil (i + 1) rest (replaceEv evs e1) evs') :
    Served cfg occ pil i (st :: rest) evs evs' := by
  have hidx : ∀ j, i + 1 + j = i + (j + 1) := fun j => by omega
  have hs1 : e1.session = x0.id := (ev_charge_ledger hc).2.2.1.trans (evIn_session ho0)
  refine ⟨h.ids.trans (replaceEv_sessions _ _), fun d hd' => ?_, fun id hid => ?_, ?_⟩
  · rcases h.mem d hd' with hm | ⟨e, j, st', x, ν', hj, hx, he, hch⟩
    · rcases mem_replaceEv hm with rfl | hm
      · exact Or.inr ⟨e0, 0, st, x0, ν, List.getElem?_cons_zero, hx0, ho0, hc⟩
      · exact Or.inl hm
    · -- a later station looks its occupant up in the list `st` has written to: another session's record
      have hne : x.id ≠ e1.session := fun heq =>
        hd st' (List.mem_of_getElem? hj) x hx (hs1.symm.trans heq.symm)
      rw [evIn_replace_other _ _ _ hne] at he
      exact Or.inr ⟨e, j + 1, st', x, ν', List.getElem?_cons_succ.trans hj, hx, he, hidx j ▸ hch⟩
  · rw [h.other id fun st' h' => hid st' (List.mem_cons_of_mem _ h')]
    refine evIn_replace_other _ _ _ fun heq => hid st List.mem_cons_self ?_
    exact occId_eq_some.2 ⟨x0, hx0, (heq.trans hs1).symm⟩
  · intro j st0 x e hj hx hex
    cases j with
    | zero =>
      obtain rfl : st = st0 := Option.some.inj (List.getElem?_cons_zero.symm.trans hj)
      obtain rfl : x0 = x := Option.some.inj (hx0.symm.trans hx)
      obtain rfl : e0 = e := Option.some.inj (ho0.symm.trans hex)
      refine ⟨e1, ν, hc, ?_⟩
      rw [h.other x0.id fun st' h' hcon => ?_, ← hs1, evIn_replace_same, hs1, ho0]
      · rfl
      · obtain ⟨y, hy, hyx⟩ := occId_eq_some.1 hcon
        exact hd st' h' y hy hyx.symm
    | succ j =>
      have hj' : rest[j]? = some st0 := List.getElem?_cons_succ.symm.trans hj
      have hne : x.id ≠ e1.session := fun heq => hd st0 (List.mem_of_getElem? hj') x hx (hs1.symm.trans heq.symm)
      exact hidx j ▸ h.served j st0 x e hj' hx ((evIn_replace_other _ _ _ hne).trans hex)

theorem Served.forall (h : Served cfg occ pil i rest evs evs') {P : Ev K → Prop} (hP : ∀ e ∈ evs, P e)
    (hc : ∀ e d j st x ν, rest[j]? = some st → occ st.id = some x → evIn evs x.id = some e →
      e.charge (pil (i + j)) st.voltage cfg.period ν = .ok d → P e → P d) : ∀ d ∈ evs', P d := by
  intro d hd
  rcases h.mem d hd with hm | ⟨e, j, st, x, ν, hj, hx, he, hch⟩
  · exact hP d hm
  · exact hc e d j st x ν hj hx he hch (hP e (List.mem_of_find?_eq_some he))

end served

/-- The station loop of `update_pilots`, whatever its outcome: the first `k` stations have been served —
    all of them if it returned, those before the one whose `set_pilot` raised otherwise (a raising
    `set_pilot` writes nothing). -/
theorem updatePilotsFrom_served (cfg : Cfg K) : ∀ (rest : List (Station K)) (i : Nat) (s s' : State K)
    (err : Option EventCore.Err), updatePilotsFrom cfg i rest s = (s', err) → DistinctOcc s.core.occ rest →
    ∃ k, (err = none → k = rest.length) ∧
      Served cfg s.core.occ (fun j => s.pilots.get j s.core.iter) i (rest.take k) s.evs s'.evs := by
  intro rest
  induction rest with
  | nil =>
    intro i s s' err h _
    cases h
    exact ⟨0, fun _ => rfl, Served.nil ..⟩
  | cons st rest ih =>
    intro i s s' err h hd
    obtain ⟨hd1, hd2⟩ := List.pairwise_cons.1 hd
    rw [updatePilotsFrom_cons] at h
    rcases h1 : setPilotAt cfg s i st with ⟨s1, e1⟩
    rw [h1] at h
    cases SetPilot.of_eq h1 with
    | invalid _ => cases h; exact ⟨0, (fun h0 => nomatch h0), Served.nil ..⟩
    | chargeRaise _ _ _ => cases h; exact ⟨0, (fun h0 => nomatch h0), Served.nil ..⟩
    | vacant _ ho =>
      obtain ⟨k, hk, hS⟩ := ih (i + 1) _ s' err h hd2
      refine ⟨k + 1, fun he => congrArg (· + 1) (hk he), hS.cons_vacant fun x hx => ?_⟩
      rwa [occupantEv_eq, hx] at ho
    | charged _ ho hc =>
      obtain ⟨x0, hx0, ho0⟩ := occupantEv_some ho
      obtain ⟨k, hk, hS⟩ := ih (i + 1) _ s' err h hd2
      exact ⟨k + 1, fun he => congrArg (· + 1) (hk he),
        hS.cons_charged (fun st' h' y hy => hd1 st' (List.mem_of_mem_take h') x0 y hx0 hy) hx0 ho0 hc⟩

theorem updatePilotsFrom_served_ok {cfg : Cfg K} {rest : List (Station K)} {i : Nat} {s s' : State K}
    (h : updatePilotsFrom cfg i rest s = (s', none)) (hd : DistinctOcc s.core.occ rest) :
    Served cfg s.core.occ (fun j => s.pilots.get j s.core.iter) i rest s.evs s'.evs := by
  obtain ⟨k, hk, hS⟩ := updatePilotsFrom_served cfg rest i s s' none h hd
  rwa [hk rfl, List.take_length] at hS

end Acn.Ledger
