/-
  Helper lemmas for C10 (Sim level, stations, RAISING runs): `update_pilots` and the pilot application
  stage, two-sided.
  When the station loop of `network.update_pilots` raises, the stations BEFORE the offender have
  already charged — and "before" is the registration order.  What is nevertheless order-independent:
    * the loop raises in one registration order iff it raises in every other (`updList_reorder`: a loop
      that succeeds in one order succeeds in all);
    * it raises an error of `EVSE.set_pilot` (`InvalidRateError`, or the `ValueError` of a charge) —
      WHICH of the two can depend on the order when two stations offend differently;
    * it writes nothing but `EVSE.current_pilot`, EV records and the draw counter: the core, the pilot
      and rate matrices, the peak and the occupancy log at the abort are related as ever (`AbortEquiv`).
  Every other raise of the pilot application stage (`IndexError`s) is deterministic and leaves fully
  related states (`StEquiv`).  `AbX σ` is the relation between two aborts that says both; the stages of the pilot
  application end alike in this sense (`widenStage_st`, `updatePilots_out`, `storeStage_st`, `finishStage_st`).
-/
import AcnProofs.Lemmas.EquivSimDict
import AcnProofs.Lemmas.EventCoreSimFail

set_option linter.unusedSectionVars false

namespace Acn.SimEquiv
open Acn.Sim Acn.EventCore Acn.Evse Acn.Ledger Acn.Steps

variable {K : Type} [Field K] [LinearOrder K] [IsStrictOrderedRing K] [HasExp K]

/-- what stays related when `update_pilots` has raised: everything it does not write -/
structure AbortEquiv (σ : List Nat) (s s' : State K) : Prop where
  core : s'.core = s.core
  pilots : s'.pilots = s.pilots.reidx σ
  rates : s'.rates = s.rates.reidx σ
  peak : s'.peak = s.peak
  occLog : s'.occLog = s.occLog.map (fun row => reidx σ row none)

theorem StEquiv.toAbort {σ : List Nat} {s s' : State K} (h : StEquiv σ s s') : AbortEquiv σ s s' :=
  ⟨h.core, h.pilots, h.rates, h.peak, h.occLog⟩

/-- two aborts: the same error in fully related states, or two errors of `EVSE.set_pilot` (which of two offending
    stations is met first depends on the registration order) in states related on what `update_pilots` does not
    write -/
def AbX (σ : List Nat) (a : State K) (e : EventCore.Err) (b : State K) (e' : EventCore.Err) : Prop :=
  (e = e' ∧ StEquiv σ a b) ∨ (IsPilotErr e ∧ IsPilotErr e' ∧ AbortEquiv σ a b)

theorem _root_.Acn.Steps.Out.toAbX {σ : List Nat} {M : State K → State K → Prop} {x y : State K × Option EventCore.Err}
    (h : Out M (sep (StEquiv σ) Eq) x y) : Out M (AbX σ) x y :=
  h.mono (fun _ _ h => h) fun _ _ _ _ h => .inl h

section
variable {σ : List Nat} {d : Station K} {cfg : Cfg K}

theorem abort_of_frames {s a b c : State K} (ha : PilotsFrame s a) (hb : PilotsFrame s b) (he : StEquiv σ b c) :
    AbortEquiv σ a c :=
  ⟨by rw [he.core, hb.core, ha.core], by rw [he.pilots, hb.pilots, ha.pilots], by rw [he.rates, hb.rates, ha.rates],
    by rw [he.peak, hb.peak, ha.peak], by rw [he.occLog, hb.occLog, ha.occLog]⟩

/-- `update_pilots` in the two registration orders: the loop in registration order against the loop of the same
    scenario over `σ` (a reordering: `updList_reorder`) against the loop of the permuted scenario (a relabelling,
    step for step: `updList_sim`) -/
theorem updatePilots_out (h : PermOK σ cfg) {s s' : State K} (hi : StI σ cfg s s') :
    Out (StI σ cfg) (AbX σ) (updatePilots cfg s) (updatePilots (permCfg σ d cfg) s') := by
  obtain ⟨he, hs, ho⟩ := hi
  obtain ⟨hperm, hpw⟩ := sigma_listing (d := d) h ho
  have h1 := updList_reorder cfg h.noise hperm hpw
  have h2 := updList_sim (d := d) h he hs
  rw [← updatePilots_permCfg] at h2
  rw [← updatePilotsFrom_eq cfg d] at h1
  refine (h1.trans h2).mono (fun a c ⟨b, ⟨hab, hf⟩, hbc⟩ => ?_) fun a e c e'' ⟨b, e', ⟨⟨p1, f1⟩, p2, f2⟩, hee, hbc⟩ => ?_
  · subst hab
    exact ⟨hbc.1, hbc.2, by rw [hf.core]; exact ho⟩
  · exact .inr ⟨p1, hee ▸ p2, abort_of_frames f1 f2 hbc⟩

theorem widenStage_st (h : PermOK σ cfg) {s s' : State K} (hi : StI σ cfg s s') :
    Out (StI σ cfg) (AbX σ) (widenStage s) (widenStage s') := by
  obtain ⟨he, hs, ho⟩ := hi
  have hlt := perm_lt h.perm
  have hwi : widthInc s' = widthInc s := by simp only [widthInc, he.core]
  have he1 : StEquiv σ (widen s) (widen s') := by
    refine ⟨he.core, ?_, ?_, he.peak, he.evs, he.evsePilot, he.noiseIdx, he.occLog⟩
    · simp only [widen, hwi, he.pilots]
      exact Pilots.increaseWidth_reidx σ s.pilots _ (fun i hi => hs.pilots ▸ hlt i hi)
    · simp only [widen, hwi, he.rates]
      exact Pilots.increaseWidth_reidx σ s.rates _ (fun i hi => hs.rates ▸ hlt i hi)
  have hw : (widen s').pilots.width = (widen s).pilots.width := by rw [he1.pilots]; rfl
  unfold widenStage
  rw [hw, he.core]
  split
  · exact .err (.inl ⟨rfl, he1⟩)
  · exact .ok ⟨he1, shape_widen hs, ho⟩

theorem storeStage_st (h : PermOK σ cfg) {s s' : State K} (hi : StI σ cfg s s') :
    Out (StI σ cfg) (AbX σ) (storeStage cfg s) (storeStage (permCfg σ d cfg) s') := by
  obtain ⟨he, hs, ho⟩ := hi
  have hwi : widthInc s' = widthInc s := by simp only [widthInc, he.core]
  unfold storeStage
  rw [hwi]
  exact ((storeRates_equiv (d := d) h (widthInc s) he hs).inv
    (P := fun a => Shape cfg.stations.length a ∧ OccSound cfg.core a.core.occ)
    fun _ => ⟨shape_storeRates hs _, by rw [storeRates_core]; exact ho⟩).toAbX

theorem finishStage_st (h : PermOK σ cfg) {s s' : State K} (hi : StI σ cfg s s') :
    StI σ cfg (finishStage cfg s) (finishStage (permCfg σ d cfg) s') := by
  obtain ⟨he, hs, ho⟩ := hi
  refine ⟨⟨by simp only [finishStage, he.core], he.pilots, he.rates, he.peak, he.evs, he.evsePilot, he.noiseIdx, ?_⟩,
    ⟨hs.pilots, hs.rates, hs.evsePilot⟩, ho⟩
  simp only [finishStage, he.occLog, he.core, List.map_append, List.map_cons, List.map_nil]
  congr 2
  exact (reidx_map _ σ cfg.stations d none (perm_lt h.perm)).symm

end
end Acn.SimEquiv
