/-
  The model of `decimal.Decimal` rounding (`roundQ`, `Dec.add`, `Dec.div`) is correct to half a unit in the last place,
  and the last place of a result is bounded by the digit counts of the operands.  The same half unit for `timedelta`,
  which rounds to a whole number of microseconds (`roundHalfEvenQ`).
-/
import AcnModel.Tariff
import Mathlib.Tactic
import AcnModel.TariffPeriod
import Mathlib.Data.Rat.Floor

namespace Acn.C17
open Acn.Tariff

@[simp] theorem force_eq {α : Type} (n : Nat) (f : Nat → α) : force n f = f n := by
  cases n <;> rfl

theorem toRat_zpow (d : Dec) : d.toRat = (d.c : ℚ) * (10 : ℚ) ^ d.e := by
  unfold Dec.toRat
  by_cases h : 0 ≤ d.e
  · rw [if_pos h]
    obtain ⟨n, hn⟩ := Int.eq_ofNat_of_zero_le h
    rw [hn]; simp
  · rw [if_neg h]
    rw [not_le] at h
    obtain ⟨n, hn⟩ := Int.exists_eq_neg_ofNat (le_of_lt h)
    rw [hn]; simp [div_eq_mul_inv]

/-- this and `round_up_err` are all a half-even rule needs (`halfEven`, `roundHalfEvenQ`) -/
theorem round_down_err {f r d : ℚ} (hr : 0 ≤ r) (hd : 0 < d) (h : 2 * r ≤ d) :
    |f - (f + r / d)| ≤ 1 / 2 := by
  have h1 : r / d ≤ 1 / 2 := by rw [div_le_iff₀ hd]; linarith
  have h0 : 0 ≤ r / d := div_nonneg hr hd.le
  rw [abs_le]; constructor <;> linarith

theorem round_up_err {f r d : ℚ} (hr : r ≤ d) (hd : 0 < d) (h : d ≤ 2 * r) :
    |f + 1 - (f + r / d)| ≤ 1 / 2 := by
  have h1 : 1 / 2 ≤ r / d := by rw [le_div_iff₀ hd]; linarith
  have h0 : r / d ≤ 1 := (div_le_one hd).mpr hr
  rw [abs_le]; constructor <;> linarith

theorem halfEven_err (num den : Nat) (hden : 0 < den) :
    |((halfEven num den : Nat) : ℚ) - (num : ℚ) / den| ≤ 1 / 2 := by
  have hd : (0 : ℚ) < den := by exact_mod_cast hden
  have hr : ((num % den : Nat) : ℚ) ≤ den := by exact_mod_cast (Nat.mod_lt num hden).le
  have hq : (num : ℚ) / den = ((num / den : Nat) : ℚ) + ((num % den : Nat) : ℚ) / den := by
    rw [div_eq_iff hd.ne', add_mul, div_mul_cancel₀ _ hd.ne']
    exact_mod_cast (Nat.div_add_mod' num den).symm
  simp only [halfEven, force_eq]
  rw [hq]
  split_ifs with h1 h2 h3
  · push_cast; exact round_up_err hr hd (by exact_mod_cast h1.le)
  · push_cast; exact round_up_err hr hd (by exact_mod_cast h2.symm.le)
  · exact round_down_err (by positivity) hd (by exact_mod_cast h2.le)
  · exact round_down_err (by positivity) hd (by exact_mod_cast not_lt.mp h1)

theorem abs_sub_mul_le {a b r s : ℚ} (hs : 0 < s) (h : |a - b| ≤ r) : |a * s - b * s| ≤ r * s := by
  rw [← sub_mul, abs_mul, abs_of_pos hs]
  exact mul_le_mul_of_nonneg_right h hs.le

/-- half-ulp bound once the exponent is decided, whatever the digit counts say -/
theorem roundQ2_err (p num den da db g : Nat) (hden : 0 < den) :
    |(roundQ2 p num den da db g).toRat - (num : ℚ) / den| ≤
      1 / 2 * (10 : ℚ) ^ (roundQ2 p num den da db g).e := by
  unfold roundQ2
  simp only [force_eq]
  split_ifs with h
  · have hh := halfEven_err num (den * 10 ^ (da + g - (db + p))) (by positivity)
    rw [Nat.cast_mul, Nat.cast_pow, Nat.cast_ofNat, ← div_div] at hh
    have := abs_sub_mul_le (s := 10 ^ (da + g - (db + p))) (by positivity) hh
    rw [div_mul_cancel₀ _ (by positivity)] at this
    rw [toRat_zpow]
    simpa only [zpow_natCast] using this
  · have hh := halfEven_err (num * 10 ^ (db + p - (da + g))) den hden
    rw [Nat.cast_mul, Nat.cast_pow, Nat.cast_ofNat, mul_div_right_comm] at hh
    have := abs_sub_mul_le (s := (10 ^ (db + p - (da + g)))⁻¹) (by positivity) hh
    rw [mul_inv_cancel_right₀ (by positivity)] at this
    rw [toRat_zpow]
    simpa only [zpow_neg, zpow_natCast] using this

theorem roundQ2_exp (p num den da db g : Nat) :
    (roundQ2 p num den da db g).e = (da : ℤ) + g - db - p := by
  unfold roundQ2
  simp only [force_eq]
  split_ifs with h <;> simp <;> omega

theorem roundQ_err (p num den : Nat) (hden : 0 < den) :
    |(roundQ p num den).toRat - (num : ℚ) / den| ≤ 1 / 2 * (10 : ℚ) ^ (roundQ p num den).e := by
  by_cases h : num = 0
  · subst h; simp [roundQ, Dec.toRat]
  · simp only [roundQ, roundQ1, force_eq, if_neg h]
    exact roundQ2_err _ _ _ _ _ _ hden

theorem roundQ_exp_le (p num den : Nat) (h : num ≠ 0) :
    (roundQ p num den).e ≤ (ndigits num : ℤ) - ndigits den - p + 1 := by
  simp only [roundQ, roundQ1, force_eq, if_neg h, roundQ2_exp]
  split_ifs <;> simp <;> omega

theorem roundQ_zero (p den : Nat) : roundQ p 0 den = ⟨0, 0⟩ := by simp [roundQ]

theorem ndStep_inv (N k : Nat) (q : Nat × Nat) (h1 : 1 ≤ q.1) (h2 : q.1 * 10 ^ q.2 ≤ N) :
    1 ≤ (ndStep k q).1 ∧ (ndStep k q).1 * 10 ^ (ndStep k q).2 ≤ N := by
  obtain ⟨n, acc⟩ := q
  simp only [ndStep, force_eq]
  split_ifs with h
  · refine ⟨Nat.div_pos h (by positivity), ?_⟩
    calc n / 10 ^ k * 10 ^ (acc + k) = (n / 10 ^ k * 10 ^ k) * 10 ^ acc := by ring
      _ ≤ n * 10 ^ acc := Nat.mul_le_mul_right _ (Nat.div_mul_le_self n (10 ^ k))
      _ ≤ N := h2
  · exact ⟨h1, h2⟩

theorem ndigitsAux_le : ∀ (fuel n acc K : Nat), n < 10 ^ K → ndigitsAux fuel n acc ≤ acc + K := by
  intro fuel
  induction fuel with
  | zero => intro n acc K _; exact Nat.le_add_right _ _
  | succ f ih =>
    intro n acc K h
    cases n with
    | zero => exact Nat.le_add_right _ _
    | succ n' =>
      cases K with
      | zero => omega
      | succ K' =>
        have := ih ((n' + 1) / 10) (acc + 1) K'
          (by rw [Nat.div_lt_iff_lt_mul (by norm_num)]; rw [pow_succ] at h; exact h)
        simp only [ndigitsAux]; omega

theorem ndigits_le_of_lt (n K : Nat) (h : n < 10 ^ K) : ndigits n ≤ K := by
  cases n with
  | zero => simp [ndigits]
  | succ n' =>
    simp only [ndigits, force_eq]
    split_ifs with hbig
    · simpa [ndigitsSlow] using ndigitsAux_le (n' + 1) (n' + 1) 0 K h
    have i0 : 1 ≤ ((n' + 1, 0) : Nat × Nat).1 ∧
        ((n' + 1, 0) : Nat × Nat).1 * 10 ^ ((n' + 1, 0) : Nat × Nat).2 ≤ n' + 1 := by simp
    have i1 := ndStep_inv (n' + 1) 64 _ i0.1 i0.2
    have i2 := ndStep_inv (n' + 1) 32 _ i1.1 i1.2
    have i3 := ndStep_inv (n' + 1) 16 _ i2.1 i2.2
    have i4 := ndStep_inv (n' + 1) 8 _ i3.1 i3.2
    have i5 := ndStep_inv (n' + 1) 4 _ i4.1 i4.2
    have i6 := ndStep_inv (n' + 1) 2 _ i5.1 i5.2
    have i7 := ndStep_inv (n' + 1) 1 _ i6.1 i6.2
    set q := ndStep 1 (ndStep 2 (ndStep 4 (ndStep 8 (ndStep 16 (ndStep 32 (ndStep 64 (n' + 1, 0)))))))
    have : 10 ^ q.2 ≤ q.1 * 10 ^ q.2 := Nat.le_mul_of_pos_left _ i7.1
    have : 10 ^ q.2 < 10 ^ K := lt_of_le_of_lt (le_trans this i7.2) h
    have := (Nat.pow_lt_pow_iff_right (by norm_num : 1 < 10)).mp this
    omega

def addMin (x y : Dec) : ℤ := if x.e ≤ y.e then x.e else y.e

/-- exact sum as an integer multiple of `10^addMin` -/
def addCoef (x y : Dec) : ℕ :=
  x.c * 10 ^ (x.e - addMin x y).toNat + y.c * 10 ^ (y.e - addMin x y).toNat

theorem addMin_le (x y : Dec) : addMin x y ≤ x.e ∧ addMin x y ≤ y.e := by
  unfold addMin; split_ifs <;> omega

theorem add_eq (x y : Dec) :
    Dec.add x y = ⟨(roundQ decPrec (addCoef x y) 1).c, (roundQ decPrec (addCoef x y) 1).e + addMin x y⟩ := by
  obtain ⟨xc, xe⟩ := x
  obtain ⟨yc, ye⟩ := y
  simp only [Dec.add, addCoef, addMin]

theorem addCoef_val (x y : Dec) :
    (addCoef x y : ℚ) * (10 : ℚ) ^ addMin x y = x.toRat + y.toRat := by
  have hx : 0 ≤ x.e - addMin x y := by have := (addMin_le x y).1; omega
  have hy : 0 ≤ y.e - addMin x y := by have := (addMin_le x y).2; omega
  have h10 : (10 : ℚ) ≠ 0 := by norm_num
  rw [toRat_zpow, toRat_zpow]
  unfold addCoef
  push_cast
  rw [add_mul, mul_assoc, mul_assoc, ← zpow_natCast, ← zpow_natCast, Int.toNat_of_nonneg hx,
    Int.toNat_of_nonneg hy, ← zpow_add₀ h10, ← zpow_add₀ h10]
  simp

theorem add_err (x y : Dec) :
    |(Dec.add x y).toRat - (x.toRat + y.toRat)| ≤
      1 / 2 * (10 : ℚ) ^ ((roundQ decPrec (addCoef x y) 1).e + addMin x y) := by
  have hr := roundQ_err decPrec (addCoef x y) 1 (by norm_num)
  rw [toRat_zpow, Nat.cast_one, div_one] at hr
  have := abs_sub_mul_le (s := (10 : ℚ) ^ addMin x y) (by positivity) hr
  rw [add_eq, ← addCoef_val, toRat_zpow, zpow_add₀ (by norm_num), ← mul_assoc, ← mul_assoc]
  exact this

/-- the coefficient of the sum, read at the smaller of the two exponents, has at most `E − addMin` digits, and 28
    (`decPrec`) of them are kept -/
theorem add_exp_le (x y : Dec) (E : ℤ) (hpos : 0 < x.toRat + y.toRat) (hlt : x.toRat + y.toRat < 10 ^ E) :
    (Dec.add x y).e ≤ E - decPrec := by
  have hval := addCoef_val x y
  have hS : addCoef x y ≠ 0 := by
    intro h0
    rw [h0, Nat.cast_zero, zero_mul] at hval
    exact hpos.ne hval
  -- the coefficient is a positive natural, so the sum is at least one unit of the common exponent
  have hm : addMin x y < E := by
    refine (zpow_lt_zpow_iff_right₀ (by norm_num : (1 : ℚ) < 10)).1 (lt_of_le_of_lt ?_ hlt)
    rw [← hval]
    exact le_mul_of_one_le_left (by positivity) (by exact_mod_cast Nat.one_le_iff_ne_zero.2 hS)
  obtain ⟨K, hK⟩ := Int.eq_ofNat_of_zero_le (show 0 ≤ E - addMin x y by omega)
  have hSlt : addCoef x y < 10 ^ K := by
    have : (addCoef x y : ℚ) < ((10 ^ K : ℕ) : ℚ) := by
      rw [Nat.cast_pow, Nat.cast_ofNat, ← zpow_natCast, ← hK, zpow_sub₀ (by norm_num),
        lt_div_iff₀ (by positivity), hval]
      exact hlt
    exact_mod_cast this
  have hnd : ((ndigits (addCoef x y) : ℕ) : ℤ) ≤ K := by
    exact_mod_cast ndigits_le_of_lt (addCoef x y) K hSlt
  have hexp := roundQ_exp_le decPrec (addCoef x y) 1 hS
  rw [show ndigits 1 = 1 by decide] at hexp
  rw [add_eq]
  simp only
  omega

theorem add_close (x y : Dec) (E : ℤ) (hpos : 0 < x.toRat + y.toRat) (hlt : x.toRat + y.toRat < 10 ^ E) :
    |(Dec.add x y).toRat - (x.toRat + y.toRat)| ≤ 1 / 2 * (10 : ℚ) ^ (E - decPrec) := by
  refine le_trans (add_err x y) (mul_le_mul_of_nonneg_left (zpow_le_zpow_right₀ (by norm_num) ?_) (by norm_num))
  have := add_exp_le x y E hpos hlt
  rwa [add_eq] at this

/-- `hpos`, `hlt`: `a + b` lies further than `εx + εy` inside `(0, 10^E)`, so that the exact sum of the operands lies
    inside it, as `add_close` asks -/
theorem add_approx (x y : Dec) (E : ℤ) {a b εx εy : ℚ} (hx : |x.toRat - a| ≤ εx) (hy : |y.toRat - b| ≤ εy)
    (hpos : εx + εy < a + b) (hlt : a + b + (εx + εy) < 10 ^ E) :
    |(Dec.add x y).toRat - (a + b)| ≤ εx + εy + 1 / 2 * (10 : ℚ) ^ (E - decPrec) := by
  have hs : |x.toRat + y.toRat - (a + b)| ≤ εx + εy := by
    rw [add_sub_add_comm]; exact (abs_add_le _ _).trans (add_le_add hx hy)
  have hs' := abs_le.mp hs
  refine (abs_sub_le _ (x.toRat + y.toRat) _).trans ?_
  rw [add_comm (εx + εy)]
  exact add_le_add (add_close x y E (by linarith only [hs'.1, hpos]) (by linarith only [hs'.2, hlt])) hs

theorem div_ofNat_close (a b K : Nat) (hb : 0 < b) (ha : a < 10 ^ K) :
    |(Dec.div (Dec.ofNat a) (Dec.ofNat b)).toRat - (a : ℚ) / b| ≤
      1 / 2 * (10 : ℚ) ^ ((K : ℤ) - ndigits b - decPrec + 1) := by
  have e : Dec.div (Dec.ofNat a) (Dec.ofNat b) = roundQ decPrec a b := by simp [Dec.div, Dec.ofNat]
  rw [e]
  by_cases h0 : a = 0
  · subst h0
    rw [roundQ_zero]
    simp [Dec.toRat]; positivity
  · have hi := roundQ_exp_le decPrec a b h0
    have nd : (ndigits a : ℤ) ≤ K := by exact_mod_cast ndigits_le_of_lt a K ha
    exact le_trans (roundQ_err decPrec a b hb)
      (mul_le_mul_of_nonneg_left (zpow_le_zpow_right₀ (by norm_num) (by omega)) (by norm_num))

theorem ofNat_toRat (n : Nat) : (Dec.ofNat n).toRat = n := by simp [Dec.ofNat, Dec.toRat]

theorem roundHalfEvenQ_of_den_one (q : ℚ) (h : q.den = 1) : (roundHalfEvenQ q : ℚ) = q := by
  unfold roundHalfEvenQ
  simp only [h, Nat.cast_one, Int.ediv_one, Int.emod_one, mul_zero, zero_lt_one, if_true]
  exact Rat.coe_int_num_of_den_eq_one h

theorem roundHalfEvenQ_err (q : ℚ) : |(roundHalfEvenQ q : ℚ) - q| ≤ 1 / 2 := by
  have hd : (0 : ℤ) < (q.den : ℤ) := by exact_mod_cast q.den_pos
  have hdq : (0 : ℚ) < (q.den : ℚ) := by exact_mod_cast q.den_pos
  have hr0 : (0 : ℚ) ≤ ((q.num % (q.den : ℤ) : ℤ) : ℚ) := by
    exact_mod_cast Int.emod_nonneg q.num hd.ne'
  have hr1 : ((q.num % (q.den : ℤ) : ℤ) : ℚ) ≤ q.den := by
    exact_mod_cast (Int.emod_lt_of_pos q.num hd).le
  have hq : q = ((q.num / (q.den : ℤ) : ℤ) : ℚ) + ((q.num % (q.den : ℤ) : ℤ) : ℚ) / q.den := by
    conv_lhs => rw [← Rat.num_div_den q]
    rw [div_eq_iff hdq.ne', add_mul, div_mul_cancel₀ _ hdq.ne']
    exact_mod_cast (Int.ediv_mul_add_emod q.num q.den).symm
  unfold roundHalfEvenQ
  simp only
  conv => enter [1, 1, 2]; rw [hq]
  split_ifs with h1 h2 h3
  · exact round_down_err hr0 hdq (by exact_mod_cast h1.le)
  · push_cast; exact round_up_err hr1 hdq (by exact_mod_cast h2.le)
  · exact round_down_err hr0 hdq (by exact_mod_cast not_lt.mp h2)
  · push_cast; exact round_up_err hr1 hdq (by exact_mod_cast not_lt.mp h1)

theorem ediv_million_eq_floor (a : ℤ) : a / 1000000 = ⌊(a : ℚ) / 1000000⌋ := by
  have := Rat.floor_intCast_div_natCast a 1000000
  simpa using this.symm

end Acn.C17
