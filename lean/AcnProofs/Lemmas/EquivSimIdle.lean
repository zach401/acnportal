/-
  Helper lemmas for C10 (Sim level, shift): the `k` idle periods in front of a shifted scenario.
  In a period in which nothing is due, no station is occupied, all pilots are 0 and the scheduler (if
  it is invoked at all) answers with a schedule that leaves the all-zero pilot matrix as it is
  (`ZeroSched`: `{}`, or the all-zero rows of the sorting-based algorithms), the simulator does to its core what
  the event core does in an idle period (`idleStep`) and appends an all-vacant occupancy snapshot: `body_idle` is
  that equation, `run_idle` the `k` periods, so what the prefix leaves in the core is an event-core fact.
-/
import AcnProofs.Lemmas.EquivSimShiftRun
import AcnProofs.Lemmas.EquivShiftAligned
import AcnProofs.Lemmas.Pilots

set_option linter.unusedSectionVars false

namespace Acn.SimShift
open Acn.Sim Acn.EventCore Acn.Evse Acn.SimEquiv Acn.Ledger Acn.Pilots Acn.Steps

variable {K : Type} [Field K] [LinearOrder K] [IsStrictOrderedRing K] [HasExp K]

/-- every EVSE accepts pilot 0 (an idle EVSE is sent pilot 0 in every period; an EVSE with
    `min_rate > 0` refuses it and the run aborts in period 0 of ANY scenario, DESIGN §8) -/
def IdleOK (cfg : Cfg K) : Prop :=
  ∀ st ∈ cfg.stations, validRate (atolOf cfg st.kind) cfg.atolFinite st.kind 0 = true

def noneRow (cfg : Cfg K) : List (Option String) := List.replicate cfg.stations.length none

/-- `width_increase` as computed from the queue -/
def widthOf (P : List Event) (j : Nat) : Nat :=
  match lastTs P with
  | some l => (l + 1).toNat
  | none => j + 1

structure Idle (cfg : Cfg K) (P : List Event) (w j : Nat) (s : State K) : Prop where
  iter : s.core.iter = j
  pending : s.core.pending = P
  occ : s.core.occ = fun _ => none
  resolve : s.core.resolve = false
  eventHist : s.core.eventHist = []
  evHist : s.core.evHist = []
  pilots : s.pilots = Mat.zeros cfg.stations.length w
  rates : s.rates = Mat.zeros cfg.stations.length w
  peak : s.peak = 0
  evs : s.evs = cfg.evs
  evsePilot : s.evsePilot = List.replicate cfg.stations.length 0
  noiseIdx : s.noiseIdx = 0
  occLog : s.occLog = List.replicate j (noneRow cfg)

theorem writeRow_zero (w j : Nat) (h : j < w) : writeRow (List.replicate w (0 : K)) j [0] = List.replicate w 0 := by
  unfold writeRow
  rw [List.eq_replicate_iff]
  constructor
  · simp; omega
  · intro b hb
    simp only [List.take_replicate, List.drop_replicate, List.mem_append, List.mem_replicate, List.mem_singleton] at hb
    rcases hb with (⟨_, hb⟩ | hb) | ⟨_, hb⟩ <;> exact hb

section
variable {cfg : Cfg K} {P : List Event} {w j : Nat}

theorem occupantEv_idle {s : State K} (h : Idle cfg P w j s) (st : String) : occupantEv s st = none := by
  unfold occupantEv
  rw [h.occ]

theorem setPilotAt_idle (hok : IdleOK cfg) {s : State K} (h : Idle cfg P w j s) (i : Nat) {st : Station K}
    (hst : st ∈ cfg.stations) : setPilotAt cfg s i st = (s, none) := by
  rw [setPilotAt_plan, h.pilots, zeros_get, occupantEv_idle h]
  have hp : plan cfg st 0 none (noiseAt cfg s.noiseIdx) = .ok none := by
    unfold plan
    rw [hok st hst]
    rfl
  rw [hp]
  simp only
  have hset : s.evsePilot.set i 0 = s.evsePilot := by rw [h.evsePilot]; exact List.set_replicate_self
  have he : eff s i 0 none = { s with evsePilot := s.evsePilot.set i 0 } := rfl
  rw [he, hset]

theorem updatePilotsFrom_idle (hok : IdleOK cfg) {s : State K} (h : Idle cfg P w j s) :
    ∀ (sts : List (Station K)) (i : Nat), (∀ st ∈ sts, st ∈ cfg.stations) →
      updatePilotsFrom cfg i sts s = (s, none) := by
  intro sts
  induction sts with
  | nil => intro i _; rfl
  | cons st rest ih =>
    intro i hsub
    simp only [updatePilotsFrom, setPilotAt_idle hok h i (hsub st List.mem_cons_self)]
    exact ih (i + 1) (fun x hx => hsub x (List.mem_cons_of_mem _ hx))

theorem currentRates_idle {s : State K} (h : Idle cfg P w j s) :
    currentRates cfg s = List.replicate cfg.stations.length 0 := by
  unfold currentRates
  rw [List.eq_replicate_iff]
  refine ⟨by simp, ?_⟩
  intro b hb
  obtain ⟨st, _, rfl⟩ := List.mem_map.1 hb
  rw [occupantEv_idle h]

theorem storeRates_idle {s : State K} (h : Idle cfg P w j s) (hj : j < w) (wi : Nat) :
    storeRates cfg wi s = (s, none) := by
  unfold storeRates
  simp only
  rw [currentRates_idle h, h.iter, h.rates]
  have hw : (Mat.zeros cfg.stations.length w : Mat K).width = w := rfl
  have hsum : sumK (List.replicate cfg.stations.length (0 : K)) = 0 := by
    rw [sumK_eq_sum]; simp
  simp only [hw, hj, if_true, hsum, h.peak]
  have hpm : pyMax (0 : K) 0 = 0 := by simp [pyMax]
  have hwc : writeCol (Mat.zeros cfg.stations.length w : Mat K) j (List.replicate cfg.stations.length 0) =
      Mat.zeros cfg.stations.length w := by
    unfold writeCol Mat.zeros
    simp only [List.zipWith_replicate, Nat.min_self, writeRow_zero w j hj]
  rw [hpm, hwc, ← h.rates, ← h.peak]

theorem widen_idle {s : State K} (h : Idle cfg P w j s) (hw : widthOf P j = w) : widen s = s := by
  have hwi : widthInc s = w := by
    unfold widthInc
    rw [h.pending, h.iter]
    exact hw
  have hz : increaseWidth (Mat.zeros cfg.stations.length w : Mat K) w = Mat.zeros cfg.stations.length w := by
    unfold increaseWidth
    simp [Mat.zeros]
  have hp : increaseWidth s.pilots w = s.pilots := by rw [h.pilots]; exact hz
  have hr : increaseWidth s.rates w = s.rates := by rw [h.rates]; exact hz
  unfold widen
  rw [hwi, hp, hr]

theorem applyStage_idle (hok : IdleOK cfg) {s : State K} (h : Idle cfg P w j s) (hw : widthOf P j = w) (hj : j < w) :
    applyStage cfg s = ({ s with occLog := s.occLog ++ [noneRow cfg], core := advance s.core }, none) := by
  have hwid : s.pilots.width = w := by rw [h.pilots]; rfl
  have hc : ¬ s.pilots.width ≤ s.core.iter := by rw [hwid, h.iter]; omega
  have hrow : (cfg.stations.map fun st => (s.core.occ st.id).map (·.id)) = noneRow cfg := by
    rw [h.occ]
    unfold noneRow
    rw [List.eq_replicate_iff]
    refine ⟨by simp, ?_⟩
    intro b hb
    obtain ⟨st, _, rfl⟩ := List.mem_map.1 hb
    rfl
  rw [applyStage_eq, widenStage, widen_idle h hw, if_neg hc, andThen_ok, updatePilots,
    updatePilotsFrom_idle hok h cfg.stations 0 (fun _ hx => hx), andThen_ok, storeStage, storeRates_idle h hj,
    andThen_ok, finishStage, hrow]

theorem eventsStage_idle {s : State K} (h : Idle cfg P w j s) (hq : ∀ e ∈ P, (j : Int) < e.ts) :
    Sim.eventsStage cfg s = (s, none) := by
  have hq' : ∀ e ∈ s.core.pending, (s.core.iter : Int) < e.ts := by rw [h.pending, h.iter]; exact hq
  simp only [Sim.eventsStage, popCurrent_nothing_due hq', Sim.processAll]

theorem activeEvs_idle {s : State K} (h : Idle cfg P w j s) : activeEvs cfg s = [] := by
  unfold activeEvs
  rw [List.filterMap_eq_nil_iff]
  intro st _
  rw [occupantEv_idle h]

def SchedIdle (k : Nat) (sched : View K → Except EventCore.Err (Schedule K)) : Prop :=
  ∀ v, v.active = [] → v.iter < k → sched v = .ok []

def ZeroSched (cfg : Cfg K) (sch : Schedule K) : Prop :=
  ∀ (w t : Nat) (lt : Option Nat), t < w →
    updateSchedules (cfg.stations.map (·.id)) (Mat.zeros cfg.stations.length w : Mat K) t lt sch =
      .ok (Mat.zeros cfg.stations.length w)

/-- Z: all-zero rows count, not only `{}` as in `SchedIdle` -/
def SchedIdleZ (cfg : Cfg K) (k : Nat) (sched : View K → Except EventCore.Err (Schedule K)) : Prop :=
  ∀ v, v.active = [] → v.iter < k → ∃ sch, sched v = .ok sch ∧ ZeroSched cfg sch

theorem zeroSched_nil (cfg : Cfg K) : ZeroSched cfg [] := fun _ _ _ _ => rfl

theorem SchedIdle.toZ {k : Nat} {sched : View K → Except EventCore.Err (Schedule K)} (h : SchedIdle k sched)
    (cfg : Cfg K) : SchedIdleZ cfg k sched :=
  fun v ha hk => ⟨[], h v ha hk, zeroSched_nil cfg⟩

def idleS (cfg : Cfg K) (s : State K) : State K :=
  { s with core := idleStep cfg.maxRecompute s.core, occLog := s.occLog ++ [noneRow cfg] }

theorem iter_idleS (cfg : Cfg K) : ∀ (m : Nat) (s : State K), iter (idleS cfg) m s =
    { s with core := idleIter cfg.maxRecompute m s.core, occLog := s.occLog ++ List.replicate m (noneRow cfg) }
  | 0, s => by simp [iter, idleIter]
  | m + 1, s => by
    rw [iter, iter_idleS cfg m]
    simp [idleS, idleIter, iter, List.replicate_succ]

theorem Idle.step {s : State K} (h : Idle cfg P w j s) : Idle cfg P w (j + 1) (idleS cfg s) := by
  obtain ⟨f, hi⟩ := idleStep_frame cfg.maxRecompute s.core h.resolve
  exact ⟨hi.trans (by rw [h.iter]), f.pending.trans h.pending, f.occ.trans h.occ, f.resolve,
    f.eventHist.trans h.eventHist, f.evHist.trans h.evHist, h.pilots, h.rates, h.peak, h.evs, h.evsePilot,
    h.noiseIdx, by simp only [idleS, h.occLog, List.replicate_succ']⟩

theorem body_idle (hok : IdleOK cfg) {k : Nat} {sched : View K → Except EventCore.Err (Schedule K)}
    (hsi : cfg.maxRecompute ≠ none → SchedIdleZ cfg k sched) {s : State K} (h : Idle cfg P w j s) (hjk : j < k)
    (hq : ∀ e ∈ P, (j : Int) < e.ts) (hw : widthOf P j = w) (hjw : j < w) :
    Sim.body cfg sched s = (idleS cfg s, none) := by
  rw [Sim.body_eq, eventsStage_idle h hq, andThen_ok]
  by_cases hn : needsSched cfg.maxRecompute s.core = true
  · rw [if_pos hn, schedSet]
    -- with nothing to resolve the scheduler is consulted only because `max_recompute` says so
    have hmr : cfg.maxRecompute ≠ none := by
      intro hmr
      rw [hmr] at hn
      simp [needsSched, h.resolve] at hn
    have hI : Idle cfg P w j { s with core := markInvoked s.core } := { h with }
    have hss : schedStage cfg sched { s with core := markInvoked s.core } = .ok s.pilots := by
      unfold schedStage
      rw [activeEvs_idle hI]
      obtain ⟨sch, hv, hz⟩ := hsi hmr (view cfg { s with core := markInvoked s.core }) (activeEvs_idle hI)
        (by show s.core.iter < k; rw [h.iter]; exact hjk)
      simp only [List.any_nil, Bool.false_eq_true, if_false, hv]
      have hit : (markInvoked s.core).iter = j := h.iter
      have hp : ({ s with core := markInvoked s.core } : State K).pilots = Mat.zeros cfg.stations.length w := h.pilots
      rw [hp, hit, hz w j _ hjw, ← h.pilots]
    rw [hss]
    dsimp only
    have hI2 : Idle cfg P w j { s with core := markScheduled (markInvoked s.core), pilots := s.pilots } :=
      { h with resolve := rfl }
    rw [andThen_ok, applyStage_idle hok hI2 hw hjw]
    simp only [idleS, idleStep, hn, if_true]
  · rw [if_neg hn, applyStage_idle hok h hw hjw]
    simp only [idleS, idleStep, hn, Bool.false_eq_true, if_false]

theorem run_idle (hok : IdleOK cfg) {k : Nat} {sched : View K → Except EventCore.Err (Schedule K)}
    (hsi : cfg.maxRecompute ≠ none → SchedIdleZ cfg k sched) (hne : P ≠ []) (hq : ∀ e ∈ P, (k : Int) ≤ e.ts)
    (hw : ∀ j', widthOf P j' = w) (hkw : k < w + 1) (m : Nat) (s : State K) (h : Idle cfg P w (k - m) s)
    (hm : m ≤ k) :
    Sim.run cfg sched m s =
      ({ s with core := idleIter cfg.maxRecompute m s.core,
                occLog := s.occLog ++ List.replicate m (noneRow cfg) }, none) := by
  rw [Sim.run_eq, ← iter_idleS,
    loopE_iterate (f := idleS cfg) (I := fun m s => m ≤ k ∧ Idle cfg P w (k - m) s) (fun m s ⟨hm, h⟩ => ?_) m s ⟨hm, h⟩]
  refine ⟨(guard_iff_pending h.resolve).2 (by rw [h.pending]; exact hne), ?_, by omega, ?_⟩
  · exact body_idle hok hsi h (by omega) (fun e he => by have := hq e he; omega) (hw _) (by omega)
  · have := h.step
    rwa [show k - (m + 1) + 1 = k - m by omega] at this

end
end Acn.SimShift
