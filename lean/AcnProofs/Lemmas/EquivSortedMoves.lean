/-
  The sorted algorithms read the stations only through `arr.getD s.idx d` and the oracle `feas`, and write
  per-station vectors only through `replicate` and `set s.idx`; they read time only through
  `estDeparture − now` (LLF) and comparisons of `arrival` / `estDeparture` among the sessions.
  `Moves n D p T` names a relabelling of the stations that commutes with those reads and writes (old station
  `i` sits at `p i`, a per-station array `x` becomes `T x d`); `mvS p k` moves a session's index by `p` and
  its two times by `k`.  Every function of the call is natural in (`Moves`, `k`, oracles with
  `feas' ∘ T = feas`); registering the stations in another order (`p = pos σ`, `T = reidx σ`, `k = 0`) and
  shifting time (`p = id`, `T = id`) are the two instances.  Here: what a session shows of its station, the
  sort, and the preprocessing; the allocation loops follow in `EquivSortedGreedy`, `EquivSortedRR`.
-/
import AcnProofs.Lemmas.EquivSortedReidx
import AcnProofs.Lemmas.EquivSortedListing

set_option linter.unusedSectionVars false

namespace Acn.Sorted
open Acn.SimEquiv

variable {K : Type} [Field K] [LinearOrder K] [IsStrictOrderedRing K]

/-- a relabelling of `n` stations as the algorithms can observe it; `D` holds of the indices in use -/
structure Moves (n : Nat) (D : Nat → Prop) (p : Nat → Nat) (T : {α : Type} → List α → α → List α) : Prop where
  dom : ∀ i, i < n → D i
  length : ∀ {α : Type} (x : List α) (d : α), x.length = n → (T x d).length = n
  getD : ∀ {α : Type} (x : List α) (d : α) {i : Nat}, D i → (T x d).getD (p i) d = x.getD i d
  set : ∀ {α : Type} (x : List α) (d v : α) {i : Nat}, D i → x.length = n →
    (T x d).set (p i) v = T (x.set i v) d
  replicate : ∀ {α : Type} (a d : α), T (List.replicate n a) d = List.replicate n a
  /-- a sum over the stations does not see the relabelling (the fuel of the round-robin loop is one) -/
  sum : ∀ {α : Type} (x : List α) (d : α) (g : α → Nat),
    ((List.range n).map fun i => g ((T x d).getD i d)).sum = ((List.range n).map fun i => g (x.getD i d)).sum

theorem Moves.reidx {σ : List Nat} {n : Nat} (hσ : σ.Perm (List.range n)) :
    Moves n (· < n) (pos σ) (Acn.reidx σ) where
  dom _ h := h
  length x d _ := by rw [reidx_length, perm_length hσ]
  getD x d _ hi := getD_reidx_pos hσ x d hi
  set x d v _ hi hl := reidx_set_pos hσ x d v hi hl
  replicate a d := by rw [reidx_replicate σ n a d (perm_lt hσ), perm_length hσ]
  sum x d g := by
    have e : ((List.range n).map fun i => g ((Acn.reidx σ x d).getD i d)) = σ.map fun i => g (x.getD i d) := by
      conv_rhs => rw [← range_map_getD σ 0, perm_length hσ, List.map_map]
      apply List.map_congr_left
      intro j hj
      simp only [Function.comp]
      rw [getD_reidx σ x d j (by rw [perm_length hσ]; exact List.mem_range.1 hj)]
    rw [e]
    exact (hσ.map _).sum_eq

theorem Moves.id (n : Nat) : Moves n (fun _ => True) id (fun x _ => x) :=
  ⟨fun _ _ => trivial, fun _ _ h => h, fun _ _ _ _ => rfl, fun _ _ _ _ _ _ => rfl, fun _ _ => rfl, fun _ _ _ => rfl⟩

theorem Moves.writes {n : Nat} {D : Nat → Prop} {p : Nat → Nat} {T : {α : Type} → List α → α → List α}
    (hM : Moves n D p T) {ι α : Type} (key key' : ι → Nat) (val val' : ι → α) (d : α) (q : List ι)
    (hq : ∀ s ∈ q, D (key s) ∧ key' s = p (key s) ∧ val' s = val s) :
    ∀ acc : List α, acc.length = n →
      Sorted.writes key' val' q (T acc d) = T (Sorted.writes key val q acc) d := by
  induction q with
  | nil => exact fun _ _ => rfl
  | cons s t ih =>
    intro acc hl
    obtain ⟨h1, h2, h3⟩ := hq s List.mem_cons_self
    show Sorted.writes key' val' t ((T acc d).set (key' s) (val' s)) = _
    rw [h2, h3, hM.set acc d _ h1 hl]
    exact ih (fun u hu => hq u (List.mem_cons_of_mem _ hu)) _ (by simp [hl])

def mapInfra (T : {α : Type} → List α → α → List α) (infra : Infra K) : Infra K :=
  { ids := T infra.ids "", maxPilot := T infra.maxPilot 0, minPilot := T infra.minPilot 0,
    volt := T infra.volt 0, cont := T infra.cont true, allow := T infra.allow [] }

def mvS (p : Nat → Nat) (k : Nat) (s : Session K) : Session K :=
  { s with idx := p s.idx, arrival := s.arrival + k, estDeparture := s.estDeparture + k }

theorem map_mvS_id_zero (l : List (Session K)) : l.map (mvS id 0) = l := by
  have : mvS (K := K) id 0 = id := by
    funext s
    simp [mvS]
  rw [this, List.map_id]

section
variable {n : Nat} {D : Nat → Prop} {p : Nat → Nat} {T : {α : Type} → List α → α → List α} (hM : Moves n D p T)
  (k : Nat) (infra : Infra K)
include hM

theorem rap_mvS (period : K) {s : Session K} (hs : D s.idx) :
    rap (mapInfra T infra) period (mvS p k s) = rap infra period s := by
  unfold rap
  show _ / (T infra.volt 0).getD (p s.idx) 0 * _ / _ = _
  rw [hM.getD _ _ hs]
  rfl

theorem maxPilot_mvS {s : Session K} (hs : D s.idx) :
    (mapInfra T infra).maxPilot.getD (mvS p k s).idx 0 = infra.maxPilot.getD s.idx 0 :=
  hM.getD _ _ hs

theorem minPilot_mvS {s : Session K} (hs : D s.idx) :
    (mapInfra T infra).minPilot.getD (mvS p k s).idx 0 = infra.minPilot.getD s.idx 0 :=
  hM.getD _ _ hs

theorem ubOf_mvS (period : K) {s : Session K} (hs : D s.idx) :
    ubOf (mapInfra T infra) period (mvS p k s) = ubOf infra period s := by
  unfold ubOf
  rw [rap_mvS hM k infra period hs]
  rfl

theorem laxity_mvS (period : K) (time : Int) {s : Session K} (hs : D s.idx) :
    laxity (mapInfra T infra) period (time + k) (mvS p k s) = laxity infra period time s := by
  unfold laxity
  have h1 : (mvS p k s).estDeparture - (time + (k : Int)) = s.estDeparture - time := by
    simp only [mvS]; omega
  rw [h1, rap_mvS hM k infra period hs, maxPilot_mvS hM k infra hs]

theorem sortLt_mvS (kind : SortKind) (period : K) (time : Int) {a b : Session K} (ha : D a.idx) (hb : D b.idx) :
    sortLt kind (mapInfra T infra) period (time + k) (mvS p k a) (mvS p k b) = sortLt kind infra period time a b := by
  cases kind
  · simp [sortLt, mvS]
  · simp [sortLt, mvS]
  · simp [sortLt, mvS]
  · simp only [sortLt, laxity_mvS hM k infra period time ha, laxity_mvS hM k infra period time hb]
  · simp only [sortLt, processingTime, rap_mvS hM k infra period ha, rap_mvS hM k infra period hb,
      maxPilot_mvS hM k infra ha, maxPilot_mvS hM k infra hb]
    rfl

theorem sortSessions_mvS (kind : SortKind) (period : K) (time : Int) (l : List (Session K))
    (hl : ∀ s ∈ l, D s.idx) :
    sortSessions kind (mapInfra T infra) period (time + k) (l.map (mvS p k)) =
      (sortSessions kind infra period time l).map (mvS p k) := by
  unfold sortSessions
  apply sortBy_map
  intro x hx y hy
  exact sortLt_mvS hM k infra kind period time (hl y hy) (hl x hx)

/-- The relabelled system is handed the listing with its times moved (`mvS id k`): `resolve` overwrites `idx`.
    `hfind`: the station table is searched alike (trivial for `T = id`; for a permutation of a table without
    duplicates: `findIdx?_reidx`). -/
theorem resolve_mvS (hn : infra.ids.length = n)
    (hfind : ∀ st : String, (T infra.ids "").findIdx? (· == st) = (infra.ids.findIdx? (· == st)).map p)
    (raw : List (Session K)) :
    resolve (mapInfra T infra) (raw.map (mvS id k)) = (resolve infra raw).map (List.map (mvS p k)) ∧
    ∀ l, resolve infra raw = .ok l → ∀ s ∈ l, D s.idx := by
  induction raw with
  | nil => exact ⟨rfl, fun l h s hs => by cases h; cases hs⟩
  | cons a t ih =>
    obtain ⟨ih1, ih2⟩ := ih
    rw [List.map_cons, resolve_cons, resolve_cons, ih1]
    have hst : (mvS id k a).station = a.station := rfl
    have hids : (mapInfra T infra).ids = T infra.ids "" := rfl
    rw [hst, hids, hfind]
    cases hf : infra.ids.findIdx? (· == a.station) with
    | none => exact ⟨rfl, fun l h => by cases h⟩
    | some i =>
      have hi : D i := hM.dom i (hn ▸ (findIdx?_some_spec infra.ids a.station i hf).1)
      cases hr : resolve infra t with
      | error e => exact ⟨rfl, fun l h => by cases h⟩
      | ok l0 =>
        refine ⟨rfl, fun l h s hs => ?_⟩
        simp only [Except.map, Except.ok.injEq] at h
        subst h
        rcases List.mem_cons.1 hs with rfl | hs
        · exact hi
        · exact ih2 l0 hr s hs

theorem removeFinished_mvS (period : K) (l : List (Session K)) (hl : ∀ s ∈ l, D s.idx) :
    removeFinished (mapInfra T infra) period (l.map (mvS p k)) = (removeFinished infra period l).map (mvS p k) := by
  unfold removeFinished
  rw [List.filter_map]
  congr 1
  apply List.filter_congr
  intro s hs
  have h2 : (mapInfra T infra).volt.getD (mvS p k s).idx 0 = infra.volt.getD s.idx 0 := hM.getD _ _ (hl s hs)
  simp only [Function.comp, minPilot_mvS hM k infra (hl s hs), h2]
  rfl

theorem enforcePilotLimit_mvS (l : List (Session K)) (hl : ∀ s ∈ l, D s.idx) :
    enforcePilotLimit (mapInfra T infra) (l.map (mvS p k)) = (enforcePilotLimit infra l).map (mvS p k) := by
  unfold enforcePilotLimit
  rw [List.map_map, List.map_map]
  apply List.map_congr_left
  intro s hs
  simp only [Function.comp]
  rw [maxPilot_mvS hM k infra (hl s hs)]
  rfl

theorem estInput_mvS (period : K) (l : List (Session K)) (hl : ∀ s ∈ l, D s.idx) :
    estInput (mapInfra T infra) period (l.map (mvS p k)) = (estInput infra period l).map (mvS p k) := by
  unfold estInput
  rw [removeFinished_mvS hM k infra period l hl]
  exact enforcePilotLimit_mvS hM k infra _ (fun s hs => hl s (List.mem_of_mem_filter hs))

omit hM in
theorem reconcile_mvS (p : Nat → Nat) (k : Nat) (s : Session K) : reconcile (mvS p k s) = mvS p k (reconcile s) := by
  unfold reconcile
  have h1 : (mvS p k s).maxRate = s.maxRate := rfl
  have h2 : (mvS p k s).minRate = s.minRate := rfl
  rw [h1, h2]
  split <;> rfl

omit hM in
theorem capS_mvS (p : Nat → Nat) (k : Nat) (b : Option K) (s : Session K) : capS b (mvS p k s) = mvS p k (capS b s) := by
  unfold capS
  rw [← reconcile_mvS]
  rfl

omit hM in
theorem applyUpperBoundFn_mvS (p : Nat → Nat) (k : Nat) (e e' : Session K → Option K) (l : List (Session K))
    (he : ∀ s ∈ l, e' (mvS p k s) = e s) :
    applyUpperBoundFn e' (l.map (mvS p k)) = (applyUpperBoundFn e l).map (mvS p k) := by
  rw [applyUpperBoundFn_eq_map, applyUpperBoundFn_eq_map, List.map_map, List.map_map]
  exact List.map_congr_left fun s hs => by simp only [Function.comp, he s hs, capS_mvS]

omit hM in
theorem applyUpperBoundFn_idx (P : Nat → Prop) (e : Session K → Option K) (l : List (Session K))
    (hl : ∀ s ∈ l, P s.idx) : ∀ s ∈ applyUpperBoundFn e l, P s.idx := by
  intro s hs
  rw [applyUpperBoundFn_eq_map] at hs
  obtain ⟨s0, hs0, rfl⟩ := List.mem_map.1 hs
  rw [(capS_fields _ s0).1]
  exact hl s0 hs0

variable (feas feas' : List K → Bool) (hf : ∀ x : List K, x.length = n → feas' (T x 0) = feas x)
include hf

theorem minRateStep_mvS (period : K) (rates : List K) (hl : rates.length = n) (acc : List (Session K))
    {s : Session K} (hs : D s.idx) :
    minRateStep feas' (mapInfra T infra) period (T rates 0, acc.map (mvS p k)) (mvS p k s) =
      (T (minRateStep feas infra period (rates, acc) s).1 0,
        (minRateStep feas infra period (rates, acc) s).2.map (mvS p k)) := by
  unfold minRateStep
  have hi : (mvS p k s).idx = p s.idx := rfl
  have hmin : (mvS p k s).minRate = s.minRate := rfl
  simp only [minPilot_mvS hM k infra hs, rap_mvS hM k infra period hs]
  rw [hi, hM.set rates 0 _ hs hl, hM.set rates 0 0 hs hl, hf _ (by simp [hl])]
  by_cases hc : (decide (infra.minPilot.getD s.idx 0 ≤ rap infra period s) &&
      feas (rates.set s.idx (infra.minPilot.getD s.idx 0))) = true
  · simp only [hc, if_true, List.map_append, List.map_cons, List.map_nil, hmin]
    congr 2
    rw [← reconcile_mvS]
    rfl
  · simp only [hc, Bool.false_eq_true, if_false, List.map_append, List.map_cons, List.map_nil]
    rfl

omit hM hf in
theorem minRateStep_len (period : K) (acc : List K × List (Session K)) (s : Session K) :
    (minRateStep feas infra period acc s).1.length = acc.1.length := by
  unfold minRateStep
  simp only
  split <;> simp

theorem fold_minRate_mvS (period : K) (q : List (Session K)) (hq : ∀ s ∈ q, D s.idx) :
    ∀ (rates : List K) (acc : List (Session K)), rates.length = n →
      (q.map (mvS p k)).foldl (minRateStep feas' (mapInfra T infra) period) (T rates 0, acc.map (mvS p k)) =
        (T (q.foldl (minRateStep feas infra period) (rates, acc)).1 0,
          (q.foldl (minRateStep feas infra period) (rates, acc)).2.map (mvS p k)) := by
  induction q with
  | nil => intro rates acc _; rfl
  | cons s rest ih =>
    intro rates acc hl
    simp only [List.map_cons, List.foldl_cons]
    rw [minRateStep_mvS hM k infra feas feas' hf period rates hl acc (hq s List.mem_cons_self)]
    have hlen := minRateStep_len infra feas period (rates, acc) s
    rcases hst : minRateStep feas infra period (rates, acc) s with ⟨r1, a1⟩
    rw [hst] at hlen
    exact ih (fun x hx => hq x (List.mem_cons_of_mem _ hx)) r1 a1 (by simpa [hl] using hlen)

theorem applyMinimumRate_mvS (hn : infra.ids.length = n) (period : K) (l : List (Session K))
    (hl : ∀ s ∈ l, D s.idx) :
    applyMinimumRate feas' (mapInfra T infra) period (l.map (mvS p k)) =
      (applyMinimumRate feas infra period l).map (mvS p k) := by
  rw [applyMinimumRate_eq, applyMinimumRate_eq, sortBy_map ltRT ltRT (mvS p k) l (fun _ _ _ _ => rfl)]
  have hn' : (mapInfra T infra).ids.length = n := hM.length _ _ hn
  have hqi : ∀ s ∈ sortBy ltRT l, D s.idx := fun s hs => hl s ((mem_sortBy ltRT l s).1 hs)
  rw [hn, hn']
  have key := fold_minRate_mvS hM k infra feas feas' hf period _ hqi (List.replicate n 0) [] (by simp)
  rw [hM.replicate] at key
  simp only [List.map_nil] at key
  rw [key]

theorem preprocessEst_mvS (hn : infra.ids.length = n) (cfgS : Config K) (period : K)
    (est est' : List (Session K) → Session K → Option K) (l : List (Session K)) (hl : ∀ s ∈ l, D s.idx)
    (hest : cfgS.estimate = true → (∀ s ∈ estInput infra period l, D s.idx) → ∀ s ∈ estInput infra period l,
      est' ((estInput infra period l).map (mvS p k)) (mvS p k s) = est (estInput infra period l) s) :
    preprocessEst feas' cfgS (mapInfra T infra) period est' (l.map (mvS p k)) =
      (preprocessEst feas cfgS infra period est l).map (mvS p k) ∧
    ∀ s ∈ preprocessEst feas cfgS infra period est l, D s.idx := by
  have hidx : ∀ s ∈ preprocessEst feas cfgS infra period est l, D s.idx := by
    intro s hs
    obtain ⟨s0, h0, hd⟩ := preprocessEst_derivedW feas cfgS infra period est l s hs
    rw [hd.1]
    exact hl s0 h0
  refine ⟨?_, hidx⟩
  unfold preprocessEst
  simp only [estInput_mvS hM k infra period l hl]
  have h1 : ∀ s ∈ estInput infra period l, D s.idx := by
    intro s hs
    obtain ⟨s0, h0, rfl⟩ := estInput_spec infra period l s hs
    exact hl s0 h0
  have h2 : (if cfgS.estimate then applyUpperBoundFn (est' ((estInput infra period l).map (mvS p k)))
        ((estInput infra period l).map (mvS p k)) else (estInput infra period l).map (mvS p k)) =
      (if cfgS.estimate then applyUpperBoundFn (est (estInput infra period l)) (estInput infra period l)
        else estInput infra period l).map (mvS p k) := by
    by_cases he : cfgS.estimate = true
    · simp only [he, if_true]
      exact applyUpperBoundFn_mvS p k _ _ _ (hest he h1)
    · simp only [he, Bool.false_eq_true, if_false]
  rw [h2]
  by_cases hu : cfgS.uninterrupted = true
  · simp only [hu, if_true]
    apply applyMinimumRate_mvS hM k infra feas feas' hf hn period
    split
    · exact applyUpperBoundFn_idx D _ _ h1
    · exact h1
  · simp only [hu, Bool.false_eq_true, if_false]

end
end Acn.Sorted
