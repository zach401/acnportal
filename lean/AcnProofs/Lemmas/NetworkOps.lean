/-
  The constraint mutators of `ChargingNetwork` in the form proofs use them (`remove_constraint` and `register_evse`
  have no equation of their own: their definitions are unfolded).  `add_constraint` is ONE equation:
  the code's "first row" branch (charging_network.py:256-261) is the general one, since with as many rows as names
  no row means no name.  `update_constraint` is "remove, and then add" (`Steps.andThen`), so what `remove` and `add`
  keep — whether they return or raise — every operation keeps (`step_keeps`).  The frames follow: no constraint
  mutator touches the station list, and once there is a matrix there is one after every operation.
-/
import AcnModel.Network
import AcnProofs.Lemmas.Steps
import Batteries.Tactic.SeqFocus

namespace Acn.Network
variable {K : Type} [OfNat K 0]

theorem addConstraint_eq (n : Net K) (c : Current K) (l : K) (nm : Option String) :
    n.addConstraint c l nm =
      if ∀ k ∈ c.keys, k ∈ n.stations then
        if (n.matrix.getD []).length = n.index.length then
          ({ n with magnitudes := n.magnitudes ++ [l], index := n.index ++ [Net.resolveName n.index nm],
                    matrix := some (n.matrix.getD [] ++ [Net.row n.stations c]) }, none)
        else ({ n with magnitudes := n.magnitudes ++ [l] }, some .valueError)
      else (n, some .keyError) := by
  unfold Net.addConstraint
  simp only [List.all_eq_true, decide_eq_true_eq]
  split
  · by_cases hl : (n.matrix.getD []).length = n.index.length
    · simp only [hl, ne_eq, not_true_eq_false, if_false, if_true]
      split
      · rename_i h0
        rw [List.length_eq_zero_iff.1 h0, List.length_eq_zero_iff.1 (hl.trans h0)]
        rfl
      · rfl
    · simp only [hl, ne_eq, not_false_eq_true, if_true, if_false]
  · rfl

theorem updateConstraint_eq (n : Net K) (nm : String) (c : Current K) (l : K) (nn : Option String) :
    n.updateConstraint nm c l nn =
      if nm ∈ n.index then
        Steps.andThen (n.removeConstraint nm) fun n1 => n1.addConstraint c l (some (nn.getD nm))
      else (n, some .keyError) := by
  unfold Net.updateConstraint
  split
  · rcases n.removeConstraint nm with ⟨n1, _ | e⟩ <;> rfl
  · rfl

theorem updateConstraint_keeps {P : Net K → Prop} (hadd : ∀ n c l nm, P n → P (n.addConstraint c l nm).1)
    (hrem : ∀ n nm, P n → P (n.removeConstraint nm).1) (n : Net K) (nm : String) (c : Current K) (l : K)
    (nn : Option String) (h : P n) : P (n.updateConstraint nm c l nn).1 := by
  rw [updateConstraint_eq]
  split
  · have h1 := hrem n nm h
    revert h1
    rcases n.removeConstraint nm with ⟨n1, _ | e⟩
    · exact hadd n1 c l _
    · exact id
  · exact h

theorem step_keeps {P : Net K → Prop} (hreg : ∀ n s, P n → P (n.register s).1)
    (hadd : ∀ n c l nm, P n → P (n.addConstraint c l nm).1) (hrem : ∀ n nm, P n → P (n.removeConstraint nm).1)
    (n : Net K) (o : Op K) (h : P n) : P (n.step o).1 := by
  cases o with
  | register s => exact hreg n s h
  | add c l nm => exact hadd n c l nm h
  | remove nm => exact hrem n nm h
  | update nm c l nn => exact updateConstraint_keeps hadd hrem n nm c l nn h

theorem addConstraint_stations (n : Net K) (c : Current K) (l : K) (nm : Option String) :
    (n.addConstraint c l nm).1.stations = n.stations := by
  rw [addConstraint_eq]
  split <;> [split; skip] <;> rfl

omit [OfNat K 0] in
theorem removeConstraint_stations (n : Net K) (nm : String) :
    (n.removeConstraint nm).1.stations = n.stations := by
  unfold Net.removeConstraint
  split <;> [split; skip] <;> rfl

theorem updateConstraint_stations (n : Net K) (nm : String) (c : Current K) (l : K) (nn : Option String) :
    (n.updateConstraint nm c l nn).1.stations = n.stations :=
  updateConstraint_keeps (P := fun n' => n'.stations = n.stations)
    (fun n' c l nm h => (addConstraint_stations n' c l nm).trans h)
    (fun n' nm h => (removeConstraint_stations n' nm).trans h) n nm c l nn rfl

theorem addConstraint_isSome (n : Net K) (c : Current K) (l : K) (nm : Option String)
    (h : (n.addConstraint c l nm).2 = none) : (n.addConstraint c l nm).1.matrix.isSome = true := by
  rw [addConstraint_eq] at h ⊢
  split at h <;> [split at h; cases h] <;> [skip; cases h]
  rw [if_pos ‹_›, if_pos ‹_›]
  rfl

theorem step_isSome (n : Net K) (o : Op K) (h : n.matrix.isSome = true) : (n.step o).1.matrix.isSome = true := by
  refine step_keeps (P := fun n => n.matrix.isSome = true) (fun n s h => ?_) (fun n c l nm h => ?_)
    (fun n nm h => ?_) n o h
  · simp only [Net.register, h, if_true]
  · rw [addConstraint_eq]
    split <;> [split; skip] <;> first | rfl | exact h
  · unfold Net.removeConstraint
    split
    · cases hm : n.matrix with
      | none => rw [hm] at h; cases h
      | some rows => rfl
    · exact h

theorem run_isSome (n : Net K) (ops : List (Op K)) (h : n.matrix.isSome = true) :
    (n.run ops).matrix.isSome = true := by
  induction ops generalizing n with
  | nil => exact h
  | cons o os ih => exact ih _ (step_isSome n o h)

end Acn.Network
