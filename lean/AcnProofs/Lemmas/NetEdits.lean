/-
  The network edited between invocations (`AcnModel/NetEdits.lean`; C05): histories split at a period; the
  constraint mutators never touch the station list; a same-name update of the last constraint of the plain-list
  specification of C12 (`Network.Spec`) replaces that constraint in place.
-/
import AcnModel.NetEdits
import AcnProofs.Lemmas.SchedInfra
import AcnProofs.Lemmas.NetworkAlign
import Mathlib.Tactic

namespace Acn.Sim
open Acn Acn.Network

variable {K : Type}

theorem run_append [OfNat K 0] (n : Net K) (a b : List (Op K)) :
    Net.run n (a ++ b) = Net.run (Net.run n a) b := by
  simp [Net.run, List.foldl_append]

theorem spec_run_append (sp : Spec K) (a b : List (Op K)) :
    Spec.run sp (a ++ b) = Spec.run (Spec.run sp a) b := by
  simp [Spec.run, List.foldl_append]

theorem spec_run_snoc (sp : Spec K) (a : List (Op K)) (o : Op K) :
    Spec.run sp (a ++ [o]) = ((Spec.run sp a).step o).1 := by
  simp [Spec.run, List.foldl_append]

theorem opsOf_append (a b : List (NetEdit K)) : opsOf (a ++ b) = opsOf a ++ opsOf b := by
  simp [opsOf]

theorem netAt_eq_run [OfNat K 0] (cfg : Cfg K) (nd : NetDesc K) (edits : List (NetEdit K)) (t : Nat) :
    netAt cfg nd edits t = Net.run Net.init (historyAt cfg nd edits t) := by
  unfold netAt netOf historyAt
  rw [run_append, run_append]

theorem entriesInForce_split (edits : List (NetEdit K))
    (hs : edits.Pairwise fun a b => a.since ≤ b.since) {t t' : Nat} (h : t ≤ t') :
    entriesInForce edits t' =
      entriesInForce edits t ++ edits.filter fun e => decide (t < e.since ∧ e.since ≤ t') := by
  induction edits with
  | nil => simp [entriesInForce]
  | cons e es ih =>
    obtain ⟨hhd, htl⟩ := List.pairwise_cons.1 hs
    have ih := ih htl
    unfold entriesInForce at ih ⊢
    by_cases he : e.since ≤ t
    · have he' : e.since ≤ t' := le_trans he h
      have hn : ¬ (t < e.since ∧ e.since ≤ t') := fun hh => absurd hh.1 (not_lt.2 he)
      rw [List.filter_cons_of_pos (by simpa using he'), List.filter_cons_of_pos (by simpa using he),
        List.filter_cons_of_neg (by simpa using hn), ih, List.cons_append]
    · have hlt : t < e.since := not_le.1 he
      have hall : ∀ x ∈ e :: es, t < x.since := by
        intro x hx
        rcases List.mem_cons.1 hx with rfl | hx
        · exact hlt
        · exact lt_of_lt_of_le hlt (hhd x hx)
      have h1 : (e :: es).filter (fun x => decide (x.since ≤ t)) = [] := by
        rw [List.filter_eq_nil_iff]
        intro x hx
        simpa using hall x hx
      rw [h1, List.nil_append]
      apply List.filter_congr
      intro x hx
      have := hall x hx
      simp [this]

theorem conop_stations [OfNat K 0] (n : Net K) (o : ConOp K) : (n.step o.toOp).1.stations = n.stations := by
  cases o with
  | add c l nm => exact addConstraint_stations n c l nm
  | remove nm => exact removeConstraint_stations n nm
  | update nm c l nn => exact updateConstraint_stations n nm c l nn

theorem run_conops_stations [OfNat K 0] (ops : List (ConOp K)) (n : Net K) :
    (Net.run n (ops.map ConOp.toOp)).stations = n.stations := by
  induction ops generalizing n with
  | nil => rfl
  | cons o os ih =>
    rw [List.map_cons, Net.run_cons, ih, conop_stations]

theorem run_opsOf_stations [OfNat K 0] (es : List (NetEdit K)) (n : Net K) :
    (Net.run n (opsOf es)).stations = n.stations := by
  rw [show opsOf es = (es.flatMap (·.ops)).map ConOp.toOp by simp [opsOf, List.map_flatMap]]
  exact run_conops_stations _ n

theorem netOf_stations [OfNat K 0] (cfg : Cfg K) (nd : NetDesc K) (hnd : (cfg.stations.map (·.id)).Nodup) :
    (netOf cfg nd).stations = cfg.stations.map (·.id) := by
  have hadds : (nd.constraints.map fun c => Op.add c.1 c.2.1 c.2.2) =
      (nd.constraints.map fun c => ConOp.add c.1 c.2.1 c.2.2).map ConOp.toOp := by
    simp [ConOp.toOp]
  unfold netOf
  rw [hadds, run_conops_stations, run_register_stations cfg hnd]

theorem spec_update_last (sp : Spec K) (cs : List (Constraint K)) (x : Constraint K) (c : Current K) (l : K)
    (hc : sp.cons = cs ++ [x]) (hx : x.name ∉ cs.map (·.name)) (hk : ∀ k ∈ c.keys, k ∈ sp.stations) :
    (sp.update x.name c l none).1 = { sp with frozen := true, cons := cs ++ [⟨c, l, x.name⟩] } := by
  have hnames : sp.names = cs.map (·.name) ++ [x.name] := by simp [Spec.names, hc]
  have hin : x.name ∈ sp.names := by rw [hnames]; simp
  have hrem : (sp.remove x.name).1 = { sp with cons := cs } := by
    unfold Spec.remove
    rw [if_pos hin]
    simp only
    congr 1
    rw [hc, List.eraseP_append_right]
    · simp
    · intro b hb hbn
      exact hx (List.mem_map.2 ⟨b, hb, by simpa using hbn⟩)
  unfold Spec.update
  rw [if_pos hin, hrem]
  unfold Spec.add
  rw [if_pos (by simpa using hk)]
  have hres : Net.resolveName (Spec.names ({ sp with cons := cs } : Spec K)) (some x.name) = x.name := by
    simp [Net.resolveName, Spec.names, hx]
  simp only [Option.getD_none, hres]

end Acn.Sim
