/-
  The proleptic Gregorian calendar in March-based coordinates.  A day is named by
  `(Y, mp, dd)`: March-based year, months after March, days after the first of that month; its
  number is `marchStart Y + monthStart mp + dd`.  Both `marchStart` and `monthStart` are strictly
  increasing, and `civilFromDays` inverts each by a floor estimate (`marchYear`, `monthOf`): that
  is all the round trips, validity, order and successor facts rest on.
  The year step comes first: `yoeOf doe`, the estimate `civilFromDays` makes of the year within the 400-year era, is
  exact at both ends of each of the 400 years (a table) and monotone in between.
-/
import AcnModel.Calendar

namespace Acn.Calendar

/-- days from 0000-03-01 to 1 March of year `Y`, the expression `daysFromCivil` uses -/
def marchStart (Y : Int) : Int := 365 * Y + Y / 4 - Y / 100 + Y / 400

/-- numerator of the year-of-era estimate of `civilFromDays` -/
def yoeNum (d : Int) : Int := d - d / 1460 + d / 36524 - d / 146096

/-- year-of-era estimate of `civilFromDays` -/
def yoeOf (d : Int) : Int := yoeNum d / 365

theorem of_table {P : Int → Prop} (a : Int) (N : Nat) (n : Int) (h0 : a ≤ n) (hN : n < a + N)
    (h : ∀ k : Fin N, P (a + k.val)) : P n := by
  have := h ⟨(n - a).toNat, by omega⟩
  rwa [Int.toNat_of_nonneg (by omega), show a + (n - a) = n by omega] at this

theorem yoeOf_mono {a b : Int} (h0 : 0 ≤ a) (hab : a ≤ b) (hb : b < 146097) :
    yoeOf a ≤ yoeOf b := by
  have h : yoeNum a ≤ yoeNum b := by
    -- the last day of the era apart, where the fourth quotient jumps
    by_cases hb' : b < 146096
    · unfold yoeNum; omega
    · have : b = 146096 := by omega
      subst this; unfold yoeNum; omega
  unfold yoeOf; omega

theorem marchStart_mono {a b : Int} (h : a ≤ b) : marchStart a ≤ marchStart b := by
  unfold marchStart; omega

theorem yoeOf_of_range {doe k : Int} (hk0 : 0 ≤ k) (hk : k < 400)
    (h1 : marchStart k ≤ doe) (h2 : doe < marchStart (k + 1)) : yoeOf doe = k := by
  obtain ⟨ta, tb⟩ : yoeOf (marchStart k) = k ∧ yoeOf (marchStart (k + 1) - 1) = k := by
    apply of_table 0 400 k hk0 (by omega)
    decide +kernel
  have hs0 : 0 ≤ marchStart k := by unfold marchStart; omega
  have hs1 : marchStart (k + 1) ≤ 146097 := by unfold marchStart; omega
  have lo := yoeOf_mono hs0 h1 (by omega)
  have hi := yoeOf_mono (by omega) (show doe ≤ marchStart (k + 1) - 1 by omega) (by omega)
  omega

theorem yoeOf_spec {doe : Int} (h0 : 0 ≤ doe) (h : doe < 146097) :
    0 ≤ yoeOf doe ∧ yoeOf doe < 400 ∧ marchStart (yoeOf doe) ≤ doe ∧
      doe < marchStart (yoeOf doe + 1) := by
  -- the year exists because `marchStart` climbs from 0 to 146097 over the era
  have ex : ∀ n : Nat, n ≤ 400 → doe < marchStart n →
      ∃ k : Int, 0 ≤ k ∧ k < n ∧ marchStart k ≤ doe ∧ doe < marchStart (k + 1) := by
    intro n
    induction n with
    | zero => intro _ h; simp [marchStart] at h; omega
    | succ m ih =>
      intro hn h
      by_cases hm : doe < marchStart m
      · obtain ⟨k, a, b, c, d⟩ := ih (by omega) hm
        exact ⟨k, a, by push_cast; omega, c, d⟩
      · exact ⟨m, by omega, by push_cast; omega, by omega, by push_cast at h; exact h⟩
  obtain ⟨k, a, b, c, d⟩ := ex 400 (Nat.le_refl _) (by
    rw [show marchStart ((400 : Nat) : Int) = 146097 by decide +kernel]; exact h)
  rw [yoeOf_of_range a (by omega) c d]; exact ⟨a, by omega, c, d⟩

/-- days from 1 March to the first of the month `mp` months later -/
def monthStart (mp : Int) : Int := (153 * mp + 2) / 5

/-- the March-based year `civilFromDays` finds for day `n` after 0000-03-01 -/
def marchYear (n : Int) : Int := yoeOf (n - n / 146097 * 146097) + n / 146097 * 400

/-- the month (after March) `civilFromDays` finds for day `doy` of a March-based year -/
def monthOf (doy : Int) : Int := (5 * doy + 2) / 153

theorem marchStart_era (e k : Int) :
    marchStart (k + e * 400) = e * 146097 + marchStart k := by
  unfold marchStart; omega

theorem marchYear_spec (n : Int) :
    marchStart (marchYear n) ≤ n ∧ n < marchStart (marchYear n + 1) := by
  unfold marchYear
  obtain ⟨_, _, lo, hi⟩ := yoeOf_spec (doe := n - n / 146097 * 146097) (by omega) (by omega)
  rw [show ∀ k e : Int, k + e * 400 + 1 = k + 1 + e * 400 by omega, marchStart_era, marchStart_era]
  omega

theorem marchYear_unique {n Y : Int} (h1 : marchStart Y ≤ n) (h2 : n < marchStart (Y + 1)) :
    marchYear n = Y := by
  obtain ⟨a, b⟩ := marchYear_spec n
  have l : ¬ marchYear n + 1 ≤ Y := fun c => by have := marchStart_mono c; omega
  have r : ¬ Y + 1 ≤ marchYear n := fun c => by have := marchStart_mono c; omega
  omega

theorem monthOf_spec (doy : Int) :
    monthStart (monthOf doy) ≤ doy ∧ doy < monthStart (monthOf doy + 1) := by
  unfold monthStart monthOf; omega

theorem monthOf_unique {doy mp : Int} (h1 : monthStart mp ≤ doy) (h2 : doy < monthStart (mp + 1)) :
    monthOf doy = mp := by
  unfold monthStart at h1 h2; unfold monthOf; omega

def marchOf (y m : Int) : Int × Int := (if m ≤ 2 then y - 1 else y, if m ≤ 2 then m + 9 else m - 3)

def civilOf (Y mp : Int) : Int × Int :=
  (if (if mp < 10 then mp + 3 else mp - 9) ≤ 2 then Y + 1 else Y, if mp < 10 then mp + 3 else mp - 9)

theorem civilOf_marchOf {y m : Int} (h1 : 1 ≤ m) (h2 : m ≤ 12) :
    civilOf (marchOf y m).1 (marchOf y m).2 = (y, m) := by
  unfold civilOf marchOf; split <;> simp <;> omega

theorem marchOf_civilOf {Y mp : Int} (h1 : 0 ≤ mp) (h2 : mp ≤ 11) :
    marchOf (civilOf Y mp).1 (civilOf Y mp).2 = (Y, mp) := by
  unfold civilOf marchOf; split <;> simp <;> omega

theorem daysFromCivil_march (y m d : Int) :
    daysFromCivil y m d =
      marchStart (marchOf y m).1 + monthStart (marchOf y m).2 + (d - 1) - 719468 := by
  simp only [daysFromCivil, marchStart, monthStart, marchOf]; omega

/-- the date of day `n` after 0000-03-01, as `civilFromDays` computes it -/
def marchCivil (n : Int) : Int × Int × Int :=
  ((civilOf (marchYear n) (monthOf (n - marchStart (marchYear n)))).1,
   (civilOf (marchYear n) (monthOf (n - marchStart (marchYear n)))).2,
   n - marchStart (marchYear n) - monthStart (monthOf (n - marchStart (marchYear n))) + 1)

theorem civilFromDays_march (z : Int) : civilFromDays z = marchCivil (z + 719468) := by
  unfold marchCivil
  obtain ⟨n, hn⟩ : ∃ n, n = z + 719468 := ⟨_, rfl⟩
  obtain ⟨k0, k1, _, _⟩ := yoeOf_spec (doe := n - n / 146097 * 146097) (by omega) (by omega)
  have e : n - marchStart (marchYear n) =
      n - n / 146097 * 146097 - (365 * yoeOf (n - n / 146097 * 146097)
        + yoeOf (n - n / 146097 * 146097) / 4 - yoeOf (n - n / 146097 * 146097) / 100) := by
    unfold marchYear; rw [marchStart_era]; unfold marchStart; omega
  rw [← hn, e]
  unfold civilFromDays civilOf monthOf monthStart marchYear yoeOf yoeNum
  rw [← hn]

/-- `(Y, mp, dd)` names a day: the month has begun, the next has not, nor has the next year -/
def MarchDate (Y mp dd : Int) : Prop :=
  0 ≤ mp ∧ mp ≤ 11 ∧ 0 ≤ dd ∧ monthStart mp + dd < monthStart (mp + 1) ∧
    marchStart Y + monthStart mp + dd < marchStart (Y + 1)

theorem marchYear_of_date {Y mp dd : Int} (h : MarchDate Y mp dd) :
    marchYear (marchStart Y + monthStart mp + dd) = Y := by
  obtain ⟨h0, _, h2, _, h4⟩ := h
  apply marchYear_unique _ h4
  unfold monthStart; omega

theorem monthOf_of_date {Y mp dd : Int} (h : MarchDate Y mp dd) :
    monthOf (monthStart mp + dd) = mp :=
  monthOf_unique (by have := h.2.2.1; omega) h.2.2.2.1

theorem marchDate_of_days (n : Int) :
    MarchDate (marchYear n) (monthOf (n - marchStart (marchYear n)))
      (n - marchStart (marchYear n) - monthStart (monthOf (n - marchStart (marchYear n)))) := by
  obtain ⟨a, b⟩ := marchYear_spec n
  obtain ⟨c, d⟩ := monthOf_spec (n - marchStart (marchYear n))
  have s : marchStart (marchYear n + 1) ≤ marchStart (marchYear n) + 366 := by
    unfold marchStart; omega
  refine ⟨?_, ?_, by omega, by omega, by omega⟩ <;> unfold monthOf <;> omega

theorem isLeap_iff (y : Int) : isLeap y = true ↔ (y % 4 = 0 ∧ y % 100 ≠ 0) ∨ y % 400 = 0 := by
  simp [isLeap]

theorem marchStart_succ (Y : Int) :
    marchStart (Y + 1) = marchStart Y + if isLeap (Y + 1) then 366 else 365 := by
  have l := isLeap_iff (Y + 1)
  unfold marchStart
  split <;> simp_all <;> omega

/-- the twelve month lengths, February apart; in year 0, so that the table is closed and `decide` checks it -/
theorem monthStart_succ {m : Int} (hm : 1 ≤ m) (hm' : m ≤ 12) (h2 : m ≠ 2) :
    monthStart ((marchOf 0 m).2 + 1) = monthStart (marchOf 0 m).2 + daysInMonth 0 m ∧
      (marchOf 0 m).2 ≤ 10 := by
  revert h2
  apply of_table 1 12 m hm (by omega)
  decide

/-- the start of a month plus its length is the start of the next month; the month after February is March of
    the next March-based year -/
theorem month_length {y m : Int} (hm : 1 ≤ m) (hm' : m ≤ 12) :
    marchStart (marchOf y m).1 + monthStart (marchOf y m).2 + daysInMonth y m =
      if m = 2 then marchStart ((marchOf y m).1 + 1)
      else marchStart (marchOf y m).1 + monthStart ((marchOf y m).2 + 1) := by
  split
  · subst m
    have := marchStart_succ (y - 1)
    rw [show y - 1 + 1 = y by omega] at this
    simp only [marchOf, monthStart, daysInMonth]
    split at this <;> simp_all <;> omega
  · rename_i h2
    have e : daysInMonth y m = daysInMonth 0 m := by simp [daysInMonth, h2]
    rw [e, show (marchOf y m).2 = (marchOf 0 m).2 from rfl, (monthStart_succ hm hm' h2).1]
    omega

/-- `datetime.date` accepts `y-m-d` iff its March coordinates name a day -/
theorem valid_iff_marchDate {y m : Int} (d : Int) (hm : 1 ≤ m) (hm' : m ≤ 12) :
    (1 ≤ d ∧ d ≤ daysInMonth y m) ↔ MarchDate (marchOf y m).1 (marchOf y m).2 (d - 1) := by
  have l := month_length (y := y) hm hm'
  have s := marchStart_succ (marchOf y m).1
  have r : 0 ≤ (marchOf y m).2 ∧ (marchOf y m).2 ≤ 11 := by unfold marchOf; split <;> omega
  unfold MarchDate
  split at l
  · subst m
    have : (marchOf y 2).2 = 11 := rfl
    rw [this] at l ⊢
    simp only [monthStart] at l ⊢
    split at s <;> omega
  · rename_i h2
    have t := (monthStart_succ hm hm' h2).2
    rw [show (marchOf 0 m).2 = (marchOf y m).2 from rfl] at t
    have : monthStart ((marchOf y m).2 + 1) ≤ 337 := by unfold monthStart; omega
    split at s <;> omega

/-- for every year: `C20.civil_roundtrip` is its case of a `validDate` -/
theorem civil_roundtrip' (y m d : Int) (hm : 1 ≤ m) (hm' : m ≤ 12) (hd : 1 ≤ d)
    (hd' : d ≤ daysInMonth y m) : civilFromDays (daysFromCivil y m d) = (y, m, d) := by
  have v := (valid_iff_marchDate d hm hm').mp ⟨hd, hd'⟩
  have e : daysFromCivil y m d + 719468 =
      marchStart (marchOf y m).1 + monthStart (marchOf y m).2 + (d - 1) := by
    rw [daysFromCivil_march]; omega
  rw [civilFromDays_march, marchCivil, e, marchYear_of_date v,
    show ∀ a b c : Int, a + b + c - a = b + c by omega, monthOf_of_date v, civilOf_marchOf hm hm']
  congr 2; omega

theorem days_roundtrip (z : Int) :
    daysFromCivil (civilFromDays z).1 (civilFromDays z).2.1 (civilFromDays z).2.2 = z := by
  obtain ⟨h0, h1, _⟩ := marchDate_of_days (z + 719468)
  rw [civilFromDays_march, marchCivil, daysFromCivil_march, marchOf_civilOf h0 h1]
  dsimp only; omega

theorem civil_valid (z : Int) :
    1 ≤ (civilFromDays z).2.1 ∧ (civilFromDays z).2.1 ≤ 12 ∧ 1 ≤ (civilFromDays z).2.2 ∧
    (civilFromDays z).2.2 ≤ daysInMonth (civilFromDays z).1 (civilFromDays z).2.1 := by
  rw [civilFromDays_march, marchCivil]
  have v := marchDate_of_days (z + 719468)
  generalize marchYear (z + 719468) = Y at v ⊢
  generalize monthOf (z + 719468 - marchStart Y) = mp at v ⊢
  have hm : 1 ≤ (civilOf Y mp).2 ∧ (civilOf Y mp).2 ≤ 12 := by
    have := v.1; have := v.2.1; unfold civilOf; split <;> omega
  refine ⟨hm.1, hm.2, (valid_iff_marchDate _ hm.1 hm.2).mpr ?_⟩
  rw [marchOf_civilOf v.1 v.2.1, show ∀ a : Int, a + 1 - 1 = a by omega]
  exact v

def monthLen (leap : Bool) (m : Int) : Int :=
  if m == 2 then (if leap then 29 else 28)
  else if m == 4 || m == 6 || m == 9 || m == 11 then 30
  else 31

theorem daysInMonth_eq (y m : Int) : daysInMonth y m = monthLen (isLeap y) m := rfl

theorem monthLen_le (b : Bool) (m : Int) :
    monthLen false m ≤ monthLen b m ∧ monthLen b m ≤ monthLen true m ∧ monthLen true m ≤ 31 := by
  by_cases h2 : m = 2
  · subst h2; cases b <;> decide
  · -- only February depends on the leap flag
    have e : ∀ c, monthLen c m = monthLen true m := fun c => by simp [monthLen, h2]
    rw [e false, e b]
    simp only [monthLen, beq_iff_eq, h2, ↓reduceIte]
    split <;> omega

end Acn.Calendar
