/-
  The ledger invariant is established by `init` and preserved by every trip round the loop of
  `Simulator.run` that does not raise — for EVERY scheduler.
-/
import AcnProofs.Lemmas.LedgerStoch
import AcnProofs.Lemmas.EventCoreSim
import AcnProofs.Lemmas.EventCoreBasic
import AcnProofs.Lemmas.SimStages

set_option linter.unusedSectionVars false

namespace Acn.Ledger
open Acn Acn.Sim Acn.EventCore Acn.Evse Acn.Steps Finset

variable {K : Type} [Field K] [LinearOrder K] [IsStrictOrderedRing K] [HasExp K]

theorem applyStage_ledger {cfg : Cfg K} (hn : StationsNodup cfg) {a s' : State K}
    (hL : Inv cfg a) (h : applyStage cfg a = (s', none)) : Inv cfg s' := by
  have hd := distinctOcc_of hn hL.occ_sound
  have hQ := applyStage_ledgerQ hd hL.toQ h
  have hP := applyStage_period hd hL.rates_wf h
  unfold Inv
  rw [hP.core]
  refine ⟨hQ.log_len, hQ.rates_wf, hL.occ_sound, ?_, hQ.ids, hQ.gain, hQ.sess, hQ.vacant, hQ.future,
    hQ.peak_eq⟩
  -- the new row of the log shows the occupants, who sit where their session records say
  intro τ i id hτ
  rw [hP.log, occAt_snapshot] at hτ
  rcases hτ with ⟨_, hτ⟩ | ⟨_, st, x, hi, hx, rfl⟩
  · exact hL.log_sound τ i id hτ
  · obtain ⟨f1, f2⟩ := hL.occ_sound _ _ hx
    exact ⟨x, st, f1, hi, f2⟩

theorem step_occSound {cfg : EventCore.Cfg} (e : Event) (c : Core) (h : OccSound cfg c.occ) :
    OccSound cfg (EventCore.step cfg e c).1.occ ∧ (EventCore.step cfg e c).1.iter = c.iter := by
  rcases step_cases cfg e c with ⟨_, hs⟩ | ⟨x, -, hf, -, -, hs⟩ | ⟨x, -, -, -, hs⟩ | ⟨-, hs⟩ <;> rw [hs]
  · exact ⟨h, rfl⟩
  · -- plug-in: the new occupant is the session the table lists under the event's id, at its station
    refine ⟨fun st y hy => ?_, rfl⟩
    simp only [setOcc] at hy
    split at hy
    · rename_i hst
      obtain rfl : x = y := Option.some.inj hy
      have hid : x.id = e.sess := by simpa using List.find?_some hf
      exact ⟨hid ▸ hf, hst.symm⟩
    · exact h st y hy
  · refine ⟨?_, rfl⟩
    dsimp only
    split
    · intro st y hy
      simp only [setOcc] at hy
      split at hy
      · cases hy
      · exact h st y hy
    · exact h
  · exact ⟨h, rfl⟩

theorem processAll_occSound {cfg : EventCore.Cfg} (es : List Event) (c : Core) (h : OccSound cfg c.occ) :
    OccSound cfg (EventCore.processAll cfg es c).1.occ ∧ (EventCore.processAll cfg es c).1.iter = c.iter := by
  rw [EventCore.processAll_eq]
  exact foldE_inv (P := fun c' => OccSound cfg c'.occ ∧ c'.iter = c.iter)
    (fun e _ c' hc => ⟨(step_occSound e c' hc.1).1, (step_occSound e c' hc.1).2.trans hc.2⟩) ⟨h, rfl⟩

theorem eventsStage_frame (cfg : Cfg K) (s : State K) (h : OccSound cfg.core s.core.occ) :
    (Sim.eventsStage cfg s).1.rates = s.rates ∧ (Sim.eventsStage cfg s).1.peak = s.peak ∧
    (Sim.eventsStage cfg s).1.evs = s.evs ∧ (Sim.eventsStage cfg s).1.occLog = s.occLog ∧
    (Sim.eventsStage cfg s).1.core.iter = s.core.iter ∧
    OccSound cfg.core (Sim.eventsStage cfg s).1.core.occ := by
  obtain ⟨-, f1, f2, f3, -, f4, -⟩ := Sim.eventsStage_frame cfg s
  have hc : (Sim.eventsStage cfg s).1.core = (EventCore.eventsStage cfg.core s.core).1 :=
    congrArg Prod.fst (Sim.eventsStage_core cfg s)
  have ho := processAll_occSound (cfg := cfg.core) (popCurrent s.core.iter s.core.pending).1
    { s.core with pending := (popCurrent s.core.iter s.core.pending).2 } h
  exact ⟨f1, f2, f3, f4, hc ▸ ho.2, hc ▸ ho.1⟩

/-- the invariant only reads these components -/
theorem Inv.transfer {cfg : Cfg K} {s a : State K} (hL : Inv cfg s) (h1 : a.rates = s.rates)
    (h2 : a.peak = s.peak) (h3 : a.evs = s.evs) (h4 : a.occLog = s.occLog)
    (h5 : a.core.iter = s.core.iter) (h6 : OccSound cfg.core a.core.occ) : Inv cfg a := by
  unfold Inv at hL ⊢
  rw [h1, h2, h3, h4, h5]
  exact ⟨hL.log_len, hL.rates_wf, h6, hL.log_sound, hL.ids, hL.gain, hL.sess, hL.vacant, hL.future,
    hL.peak_eq⟩

theorem preApply_core {cfg : Cfg K} {sched : View K → Except EventCore.Err (Schedule K)} {s a : State K}
    (ho : OccSound cfg.core s.core.occ) (p : PreApply cfg sched s a) :
    a.core.iter = s.core.iter ∧ OccSound cfg.core a.core.occ := by
  have hs := processAll_occSound (cfg := cfg.core) (popCurrent s.core.iter s.core.pending).1
    { s.core with pending := (popCurrent s.core.iter s.core.pending).2 } ho
  exact ⟨p.iter.trans hs.2, p.occ ▸ hs.1⟩

/-- the events of the period and the scheduler move the occupancy, the queue, the marks and the pilot
    matrix: nothing the ledger reads -/
theorem Inv.preApply {cfg : Cfg K} {sched : View K → Except EventCore.Err (Schedule K)} {s a : State K}
    (hL : Inv cfg s) (p : PreApply cfg sched s a) : Inv cfg a :=
  hL.transfer p.rates p.peak p.evs p.occLog (preApply_core hL.occ_sound p).1 (preApply_core hL.occ_sound p).2

theorem body_ledger {cfg : Cfg K} (hn : StationsNodup cfg)
    (sched : View K → Except EventCore.Err (Schedule K)) {s s' : State K}
    (hL : Inv cfg s) (h : Sim.body cfg sched s = (s', none)) : Inv cfg s' :=
  body_keeps (P := Inv cfg) (M := Inv cfg) (fun _ _ hs p => hs.preApply p)
    (fun _ _ ha hap => applyStage_ledger hn ha hap) hL h

theorem run_ledger {cfg : Cfg K} (hn : StationsNodup cfg)
    (sched : View K → Except EventCore.Err (Schedule K)) : ∀ (n : Nat) (s s' : State K),
    Inv cfg s → Sim.run cfg sched n s = (s', none) → Inv cfg s' :=
  run_induction_ok sched fun _ _ hL hb => body_ledger hn sched hL hb

theorem init_ledger (cfg : Cfg K) : Inv cfg (Sim.init cfg) := by
  unfold Inv
  refine ⟨rfl, Pilots.zeros_wf _ _, ?_, ?_, rfl, ?_, ?_, ?_, ?_, rfl⟩
  · intro st x h; simp [Sim.init, EventCore.init] at h
  · intro τ i id h; simp [Sim.init, occAt] at h
  · intro id e0 e h0 h
    simp only [Sim.init] at h
    rw [h0] at h
    obtain rfl : e0 = e := by simpa using h
    ring
  · intro id e0 e h0 h
    simp only [Sim.init] at h
    rw [h0] at h
    obtain rfl : e0 = e := by simpa using h
    simp [sessionEnergy, Sim.init, EventCore.init]
  · intro τ i hτ; simp [Sim.init, EventCore.init] at hτ
  · intro τ i _; simp only [Sim.init]; exact Pilots.zeros_get _ _ _ _

end Acn.Ledger
