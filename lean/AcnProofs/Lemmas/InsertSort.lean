/-
  The model sorts by insertion in four places: `Sorted.sortBy` for any comparison (Python's `sorted(l, key=…)`),
  `EventCore.sortByKey`, `Tariff.sortByStart` and `Tariff.sortPairs` with theirs built in.  What a sort does (a
  permutation, ordered when the comparison is a strict weak order, natural in a map that preserves the comparison) is
  proved here once, for `Sorted.sortBy`; `sortByKey` and `sortByStart` are shown to be instances of it next to their own
  lemmas (`EventCore.sortByKey_eq`, `C17.sortByStart_eq`).  `sortPairs` (the breakpoints of one tariff schedule) is not
  tied to it: its one lemma, `C17.sortPairs_of_strict`, says that it leaves strictly increasing breakpoints as they are.
-/
import AcnModel.Sorted
import Mathlib.Tactic

namespace Acn.Sorted

theorem insertBy_perm {α : Type} (lt : α → α → Bool) (x : α) (l : List α) :
    (insertBy lt x l).Perm (x :: l) := by
  induction l with
  | nil => simp [insertBy]
  | cons y ys ih =>
    unfold insertBy
    split
    · exact (List.Perm.cons y ih).trans (List.Perm.swap x y ys)
    · exact List.Perm.refl _

theorem sortBy_perm {α : Type} (lt : α → α → Bool) (l : List α) : (sortBy lt l).Perm l := by
  induction l with
  | nil => simp [sortBy]
  | cons x xs ih =>
    have : sortBy lt (x :: xs) = insertBy lt x (sortBy lt xs) := by simp [sortBy]
    rw [this]
    exact (insertBy_perm lt x _).trans (List.Perm.cons x ih)

theorem mem_sortBy {α : Type} (lt : α → α → Bool) (l : List α) (a : α) :
    a ∈ sortBy lt l ↔ a ∈ l := (sortBy_perm lt l).mem_iff

theorem insertBy_pairwise {α : Type} (lt : α → α → Bool)
    (htrans : ∀ a b c, lt b a = false → lt c b = false → lt c a = false)
    (hasym : ∀ a b, lt a b = true → lt b a = false) (x : α) (l : List α)
    (h : l.Pairwise (fun a b => lt b a = false)) :
    (insertBy lt x l).Pairwise (fun a b => lt b a = false) := by
  induction l with
  | nil => simp [insertBy]
  | cons y ys ih =>
    rw [List.pairwise_cons] at h
    unfold insertBy
    split
    · rename_i hyx
      rw [List.pairwise_cons]
      refine ⟨?_, ih h.2⟩
      intro z hz
      rcases (List.mem_cons.mp ((insertBy_perm lt x ys).mem_iff.mp hz)) with rfl | hz
      · exact hasym _ _ hyx
      · exact h.1 z hz
    · rename_i hyx
      have hyx' : lt y x = false := by simpa using hyx
      rw [List.pairwise_cons]
      refine ⟨?_, List.pairwise_cons.mpr h⟩
      intro z hz
      rcases List.mem_cons.mp hz with rfl | hz
      · exact hyx'
      · exact htrans x y z hyx' (h.1 z hz)

theorem sortBy_pairwise {α : Type} (lt : α → α → Bool)
    (htrans : ∀ a b c, lt b a = false → lt c b = false → lt c a = false)
    (hasym : ∀ a b, lt a b = true → lt b a = false) (l : List α) :
    (sortBy lt l).Pairwise (fun a b => lt b a = false) := by
  induction l with
  | nil => simp [sortBy]
  | cons x xs ih =>
    have : sortBy lt (x :: xs) = insertBy lt x (sortBy lt xs) := by simp [sortBy]
    rw [this]
    exact insertBy_pairwise lt htrans hasym x _ ih

theorem insertBy_map {α β : Type} (lt : α → α → Bool) (lt' : β → β → Bool) (f : α → β) (x : α) (l : List α)
    (h : ∀ y ∈ l, lt' (f y) (f x) = lt y x) :
    insertBy lt' (f x) (l.map f) = (insertBy lt x l).map f := by
  induction l with
  | nil => rfl
  | cons y ys ih =>
    simp only [List.map_cons, insertBy, h y List.mem_cons_self]
    split
    · simp only [List.map_cons]
      rw [ih (fun z hz => h z (List.mem_cons_of_mem _ hz))]
    · rfl

theorem sortBy_map {α β : Type} (lt : α → α → Bool) (lt' : β → β → Bool) (f : α → β) (l : List α)
    (h : ∀ x ∈ l, ∀ y ∈ l, lt' (f y) (f x) = lt y x) :
    sortBy lt' (l.map f) = (sortBy lt l).map f := by
  induction l with
  | nil => rfl
  | cons x xs ih =>
    have ih' := ih (fun a ha b hb => h a (List.mem_cons_of_mem _ ha) b (List.mem_cons_of_mem _ hb))
    simp only [sortBy, List.map_cons, List.foldr_cons] at ih' ⊢
    rw [ih']
    apply insertBy_map
    intro y hy
    have hy' : y ∈ xs := (sortBy_perm lt xs).mem_iff.1 hy
    exact h x List.mem_cons_self y (List.mem_cons_of_mem _ hy')

end Acn.Sorted
