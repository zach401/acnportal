/-
  The pieces of the document round trip below the recursion: what follows a rendered value does not continue a number
  (`Delim`), `parseAtom` on `null` / `true` / `false` / an int text / a float text, `skipWs` in front of a value, and
  the first character of `json.dumps(v)` (`render_head`).  The mutual induction on the value is in `JsonTextParse`.
-/
import AcnProofs.Lemmas.JsonTextStr
import AcnProofs.Lemmas.JsonTextNum
namespace Acn.JsonText

/-- the text after a value does not continue a number (it is empty, or starts with `,` `]` `}` `:` blank …) -/
def Delim (rest : List Char) : Prop := ∀ c r, rest = c :: r → isNumChar c = false

theorem delim_cons (c : Char) (r : List Char) (h : isNumChar c = false) : Delim (c :: r) :=
  fun _ _ e => by cases e; exact h

/-- first character of a rendered value: not blank, and not the bracket that would end an enclosing array -/
def HeadOK (cs : List Char) : Prop :=
  ∃ c t, cs = c :: t ∧ isWs c = false ∧ c ≠ ']'

theorem takeWhile_delim (p : Char → Bool) (t rest : List Char) (h : t.all p = true)
    (hd : ∀ c r, rest = c :: r → p c = false) :
    (t ++ rest).takeWhile p = t ∧ (t ++ rest).dropWhile p = rest := by
  rw [List.takeWhile_append_of_pos (List.all_eq_true.1 h), List.dropWhile_append_of_pos (List.all_eq_true.1 h)]
  cases rest with
  | nil => simp
  | cons c r => simp [hd c r rfl]

theorem startsNum_head (t : List Char) (h : startsNum t = true) : ∃ c r, t = c :: r ∧
    isWs c = false ∧ c ≠ ']' ∧ c ≠ '"' ∧ c ≠ '[' ∧ c ≠ '{' ∧ c ≠ 'n' ∧ c ≠ 't' ∧ c ≠ 'f' := by
  cases t with
  | nil => simp [startsNum] at h
  | cons c r =>
    refine ⟨c, r, rfl, ?_⟩
    have h : c.isDigit = true ∨ c = '-' ∨ c = 'N' ∨ c = 'I' := by simpa [startsNum, or_assoc] using h
    rcases h with h | rfl | rfl | rfl
    · refine ⟨?_, ?_, ?_, ?_, ?_, ?_, ?_, ?_⟩ <;>
        first
        | (rintro rfl; revert h; decide)
        | (cases hw : isWs c
           · rfl
           · simp only [isWs, Bool.or_eq_true, decide_eq_true_eq] at hw
             rcases hw with ((rfl | rfl) | rfl) | rfl <;> (revert h; decide))
    all_goals decide

theorem headOK_of_startsNum {t : List Char} (hs : startsNum t = true) : HeadOK t := by
  obtain ⟨c, r, rfl, hp⟩ := startsNum_head t hs
  exact ⟨c, r, rfl, hp.1, hp.2.1⟩

theorem parseAtom_num (t rest : List Char) (hall : t.all isNumChar = true) (hs : startsNum t = true)
    (hd : Delim rest) :
    parseAtom (t ++ rest) =
      if isIntTok t then some (.int (intOfTok t), rest)
      else if isFloatTok t then some (.num t, rest) else none := by
  obtain ⟨c, r, rfl, _, _, _, _, _, hn, ht, hf⟩ := startsNum_head t hs
  obtain ⟨h1, h2⟩ := takeWhile_delim isNumChar (c :: r) rest hall hd
  have l1 : lit ['n', 'u', 'l', 'l'] ((c :: r) ++ rest) = false := by
    simp [lit, List.isPrefixOf_cons_cons, Ne.symm hn]
  have l2 : lit ['t', 'r', 'u', 'e'] ((c :: r) ++ rest) = false := by
    simp [lit, List.isPrefixOf_cons_cons, Ne.symm ht]
  have l3 : lit ['f', 'a', 'l', 's', 'e'] ((c :: r) ++ rest) = false := by
    simp [lit, List.isPrefixOf_cons_cons, Ne.symm hf]
  unfold parseAtom
  simp only [l1, l2, l3, Bool.false_eq_true, if_false, h1, h2]

theorem parseAtom_int (n : Int) (rest : List Char) (hd : Delim rest) :
    parseAtom (renderInt n ++ rest) = some (.int n, rest) := by
  obtain ⟨hall, hs⟩ := isIntTok_numTok (isIntTok_renderInt n)
  rw [parseAtom_num _ _ hall hs hd, isIntTok_renderInt, intOfTok_renderInt]
  rfl

theorem isFloatTok_numTok {t : List Char} (h : isFloatTok t = true) : t.all isNumChar = true ∧ startsNum t = true := by
  simp only [isFloatTok, Bool.and_eq_true] at h
  exact h.1

theorem parseAtom_float (t rest : List Char) (h : isFloatTok t = true) (hd : Delim rest) :
    parseAtom (t ++ rest) = some (.num t, rest) := by
  have h' := h
  simp only [isFloatTok, Bool.and_eq_true, Bool.not_eq_true'] at h'
  rw [parseAtom_num _ _ h'.1.1 h'.1.2 hd, h'.2, h]
  simp

theorem parseAtom_null (rest : List Char) : parseAtom (['n', 'u', 'l', 'l'] ++ rest) = some (.null, rest) := by
  simp [parseAtom, lit, List.isPrefixOf_cons_cons]

theorem parseAtom_true (rest : List Char) : parseAtom (['t', 'r', 'u', 'e'] ++ rest) = some (.bool true, rest) := by
  simp [parseAtom, lit, List.isPrefixOf_cons_cons]

theorem parseAtom_false (rest : List Char) :
    parseAtom (['f', 'a', 'l', 's', 'e'] ++ rest) = some (.bool false, rest) := by
  simp [parseAtom, lit, List.isPrefixOf_cons_cons]

theorem skipWs_of_head (c : Char) (t : List Char) (h : isWs c = false) : skipWs (c :: t) = c :: t := by
  simp [skipWs, h]

theorem skipWs_space (t : List Char) : skipWs (' ' :: t) = skipWs t := by
  simp [skipWs, isWs]

theorem render_head : ∀ (v : JVal), v.wf = true → HeadOK (render v)
  | .null, _ => ⟨'n', _, rfl, by decide, by decide⟩
  | .bool true, _ => ⟨'t', _, rfl, by decide, by decide⟩
  | .bool false, _ => ⟨'f', _, rfl, by decide, by decide⟩
  | .int n, _ => headOK_of_startsNum (isIntTok_numTok (isIntTok_renderInt n)).2
  | .num t, hw => headOK_of_startsNum (isFloatTok_numTok (show isFloatTok t = true from hw)).2
  | .str s, _ => ⟨'"', escape s.toList ++ ['"'], by simp [render, renderStr], by decide, by decide⟩
  | .arr [], _ => ⟨'[', [']'], by simp [render], by decide, by decide⟩
  | .arr (v :: l), _ => ⟨'[', render v ++ (renderTail l ++ [']']), by simp [render], by decide, by decide⟩
  | .obj [], _ => ⟨'{', ['}'], by simp [render], by decide, by decide⟩
  | .obj ((k, v) :: l), _ => ⟨'{', renderStr k.toList ++ (':' :: ' ' :: (render v ++ (renderMTail l ++ ['}']))),
      by simp [render], by decide, by decide⟩

end Acn.JsonText
