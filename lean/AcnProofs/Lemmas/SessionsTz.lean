/-
  For the zone-aware part of C15 (`AcnProofs/C15Tz.lean`): the structure of `getEvsW`, and
  transparency of a memo table whose key determines the memoised function's value.
-/
import AcnModel.SessionsTz
import AcnProofs.Lemmas.Sessions
import AcnProofs.Lemmas.Assoc
import Mathlib.Tactic

set_option linter.unusedSectionVars false

namespace Acn.SessionsTzL
open Acn.Sessions Acn.SessionsL Acn.SessionsTz Acn.Evse Acn.Capstone

section readings
variable {K : Type} [Field K] [LinearOrder K] [IsStrictOrderedRing K] [FloorRing K]

theorem readingIndex_pos {r : Reading K} {period : K} (hp : 0 < period) :
    readingIndex r period = .ok (periodOf period r.instant) :=
  periodIndex_pos hp

theorem map_toDoc_congr {ds ds' : List (WDoc K)}
    (h : List.Forall₂ (fun d d' => d.connect.instant = d'.connect.instant ∧
      d.disconnect.instant = d'.disconnect.instant ∧ d.kWh = d'.kWh ∧ d.session = d'.session ∧
      d.space = d'.space) ds ds') :
    ds.map WDoc.toDoc = ds'.map WDoc.toDoc :=
  (forall₂_map_eq h fun d d' ⟨h1, h2, h3, h4, h5⟩ => by simp only [WDoc.toDoc, h1, h2, h3, h4, h5]).symm

theorem getEvsW_ok {start : Reading K} {docs : List (WDoc K)} {period V mp : K}
    {maxLen : Option Int} {bp : BattParams K} {ff : Bool} {evs : List (Ev K)} (hp : 0 < period)
    (h : getEvsW start docs period V mp maxLen bp ff = .ok evs) :
    List.Forall₂ (fun d e => convertDoc d.toDoc (pyTrunc (start.instant / (60 * period))) period V mp
      maxLen bp ff = .ok e) docs evs := by
  unfold getEvsW at h
  exact List.forall₂_map_left_iff.mp ((getEvs_ok_iff hp).1 h)

end readings

section memo
variable {α β κ : Type} [DecidableEq κ]

def CacheOk (f : α → β) (key : α → κ) (cache : List (κ × β)) : Prop :=
  ∀ k v, cache.lookup k = some v → ∃ a, key a = k ∧ f a = v

theorem cacheOk_nil (f : α → β) (key : α → κ) : CacheOk f key [] := by
  intro k v h; simp at h

theorem memoCall_spec {f : α → β} {key : α → κ} (hkey : ∀ a b, key a = key b → f a = f b)
    {cache : List (κ × β)} (hc : CacheOk f key cache) (a : α) :
    (memoCall f key cache a).1 = f a ∧ CacheOk f key (memoCall f key cache a).2 := by
  unfold memoCall
  cases hl : cache.lookup (key a) with
  | some v =>
    obtain ⟨b, hb, hv⟩ := hc _ _ hl
    exact ⟨by rw [← hv]; exact hkey b a hb, hc⟩
  | none =>
    refine ⟨rfl, fun k v h => ?_⟩
    rw [Assoc.lookup_cons] at h
    split at h
    · rename_i hk
      cases h
      exact ⟨a, hk, rfl⟩
    · exact hc k v h

theorem memoRun_pair (f : α → β) (key : α → κ) (a b : α) (h : key b = key a) :
    memoRun f key [] [a, b] = [f a, f a] := by
  simp [memoRun, memoCall, h]

theorem memoRun_eq_map {f : α → β} {key : α → κ} (hkey : ∀ a b, key a = key b → f a = f b)
    (calls : List α) : ∀ cache, CacheOk f key cache → memoRun f key cache calls = calls.map f := by
  induction calls with
  | nil => intro _ _; rfl
  | cons a as ih =>
    intro cache hc
    obtain ⟨h1, h2⟩ := memoCall_spec hkey hc a
    simp only [memoRun, List.map_cons, h1, ih _ h2]

end memo

end Acn.SessionsTzL
