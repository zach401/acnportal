/-
  T1c (DESIGN §17) — the hand-written kernels ARE the code, by proof (Queue group, properties C11 and C01).

  `AcnModel/Gen/CodeQueue.lean` is regenerated on every run from the Python ASTs of /repo's working tree
  (harness/translate_code.py).  Translated:

  * `Event.__lt__` (events/event.py) — `self.precedence < other.precedence`, with `precedence` read as
    the regenerated `EvKind.prec` of the event's class.  Heap entries are the tuples
    `(event.timestamp, event)` (event_queue.py `add_event`); Python compares tuples lexicographically,
    so the entry order is "timestamp first, `__lt__` among equal timestamps" — which is `Event.keyLt`
    with the translated `__lt__` in its second half (`keyLt_is_code`).  `C11.keyLt_by_kind`,
    `keyLt_strict_weak_order`, `gets_sorted`, … and `C01.keyLt_strictWeakOrder`, `history_sorted` are
    about `Event.keyLt`.
  * the test of the `while` loop of `EventQueue.get_current_events` (events/event_queue.py), after
    `self._timestep = timestep` and with `self.empty()` inlined from its own body, as a Boolean over
    `(len(self._queue), self._queue[0][0], timestep)`: it is the decision `Queue.getCurrentLoop` takes in
    every pass (`getCurrentLoop_is_code`: heap non-empty and `top.ts ≤ t`).

  A flipped or weakened comparison (`<=` for `<` in `__lt__`, `<` for `<=` in the loop test), a different
  attribute, `or` for `and`, or a loop test that reads the old `_timestep` changes `Gen.Code.*` and the
  theorems below stop compiling.
-/
import AcnModel.Gen.CodeQueue
import AcnModel.Queue

namespace Acn.CodeTie
open Acn

/-- `Event.__lt__` is the strict comparison of the precedences -/
theorem event_lt_tie (a b : Event) : Gen.Code.event_lt a b = decide (a.kind.prec < b.kind.prec) := rfl

/-- the order of the heap entries `(timestamp, event)`: timestamps first, the translated `Event.__lt__`
    among equal timestamps — `Event.keyLt` -/
theorem keyLt_is_code (a b : Event) :
    Event.keyLt a b = (decide (a.ts < b.ts) || (decide (a.ts = b.ts) && Gen.Code.event_lt a b)) := rfl

/-- the loop test of `get_current_events`: the queue is not empty and its first entry is due -/
theorem queue_loop_cond_tie (n : Nat) (h t : Int) :
    Gen.Code.queue_loop_cond n h t = (!decide (n = 0) && decide (h ≤ t)) := rfl

/-- every pass of `Queue.getCurrentLoop` (the model of the `while` loop) continues exactly when the
    translated loop test holds of the heap's size, the timestamp of its first entry and `t` -/
theorem getCurrentLoop_is_code (t : Int) (fuel : Nat) (s : Queue.State) (acc : List Event) :
    Queue.getCurrentLoop t (fuel + 1) s acc =
      if Gen.Code.queue_loop_cond s.heap.size ((s.heap[0]?.map (·.ts)).getD 0) t then
        (match Queue.getEvent s with
         | .ok (e, s') => Queue.getCurrentLoop t fuel s' (acc ++ [e])
         | .error _ => (s, acc))
      else (s, acc) := by
  rw [Queue.getCurrentLoop, queue_loop_cond_tie]
  obtain ⟨⟨l⟩, ts⟩ := s
  cases l with
  | nil => rfl
  | cons x xs =>
    show (if x.ts ≤ t then _ else _) = if (decide (x.ts ≤ t)) = true then _ else _
    by_cases h : x.ts ≤ t
    · rw [if_pos h, if_pos (decide_eq_true h)]
      generalize Queue.getEvent _ = r
      rcases r with _ | ⟨e, s'⟩ <;> rfl
    · rw [if_neg h, if_neg (by simpa using h)]

theorem all_translated_queue : Gen.Code.translatedQueue = ["event_lt", "queue_loop_cond"] := rfl

end Acn.CodeTie
