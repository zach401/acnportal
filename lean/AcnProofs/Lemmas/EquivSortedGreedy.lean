/-
  The greedy allocation (`sorting_algorithm`: start at the lower bounds, then per session the bisection /
  the level scan) touches the rate vector only through `replicate`, `set idx` and the feasibility oracle:
  it is natural in a relabelling of the stations (`Moves`), a time shift and a pair of oracles with
  `feas' (T x) = feas x`.
-/
import AcnProofs.Lemmas.EquivSortedMoves
import AcnProofs.Lemmas.SortedGreedy

set_option linter.unusedSectionVars false

namespace Acn.Sorted
open Acn.SimEquiv

variable {K : Type} [Field K] [LinearOrder K] [IsStrictOrderedRing K]

section
variable {n : Nat} {D : Nat → Prop} {p : Nat → Nat} {T : {α : Type} → List α → α → List α} (hM : Moves n D p T)
  (k : Nat) (infra : Infra K) (feas feas' : List K → Bool) (hf : ∀ x : List K, x.length = n → feas' (T x 0) = feas x)
include hM

theorem initSchedule_mvS (q : List (Session K)) (hq : ∀ s ∈ q, D s.idx) :
    initSchedule n (q.map (mvS p k)) = T (initSchedule n q) 0 := by
  have e := hM.writes (fun s : Session K => s.idx) (fun s => (mvS p k s).idx) lbOf (fun s => lbOf (mvS p k s)) 0 q
    (fun s hs => ⟨hq s hs, rfl, rfl⟩) (List.replicate n 0) (by simp)
  rwa [hM.replicate, ← writes_map (·.idx) lbOf (mvS p k)] at e

include hf

theorem feas_set_mvS (sch : List K) (hl : sch.length = n) {i : Nat} (hi : D i) (v : K) :
    feas' ((T sch 0).set (p i) v) = feas (sch.set i v) := by
  rw [hM.set sch 0 v hi hl, hf _ (by simp [hl])]

theorem bisect_mvS (sch : List K) (hl : sch.length = n) {i : Nat} (hi : D i) (eps : K) :
    ∀ (fuel : Nat) (lb ub : K),
      bisect feas' (T sch 0) (p i) eps fuel lb ub = bisect feas sch i eps fuel lb ub := by
  intro fuel
  induction fuel with
  | zero => intro lb ub; rfl
  | succ fuel ih =>
    intro lb ub
    simp only [bisect, feas_set_mvS hM feas feas' hf sch hl hi, ih]

theorem maxFeasibleRate_mvS (fuel : Nat) (sch : List K) (hl : sch.length = n) {i : Nat} (hi : D i) (ub eps lb : K) :
    maxFeasibleRate feas' fuel (p i) ub (T sch 0) eps lb = maxFeasibleRate feas fuel i ub sch eps lb := by
  simp only [maxFeasibleRate, hf sch hl, feas_set_mvS hM feas feas' hf sch hl hi,
    bisect_mvS hM feas feas' hf sch hl hi]

theorem walkDown_mvS (sch : List K) (hl : sch.length = n) {i : Nat} (hi : D i) :
    ∀ lv : List K, walkDown feas' (T sch 0) (p i) lv = walkDown feas sch i lv := by
  intro lv
  induction lv with
  | nil => rfl
  | cons a rest ih => simp only [walkDown, feas_set_mvS hM feas feas' hf sch hl hi, ih]

theorem discreteMax_mvS (sch : List K) (hl : sch.length = n) {i : Nat} (hi : D i) (lv : List K) :
    discreteMax feas' (T sch 0) (p i) lv = discreteMax feas sch i lv := by
  simp only [discreteMax, hf sch hl, walkDown_mvS hM feas feas' hf sch hl hi]

omit hf in
theorem levelsIn_mvS {i : Nat} (hi : D i) (lb ub : K) :
    levelsIn (mapInfra T infra) (p i) lb ub = levelsIn infra i lb ub := by
  unfold levelsIn
  show ((T infra.allow []).getD (p i) []).filter _ = _
  rw [hM.getD _ _ hi]

theorem greedyRate_mvS (fuel : Nat) (eps period : K) (sch : List K) (hl : sch.length = n) {s : Session K}
    (hs : D s.idx) :
    greedyRate feas' fuel eps (mapInfra T infra) period (T sch 0) (mvS p k s) =
      greedyRate feas fuel eps infra period sch s := by
  unfold greedyRate
  have hc : (mapInfra T infra).cont.getD (p s.idx) true = infra.cont.getD s.idx true :=
    hM.getD _ _ hs
  have hi : (mvS p k s).idx = p s.idx := rfl
  have hlb : lbOf (mvS p k s) = lbOf s := rfl
  simp only [ubOf_mvS hM k infra period hs, hlb, hi, hc, maxFeasibleRate_mvS hM feas feas' hf fuel sch hl hs,
    levelsIn_mvS hM infra hs, discreteMax_mvS hM feas feas' hf sch hl hs]

theorem greedyLoop_mvS (fuel : Nat) (eps period : K) (q : List (Session K)) (hq : ∀ s ∈ q, D s.idx) :
    ∀ sch : List K, sch.length = n →
      greedyLoop feas' fuel eps (mapInfra T infra) period (q.map (mvS p k)) (T sch 0) =
        (greedyLoop feas fuel eps infra period q sch).map (fun x => T x 0) := by
  induction q with
  | nil => intro sch _; rfl
  | cons s rest ih =>
    intro sch hl
    have hs := hq s List.mem_cons_self
    simp only [List.map_cons, greedyLoop, greedyRate_mvS hM k infra feas feas' hf fuel eps period sch hl hs]
    cases greedyRate feas fuel eps infra period sch s with
    | error e => rfl
    | ok r =>
      simp only
      have h1 : (T sch 0).set (mvS p k s).idx r = T (sch.set s.idx r) 0 :=
        hM.set sch 0 r hs hl
      rw [h1]
      exact ih (fun x hx => hq x (List.mem_cons_of_mem _ hx)) _ (by simp [hl])

theorem sortingAlgorithm_mvS (hn : infra.ids.length = n) (fuel : Nat) (eps period : K) (q : List (Session K))
    (hq : ∀ s ∈ q, D s.idx) :
    sortingAlgorithm feas' fuel eps (mapInfra T infra) period (q.map (mvS p k)) =
      (sortingAlgorithm feas fuel eps infra period q).map (fun x => T x 0) := by
  unfold sortingAlgorithm
  have hn' : (mapInfra T infra).ids.length = n := hM.length _ _ hn
  simp only [hn, hn', initSchedule_mvS hM k q hq, hf _ (initSchedule_len n q)]
  by_cases h : feas (initSchedule n q) = true
  · simp only [h, Bool.not_true, Bool.false_eq_true, if_false]
    exact greedyLoop_mvS hM k infra feas feas' hf fuel eps period q hq _ (initSchedule_len n q)
  · simp only [h, Bool.not_false, if_true]
    rfl

end
end Acn.Sorted
