/-
  Helper lemmas for C10: sums over per-station lists re-indexed by a permutation `σ` of the station numbers
  (`reidx`, Lemmas/Reidx), and the feasibility check under permuted stations.
-/
import AcnProofs.Lemmas.FeasSums
import AcnProofs.Lemmas.Reidx

namespace Acn

/-- a pair whose second component is known; unlike `Prod.ext rfl h` this never makes the unifier look
    inside `p`, which matters when `p` is a closed term standing for a long computation -/
theorem eq_pair_of_snd {α β : Type} {p : α × β} {b : β} (h : p.2 = b) : p = (p.1, b) := by rw [← h]

namespace Feas

set_option linter.unusedSectionVars false

variable {K : Type} [Field K] [LinearOrder K] [IsStrictOrderedRing K]

theorem wsum_eq_range (n : Nat) (row x z : List K) (hr : row.length = n) (hx : x.length = n) (hz : z.length = n) :
    wsum row x z = ((List.range n).map fun i => row.getD i 0 * (x.getD i 0 * z.getD i 0)).sum := by
  conv_lhs => rw [← reidx_range 0 hr, ← reidx_range 0 hx, ← reidx_range 0 hz]
  unfold wsum
  rw [zipWith_reidx, reidx, List.zipWith_map, List.zipWith_self]

theorem wsum_reidx (σ : List Nat) (n : Nat) (hσ : σ.Perm (List.range n)) (row x z : List K)
    (hr : row.length = n) (hx : x.length = n) (hz : z.length = n) :
    wsum (reidx σ row 0) (reidx σ x 0) (reidx σ z 0) = wsum row x z := by
  rw [wsum_eq_range n row x z hr hx hz]
  unfold wsum
  rw [zipWith_reidx, reidx, List.zipWith_map, List.zipWith_self]
  exact (hσ.map _).sum_eq

theorem col_reidx (σ : List Nat) (S : List (List K)) (t : Nat) :
    col (reidx σ S []) t = reidx σ (col S t) 0 := by
  unfold col reidx
  rw [List.map_map]
  apply List.map_congr_left
  intro i _
  simp only [Function.comp, List.getD_eq_getElem?_getD, List.getElem?_map]
  cases S[i]? <;> simp

theorem rowOk_reidx (σ : List Nat) (n : Nat) (hσ : σ.Perm (List.range n)) (row : List K) (lim vt rt : K)
    (c s x : List K) (hr : row.length = n) (hc : c.length = n) (hs : s.length = n) (hx : x.length = n) :
    rowOk (reidx σ row 0) lim vt rt (reidx σ c 0) (reidx σ s 0) (reidx σ x 0) = rowOk row lim vt rt c s x := by
  unfold rowOk
  rw [aggRe_eq, aggIm_eq, aggRe_eq, aggIm_eq, wsum_reidx σ n hσ row x c hr hx hc, wsum_reidx σ n hσ row x s hr hx hs]

/-- what both feasibility checks compute per period -/
theorem rows_reidx (σ : List Nat) (n : Nat) (hσ : σ.Perm (List.range n)) (M : List (List K)) (lims c s x : List K)
    (vt rt : K) (hM : ∀ row ∈ M, row.length = n) (hc : c.length = n) (hs : s.length = n) (hx : x.length = n) :
    ((List.zip (M.map fun row => reidx σ row 0) lims).all fun p =>
        rowOk p.1 p.2 vt rt (reidx σ c 0) (reidx σ s 0) (reidx σ x 0)) =
      (List.zip M lims).all fun p => rowOk p.1 p.2 vt rt c s x := by
  rw [List.zip_map_left, List.all_map, Bool.eq_iff_iff, List.all_eq_true, List.all_eq_true]
  refine forall₂_congr fun p hp => ?_
  rw [Function.comp_apply, Prod.map_fst, Prod.map_snd, id]
  rw [rowOk_reidx σ n hσ p.1 p.2 vt rt c s x (hM p.1 (List.of_mem_zip (show (p.1, p.2) ∈ List.zip M lims from hp)).1)
    hc hs hx]

theorem periods_reidx (σ : List Nat) (n : Nat) (hσ : σ.Perm (List.range n)) (S : List (List K)) (w : Nat)
    (hS : S.length = n) (hw : ∀ r ∈ S, r.length = w) : periods (reidx σ S []) = periods S := by
  have hp : (reidx σ S []).Perm S := reidx_perm [] (by rw [hS]; exact hσ)
  unfold periods
  cases hS' : S with
  | nil =>
    have : reidx σ [] ([] : List K) = [] := List.Perm.eq_nil (by simpa [hS'] using hp)
    simp [this]
  | cons r rs =>
    cases hR : reidx σ S [] with
    | nil => rw [hR] at hp; exact absurd hp.symm.eq_nil (by simp [hS'])
    | cons q qs =>
      have hq : q ∈ S := hp.mem_iff.1 (by rw [hR]; simp)
      have hr : r ∈ S := by simp [hS']
      rw [hS'] at hR
      rw [hR]
      simp only [List.headD_cons]
      rw [hw q hq, hw r hr]

end Feas
end Acn
