/-
  The contract of `Simulator.step()` (model: `AcnModel/SimStep.lean`, the repaired loop; C05).  After a pass
  `_last_schedule_update` is the period just simulated, so `iteration − _last_schedule_update = 1`: the loop
  continues iff events are left, no event was applied in the new period and `max_recompute` is `None` or ≥ 2
  (`stepCond_after_pass`); when that test fails the call is exactly one pass (`step_single_pass`).
-/
import AcnProofs.Lemmas.EventCoreStep
import AcnProofs.Lemmas.ResumeTrigger

set_option linter.unusedSectionVars false

namespace Acn.Sim
open Acn Acn.EventCore

variable {K : Type} [Add K] [Sub K] [Mul K] [Div K] [Neg K] [LT K] [LE K]
  [DecidableLT K] [DecidableLE K] [OfNat K 0] [OfNat K 1] [NatCast K] [HasExp K]

theorem stepPass_supply (cfg : Cfg K) (sch : Schedule K) {s s' : State K} (h : stepPass cfg sch s = (s', none)) :
    supplyPass cfg.core s.core = (s'.core, none) := by
  have := stepPass_core cfg sch s (by rw [h])
  rw [h] at this
  exact this.symm

theorem stepPass_trigger (cfg : Cfg K) (sch : Schedule K) {s s' : State K} (h : stepPass cfg sch s = (s', none)) :
    s'.core.iter = s.core.iter + 1 ∧
    s'.core.resolve = !(popsAt (advance (markScheduled s.core))).isEmpty ∧
    (s'.core.resolve = false → s'.core.lastUpd = some (s.core.iter : Int)) := by
  have hs := stepPass_supply cfg sch h
  unfold supplyPass at hs
  obtain ⟨h1, -, h3, h4⟩ := eventsStage_ok_facts hs
  have h3 : s'.core.resolve = !(popsAt (advance (markScheduled s.core))).isEmpty := h3
  refine ⟨h1, h3, fun hr => ?_⟩
  have hpops : popsAt (advance (markScheduled s.core)) = [] :=
    List.isEmpty_iff.1 (by simpa [hr] using h3.symm)
  rw [hpops] at h4
  exact h4

theorem stepCond_after_pass (cfg : Cfg K) (sch : Schedule K) {s s' : State K} (h : stepPass cfg sch s = (s', none)) :
    stepCond cfg.maxRecompute false s'.core =
      .ok (!s'.core.pending.isEmpty && !s'.core.resolve &&
        (match cfg.maxRecompute with | none => true | some m => decide (2 ≤ m))) := by
  obtain ⟨h1, -, h4⟩ := stepPass_trigger cfg sch h
  unfold stepCond stepCondUnfixed
  by_cases hp : s'.core.pending.isEmpty = true
  · simp [hp]
  · have hp' : s'.core.pending.isEmpty = false := by simpa using hp
    simp only [hp', Bool.false_eq_true, if_false, Bool.not_false, Bool.true_and]
    by_cases hr : s'.core.resolve = true
    · simp [hr]
    · have hr' : s'.core.resolve = false := by simpa using hr
      simp only [hr', Bool.false_eq_true, if_false, Bool.not_false, Bool.true_and]
      cases hm : cfg.maxRecompute with
      | none => rfl
      | some m =>
        rw [h4 hr', h1]
        simp only []
        congr 1
        apply decide_eq_decide.2
        constructor <;> intro hh <;> omega

/-- fuel `n + 2`: one unit for the pass, one for the loop test that then fails -/
theorem step_single_pass (cfg : Cfg K) (sch : Schedule K) (n : Nat) {s s' : State K} (hp : s.core.pending ≠ [])
    (h : stepPass cfg sch s = (s', none))
    (hstop : (!s'.core.pending.isEmpty && !s'.core.resolve &&
      (match cfg.maxRecompute with | none => true | some m => decide (2 ≤ m))) = false) :
    step cfg sch (n + 2) s = (s', .ok s'.core.pending.isEmpty) ∧ s'.core.iter = s.core.iter + 1 := by
  have h1 := step_runs_first_pass cfg sch (n + 1) s s' hp h
  have hc := stepCond_after_pass cfg sch h
  rw [hstop] at hc
  refine ⟨?_, (stepPass_trigger cfg sch h).1⟩
  unfold step
  rw [h1]
  simp only [stepLoop, hc]

theorem step_one_period (cfg : Cfg K) (sch : Schedule K) (n : Nat) {s s' : State K} {m : Nat}
    (hm : cfg.maxRecompute = some m) (hle : m ≤ 1) (hp : s.core.pending ≠ []) (h : stepPass cfg sch s = (s', none)) :
    step cfg sch (n + 2) s = (s', .ok s'.core.pending.isEmpty) ∧ s'.core.iter = s.core.iter + 1 := by
  apply step_single_pass cfg sch n hp h
  rw [hm]
  have : decide (2 ≤ m) = false := by simp; omega
  simp [this]

theorem step_stops_at_event (cfg : Cfg K) (sch : Schedule K) (n : Nat) {s s' : State K}
    (hp : s.core.pending ≠ []) (h : stepPass cfg sch s = (s', none))
    (hev : s'.core.resolve = true ∨ s'.core.pending = []) :
    step cfg sch (n + 2) s = (s', .ok s'.core.pending.isEmpty) ∧ s'.core.iter = s.core.iter + 1 := by
  apply step_single_pass cfg sch n hp h
  rcases hev with hev | hev
  · simp [hev]
  · simp [hev]

end Acn.Sim
