/-
  C18 on the SIMULATED trajectory — the analysis functions (`AcnModel/Analysis.lean`) evaluated on the final (or any
  loop-head) state of the full simulator model `Sim.run` (`AcnModel/AnalysisSim.lean`), tied to what the other
  properties prove about that state:

    C02  ledger_invariant / peak_eq_max / total_energy_eq_integral   → aggregate current & power, peak, total energy
    C01  Sim.run_inv_horizon / ev_history_keys                       → datetimes (one per simulated period), ev_history
    C07  sim_consequences_of_schedSafe (delivered ≤ requested)       → proportion_of_energy_delivered ≤ 1
    C02  sim_rate_le_pilot (0 ≤ rate ≤ pilot; C03)                   → constraint currents within the limits (partial)

  Every theorem is about `Sim.run cfg sched n (Sim.init cfg) = (s, none)`: ANY scenario with distinct station ids, ANY
  scheduler, ANY fuel `n` (every loop head of a run that has not raised, in particular the final state).
-/
import AcnProofs.Lemmas.AnalysisSimRun
import AcnProofs.C01
import AcnProofs.C02
import AcnProofs.C07

set_option linter.unusedSectionVars false

namespace Acn.C18Sim
open Acn.Analysis Acn.AnalysisSim Acn.Sim Acn.Ledger Finset

variable {K : Type} [Field K] [LinearOrder K] [IsStrictOrderedRing K] [HasExp K]

/-- `aggregate_current(sim)`: one entry per column of `charging_rates`, entry `t` = Σ over the stations of the rate
    the simulator recorded for period `t`; 0 in every period that has not been simulated yet -/
theorem sim_aggregate_current (cfg : Cfg K) (hn : StationsNodup cfg)
    (sched : View K → Except EventCore.Err (Schedule K)) (n : Nat) (s : State K)
    (h : Sim.run cfg sched n (Sim.init cfg) = (s, none)) :
    aggregateCurrentSim s =
      (List.range (simT s)).map (fun t => ∑ i ∈ range cfg.stations.length, s.rates.get i t) ∧
    (∀ t, (aggregateCurrentSim s).getD t 0 = ∑ i ∈ range cfg.stations.length, s.rates.get i t) ∧
    (∀ t, s.core.iter ≤ t → (aggregateCurrentSim s).getD t 0 = 0) := by
  have hL := C02.ledger_invariant cfg hn sched n s h
  obtain ⟨hr, hl⟩ := rect_of_inv hL
  refine ⟨?_, aggSim_getD hL, ?_⟩
  · unfold aggregateCurrentSim
    rw [C18.aggregate_current_def _ _ hr, hl]; rfl
  · intro t ht
    rw [aggSim_getD hL]
    exact Finset.sum_eq_zero fun i _ => hL.future t i ht

/-- `Simulator.peak` IS the maximum of `aggregate_current(sim)` (and 0): an upper bound of every entry, attained by
    one of the simulated periods unless it is 0 -/
theorem sim_peak_is_max_aggregate_current (cfg : Cfg K) (hn : StationsNodup cfg)
    (sched : View K → Except EventCore.Err (Schedule K)) (n : Nat) (s : State K)
    (h : Sim.run cfg sched n (Sim.init cfg) = (s, none)) :
    0 ≤ s.peak ∧ (∀ t, (aggregateCurrentSim s).getD t 0 ≤ s.peak) ∧
    (s.peak = 0 ∨ ∃ τ < s.core.iter, s.peak = (aggregateCurrentSim s).getD τ 0) := by
  have hL := C02.ledger_invariant cfg hn sched n s h
  obtain ⟨p0, p1, p2⟩ := C02.peak_eq_max cfg hn sched n s h
  refine ⟨p0, ?_, ?_⟩
  · intro t
    by_cases ht : t < s.core.iter
    · rw [aggSim_getD hL]; exact p1 t ht
    · rw [(sim_aggregate_current cfg hn sched n s h).2.2 t (by omega)]; exact p0
  · rcases p2 with p2 | ⟨τ, hτ, p2⟩
    · exact Or.inl p2
    · exact Or.inr ⟨τ, hτ, by rw [aggSim_getD hL]; exact p2⟩

/-- `aggregate_power(sim)`: entry `t` = Σ over the stations of (the voltage the station was REGISTERED with) ·
    (recorded rate) / 1000 -/
theorem sim_aggregate_power (cfg : Cfg K) (hn : StationsNodup cfg)
    (sched : View K → Except EventCore.Err (Schedule K)) (n : Nat) (s : State K)
    (h : Sim.run cfg sched n (Sim.init cfg) = (s, none)) :
    aggregatePowerSim cfg s =
      (List.range (simT s)).map
        (fun t => (∑ i ∈ range cfg.stations.length, volt cfg i * s.rates.get i t) / 1000) ∧
    (∀ t, (aggregatePowerSim cfg s).getD t 0 =
      (∑ i ∈ range cfg.stations.length, volt cfg i * s.rates.get i t) / 1000) := by
  have hL := C02.ledger_invariant cfg hn sched n s h
  obtain ⟨hr, hl⟩ := rect_of_inv hL
  refine ⟨?_, powSim_getD hL⟩
  unfold aggregatePowerSim
  rw [C18.aggregate_power_def _ _ _ hr, hl]; rfl

/-- `total_energy_delivered` over the scenario's EV objects = Σ of the sessions' energy counters
    = Σ over the simulated periods of `aggregate_power(sim)[τ] · period / 60` (fresh EVs, distinct session ids) -/
theorem sim_total_energy_eq_integral (cfg : Cfg K) (hn : StationsNodup cfg)
    (hid : (cfg.evs.map (·.session)).Nodup) (hfresh : ∀ e ∈ cfg.evs, e.delivered = 0)
    (sched : View K → Except EventCore.Err (Schedule K)) (n : Nat) (s : State K)
    (h : Sim.run cfg sched n (Sim.init cfg) = (s, none)) :
    totalDelivered (allEvs s) = (s.evs.map (·.delivered)).sum ∧
    totalDelivered (allEvs s) =
      ∑ τ ∈ range s.core.iter, (aggregatePowerSim cfg s).getD τ 0 * (cfg.period / 60) := by
  have hL := C02.ledger_invariant cfg hn sched n s h
  have h1 : totalDelivered (allEvs s) = (s.evs.map (·.delivered)).sum := by
    unfold totalDelivered allEvs
    rw [sumK_eq_sum, List.map_map]; rfl
  refine ⟨h1, ?_⟩
  have h0 : (cfg.evs.map (·.delivered)).sum = 0 := by
    apply List.sum_eq_zero
    intro x hx
    obtain ⟨e, he, rfl⟩ := List.mem_map.1 hx
    exact hfresh e he
  have ht := C02.total_energy_eq_integral cfg hn hid sched n s h
  rw [h0, sub_zero] at ht
  rw [h1, ht]
  apply Finset.sum_congr rfl
  intro τ _
  rw [powSim_getD hL, Finset.sum_div]

/-- what a COMPLETE run (`Valid` scenario, fuel ≥ horizon, nothing raised) leaves behind: C01 -/
theorem complete_run_facts (cfg : Cfg K) (hv : EventCore.Valid cfg.core)
    (sched : View K → Except EventCore.Err (Schedule K)) (n : Nat) (hN : EventCore.horizon cfg.core ≤ n)
    (s : State K) (h : Sim.run cfg sched n (Sim.init cfg) = (s, none)) :
    s.core.iter = EventCore.horizon cfg.core ∧ s.core.pending = [] ∧
    s.core.evHist.Perm (cfg.evs.map (·.session)) := by
  have hI' := Sim.run_inv_horizon cfg sched hv hN (by rw [h])
  rw [h] at hI'
  refine ⟨hI'.iter, hI'.pending_nil hv, ?_⟩
  have hp := (C01.ev_history_keys hv hI').2
  have hids : cfg.core.sessions.map (·.id) = cfg.evs.map (·.session) := by
    simp [Cfg.core, sessionOf, List.map_map, Function.comp_def]
  rw [hids] at hp
  exact hp

/-- COMPLETE run: `sim.ev_history.values()` are the scenario's EV objects (every session has plugged in), and
    `total_energy_delivered(sim)` — the sum over `ev_history` the code computes — is the integral of
    `aggregate_power(sim)` over the whole horizon -/
theorem sim_total_energy_complete (cfg : Cfg K) (hn : StationsNodup cfg)
    (hid : (cfg.evs.map (·.session)).Nodup) (hfresh : ∀ e ∈ cfg.evs, e.delivered = 0)
    (hv : EventCore.Valid cfg.core)
    (sched : View K → Except EventCore.Err (Schedule K)) (n : Nat) (hN : EventCore.horizon cfg.core ≤ n)
    (s : State K) (h : Sim.run cfg sched n (Sim.init cfg) = (s, none)) :
    (histEvs s).Perm (allEvs s) ∧
    totalDeliveredSim s =
      ∑ τ ∈ range (EventCore.horizon cfg.core), (aggregatePowerSim cfg s).getD τ 0 * (cfg.period / 60) := by
  have hL := C02.ledger_invariant cfg hn sched n s h
  obtain ⟨hi, _, hp⟩ := complete_run_facts cfg hv sched n hN s h
  have hperm := histEvs_perm hL hid hp
  refine ⟨hperm, ?_⟩
  unfold totalDeliveredSim
  rw [totalDelivered_perm hperm, (sim_total_energy_eq_integral cfg hn hid hfresh sched n s h).2, hi]

/-- `proportion_of_energy_delivered` on a state in which no EV got more than it requested (C07's conclusion, here a
    hypothesis) and something was requested: defined, ≤ 1, and = 1 iff EVERY request was met in full -/
theorem proportion_le_one_of_le_requested (s : State K)
    (hle : ∀ e ∈ s.evs, e.delivered ≤ e.requested) (hpos : 0 < ((allEvs s).map (·.requested)).sum) :
    ∃ p, proportionDelivered (allEvs s) = .ok p ∧ p ≤ 1 ∧
      (p = 1 ↔ ∀ e ∈ s.evs, e.delivered = e.requested) := by
  obtain ⟨p, hp, h1, h2⟩ := proportion_spec (allEvs s)
    (by intro e he; obtain ⟨e', he', rfl⟩ := List.mem_map.1 he; exact hle e' he') hpos
  refine ⟨p, hp, h1, h2.trans ?_⟩
  simp [allEvs, evOfSim]

/-- THE LINK TO C07: for every scheduler with C07's per-call guarantees (`SchedSafe`: pilots within the occupant's
    remaining demand and the EVSE's accepted set) on a well-formed configuration, at every loop head of a run that
    has not raised: `proportion_of_energy_delivered ≤ 1`, with equality iff every request was met -/
theorem sim_proportion_le_one (feasP : List ℝ → Bool) (cfg : Cfg ℝ) (inf : ℝ) (hc : Sorted.CfgOk cfg inf)
    (sched : View ℝ → Except EventCore.Err (Schedule ℝ)) (hs : Sorted.SchedSafe feasP cfg inf sched)
    (hb : ∀ e ∈ cfg.evs, BattAlg.Inv e.batt ∧ e.delivered ≤ e.requested) (n : Nat) (s : State ℝ)
    (h : Sim.run cfg sched n (Sim.init cfg) = (s, none))
    (hpos : 0 < ((allEvs s).map (·.requested)).sum) :
    ∃ p, proportionDelivered (allEvs s) = .ok p ∧ p ≤ 1 ∧
      (p = 1 ↔ ∀ e ∈ s.evs, e.delivered = e.requested) := by
  have hcons := (C07.sim_consequences_of_schedSafe feasP cfg inf hc sched hs hb n).2 (by rw [h])
  rw [h] at hcons
  exact proportion_le_one_of_le_requested s (fun e he => (hcons.1 e he).1) hpos

theorem proportionDelivered_perm {a b : List (Analysis.Ev K)} (h : a.Perm b) :
    proportionDelivered a = proportionDelivered b := by
  unfold proportionDelivered
  rw [totalDelivered_perm h, totalRequested_perm h]

/-- … and for a COMPLETE run the same about `proportion_of_energy_delivered(sim)` as the code computes it (over
    `ev_history`) -/
theorem sim_proportion_le_one_complete (feasP : List ℝ → Bool) (cfg : Cfg ℝ) (inf : ℝ) (hc : Sorted.CfgOk cfg inf)
    (hn : StationsNodup cfg) (hid : (cfg.evs.map (·.session)).Nodup) (hv : EventCore.Valid cfg.core)
    (sched : View ℝ → Except EventCore.Err (Schedule ℝ)) (hs : Sorted.SchedSafe feasP cfg inf sched)
    (hb : ∀ e ∈ cfg.evs, BattAlg.Inv e.batt ∧ e.delivered ≤ e.requested) (n : Nat)
    (hN : EventCore.horizon cfg.core ≤ n) (s : State ℝ)
    (h : Sim.run cfg sched n (Sim.init cfg) = (s, none))
    (hpos : 0 < ((allEvs s).map (·.requested)).sum) :
    ∃ p, proportionDeliveredSim s = .ok p ∧ p ≤ 1 ∧
      (p = 1 ↔ ∀ e ∈ s.evs, e.delivered = e.requested) := by
  have hL := C02.ledger_invariant cfg hn sched n s h
  obtain ⟨_, _, hp⟩ := complete_run_facts cfg hv sched n hN s h
  unfold proportionDeliveredSim
  rw [proportionDelivered_perm (histEvs_perm hL hid hp)]
  exact sim_proportion_le_one feasP cfg inf hc sched hs hb n s h hpos

/-- `proportion_of_demands_met(sim, threshold)` is monotone in the threshold, within [0, 1], and 1 once every
    session's remaining demand is below the threshold — any state with a non-empty EV history -/
theorem sim_demands_met_mono (s : State K) (hne : histEvs s ≠ []) (thr thr' : K) (hle : thr ≤ thr') :
    (∃ a b, demandsMetSim s thr = .ok a ∧ demandsMetSim s thr' = .ok b ∧ 0 ≤ a ∧ a ≤ b ∧ b ≤ 1) ∧
    ((∀ e ∈ histEvs s, e.requested - e.delivered < thr) → demandsMetSim s thr = .ok 1) :=
  ⟨demandsMet_mono (histEvs s) hne thr thr' hle, demandsMet_all (histEvs s) hne thr⟩

/-- `datetimes_array(sim)` in ANY state (finished or not): one entry per period simulated so far, entry `t` =
    start + t · period, consecutive entries exactly one period apart; the warning is raised iff the event queue is
    not empty -/
theorem sim_datetimes (start : K) (cfg : Cfg K) (s : State K) :
    (datetimesSim start cfg s).length = s.core.iter ∧
    (∀ t, t < s.core.iter → (datetimesSim start cfg s).getD t 0 = start + cfg.period * (t : K)) ∧
    (∀ t, t + 1 < s.core.iter →
      (datetimesSim start cfg s).getD (t + 1) 0 - (datetimesSim start cfg s).getD t 0 = cfg.period) ∧
    (warnsUnfinished s = true ↔ s.core.pending ≠ []) := by
  have hget : ∀ t, t < s.core.iter → (datetimesSim start cfg s).getD t 0 = start + cfg.period * (t : K) := by
    intro t ht
    unfold datetimesSim datetimes
    rw [getD_map_range 0 _ _ t ht]
  refine ⟨by simp [datetimesSim, datetimes], hget, ?_, ?_⟩
  · intro t ht
    rw [hget (t + 1) ht, hget t (by omega)]
    push_cast; ring
  · cases hp : s.core.pending <;> simp [warnsUnfinished, hp]

/-- COMPLETE run: exactly `horizon` (= last event + 1) datetimes, no warning -/
theorem sim_datetimes_complete (start : K) (cfg : Cfg K) (hv : EventCore.Valid cfg.core)
    (sched : View K → Except EventCore.Err (Schedule K)) (n : Nat) (hN : EventCore.horizon cfg.core ≤ n)
    (s : State K) (h : Sim.run cfg sched n (Sim.init cfg) = (s, none)) :
    (datetimesSim start cfg s).length = EventCore.horizon cfg.core ∧ warnsUnfinished s = false := by
  obtain ⟨hi, hp, _⟩ := complete_run_facts cfg hv sched n hN s h
  refine ⟨by rw [(sim_datetimes start cfg s).1, hi], ?_⟩
  simp [warnsUnfinished, hp]

/-
  The statement one would like: "whenever every applied schedule was feasible, the constraint currents of the
  RECORDED trajectory satisfy the network's feasibility bound".  With feasibility in the network's phasor sense this is
  FALSE for constraints with coefficients of both signs (second half of the example below: the pilots (10, 10) under
  the row (1, −1) carry 0 A, the recorded rates (10, 0) — an EV that takes nothing — carry 10 A).  What holds is the
  statement for the LINEAR bound of the applied pilots (`is_feasible(linear=True)`, C06 `linAggDoc`: Σ |a_j|·pilot_j),
  which is the bound the sorted algorithms' feasibility predicate implies for single-phase / same-sign rows.
-/

/-- For every scenario whose batteries satisfy C03's invariant, every scheduler that submits non-negative pilots,
    every loop head of a run that has not raised, every constraint row `row`, unit (or shorter) phasors `(c_j, s_j)`,
    period `τ` and limit `L`: if the pilots APPLIED in period `τ` respect the linear bound `Σ |a_j| · pilot_j(τ) ≤ L`
    then the aggregate phasor current of the RECORDED rates under that row has squared magnitude `≤ L²`
    (0 ≤ rate ≤ pilot — C02.sim_rate_le_pilot / C03 — and the triangle inequality). -/
theorem sim_constraint_current_within_limit_partial (cfg : Cfg ℝ) (hn : StationsNodup cfg)
    (hb : ∀ e ∈ cfg.evs, BattAlg.Inv e.batt)
    (sched : View ℝ → Except EventCore.Err (Schedule ℝ)) (hs : SchedNonneg sched) (n : Nat) (s : State ℝ)
    (h : Sim.run cfg sched n (Sim.init cfg) = (s, none))
    (row c sn : List ℝ) (hcs : ∀ j, c.getD j 0 * c.getD j 0 + sn.getD j 0 * sn.getD j 0 ≤ 1) (L : ℝ) (τ : Nat)
    (hlin : ∑ j ∈ range cfg.stations.length, |row.getD j 0| * s.pilots.get j τ ≤ L) :
    phasorSum row c (simR s) τ ^ 2 + phasorSum row sn (simR s) τ ^ 2 ≤ L ^ 2 := by
  have hL := C02.ledger_invariant cfg hn sched n s h
  obtain ⟨_, hl⟩ := rect_of_inv hL
  have hrp := fun j => C02.sim_rate_le_pilot cfg hn hb sched hs n s h j τ
  obtain ⟨k1, k2⟩ := Feas.phasor_sq_le (fun j => row.getD j 0 * s.rates.get j τ) (fun j => c.getD j 0)
    (fun j => sn.getD j 0) hcs cfg.stations.length
  have e1 : ∀ cc : List ℝ, phasorSum row cc (simR s) τ =
      ∑ j ∈ range cfg.stations.length, (row.getD j 0 * s.rates.get j τ) * cc.getD j 0 := by
    intro cc
    unfold phasorSum
    rw [hl]
    exact Finset.sum_congr rfl fun j _ => by rw [ent_simR, mul_assoc]
  rw [e1 c, e1 sn]
  have hle : ∑ j ∈ range cfg.stations.length, |row.getD j 0 * s.rates.get j τ| ≤ L := by
    refine le_trans (Finset.sum_le_sum fun j _ => ?_) hlin
    rw [abs_mul, abs_of_nonneg (hrp j).1]
    exact mul_le_mul_of_nonneg_left (hrp j).2 (abs_nonneg _)
  exact le_trans k1 (pow_le_pow_left₀ k2 hle 2)

/-- … and read through `analysis.constraint_currents(sim)` (complex values, all constraints): the entry of
    `result[name]` for period `τ` is the phasor of THE ROW WITH THAT NAME, so it obeys the bound above -/
theorem sim_constraint_currents_within_limit_partial (cfg : Cfg ℝ) (hn : StationsNodup cfg)
    (hb : ∀ e ∈ cfg.evs, BattAlg.Inv e.batt)
    (sched : View ℝ → Except EventCore.Err (Schedule ℝ)) (hs : SchedNonneg sched) (n : Nat) (s : State ℝ)
    (h : Sim.run cfg sched n (Sim.init cfg) = (s, none))
    (names : List String) (M : Matrix ℝ) (c sn : List ℝ) (hnn : names.Nodup) (hM : M.length = names.length)
    (hc : c.length = cfg.stations.length) (hsn : sn.length = cfg.stations.length)
    (hcs : ∀ j, c.getD j 0 * c.getD j 0 + sn.getD j 0 * sn.getD j 0 ≤ 1) :
    ∃ d, constraintCurrentsSim names M c sn s none = .ok d ∧
      ∀ name row L τ, rowNamed names M name = some row → τ < simT s →
        ∑ j ∈ range cfg.stations.length, |row.getD j 0| * s.pilots.get j τ ≤ L →
        ∃ z, (dictGet d name).bind (fun l => l[τ]?) = some z ∧ z.1 ^ 2 + z.2 ^ 2 ≤ L ^ 2 := by
  have hL := C02.ledger_invariant cfg hn sched n s h
  obtain ⟨hr, hl⟩ := rect_of_inv hL
  obtain ⟨d, hd, hget⟩ := C18.constraint_currents_keys names M c sn (simR s) (simT s) hnn hM hr
    (by rw [hc, hl]) (by rw [hsn, hl])
  refine ⟨d, hd, ?_⟩
  intro name row L τ hrow hτ hlin
  refine ⟨(phasorSum row c (simR s) τ, phasorSum row sn (simR s) τ), ?_,
    sim_constraint_current_within_limit_partial cfg hn hb sched hs n s h row c sn hcs L τ hlin⟩
  rw [hget name, hrow]
  simp [hτ]

/-- the phasor form of the full statement fails: row (1, −1), both stations in phase; pilots (10, 10) are feasible
    for the limit 5 (aggregate 0), the rates (10, 0) — 0 ≤ rate ≤ pilot — carry 10 A > 5 A -/
example : phasorSum ([1, -1] : List ℚ) [1, 1] [[10], [10]] 0 ^ 2 + phasorSum ([1, -1] : List ℚ) [0, 0] [[10], [10]] 0 ^ 2 ≤ 5 ^ 2 ∧
    ¬ (phasorSum ([1, -1] : List ℚ) [1, 1] [[10], [0]] 0 ^ 2 + phasorSum ([1, -1] : List ℚ) [0, 0] [[10], [0]] 0 ^ 2 ≤ 5 ^ 2) := by
  decide +kernel

/-- `current_unbalance(sim, ids, unbalance_type=u, type=ty)`: a `type` that is not `None` REPLACES `unbalance_type`
    (so `type=x` behaves exactly like `unbalance_type=x`); "NEMA" computes the NEMA unbalance, every other string is
    a ValueError -/
theorem current_unbalance_keywords (sqrt : K → K) (names : List String) (M : Matrix K) (c s : List K) (R : Matrix K)
    (T : Nat) (ids : List String) (u x : String) :
    currentUnbalance sqrt names M c s R T ids u (some x) = currentUnbalance sqrt names M c s R T ids x none ∧
    currentUnbalance sqrt names M c s R T ids "NEMA" none = nemaUnbalance sqrt names M c s R T ids ∧
    (x ≠ "NEMA" → currentUnbalance sqrt names M c s R T ids x none = .error .valueError) := by
  refine ⟨rfl, by simp [currentUnbalance], ?_⟩
  intro hx
  simp [currentUnbalance, hx]

/-- `energy_cost` / `demand_charge`: the `tariff=` argument wins; without it the tariff of `sim.signals` is used; a
    signals dict without one is the documented ValueError -/
theorem pick_tariff_spec {α : Type} (t t' : α) (sg : Option (Option α)) :
    pickTariff (some t) sg = .ok t ∧ pickTariff none (some (some t')) = .ok t' ∧
    pickTariff (none : Option α) (some none) = .error .valueError := ⟨rfl, rfl, rfl⟩

/-! ### non-vacuity: C02's example scenario (stations A 1000 V / B 500 V, sessions x, y, z, 60-minute periods) -/

section simex
local instance : HasExp ℚ := ⟨fun x => x⟩

/-- the analysis on the final state of the run: aggregate current per period, aggregate power, the peak 14 A is
    the maximum of the aggregate current (period 1), total energy 23¼ kWh = Σ P_t · 1 h, four datetimes one period
    apart, no warning; delivered ≤ requested fails for x (14 > 3) — the schedule ignores the demand — so the
    proportion exceeds 1 there, which is why `sim_proportion_le_one` needs C07's hypothesis -/
example :
    aggregateCurrentSim (Sim.run C02.exCfg C02.exSched 8 (Sim.init C02.exCfg)).1 = [7, 14, 19 / 2, 0] ∧
    aggregatePowerSim C02.exCfg (Sim.run C02.exCfg C02.exSched 8 (Sim.init C02.exCfg)).1 = [7, 21 / 2, 23 / 4, 0] ∧
    (Sim.run C02.exCfg C02.exSched 8 (Sim.init C02.exCfg)).1.peak = 14 ∧
    totalDeliveredSim (Sim.run C02.exCfg C02.exSched 8 (Sim.init C02.exCfg)).1 = 93 / 4 ∧
    (7 + 21 / 2 + 23 / 4 + 0 : ℚ) * (60 / 60) = 93 / 4 ∧
    (histEvs (Sim.run C02.exCfg C02.exSched 8 (Sim.init C02.exCfg)).1).map (fun e => (e.requested, e.delivered))
      = [(3, 14), (5, 29 / 4), (9, 2)] ∧
    datetimesSim 100 C02.exCfg (Sim.run C02.exCfg C02.exSched 8 (Sim.init C02.exCfg)).1 = [100, 160, 220, 280] ∧
    warnsUnfinished (Sim.run C02.exCfg C02.exSched 8 (Sim.init C02.exCfg)).1 = false ∧
    proportionDeliveredSim (Sim.run C02.exCfg C02.exSched 8 (Sim.init C02.exCfg)).1 = .ok (93 / 68) ∧
    demandsMetSim (Sim.run C02.exCfg C02.exSched 8 (Sim.init C02.exCfg)).1 0 = .ok (2 / 3) ∧
    demandsMetSim (Sim.run C02.exCfg C02.exSched 8 (Sim.init C02.exCfg)).1 8 = .ok 1 := by
  decide +kernel

/-- an UNFINISHED simulation (the scheduler raises in period 2): two datetimes, the warning is due -/
example :
    (Sim.run C02.exCfg (C02.exCrash 2) 8 (Sim.init C02.exCfg)).2 = some .schedulerFailed ∧
    datetimesSim 100 C02.exCfg (Sim.run C02.exCfg (C02.exCrash 2) 8 (Sim.init C02.exCfg)).1 = [100, 160] ∧
    warnsUnfinished (Sim.run C02.exCfg (C02.exCrash 2) 8 (Sim.init C02.exCfg)).1 = true ∧
    aggregateCurrentSim (Sim.run C02.exCfg (C02.exCrash 2) 8 (Sim.init C02.exCfg)).1 = [7, 14, 0, 0] := by
  decide +kernel

/-- the scenario is `Valid`, ids distinct, EVs fresh: hypotheses of the `_complete` theorems -/
example : EventCore.Valid C02.exCfg.core ∧ (C02.exCfg.evs.map (·.session)).Nodup ∧
    (∀ e ∈ C02.exCfg.evs, e.delivered = 0) ∧ EventCore.horizon C02.exCfg.core ≤ 8 := by
  decide +kernel

/-- keywords: `type="NEMA"` overrides a wrong `unbalance_type`; a wrong `type` overrides a right one -/
example : currentUnbalance (fun x => x) ["x", "y", "z"] ([[1, -1], [0, 2], [1, 1]] : Matrix ℚ) [1, 0] [0, -1]
      [[3, 0, 5], [6, 0, 8]] 3 ["z", "y", "z"] "IEC" (some "NEMA") = .ok [some (11 / 13), none, some (167 / 217)] ∧
    currentUnbalance (fun x => x) ["x", "y", "z"] ([[1, -1], [0, 2], [1, 1]] : Matrix ℚ) [1, 0] [0, -1]
      [[3, 0, 5], [6, 0, 8]] 3 ["z", "y", "z"] "NEMA" (some "nema") = .error .valueError := by decide +kernel

end simex

end Acn.C18Sim
