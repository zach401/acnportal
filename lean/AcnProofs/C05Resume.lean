/-
  C05, continued — simulations that are INTERRUPTED, SAVED AND RESUMED (full simulator model).

  The event-core statement is `Acn.EventCore.resume_invoked` (Lemmas/ResumeTrigger.lean; closed form for valid
  scenarios: `Acn.C05.resume_invoked_iff` in AcnProofs/C05.lean).  This module ties it to `Sim.run`: the three runs
  (uninterrupted, raising in period `k`, second `run()`) project onto `EventCore.run` (`resume_sim_is_core`), hence
  the invocation record of the completed simulation (`resume_invoked_sim`, through JSON: `json_resume_invoked`), and
  what the scheduler sees across the interruption (`resume_views_true`).

  (C09's lemma FILES are imported, not AcnProofs/C09.lean: its regenerated-data obligation on Gen/Serial.lean belongs
  to C09's check alone; `Sim.crash_cases` (Lemmas/ResumeProj.lean) is `C09.resume_eq`, `RegistrySim.Calls.roundtrip`
  (Lemmas/RegistryCalls.lean) the JSON half of `C09.crash_json_resume_eq`.)
-/
import AcnProofs.Lemmas.ResumeProj
import AcnProofs.Lemmas.ResumeViews

set_option linter.unusedSectionVars false

namespace Acn.C05
open Acn Acn.EventCore Acn.Sim Acn.Registry

section
variable {K : Type} [Add K] [Sub K] [Mul K] [Div K] [Neg K] [LT K] [LE K]
  [DecidableLT K] [DecidableLE K] [OfNat K 0] [OfNat K 1] [NatCast K] [HasExp K]

/-- **resume_sim_is_core** — for every configuration with well-formed sessions, scheduler, raising period `k` and fuel
    `n` such that the uninterrupted run raises nothing: the event cores of the three runs of the full model are the
    three event-core runs. -/
theorem resume_sim_is_core (cfg : Sim.Cfg K) (sched : View K → Except EventCore.Err (Schedule K)) (hS : SessionsOK cfg.core)
    (k n : Nat) (hok : (run cfg sched n (Sim.init cfg)).2 = none) :
    let r1 := run cfg (failAt k sched) n (Sim.init cfg)
    let r := run cfg sched n (Sim.init cfg)
    let r2 := run cfg sched (n - k) r1.1
    EventCore.run cfg.core noFail noFail n (EventCore.init cfg.core) = (r.1.core, none) ∧
    EventCore.run cfg.core (failSchedAt k) noFail n (EventCore.init cfg.core) = (r1.1.core, r1.2) ∧
    (r1.2 = some EventCore.Err.schedulerFailed →
      r2.2 = none ∧ EventCore.run cfg.core noFail noFail (n - k) r1.1.core = (r2.1.core, none)) := by
  intro r1 r r2
  refine ⟨run_core cfg sched n (Sim.init cfg) hok, run_failAt_proj cfg sched k n (Sim.init cfg) hok, fun hf => ?_⟩
  have h2 := (Crashed.of_error hS hok hf).ok hok
  exact ⟨h2, run_core cfg sched (n - k) r1.1 h2⟩

/-- **resume_invoked_sim** — the invocation record of the completed simulation.  Either the failure never fires (period
    `k` is not an invocation period of the uninterrupted run; the run IS the uninterrupted run), or `run()` aborts in
    period `k` with `SchedulerFailed` having recorded `pre ++ [k]`, and the second `run()` completes with the record
    `pre ++ [k] ++ [k] ++ post` where the uninterrupted run's is `pre ++ [k] ++ post` (`post` later than `k`) — period
    `k` invoked again on resume, exactly once, every other period as required — in a state that is otherwise the
    uninterrupted run's. -/
theorem resume_invoked_sim (cfg : Sim.Cfg K) (sched : View K → Except EventCore.Err (Schedule K)) (hS : SessionsOK cfg.core)
    (k n : Nat) (hok : (run cfg sched n (Sim.init cfg)).2 = none) :
    let r1 := run cfg (failAt k sched) n (Sim.init cfg)
    let r := run cfg sched n (Sim.init cfg)
    let r2 := run cfg sched (n - k) r1.1
    (r1 = r ∧ k ∉ r.1.core.invoked) ∨
    (r1.2 = some EventCore.Err.schedulerFailed ∧ r1.1.core.iter = k ∧
      ∃ pre post, r1.1.core.invoked = pre ++ [k] ∧ r.1.core.invoked = pre ++ [k] ++ post ∧ (∀ t ∈ post, k < t) ∧
        r2.2 = none ∧ r2.1.core.invoked = pre ++ [k] ++ [k] ++ post ∧ ObsEq r2.1 r.1) :=
  (resume_record hS hok).imp_right fun ⟨hc, pre, post, h4, h5, h6, h7⟩ =>
    ⟨hc.failed, hc.iter, pre, post, h4, h5, h6, hc.ok hok, h7, hc.obs.1⟩

/-- **json_resume_invoked** — the same through a JSON round trip, `Valid` scenario, every lawful scalar codec: the state
    the abort left can be written and loaded, the decoded simulator `s'` has the aborted simulator's iteration, queue,
    `_resolve` and `_last_schedule_update` (it IS that state: C09), and `run()` on `s'` completes with the invocation
    record of `resume_invoked_sim`. -/
theorem json_resume_invoked {sh : RegistrySim.Show K} {rd : RegistrySim.Read K} (hl : RegistrySim.Lawful sh rd)
    (cfg : Sim.Cfg K) (sched : View K → Except EventCore.Err (Schedule K)) (hv : Valid cfg.core) (k n : Nat)
    (hok : (run cfg sched n (Sim.init cfg)).2 = none) :
    let r1 := run cfg (failAt k sched) n (Sim.init cfg)
    let r := run cfg sched n (Sim.init cfg)
    ∃ ctx s', dump (RegistrySim.encode sh cfg r1.1) RegistrySim.root = .ok ctx ∧ load ctx RegistrySim.root = .ok ctx ∧
      RegistrySim.decode rd cfg (RegistrySim.ambOf r1.1) ctx.get = some s' ∧ s' = r1.1 ∧
      s'.core.iter = r1.1.core.iter ∧ s'.core.pending = r1.1.core.pending ∧ s'.core.resolve = r1.1.core.resolve ∧
      s'.core.lastUpd = r1.1.core.lastUpd ∧
      ((r1 = r ∧ k ∉ r.1.core.invoked) ∨
       (r1.2 = some EventCore.Err.schedulerFailed ∧ r1.1.core.iter = k ∧
        ∃ pre post, r1.1.core.invoked = pre ++ [k] ∧ r.1.core.invoked = pre ++ [k] ++ post ∧ (∀ t ∈ post, k < t) ∧
          (run cfg sched (n - k) s').2 = none ∧ (run cfg sched (n - k) s').1.core.invoked = pre ++ [k] ++ [k] ++ post ∧
          ObsEq (run cfg sched (n - k) s').1 r.1)) := by
  intro r1 r
  obtain ⟨ctx, h1, h2, h3⟩ := (RegistrySim.Calls.call (failAt k sched) n .init).roundtrip hl hv
  exact ⟨ctx, _, h1, h2, h3, rfl, rfl, rfl, rfl, rfl, resume_invoked_sim cfg sched (sessionsOK_of_valid hv) k n hok⟩

/-- **resume_views_true** — the views across abort + resume, for every configuration with well-formed sessions, every
    scheduler (failing or not), raising period `k` and fuel `n`: either the failure never fires (same run, same views), or
    the first `run()` aborts in period `k` having handed out `A ++ [v]`, and the second `run()` hands out `v :: B`, where
    `A ++ v :: B` are the views of the uninterrupted run and `v` is its view of period `k` (`A` earlier).  Together with
    `json_resume_invoked` (`s' = r1.1`) the same holds for the simulator loaded from JSON. -/
theorem resume_views_true (cfg : Sim.Cfg K) (sched : View K → Except EventCore.Err (Schedule K)) (hS : SessionsOK cfg.core)
    (k n : Nat) :
    let r1 := run cfg (failAt k sched) n (Sim.init cfg)
    (r1 = run cfg sched n (Sim.init cfg) ∧
      runViews cfg (failAt k sched) n (Sim.init cfg) = runViews cfg sched n (Sim.init cfg)) ∨
    (r1.2 = some EventCore.Err.schedulerFailed ∧ r1.1.core.iter = k ∧
      ∃ A v B, runViews cfg sched n (Sim.init cfg) = A ++ v :: B ∧
        runViews cfg (failAt k sched) n (Sim.init cfg) = A ++ [v] ∧
        runViews cfg sched (n - k) r1.1 = v :: B ∧ v.iter = k ∧ ∀ a ∈ A, a.iter < k) := by
  intro r1
  have h := resume_views cfg sched k n (s := Sim.init cfg) (init_noOverdue hS) (Nat.zero_le k)
  have hsub : n - (k - (Sim.init cfg).core.iter) = n - k := rfl
  rw [hsub] at h
  exact h

end

/-! ### non-vacuity (ℚ): stations S0, S1; `a` on S0 [0,3), `b` on S1 [1,2), a recompute event at 2; `max_recompute = 2` -/
section Examples
local instance : HasExp ℚ := ⟨fun _ => 1⟩

private def exBatt : Battery.Batt ℚ :=
  { capacity := 40, charge := 5, init := 5, maxPower := 7, power := 0, twoStage := false, noiseLevel := 0,
    ts := 4/5, cmode := .continuous }
private def exEv (id st : String) (a d : Int) : Evse.Ev ℚ :=
  { session := id, station := st, arrival := a, departure := d, estDeparture := d, requested := 10,
    delivered := 0, rate := 0, batt := exBatt }
private def exCfg : Sim.Cfg ℚ :=
  { stations := [⟨"S0", .cont 0 (some 32), 208⟩, ⟨"S1", .cont 0 (some 32), 208⟩],
    evs := [exEv "a" "S0" 0 5, exEv "b" "S1" 1 2], recomputes := [(2, "r0")], maxRecompute := some 2,
    period := 5, atolCont := 1/1000, atolDeadband := 1/1000, atolFinite := 1/1000, fullEps := 1/1000, noise := [] }
private def exSched : View ℚ → Except EventCore.Err (Schedule ℚ) := scripted [(1, some [("S0", [8, 9, 10])])] [("S1", [16])]

example : SessionsOK exCfg.core := ⟨by decide, by decide⟩

/-- the uninterrupted run: invoked in 0, 1, 2 (events), 4 (timer), 5 (unplug); raises nothing -/
example : (run exCfg exSched 8 (Sim.init exCfg)).2 = none ∧
    (run exCfg exSched 8 (Sim.init exCfg)).1.core.invoked = [0, 1, 2, 4, 5] := by decide +kernel

/-- raising in the EVENT period 2: aborted with `_resolve` set (the request is pending), resumed: 2 is listed twice -/
example : (run exCfg (failAt 2 exSched) 8 (Sim.init exCfg)).2 = some EventCore.Err.schedulerFailed ∧
    (run exCfg (failAt 2 exSched) 8 (Sim.init exCfg)).1.core.resolve = true ∧
    (run exCfg (failAt 2 exSched) 8 (Sim.init exCfg)).1.core.invoked = [0, 1, 2] ∧
    (run exCfg exSched 6 (run exCfg (failAt 2 exSched) 8 (Sim.init exCfg)).1).1.core.invoked = [0, 1, 2, 2, 4, 5] := by
  decide +kernel

/-- raising in the TIMER period 4 (`_resolve` false, `_last_schedule_update = 2`), and in the quiet period 3 (never fires) -/
example : (run exCfg (failAt 4 exSched) 8 (Sim.init exCfg)).1.core.resolve = false ∧
    (run exCfg (failAt 4 exSched) 8 (Sim.init exCfg)).1.core.lastUpd = some 2 ∧
    (run exCfg exSched 4 (run exCfg (failAt 4 exSched) 8 (Sim.init exCfg)).1).1.core.invoked = [0, 1, 2, 4, 4, 5] ∧
    (run exCfg (failAt 3 exSched) 8 (Sim.init exCfg)).2 = none ∧
    (run exCfg (failAt 3 exSched) 8 (Sim.init exCfg)).1.core.invoked = [0, 1, 2, 4, 5] := by
  decide +kernel

/-- the views: the aborted run (raising in the timer period 4) handed out the views of periods 0, 1, 2, 4, the second
    `run()` hands out those of 4 and 5; the view of period 4 carries the energy delivered so far both times -/
example : (runViews exCfg (failAt 4 exSched) 8 (Sim.init exCfg)).map (·.iter) = [0, 1, 2, 4] ∧
    (runViews exCfg exSched 4 (run exCfg (failAt 4 exSched) 8 (Sim.init exCfg)).1).map (·.iter) = [4, 5] ∧
    (runViews exCfg exSched 8 (Sim.init exCfg)).map (·.iter) = [0, 1, 2, 4, 5] ∧
    ((runViews exCfg exSched 4 (run exCfg (failAt 4 exSched) 8 (Sim.init exCfg)).1).map fun v => v.active.map (·.delivered)) =
      ((runViews exCfg exSched 8 (Sim.init exCfg)).drop 3).map fun v => v.active.map (·.delivered) := by
  decide +kernel

end Examples

end Acn.C05
