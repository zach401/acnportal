/-
  C07 — sorting-based algorithms only emit safe schedules.

  Helpers: `Lemmas/Sorted*.lean` (per-call: `SortedBasic|Greedy|RR|Pre|Est|Link`; in the simulator:
  `SortedSim|SimRun|SimInd|SimSafe|SchedSafe|RdNoEst`, `SimStRun`).  Carrier of the per-call theorems: any
  linear ordered field `K`; the run-level theorems (`sim_consequences*`) are over ℝ, where the battery
  model lives.  The feasibility check is an ARBITRARY predicate `feas : List K → Bool` (the drivers
  instantiate it with `Acn.Feas.algFeasible` at the default tolerances), so nothing below depends on
  monotonicity, convexity or the sign pattern of the constraint matrix.  Every per-call statement is
  for any infrastructure, any session list, any queue order (hence all five sort orders), any
  `eps ≥ 0`, any increment (any level lists), any fuel.

  What the code does when even the lower bounds are infeasible: it raises `ValueError`
  ("Charging all sessions at their lower bound is not feasible.") and emits NO schedule; the
  theorems are therefore of the form `… = .ok schedule → …`.
-/
import AcnProofs.Lemmas.SortedSchedSafe
import AcnProofs.Lemmas.SortedRdNoEst
import AcnProofs.Lemmas.SortedSimSafe

set_option linter.unusedSectionVars false

namespace Acn.C07
open Acn Acn.Sorted

variable {K : Type} [Field K] [LinearOrder K] [IsStrictOrderedRing K]

/-- the bisection returns its lower end: the incoming (feasible) value or a tested midpoint -/
theorem bisect_lower_end (feas : List K → Bool) (sched : List K) (i : Nat) (eps : K)
    (fuel : Nat) (lb ub : K) :
    bisect feas sched i eps fuel lb ub = lb ∨
      feas (sched.set i (bisect feas sched i eps fuel lb ub)) = true :=
  bisect_cases feas sched i eps fuel lb ub

/-- the discrete walk stops at a tested level; the fallback 0 only after every level failed -/
theorem walkDown_tested (feas : List K → Bool) (sched : List K) (i : Nat) (l : List K) :
    (walkDown feas sched i l ∈ l ∧ feas (sched.set i (walkDown feas sched i l)) = true) ∨
    (walkDown feas sched i l = 0 ∧ ∀ a ∈ l, feas (sched.set i a) = false) :=
  walkDown_cases feas sched i l

/-- `greedy_invariant`: "the current schedule satisfies `feas`" is preserved by every assignment
    of the greedy loop.  Hypotheses: the station still holds the session's lower bound, and `LbOk`
    (finite-rate station: `lb = 0` or `lb` is one of its levels within `[lb, ub]`) — without it the
    source's UNTESTED fallback `0` could lower a positive `lb` to 0, see the example after
    `greedy_feasible`. -/
theorem greedy_invariant (feas : List K → Bool) (fuel : Nat) (eps : K) (infra : Infra K) (period : K)
    (sched : List K) (s : Session K) (r : K)
    (hf : feas sched = true) (hlb : sched.set s.idx (lbOf s) = sched) (hok : LbOk infra period s)
    (h : greedyRate feas fuel eps infra period sched s = .ok r) :
    feas (sched.set s.idx r) = true :=
  greedyRate_safe feas fuel eps infra period sched s r hf hlb hok h

/-- `greedy_feasible`: whatever `sorting_algorithm` returns passes the feasibility check
    (distinct stations; `LbOk` for every queued session). -/
theorem greedy_feasible (feas : List K → Bool) (fuel : Nat) (eps : K) (infra : Infra K) (period : K)
    (queue : List (Session K)) (sch : List K)
    (hnd : (queue.map (·.idx)).Nodup) (hok : ∀ s ∈ queue, LbOk infra period s)
    (h : sortingAlgorithm feas fuel eps infra period queue = .ok sch) : feas sch = true :=
  sortingAlgorithm_feasible feas fuel eps infra period queue sch hnd hok h

/-- the hypothesis `LbOk` cannot be dropped for an arbitrary predicate: a finite-rate station
    whose caller-supplied lower bound 3 is not a level, with a predicate that accepts 3 only -/
example :
    sortingAlgorithm (fun x => x == [3]) 50 (1/100)
      (⟨["a"], [32], [8], [208], [false], [[0, 8, 16]]⟩ : Infra ℚ) 5
      [⟨"a", "x", 0, 0, 9, 9, 10, 0, 3, 32⟩] = .ok [0] ∧
    (fun (x : List ℚ) => x == [3]) [0] = false := by
  decide +kernel

/-- `rr_invariant`: one trip round the round-robin loop preserves the invariant (feasible
    schedule; every station sits at `levels[rate_idx]`), because a failed increment is reverted. -/
theorem rr_invariant (feas : List K → Bool) (levels : List (List K)) (all : List (Session K))
    (sch0 : List K) (st : RRState K) (h : RRInv feas levels all sch0 st) :
    RRInv feas levels all sch0 (rrStep feas levels st) :=
  rrStep_inv feas levels all sch0 st h

/-- `rr_feasible`: whatever `round_robin` returns passes the feasibility check — for ANY
    per-session level lists (any increment) and without assuming distinct stations. -/
theorem rr_feasible (feas : List K → Bool) (levelsOf : Session K → List K) (infra : Infra K)
    (queue : List (Session K)) (st : RRState K)
    (hidx : ∀ s ∈ queue, s.idx < infra.ids.length) (hlen : infra.allow.length = infra.ids.length)
    (h : roundRobin feas levelsOf infra queue = .ok st) : feas st.sched = true :=
  (roundRobin_spec feas levelsOf infra queue st h hidx hlen).1

/-- `pilot_accepted`, greedy.  Continuous station: the pilot lies in `[0, max_pilot]`
    (given the preprocessed bounds `0 ≤ max_rate ≤ max_pilot`, `min_rate ≤ max_rate`, `0 ≤`
    remaining demand); finite-rate station: the pilot is 0 or one of the station's levels. -/
theorem pilot_accepted_greedy (feas : List K → Bool) (fuel : Nat) (eps : K) (heps : 0 ≤ eps)
    (infra : Infra K) (period : K) (queue : List (Session K)) (sch : List K)
    (hnd : (queue.map (·.idx)).Nodup) (hidx : ∀ s ∈ queue, s.idx < infra.ids.length)
    (h : sortingAlgorithm feas fuel eps infra period queue = .ok sch) :
    ∀ s ∈ queue, ∃ r, sch[s.idx]? = some r ∧
      (infra.cont.getD s.idx true = true → 0 ≤ s.maxRate → s.minRate ≤ s.maxRate →
        s.maxRate ≤ infra.maxPilot.getD s.idx 0 → 0 ≤ rap infra period s →
        0 ≤ r ∧ r ≤ infra.maxPilot.getD s.idx 0) ∧
      (infra.cont.getD s.idx true = false → r = 0 ∨ r ∈ infra.allow.getD s.idx []) := by
  intro s hs
  obtain ⟨r, hget, h1, h2, _⟩ :=
    (sortingAlgorithm_grants feas fuel eps heps infra period queue sch hnd hidx h).1 s hs
  exact ⟨r, hget, h1, h2⟩

/-- `pilot_accepted`, round robin (`levelsOf = rrLevels …`, any ceiling function, any increment):
    the pilot is 0 or one of the session's filtered levels, hence within `[lb, ub] ⊆ [0, max_pilot]`,
    and on a finite-rate station one of the station's levels. -/
theorem pilot_accepted_rr [HasCeilNat K] (feas : List K → Bool) (infra : Infra K) (period inc : K)
    (queue : List (Session K)) (st : RRState K)
    (hnd : (queue.map (·.idx)).Nodup) (hidx : ∀ s ∈ queue, s.idx < infra.ids.length)
    (hlen : infra.allow.length = infra.ids.length)
    (h : roundRobin feas (rrLevels infra period inc) infra queue = .ok st) :
    ∀ s ∈ queue, ∃ r, st.sched[s.idx]? = some r ∧
      (r = 0 ∨ (0 ≤ r ∧ r ≤ infra.maxPilot.getD s.idx 0 ∧
        (infra.cont.getD s.idx true = false → r ∈ infra.allow.getD s.idx []))) := by
  intro s hs
  obtain ⟨_, _, _, hv⟩ := roundRobin_spec feas _ infra queue st h hidx hlen
  obtain ⟨r, hget, hr⟩ := hv hnd s hs
  refine ⟨r, hget, ?_⟩
  rcases hr with h0 | hm
  · left; exact h0
  · right
    obtain ⟨hbase, hlb, hub⟩ := mem_rrLevels hm
    exact ⟨le_trans (lbOf_nonneg s) hlb, le_trans hub (le_trans (min_le_left _ _) (min_le_right _ _)),
      hbase⟩

/-- `le_remaining`, greedy: the pilot never exceeds `max(ub, lb)` with
    `ub = min(max_rate, remaining_amp_periods)` — so it is at most the remaining demand and the
    session's max rate unless the (uninterrupted-charging) lower bound is larger. -/
theorem le_remaining_greedy (feas : List K → Bool) (fuel : Nat) (eps : K) (heps : 0 ≤ eps)
    (infra : Infra K) (period : K) (queue : List (Session K)) (sch : List K)
    (hnd : (queue.map (·.idx)).Nodup) (hidx : ∀ s ∈ queue, s.idx < infra.ids.length)
    (h : sortingAlgorithm feas fuel eps infra period queue = .ok sch) :
    ∀ s ∈ queue, ∃ r, sch[s.idx]? = some r ∧
      r ≤ max (lbOf s) (min s.maxRate (rap infra period s)) := by
  intro s hs
  obtain ⟨r, hget, _, _, h3⟩ :=
    (sortingAlgorithm_grants feas fuel eps heps infra period queue sch hnd hidx h).1 s hs
  exact ⟨r, hget, h3⟩

/-- `le_remaining`, round robin: the pilot is 0 or at most
    `min(max_rate, max_pilot, remaining_amp_periods)`. -/
theorem le_remaining_rr [HasCeilNat K] (feas : List K → Bool) (infra : Infra K) (period inc : K)
    (queue : List (Session K)) (st : RRState K)
    (hnd : (queue.map (·.idx)).Nodup) (hidx : ∀ s ∈ queue, s.idx < infra.ids.length)
    (hlen : infra.allow.length = infra.ids.length)
    (h : roundRobin feas (rrLevels infra period inc) infra queue = .ok st) :
    ∀ s ∈ queue, ∃ r, st.sched[s.idx]? = some r ∧
      (r = 0 ∨ r ≤ min (min s.maxRate (infra.maxPilot.getD s.idx 0)) (rap infra period s)) := by
  intro s hs
  obtain ⟨_, _, _, hv⟩ := roundRobin_spec feas _ infra queue st h hidx hlen
  obtain ⟨r, hget, hr⟩ := hv hnd s hs
  refine ⟨r, hget, ?_⟩
  rcases hr with h0 | hm
  · left; exact h0
  · exact Or.inr (mem_rrLevels hm).2.2

/-- `le_estimator_bound`: after `run_preprocessing` with the (rampdown) estimator, every session's max
    rate is at most the estimator's bound stored under THAT SESSION's id (the repaired lookup of finding
    F6), unless its lower bound (the uninterrupted-charging minimum pilot) is larger.  Together with
    `le_remaining_*` (`r ≤ max lb (min max_rate …)`) the pilot obeys `r ≤ max bound lb`.
    NO hypothesis on the bounds in the estimator's dict: negative bounds, bounds above the EVSE
    maximum, anything.  The same for an ARBITRARY estimator is `le_estimator_bound_any_estimator`
    (`AcnProofs/C07Est.lean`). -/
theorem le_estimator_bound (feas : List K → Bool) (cfg : Config K) (infra : Infra K) (period : K)
    (prev : String → Option (K × K)) (rd : Rampdown K) (l : List (Session K))
    (hest : cfg.estimate = true) :
    ∀ s ∈ (preprocess feas cfg infra period prev rd l).1, ∀ b,
      (preprocess feas cfg infra period prev rd l).2.bounds.lookup s.session = some b →
      s.maxRate ≤ max b (lbOf s) := by
  intro s hs b hb
  rw [preprocess_eq_preprocessEst] at hs
  obtain ⟨s1, _, e1, _, hle⟩ := preprocessEst_bound feas cfg infra period _ l hest s hs
  refine hle b ?_
  have hrd : (preprocess feas cfg infra period prev rd l).2 =
      rampdownCall infra prev rd (estInput infra period l) := by
    unfold preprocess estInput
    simp only [hest, if_true]
  rw [hrd, e1] at hb
  exact hb

set_option linter.unusedVariables false in
/-- `zero_for_inactive`, greedy: a station that hosts no queued session gets 0 -/
theorem zero_for_inactive_greedy (feas : List K → Bool) (fuel : Nat) (eps : K)
    (infra : Infra K) (period : K) (queue : List (Session K)) (sch : List K)
    (hnd : (queue.map (·.idx)).Nodup)
    (h : sortingAlgorithm feas fuel eps infra period queue = .ok sch) :
    sch.length = infra.ids.length ∧
    ∀ j, j < infra.ids.length → (∀ t ∈ queue, t.idx ≠ j) → sch[j]? = some 0 :=
  sortingAlgorithm_inactive feas fuel eps infra period queue sch h

theorem zero_for_inactive_rr (feas : List K → Bool) (levelsOf : Session K → List K) (infra : Infra K)
    (queue : List (Session K)) (st : RRState K)
    (hidx : ∀ s ∈ queue, s.idx < infra.ids.length) (hlen : infra.allow.length = infra.ids.length)
    (h : roundRobin feas levelsOf infra queue = .ok st) :
    st.sched.length = infra.ids.length ∧
    ∀ j, j < infra.ids.length → (∀ t ∈ queue, t.idx ≠ j) → st.sched[j]? = some 0 := by
  obtain ⟨_, hl, ho, _⟩ := roundRobin_spec feas levelsOf infra queue st h hidx hlen
  refine ⟨hl, fun j hj hne => ?_⟩
  rw [ho j hne]; simp [hj]

/-- `run_preprocessing` establishes `LbOk` for every session that enters with
    `min_rates ≤ 0` (what `Interface.active_sessions` hands out), on an infrastructure whose
    finite-rate stations list their minimum pilot among their levels. -/
theorem preprocess_lbOk (feas : List K → Bool) (cfg : Config K) (infra : Infra K) (period : K)
    (prev : String → Option (K × K)) (rd : Rampdown K) (l : List (Session K))
    (hinf : InfraOk infra) (hmin : ∀ s ∈ l, s.minRate ≤ 0) :
    ∀ s ∈ (preprocess feas cfg infra period prev rd l).1, LbOk infra period s := by
  rw [preprocess_eq_preprocessEst]
  exact preprocessEst_lbOk feas cfg infra period _ l hinf hmin

/-- `schedule_feasible`: the whole `schedule()` call (preprocessing, sort, allocation) of either
    algorithm, any sort order, any option combination, on resolved sessions `l`
    (`resolve infra raw = .ok l`, i.e. `get_station_index` succeeded for every session): if it
    returns a schedule, that schedule passes the feasibility check.  Hypotheses: sessions enter
    with `min_rates ≤ 0`, the infrastructure is well formed, and the queue has distinct, valid
    station indices. -/
theorem schedule_feasible [HasCeilNat K] (feas : List K → Bool) (cfg : Config K) (infra : Infra K)
    (period : K) (time : Int) (prev : String → Option (K × K)) (rd : Rampdown K)
    (raw l : List (Session K)) (sch : List K)
    (hres : resolve infra raw = .ok l)
    (hinf : InfraOk infra) (hlen : infra.allow.length = infra.ids.length)
    (hmin : ∀ s ∈ l, s.minRate ≤ 0)
    (hnd : ((scheduleCall feas cfg infra period time prev rd raw).order.map (·.idx)).Nodup)
    (hidx : ∀ s ∈ (scheduleCall feas cfg infra period time prev rd raw).order, s.idx < infra.ids.length)
    (h : (scheduleCall feas cfg infra period time prev rd raw).result = .ok sch) :
    feas sch = true := by
  obtain ⟨hr, _, ho, _⟩ := scheduleCall_eq_scheduleCallEst feas cfg infra period time prev rd raw
  rw [ho] at hnd hidx
  rw [hr] at h
  exact (scheduleCallEst_allocOk feas cfg infra period time _ raw sch hlen hnd hidx h).feasible
    (scheduleCallEst_lbOk feas cfg infra period time _ raw l hres hinf hmin)

/-! ### `sim_consequences`
   In the shared simulator model (`Sim.run cfg sched`) with one of these
   algorithms as `sched`, reading its sessions / infrastructure off the `View`, for every valid
   configuration and every period: `applyStage` raises no `InvalidRate`, the schedule written to the
   pilot matrix is feasible for the network, and every EV has `delivered ≤ requested`.
   Per period, for ANY scheduler: pilots of the shape `pilot_accepted_*` / `zero_for_inactive_*`
   establish (`Accepts`) make the whole `applyStage` free of `InvalidRate`; pilots within the occupants'
   remaining demand (`le_remaining_*`) keep `delivered ≤ requested` and the battery invariant through
   the whole `update_pilots` (C03's `0 ≤ rate ≤ pilot`); with the modelled algorithm as scheduler the
   column applied in a period IS the algorithm's array (`sim_period_composition`, C04 `submit_get`).
   At run level (`sim_consequences_of_schedSafe`): for ANY scheduler with the per-call guarantees
   `SchedSafe`, by induction over `Sim.run` on top of C02's ledger invariant.  `SchedSafe` is proved for
   the modelled sorted algorithms (`Lemmas/SortedSchedSafe.lean`); `Sim`'s scheduler parameter is a pure
   function of the view, which covers `estimate_max_rate = False` (`sim_consequences`).  The rampdown
   estimator (`SimpleRampdown`, stateful across calls) runs in `SimSortedRd.runSt`, which threads the
   estimator from call to call and coincides with `Sim.run` when the state is ignored (`runSt_eq_run`,
   `runSt_noest_eq_run`): `sim_consequences_rampdown`.
   The composition is TIED TO THE CODE: the C07 check runs every generated whole simulation — with
   and without estimator — through `runSt` / `Sim.run` with the modelled algorithm as scheduler and
   compares pilots, rates, energies, iteration and error class with the real Simulator + real
   algorithm (C08: the simulations without estimator). -/

/-- one period: `applyStage` raises no `InvalidRate` when every station's pilot has the accepted shape;
    the run-level statement is `sim_consequences` -/
theorem sim_no_invalid_rate_partial [HasExp K] (cfg : Sim.Cfg K) (htol : TolOk cfg) (s : Sim.State K)
    (h : ∀ k st, cfg.stations[k]? = some st →
      Accepts st.kind ((Sim.widen s).pilots.get k (Sim.widen s).core.iter)) :
    (Sim.applyStage cfg s).2 ≠ some .invalidRate :=
  applyStage_not_invalidRate cfg htol s h

/-- the pilots C07 proves have the shape `Accepts` asks for -/
theorem accepts_of_pilot_accepted (r mx : K) (rates : List K) :
    (0 ≤ r → r ≤ mx → Accepts (.cont 0 (some mx)) r) ∧
    ((0 : K) ∈ rates → (r = 0 ∨ r ∈ rates) → Accepts (.finite rates) r) ∧
    (∀ (k : Evse.Kind K), (∀ db m, k ≠ .deadband db m) → (∀ l, k = .finite l → (0 : K) ∈ l) →
      (∀ mn m, k = .cont mn m → mn ≤ 0 ∧ ∀ x, m = some x → 0 ≤ x) → Accepts k 0) := by
  refine ⟨fun h0 h1 => ⟨le_refl _, h0, h1⟩, ?_, ?_⟩
  · intro h0 h
    rcases h with rfl | h
    · exact h0
    · exact h
  · intro k hd hf hc
    cases k with
    | cont mn m =>
      obtain ⟨h1, h2⟩ := hc mn m rfl
      refine ⟨h1, le_refl _, ?_⟩
      cases m with
      | none => trivial
      | some x => exact h2 x rfl
    | deadband db m => exact absurd rfl (hd db m)
    | finite l => exact hf l rfl

/-- one `EV.charge` with a non-negative pilot within the remaining demand (amp-periods) keeps
    `delivered ≤ requested` and the battery invariant (ℝ; uses C03 `0 ≤ rate ≤ pilot`) -/
theorem ev_charge_le_requested {e e' : Evse.Ev ℝ} (hb : BattAlg.Inv e.batt)
    {pilot V T ν : ℝ} (hp : 0 ≤ pilot) (hV : 0 < V) (hT : 0 < T)
    (hrem : pilot ≤ (e.requested - e.delivered) * 1000 / V * 60 / T)
    (h : e.charge pilot V T ν = .ok e') :
    e'.delivered ≤ e.requested ∧ e'.requested = e.requested ∧ e.delivered ≤ e'.delivered ∧
    BattAlg.Inv e'.batt :=
  charge_le_requested hb hp hV hT hrem h

/-- a whole `network.update_pilots` of one period in the shared simulator model (all stations in
    order, stopping at a raise as the code does) keeps, for EVERY EV record, `delivered ≤ requested`
    and the battery invariant — provided each occupied station's pilot of this period is
    non-negative and at most its occupant's remaining demand in amp-periods (what `le_remaining_*`
    and `pilot_accepted_*` give for a schedule computed in this period) and the occupants are
    distinct sessions (C01).  One period; the run-level statement is `sim_consequences`. -/
theorem sim_delivered_le_requested_partial (cfg : Sim.Cfg ℝ) (hT : 0 < cfg.period) (s : Sim.State ℝ)
    (hV : ∀ st ∈ cfg.stations, 0 < st.voltage)
    (hinv : ∀ e ∈ s.evs, LedgerOk e)
    (hdist : cfg.stations.Pairwise (fun a b => ∀ x y, s.core.occ a.id = some x →
      s.core.occ b.id = some y → x.id ≠ y.id))
    (hp : ∀ k st, cfg.stations[k]? = some st → ∀ e, Sim.occupantEv s st.id = some e →
      0 ≤ s.pilots.get k s.core.iter ∧ s.pilots.get k s.core.iter ≤ rapEv cfg st e) :
    ∀ e ∈ (Sim.updatePilots cfg s).1.evs, LedgerOk e :=
  updatePilotsFrom_ledger cfg hT cfg.stations 0 s hV hinv hdist
    (by intro k st hk e he; rw [Nat.zero_add]; exact hp k st hk e he)

/-- the array returned by a successful `schedule()` call has one entry per station -/
theorem schedule_length [HasCeilNat K] (feas : List K → Bool) (cfg : Config K) (infra : Infra K)
    (period : K) (time : Int) (prev : String → Option (K × K)) (rd : Rampdown K)
    (raw l : List (Session K)) (sch : List K)
    (hres : resolve infra raw = .ok l) (hlen : infra.allow.length = infra.ids.length)
    (hnd : ((scheduleCall feas cfg infra period time prev rd raw).order.map (·.idx)).Nodup)
    (hidx : ∀ s ∈ (scheduleCall feas cfg infra period time prev rd raw).order, s.idx < infra.ids.length)
    (h : (scheduleCall feas cfg infra period time prev rd raw).result = .ok sch) :
    sch.length = infra.ids.length := by
  obtain ⟨hr, _, ho, _⟩ := scheduleCall_eq_scheduleCallEst feas cfg infra period time prev rd raw
  rw [ho] at hnd hidx
  rw [hr] at h
  exact (scheduleCallEst_allocOk feas cfg infra period time _ raw sch hlen hnd hidx h).length

/-- `sim_period_composition`: ONE period of the shared simulator model with the MODELLED sorted
    algorithm as scheduler (`SimSorted.sortedSched`, the adapter from the `View`).  If `schedStage`
    returns the new pilot matrix `m`, then there is an array `sch` — the result of the modelled
    `schedule()` call on the sessions / infrastructure read off the view — such that
      * `sch` passes the feasibility predicate of the network (`schedule_feasible`),
      * column `iter` of `m` is `sch`, station by station (C04 `submit_get`): the column
        `update_pilots` applies in this period satisfies the feasibility predicate,
      * every other column and the shape invariant of the matrix are unchanged.
    Hypotheses: distinct station ids, at least one station, well-formed matrix, and — as in
    `schedule_feasible` — resolved sessions with `min_rates ≤ 0` (the adapter sets 0) and a queue
    with distinct valid station indices (C01: one session per EVSE). -/
theorem sim_period_composition [HasCeilNat K] [HasExp K] (net : SimSorted.NetInfo K) (inf : K)
    (cfg : Sim.Cfg K) (scfg : Config K) (s : Sim.State K) (m : Pilots.Mat K)
    (l : List (Session K))
    (hids : (SimSorted.infraOf inf cfg).ids.Nodup) (hne : (SimSorted.infraOf inf cfg).ids ≠ [])
    (hwf : s.pilots.WF (SimSorted.infraOf inf cfg).ids.length)
    (hinf : InfraOk (SimSorted.infraOf inf cfg))
    (hres : resolve (SimSorted.infraOf inf cfg)
      ((Sim.view cfg s).active.map (SimSorted.sessionOfEv inf (Sim.view cfg s).iter)) = .ok l)
    (hmin : ∀ x ∈ l, x.minRate ≤ 0)
    (hnd : ((scheduleCall (SimSorted.feasOf net) { scfg with estimate := false }
      (SimSorted.infraOf inf cfg) cfg.period ((Sim.view cfg s).iter : Int) (fun _ => none)
      { upTh := 0, downTh := 0, upInc := 0, bounds := [] }
      ((Sim.view cfg s).active.map (SimSorted.sessionOfEv inf (Sim.view cfg s).iter))).order.map (·.idx)).Nodup)
    (hidx : ∀ x ∈ (scheduleCall (SimSorted.feasOf net) { scfg with estimate := false }
      (SimSorted.infraOf inf cfg) cfg.period ((Sim.view cfg s).iter : Int) (fun _ => none)
      { upTh := 0, downTh := 0, upInc := 0, bounds := [] }
      ((Sim.view cfg s).active.map (SimSorted.sessionOfEv inf (Sim.view cfg s).iter))).order,
      x.idx < (SimSorted.infraOf inf cfg).ids.length)
    (h : Sim.schedStage cfg (SimSorted.sortedSched net inf cfg scfg) s = .ok m) :
    ∃ sch : List K,
      SimSorted.feasOf net sch = true ∧ sch.length = (SimSorted.infraOf inf cfg).ids.length ∧
      m.WF (SimSorted.infraOf inf cfg).ids.length ∧
      (∀ k, k < (SimSorted.infraOf inf cfg).ids.length → m.get k s.core.iter = sch.getD k 0) ∧
      (∀ k τ, k < (SimSorted.infraOf inf cfg).ids.length → τ ≠ s.core.iter →
        m.get k τ = s.pilots.get k τ) := by
  have hlen : (SimSorted.infraOf inf cfg).allow.length = (SimSorted.infraOf inf cfg).ids.length := by
    simp [SimSorted.infraOf]
  obtain ⟨-, fmt, hsch, hup⟩ := Sim.schedStage_ok h
  unfold SimSorted.sortedSched at hsch
  simp only at hsch
  split at hsch
  · cases hsch
  · rename_i sch hr
    cases hsch
    have hl := schedule_length _ _ _ _ _ _ _ _ l sch hres hlen hnd hidx hr
    obtain ⟨h1, h2, h3⟩ := update_with_array (SimSorted.infraOf inf cfg) hids hne sch hl s.pilots m hwf
      s.core.iter _ hup
    exact ⟨sch, schedule_feasible _ _ _ _ _ _ _ _ l sch hres hinf hlen hmin hnd hidx hr, hl, h1, h2, h3⟩

/-- `sim_consequences`, run level, for ANY scheduler with the per-call guarantees `SchedSafe`
    (never raises `InvalidRate` itself; answers with the dict of an array whose entry for each
    station has the accepted shape and lies within `[0, remaining demand of the occupant]`):
    on a well-formed configuration (`CfgOk`: distinct stations, continuous-from-zero / finite-rate
    EVSEs, positive voltages and period, distinct session ids) and for EVERY fuel `n` — i.e. at
    every loop head of `Simulator.run` — the run has raised no `InvalidRate`, and if it has not
    aborted every EV record has `delivered ≤ requested` and the battery invariant.  (Both
    scheduling branches of the loop are covered: a period without scheduler call applies zeros.) -/
theorem sim_consequences_of_schedSafe (feasP : List ℝ → Bool) (cfg : Sim.Cfg ℝ) (inf : ℝ)
    (hc : CfgOk cfg inf)
    (sched : Sim.View ℝ → Except EventCore.Err (Sim.Schedule ℝ)) (hs : SchedSafe feasP cfg inf sched)
    (hb : ∀ e ∈ cfg.evs, BattAlg.Inv e.batt ∧ e.delivered ≤ e.requested) (n : Nat) :
    (Sim.run cfg sched n (Sim.init cfg)).2 ≠ some .invalidRate ∧
    ((Sim.run cfg sched n (Sim.init cfg)).2 = none →
      (∀ e ∈ (Sim.run cfg sched n (Sim.init cfg)).1.evs,
        e.delivered ≤ e.requested ∧ BattAlg.Inv e.batt) ∧
      (∀ τ, τ < (Sim.run cfg sched n (Sim.init cfg)).1.core.iter →
        ColOk feasP (Sim.run cfg sched n (Sim.init cfg)).1.pilots cfg.stations.length τ)) := by
  obtain ⟨h1, h2⟩ := SimSortedRd.run_safe feasP cfg inf hc sched hs n (Sim.init cfg) (init_sinv feasP cfg hb)
  exact ⟨h1, fun h => ⟨fun e he => ⟨((h2 h).evs e he).1.2, ((h2 h).evs e he).1.1⟩, (h2 h).pil.cols⟩⟩

/-- the modelled sorted algorithms never raise `InvalidRate` themselves (`KeyError` / `ValueError`
    only), on any configuration; under `CfgOk` this is the `err` field of `sortedSched_schedSafe` -/
theorem sortedSched_no_invalidRate [HasCeilNat ℝ] (net : SimSorted.NetInfo ℝ) (inf : ℝ)
    (cfg : Sim.Cfg ℝ) (scfg : Config ℝ) (v : Sim.View ℝ) (e : EventCore.Err)
    (h : SimSorted.sortedSched net inf cfg scfg v = .error e) : e ≠ .invalidRate := by
  unfold SimSorted.sortedSched at h
  simp only at h
  split at h
  · rename_i e' _
    cases h
    cases e' <;> simp [SimSorted.errOf]
  · cases h

/-- `SchedSafe` is satisfiable: the scheduler that answers with the all-zero array (what
    `zero_for_inactive_*` gives every vacant station) has the per-call guarantees, so the run-level
    theorem applies to it -/
theorem zero_sched_safe (feasP : List ℝ → Bool) (cfg : Sim.Cfg ℝ) (inf : ℝ) (hc : CfgOk cfg inf)
    (hz : feasP (List.replicate cfg.stations.length 0) = true) :
    SchedSafe feasP cfg inf (fun _ => .ok (formatArraySchedule (SimSorted.infraOf inf cfg)
      (List.replicate cfg.stations.length 0))) := by
  refine schedSafe_of_call feasP cfg inf _ (fun _ => .ok (List.replicate cfg.stations.length 0))
    (fun _ => rfl) ?_
  intro a _ hev arr harr
  cases harr
  have h0 : ∀ k, (List.replicate cfg.stations.length (0 : ℝ)).getD k 0 = 0 := by
    intro k
    rw [List.getD_eq_getElem?_getD, List.getElem?_replicate]
    split <;> rfl
  have hs := fun k st (hk : cfg.stations[k]? = some st) =>
    (h0 k).symm ▸ entrySafe_zero cfg inf hc a hev (List.mem_of_getElem? hk)
  exact ⟨by simp, hz, fun k st hk => (hs k st hk).1, fun k st e hk he => (hs k st hk).2 e he⟩

/-- `sim_consequences` — UNCONDITIONAL for the modelled sorted algorithms without estimator
    (greedy and round robin, every sort order, uninterrupted on/off, any increment, any `eps ≥ 0`,
    any constraint matrix incl. mixed signs / limits / phasors / tolerances): in the shared simulator
    model with `SimSorted.sortedSched` as scheduler, on every well-formed configuration (`CfgOk`:
    distinct station ids, continuous-from-zero or finite-rate EVSEs, positive voltages and period,
    distinct session ids; batteries start with their invariant and `delivered ≤ requested`) and for
    EVERY fuel `n` — i.e. at every loop head of `Simulator.run`:
      * the run has raised no `InvalidRate`,
      * if it has not aborted, every EV record has `delivered ≤ requested` and the battery invariant,
      * and every column of the pilot matrix applied so far passes the network's feasibility
        predicate or is all zero (a period without scheduler call applies zeros). -/
theorem sim_consequences [HasCeilNat ℝ] (net : SimSorted.NetInfo ℝ) (inf : ℝ) (cfg : Sim.Cfg ℝ)
    (scfg : Config ℝ) (hc : CfgOk cfg inf) (heps : 0 ≤ scfg.eps)
    (hb : ∀ e ∈ cfg.evs, BattAlg.Inv e.batt ∧ e.delivered ≤ e.requested) (n : Nat) :
    (Sim.run cfg (SimSorted.sortedSched net inf cfg scfg) n (Sim.init cfg)).2 ≠ some .invalidRate ∧
    ((Sim.run cfg (SimSorted.sortedSched net inf cfg scfg) n (Sim.init cfg)).2 = none →
      (∀ e ∈ (Sim.run cfg (SimSorted.sortedSched net inf cfg scfg) n (Sim.init cfg)).1.evs,
        e.delivered ≤ e.requested ∧ BattAlg.Inv e.batt) ∧
      (∀ τ, τ < (Sim.run cfg (SimSorted.sortedSched net inf cfg scfg) n (Sim.init cfg)).1.core.iter →
        ColOk (SimSorted.feasOf net)
          (Sim.run cfg (SimSorted.sortedSched net inf cfg scfg) n (Sim.init cfg)).1.pilots
          cfg.stations.length τ)) :=
  sim_consequences_of_schedSafe (SimSorted.feasOf net) cfg inf hc _
    (sortedSched_schedSafe net inf cfg scfg hc heps) hb n

/-! ### the rampdown estimator: a scheduler with state inside the simulator loop -/

/-- `runSt` (the simulator loop with the scheduler's state threaded from call to call,
    `AcnModel/SimSortedRd.lean`) coincides with `Sim.run` when the scheduler ignores the state:
    same final simulator state, same error, state untouched — for every carrier, scheduler, fuel
    and starting point. -/
theorem runSt_eq_run {K : Type} [Add K] [Sub K] [Mul K] [Div K] [Neg K] [LT K] [LE K]
    [DecidableLT K] [DecidableLE K] [OfNat K 0] [OfNat K 1] [NatCast K] [HasExp K] {σ : Type}
    (cfg : Sim.Cfg K) (sched : Sim.View K → Except EventCore.Err (Sim.Schedule K)) (n : Nat) (st : σ)
    (s : Sim.State K) :
    SimSortedRd.runSt cfg (SimSortedRd.lift sched) n st s = (Sim.run cfg sched n s, st) :=
  SimSortedRd.runSt_lift cfg sched n st s

/-- with `estimate_max_rate = False` the sorted algorithm as a stateful scheduler
    (`SimSortedRd.sortedSchedSt`) never reads or writes the estimator, and the stateful run IS the
    run of `sim_consequences` (`Sim.run` with `SimSorted.sortedSched`) -/
theorem runSt_noest_eq_run [HasCeilNat K] [HasExp K] (net : SimSorted.NetInfo K) (inf : K)
    (cfg : Sim.Cfg K) (scfg : Config K) (hest : scfg.estimate = false) (n : Nat) (rd : Rampdown K)
    (s : Sim.State K) :
    SimSortedRd.runSt cfg (SimSortedRd.sortedSchedSt net inf cfg scfg) n rd s =
      (Sim.run cfg (SimSorted.sortedSched net inf cfg scfg) n s, rd) := by
  rw [SimSortedRd.sortedSchedSt_noest net inf cfg scfg hest]
  exact SimSortedRd.runSt_lift cfg _ n rd s

/-- the rampdown estimator's lookup `prev_rate[session_id]` (upper_bound_estimator.py:129) cannot
    raise on a simulator view: every session with a previous pilot has a previous rate -/
theorem rampdown_prev_total [HasExp K] (cfg : Sim.Cfg K) (s : Sim.State K) (sid : String)
    (h : (SimSortedRd.dictGet (Sim.view cfg s).lastPilots sid).isSome = true) :
    (SimSortedRd.prevOf (Sim.view cfg s) sid).isSome = true := by
  have h2 := SimSortedRd.prevOf_total cfg s sid h
  unfold SimSortedRd.prevOf
  cases h1 : SimSortedRd.dictGet (Sim.view cfg s).lastPilots sid with
  | none => rw [h1] at h; cases h
  | some pp =>
    simp only
    cases h3 : SimSortedRd.dictGet ((Sim.view cfg s).active.map fun e => (e.session, e.rate)) sid with
    | none => rw [h3] at h2; cases h2
    | some pr => rfl

/-- run level, for ANY stateful scheduler: if every scheduler state satisfying an invariant `P`
    (preserved by the scheduler's own transitions) has the per-call guarantees `SchedSafe` when frozen,
    then at every loop head of the stateful run (every fuel `n`, started with `P st0`): no
    `InvalidRate`, and if the run has not aborted every EV record has `delivered ≤ requested` and the
    battery invariant, every applied column is feasible or zero, and `P` still holds. -/
theorem sim_consequences_of_schedSafe_st {σ : Type} (feasP : List ℝ → Bool) (cfg : Sim.Cfg ℝ) (inf : ℝ)
    (hc : CfgOk cfg inf)
    (sched : σ → Sim.View ℝ → Except EventCore.Err (Sim.Schedule ℝ × σ)) (P : σ → Prop)
    (hP : ∀ st v sch st', P st → sched st v = .ok (sch, st') → P st')
    (hs : ∀ st, P st → SchedSafe feasP cfg inf (SimSortedRd.frozen sched st))
    (hb : ∀ e ∈ cfg.evs, BattAlg.Inv e.batt ∧ e.delivered ≤ e.requested) (st0 : σ) (h0 : P st0)
    (n : Nat) :
    (SimSortedRd.runSt cfg sched n st0 (Sim.init cfg)).1.2 ≠ some .invalidRate ∧
    ((SimSortedRd.runSt cfg sched n st0 (Sim.init cfg)).1.2 = none →
      (∀ e ∈ (SimSortedRd.runSt cfg sched n st0 (Sim.init cfg)).1.1.evs,
        e.delivered ≤ e.requested ∧ BattAlg.Inv e.batt) ∧
      (∀ τ, τ < (SimSortedRd.runSt cfg sched n st0 (Sim.init cfg)).1.1.core.iter →
        ColOk feasP (SimSortedRd.runSt cfg sched n st0 (Sim.init cfg)).1.1.pilots cfg.stations.length τ)) ∧
    P (SimSortedRd.runSt cfg sched n st0 (Sim.init cfg)).2 := by
  obtain ⟨h1, h2, h3⟩ := SimSortedRd.runSt_safe feasP cfg inf hc sched P hP hs n st0 (Sim.init cfg) h0
    (init_sinv feasP cfg hb)
  exact ⟨h1, fun h => ⟨fun e he => ⟨((h2 h).evs e he).1.2, ((h2 h).evs e he).1.1⟩, (h2 h).pil.cols⟩, h3⟩

/-- the per-call guarantees hold for EVERY estimator state: whatever thresholds, increment and dict
    of per-session bounds the `SimpleRampdown` object holds (the estimator only lowers `max_rates`,
    `reconcile_max_and_min` keeps them ≥ `min_rates` — the uninterrupted-charging minimum — and
    `enforce_pilot_limit` ≤ `max_pilot`), one `schedule()` call on a simulator view answers with an
    array that is feasible, has an accepted entry per station and stays within every occupant's
    remaining demand. -/
theorem rampdown_call_safe [HasCeilNat ℝ] (net : SimSorted.NetInfo ℝ) (inf : ℝ) (cfg : Sim.Cfg ℝ)
    (scfg : Config ℝ) (hc : CfgOk cfg inf) (heps : 0 ≤ scfg.eps) (rd : Rampdown ℝ) :
    SchedSafe (SimSorted.feasOf net) cfg inf
      (SimSortedRd.frozen (SimSortedRd.sortedSchedSt net inf cfg scfg) rd) :=
  sortedSchedSt_schedSafe net inf cfg scfg hc heps rd

/-- `sim_consequences_rampdown` — `sim_consequences` WITH the rampdown upper-bound estimator
    (`estimate_max_rate = True`, `SimpleRampdown`), UNCONDITIONAL in the estimator: for the modelled
    sorted algorithms (greedy and round robin, every sort order, uninterrupted on/off, estimator on/off,
    any increment, any `eps ≥ 0`, any constraint matrix) as a STATEFUL scheduler in the simulator loop
    (`SimSortedRd.runSt` with `SimSortedRd.sortedSchedSt`: the estimator object persists from call to
    call and reads last period's pilots / actual rates off the interface), started from ANY estimator
    state `rd0` (any thresholds and increment — also negative —, any dict of bounds; the code starts
    from the empty dict), on every well-formed configuration (same `CfgOk` and battery hypotheses as
    `sim_consequences`) and for EVERY fuel `n` — i.e. at every loop head of `Simulator.run`:
      * the run has raised no `InvalidRate`,
      * if it has not aborted, every EV record has `delivered ≤ requested` and the battery invariant,
      * and every column of the pilot matrix applied so far passes the network's feasibility
        predicate or is all zero.
    No hypothesis on the estimator's inputs is needed. -/
theorem sim_consequences_rampdown [HasCeilNat ℝ] (net : SimSorted.NetInfo ℝ) (inf : ℝ) (cfg : Sim.Cfg ℝ)
    (scfg : Config ℝ) (hc : CfgOk cfg inf) (heps : 0 ≤ scfg.eps)
    (hb : ∀ e ∈ cfg.evs, BattAlg.Inv e.batt ∧ e.delivered ≤ e.requested) (rd0 : Rampdown ℝ) (n : Nat) :
    (SimSortedRd.runSt cfg (SimSortedRd.sortedSchedSt net inf cfg scfg) n rd0 (Sim.init cfg)).1.2
      ≠ some .invalidRate ∧
    ((SimSortedRd.runSt cfg (SimSortedRd.sortedSchedSt net inf cfg scfg) n rd0 (Sim.init cfg)).1.2 = none →
      (∀ e ∈ (SimSortedRd.runSt cfg (SimSortedRd.sortedSchedSt net inf cfg scfg) n rd0 (Sim.init cfg)).1.1.evs,
        e.delivered ≤ e.requested ∧ BattAlg.Inv e.batt) ∧
      (∀ τ, τ < (SimSortedRd.runSt cfg (SimSortedRd.sortedSchedSt net inf cfg scfg) n rd0
            (Sim.init cfg)).1.1.core.iter →
        ColOk (SimSorted.feasOf net)
          (SimSortedRd.runSt cfg (SimSortedRd.sortedSchedSt net inf cfg scfg) n rd0 (Sim.init cfg)).1.1.pilots
          cfg.stations.length τ)) := by
  obtain ⟨h1, h2, _⟩ := sim_consequences_of_schedSafe_st (SimSorted.feasOf net) cfg inf hc
    (SimSortedRd.sortedSchedSt net inf cfg scfg) (fun _ => True) (fun _ _ _ _ _ _ => trivial)
    (fun rd _ => sortedSchedSt_schedSafe net inf cfg scfg hc heps rd) hb rd0 trivial n
  exact ⟨h1, h2⟩

/-! ### non-vacuity: concrete instances over ℚ on which the hypotheses hold and the algorithms run -/

/-- mixed-sign predicate `|x₀ − x₁| ≤ 10 ∧ x₀ + x₁ ≤ 30`, station 0 continuous, station 1 finite -/
def exFeas : List ℚ → Bool := fun x =>
  decide (x.getD 0 0 - x.getD 1 0 ≤ 10) && decide (x.getD 1 0 - x.getD 0 0 ≤ 10) &&
  decide (x.getD 0 0 + x.getD 1 0 ≤ 30)

def exInfra : Infra ℚ := ⟨["a", "b"], [32, 32], [0, 8], [208, 208], [true, false], [[0, 32], [0, 8, 16, 24, 32]]⟩

def exQueue : List (Session ℚ) :=
  [⟨"a", "x", 0, 0, 9, 9, 10, 0, 0, 32⟩, ⟨"b", "y", 1, 1, 8, 8, 10, 0, 8, 32⟩]

/-- greedy: the hypotheses of `greedy_feasible` hold (distinct stations; `LbOk`: station 1 is
    finite with `lb = 8`, one of its levels); the run succeeds, the first session is held just
    below 18 by the mixed-sign row, the second keeps level 8, and the result is feasible -/
example : (exQueue.map (·.idx)).Nodup ∧ (8 : ℚ) ∈ levelsIn exInfra 1 8 (ubOf exInfra 5 ⟨"b", "y", 1, 1, 8, 8, 10, 0, 8, 32⟩) := by
  decide +kernel

example :
    (match sortingAlgorithm exFeas 50 (1/100) exInfra 5 exQueue with
     | .ok sch => exFeas sch && decide (sch.getD 1 0 = 8) && decide (17 < sch.getD 0 0) &&
                  decide (sch.getD 0 0 ≤ 18)
     | .error _ => false) = true := by
  decide +kernel

/-- round robin with unit levels: station 1's step to 16 is blocked by the mixed-sign row while
    station 0 is still low (and is reverted to 8); station 0 then climbs to its top level -/
example :
    (match roundRobin exFeas (fun s => if s.idx = 0 then [0, 1, 2, 3, 4, 5, 6, 7, 8, 9, 10, 11, 12] else [8, 16, 24])
        exInfra exQueue with
     | .ok st => exFeas st.sched && decide (st.sched = [12, 8]) && st.queue.isEmpty
     | .error _ => false) = true := by
  decide +kernel

/-! ### non-vacuity of `sim_consequences_rampdown`: a run in which the estimator acts -/

section rdex
local instance : HasExp ℚ := ⟨fun x => x⟩
local instance : HasCeilNat ℚ := ⟨fun x => (Rat.ceil x).toNat⟩

/-- continuous station A and finite-rate station B (1000 V, 60-minute periods) behind one constraint
    `|x_A + x_B| ≤ 40`; `x` on A has a battery that takes at most 7 kW (7 A), `y` on B takes 40 kW -/
def rdCfg (K : Type) [Field K] : Sim.Cfg K :=
  { stations := [⟨"A", .cont 0 (some 32), 1000⟩, ⟨"B", .finite [0, 8, 16, 24, 32], 1000⟩],
    evs := [{ session := "x", station := "A", arrival := 0, departure := 5, estDeparture := 5,
              requested := 100, delivered := 0, rate := 0,
              batt := ⟨200, 0, 0, 7, 0, false, 0, 0, .continuous⟩ },
            { session := "y", station := "B", arrival := 0, departure := 5, estDeparture := 5,
              requested := 300, delivered := 0, rate := 0,
              batt := ⟨400, 0, 0, 40, 0, false, 0, 0, .continuous⟩ }],
    recomputes := [], maxRecompute := some 1, period := 60, atolCont := 1 / 1000,
    atolDeadband := 1 / 1000, atolFinite := 1 / 1000, fullEps := 1 / 1000, noise := [] }

def rdNet : SimSorted.NetInfo ℚ :=
  { M := [[1, 1]], lims := [40], cos := [1, 1], sin := [0, 0], vt := 1 / 100000, rt := 1 / 10000000 }

def rdAlgo (est unint : Bool) : Config ℚ :=
  { algo := .greedy, sort := .fcfs, uninterrupted := unint, estimate := est, inc := 1, eps := 1 / 100,
    fuel := 60 }

/-- the estimator as the code creates it: thresholds and increment 1, empty dict -/
def rdInit : Rampdown ℚ := { upTh := 1, downTh := 1, upInc := 1, bounds := [] }

/-- the hypotheses of `sim_consequences_rampdown` hold on this configuration (over ℝ, `inf = 1000`) -/
example : CfgOk (rdCfg ℝ) 1000 ∧
    ∀ e ∈ (rdCfg ℝ).evs, BattAlg.Inv e.batt ∧ e.delivered ≤ e.requested := by
  refine ⟨⟨?_, ?_, ?_, ?_, ?_, ?_, ?_⟩, ?_⟩
  · show ["A", "B"].Nodup
    decide
  · exact List.cons_ne_nil _ _
  · show ∀ st ∈ [_, _], _
    simp only [List.forall_mem_cons, List.not_mem_nil, false_imp_iff, implies_true, and_true, KindOk]
    norm_num
  · show ∀ st ∈ [_, _], _
    simp only [List.forall_mem_cons, List.not_mem_nil, false_imp_iff, implies_true, and_true]
    norm_num
  · show (0 : ℝ) < 60
    norm_num
  · show (0 : ℝ) ≤ 1 / 1000 ∧ (0 : ℝ) ≤ 1 / 1000 ∧ (0 : ℝ) ≤ 1 / 1000
    norm_num
  · show ["x", "y"].Nodup
    decide
  · show ∀ e ∈ [_, _], _
    simp only [List.forall_mem_cons, List.not_mem_nil, false_imp_iff, implies_true, and_true]
    exact ⟨⟨⟨by norm_num, by norm_num, by norm_num, by norm_num, by norm_num, by norm_num⟩, by norm_num⟩,
      ⟨⟨by norm_num, by norm_num, by norm_num, by norm_num, by norm_num, by norm_num⟩, by norm_num⟩⟩

/-- WITH the estimator the run is not the run without it: from period 2 on (the first period with
    a previous pilot, interface.py:359-360) `x`'s bound drops to its observed 7 A + 1, the greedy
    loop hands the reclaimed capacity to `y` (8 → 32 A), every applied column respects the limit 40,
    nobody receives more than requested, the run ends without an error, and the estimator ends with
    the dict `{x: 8, y: 32}`.  Without the estimator `x` keeps 32 A throughout. -/
example :
    (SimSortedRd.runSt (rdCfg ℚ) (SimSortedRd.sortedSchedSt rdNet 1000 (rdCfg ℚ) (rdAlgo true false)) 10
        rdInit (Sim.init (rdCfg ℚ))).1.2 = none ∧
    (SimSortedRd.runSt (rdCfg ℚ) (SimSortedRd.sortedSchedSt rdNet 1000 (rdCfg ℚ) (rdAlgo true false)) 10
        rdInit (Sim.init (rdCfg ℚ))).1.1.pilots.rows = [[32, 32, 8, 8, 8, 0], [8, 8, 32, 32, 32, 0]] ∧
    (SimSortedRd.runSt (rdCfg ℚ) (SimSortedRd.sortedSchedSt rdNet 1000 (rdCfg ℚ) (rdAlgo true false)) 10
        rdInit (Sim.init (rdCfg ℚ))).1.1.evs.map (·.delivered) = [35, 112] ∧
    (SimSortedRd.runSt (rdCfg ℚ) (SimSortedRd.sortedSchedSt rdNet 1000 (rdCfg ℚ) (rdAlgo true false)) 10
        rdInit (Sim.init (rdCfg ℚ))).2.bounds = [("x", 8), ("y", 32)] ∧
    (SimSortedRd.runSt (rdCfg ℚ) (SimSortedRd.sortedSchedSt rdNet 1000 (rdCfg ℚ) (rdAlgo false false)) 10
        rdInit (Sim.init (rdCfg ℚ))).1.1.pilots.rows = [[32, 32, 32, 32, 32, 0], [8, 8, 8, 8, 8, 0]] := by
  decide +kernel

/-- the theorem needs NO hypothesis on the estimator's state: started from a hostile one (negative
    bound for `x`, bound 3 — below B's smallest level 8 — for `y`, negative increment) with
    uninterrupted charging, `x` is held at 0 (`reconcile_max_and_min` lifts the negative bound to
    `min_rates = 0`), `y` gets the uninterrupted-charging minimum 8 A ABOVE its estimator bound
    (the estimator never pushes a session below that minimum), and the run stays safe. -/
example :
    (SimSortedRd.runSt (rdCfg ℚ) (SimSortedRd.sortedSchedSt rdNet 1000 (rdCfg ℚ) (rdAlgo true true)) 2
        { upTh := 1, downTh := 1, upInc := -50, bounds := [("x", -5), ("y", 3)] }
        (Sim.init (rdCfg ℚ))).1.2 = none ∧
    (SimSortedRd.runSt (rdCfg ℚ) (SimSortedRd.sortedSchedSt rdNet 1000 (rdCfg ℚ) (rdAlgo true true)) 2
        { upTh := 1, downTh := 1, upInc := -50, bounds := [("x", -5), ("y", 3)] }
        (Sim.init (rdCfg ℚ))).1.1.pilots.rows = [[0, 0, 0, 0, 0, 0], [8, 8, 0, 0, 0, 0]] := by
  decide +kernel

end rdex

end Acn.C07
