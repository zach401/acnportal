/-
  C09 — a run interrupted by a scheduler exception at ANY period, optionally written to JSON and
  loaded back, then resumed, equals the uninterrupted run; the loaded object graph preserves sharing.

  Part 1 (crash / resume) is about the full simulator model `Acn.Sim` (events, pilots, rates, energies,
  batteries, noise stream) for an arbitrary carrier `K`, an arbitrary scheduler `sched` (a function
  of the `Interface` view that may itself fail), an arbitrary crash period `k` and arbitrary fuel.
  `Sim.failAt k sched` raises in period `k`.  Equality is `ObsEq`: every field of the state except the
  ghost list `core.invoked` (the failed call is one more entry there).

  Part 1b: the same for a scheduler WITH STATE (`SimSortedRd.runSt`: the scheduler is a state machine
  `σ → View → Except Err (Schedule × σ)`; the sorted algorithms with the `SimpleRampdown` estimator are one,
  `SimSortedRd.sortedSchedSt`).  The state is not serialised; the property's "given its scheduler again" hands
  the SAME object back.  `resume_eq_stateful` / `crash_json_resume_eq_stateful`: resuming from the failed (resp.
  decoded) simulator state with the scheduler state of the crash is the uninterrupted run, final scheduler
  state included — for every scheduler, crash period and fuel.

  Part 2 (registry) is about `Acn.Registry`: `dump` / `load` are the memoised post-order walk of
  base.py; acyclicity is given by a rank function.  For the concrete per-class codec `Acn.RegistrySim`
  (`encode` = what `to_json()` writes, `decode` = the `_from_dict`s): `decode ∘ load ∘ dump ∘ encode = id` on
  every well-formed state (`decode_encode`, `roundtrip_resume_eq`), well-formedness is an invariant of the run
  (`body_preserves_wf`, `reachable_wf`), hence `crash_json_resume_eq`: crash at ANY period, `to_json`,
  `from_json`, resume = the uninterrupted run.

  Part 2b (the TEXT): `AcnModel/JsonText.lean` models what CPython's `json` module writes and reads (`int.__repr__`,
  `null` / `true` / `false`, `py_encode_basestring_ascii` with every escape incl. `\u00XX` and surrogate pairs, lists,
  dicts, the default separators; `py_scanstring`, the number scanner).  `json_string_roundtrip`, `json_int_roundtrip`,
  `json_value_roundtrip`: `loads (dumps v) = v` for EVERY value built from None, bool, int, str, list, dict and float
  TEXTS.  `scalar_codec_lawful`: the scalar codec built on it (`RegistryJson.jsonShow / jsonRead`) is `Lawful`, from
  one named assumption about doubles, `DoubleText.RoundTrip` (`float(repr(x)) = x` and `repr(x)` is a float token).
  The headline statements `roundtrip_resume_eq_concrete`, `crash_json_resume_eq_concrete`,
  `crash_json_resume_eq_stateful_concrete` have that codec in place of the hypothesis `Lawful sh rd`, the document
  text included (`registry_text_roundtrip`).

  Part 3: the regenerated attribute tables (`Gen/Serial.lean`): every stateful attribute is dumped
  and every dumped key is restored, with an explicit allow-list.
-/
import AcnProofs.Lemmas.ResumeProj
import AcnProofs.Lemmas.RegistryCalls
import AcnProofs.Lemmas.RegistryLawful
import AcnProofs.Lemmas.RegistryJsonDoc
import AcnModel.Gen.Serial

set_option linter.unusedSectionVars false

namespace Acn.C09
open Acn Acn.EventCore Acn.Sim

section Resume
variable {K : Type} [Add K] [Sub K] [Mul K] [Div K] [Neg K] [LT K] [LE K]
  [DecidableLT K] [DecidableLE K] [OfNat K 0] [OfNat K 1] [NatCast K] [HasExp K]

/-- what `ObsEq` says, field by field: pilots, rates, peak, per-EV energy / rate / battery, EVSE
    pilots, noise draws consumed, per-period occupancy, and of the core: iteration, queue,
    occupancy, `_resolve`, `_last_schedule_update`, event history, `ev_history` keys -/
theorem obsEq_fields {s t : State K} (h : ObsEq s t) :
    s.pilots = t.pilots ∧ s.rates = t.rates ∧ s.peak = t.peak ∧ s.evs = t.evs ∧ s.evsePilot = t.evsePilot ∧
    s.noiseIdx = t.noiseIdx ∧ s.occLog = t.occLog ∧ s.core.iter = t.core.iter ∧ s.core.pending = t.core.pending ∧
    s.core.occ = t.core.occ ∧ s.core.resolve = t.core.resolve ∧ s.core.lastUpd = t.core.lastUpd ∧
    s.core.eventHist = t.core.eventHist ∧ s.core.evHist = t.core.evHist := by
  rw [h.eq_withInv]
  exact ⟨rfl, rfl, rfl, rfl, rfl, rfl, rfl, rfl, rfl, rfl, rfl, rfl, rfl, rfl⟩

/-- After a `body` that was aborted by the (injected) scheduler failure in period `k`, the state `s'`
    has nothing due (`get_current_events` returns `[]`), still needs a schedule, still passes the
    loop guard (also when the queue has just become empty: the repaired guard is
    `pending ≠ [] ∨ resolve`, F7), and re-running `body` with the working scheduler gives what the
    un-failed `body` gives.  Premise on the state: `NoOverdue` (preserved by every period, true
    initially for well-formed sessions — `resume_eq`). -/
theorem failed_body_idempotent_prefix (cfg : Sim.Cfg K) (sched : View K → Except EventCore.Err (Schedule K)) (k : Nat)
    (s : State K) (hI : NoOverdue cfg.core s.core) (hk : s.core.iter = k) (hg : EventCore.guard s.core = true)
    (hfired : body cfg (failAt k sched) s ≠ body cfg sched s) :
    let s' := (body cfg (failAt k sched) s).1
    (body cfg (failAt k sched) s).2 = some EventCore.Err.schedulerFailed ∧
    (popCurrent s'.core.iter s'.core.pending).1 = [] ∧
    needsSched cfg.maxRecompute s'.core = true ∧
    EventCore.guard s'.core = true ∧
    ObsEqR (body cfg sched s') (body cfg sched s) := by
  rcases body_failAt_eq cfg sched k s with h | ⟨s1, he, hn, _, hb⟩
  · exact absurd h hfired
  · obtain ⟨h1, h2, h3, h4⟩ := body_retry cfg sched hI he
    rw [hb]
    exact ⟨rfl, h1, by rw [h2]; exact hn, h3 hg, h4⟩

/-- RESUME, for EVERY crash period `k` (including the one in which the queue becomes empty) and every
    fuel `n`: either the failure never fires (the scheduler is not invoked in period `k`, or the run
    ends earlier) and the run is literally the uninterrupted one, or the run aborts in period `k`
    with `SchedulerFailed` and calling `run` again — `k` periods of fuel are already used up —
    yields the uninterrupted run's outcome: same error (if any) and `ObsEq` state. -/
theorem resume_eq (cfg : Sim.Cfg K) (sched : View K → Except EventCore.Err (Schedule K)) (hS : SessionsOK cfg.core)
    (k n : Nat) :
    let r1 := run cfg (failAt k sched) n (Sim.init cfg)
    r1 = run cfg sched n (Sim.init cfg) ∨
    (r1.2 = some EventCore.Err.schedulerFailed ∧ r1.1.core.iter = k ∧
     ObsEqR (run cfg sched (n - k) r1.1) (run cfg sched n (Sim.init cfg))) :=
  (crash_cases cfg sched hS k n).imp_right fun h => ⟨h.failed, h.iter, h.obs⟩

theorem run_fuel_mono (cfg : Sim.Cfg K) (sched : View K → Except EventCore.Err (Schedule K)) :
    ∀ (n m : Nat) (s : State K), n ≤ m →
      ((run cfg sched n s).2.isSome = true ∨ EventCore.guard (run cfg sched n s).1.core = false) →
      run cfg sched m s = run cfg sched n s
  | n, m, s, hle, h => by
    rw [Sim.run_eq] at h ⊢
    rw [Sim.run_eq]
    exact Steps.loopE_mono n m s hle h

/-- the statement of the property: if the uninterrupted run completes (fuel `n` suffices, no error),
    then for EVERY `k` the run with a scheduler failure in period `k`, resumed by a second `run`
    with the same fuel, completes with the same pilots, rates, peak, energies, battery states,
    event history, ev_history, iteration (`obsEq_fields`). -/
theorem resume_eq_complete (cfg : Sim.Cfg K) (sched : View K → Except EventCore.Err (Schedule K)) (hS : SessionsOK cfg.core)
    (n : Nat) (sF : State K) (hrun : run cfg sched n (Sim.init cfg) = (sF, none)) (hdone : EventCore.guard sF.core = false)
    (k : Nat) :
    let r1 := run cfg (failAt k sched) n (Sim.init cfg)
    r1 = (sF, none) ∨
    (r1.2 = some EventCore.Err.schedulerFailed ∧ r1.1.core.iter = k ∧
     ∃ sR, run cfg sched n r1.1 = (sR, none) ∧ EventCore.guard sR.core = false ∧ ObsEq sR sF) := by
  rcases crash_cases cfg sched hS k n with h | hc
  · exact Or.inl (h.trans hrun)
  · have h3 := hc.obs
    rw [hrun] at h3
    -- the second run has ended with `n - k` periods of fuel, so it is the same with `n`
    have hgd : EventCore.guard (run cfg sched (n - k) (run cfg (failAt k sched) n (Sim.init cfg)).1).1.core = false := by
      rw [Sim.guard_obs h3.1.symm]; exact hdone
    exact Or.inr ⟨hc.failed, hc.iter, _, (run_fuel_mono cfg sched (n - k) n _ (Nat.sub_le n k) (Or.inr hgd)).trans
      (Prod.ext rfl h3.2), hgd, h3.1⟩

/-! ### a scheduler with state (hidden in the algorithm object, not serialised) -/

/-- RESUME with a STATEFUL scheduler (`SimSortedRd.runSt`; e.g. a sorted algorithm with its `SimpleRampdown`
    estimator, `SimSortedRd.sortedSchedSt`), for EVERY scheduler `sched`, initial scheduler state `st0`, crash
    period `k` and fuel `n`: either the failure never fires and the run is literally the uninterrupted one, or it
    aborts in period `k` with `SchedulerFailed`, and running again from the failed simulator state WITH THE
    SCHEDULER STATE AT THE CRASH (`r1.2`: what the surviving algorithm object holds — `run()` again, or
    `update_scheduler` with the same object after a load) yields the uninterrupted run's outcome: same error (if
    any), `ObsEq` simulator state, and the SAME final scheduler state. -/
theorem resume_eq_stateful {σ : Type} (cfg : Sim.Cfg K)
    (sched : σ → View K → Except EventCore.Err (Schedule K × σ)) (hS : SessionsOK cfg.core) (st0 : σ) (k n : Nat) :
    let r1 := SimSortedRd.runSt cfg (SimSortedRd.failAtSt k sched) n st0 (Sim.init cfg)
    let r := SimSortedRd.runSt cfg sched n st0 (Sim.init cfg)
    r1 = r ∨
    (r1.1.2 = some EventCore.Err.schedulerFailed ∧ r1.1.1.core.iter = k ∧
     ObsEqR (SimSortedRd.runSt cfg sched (n - k) r1.2 r1.1.1).1 r.1 ∧
     (SimSortedRd.runSt cfg sched (n - k) r1.2 r1.1.1).2 = r.2) :=
  -- the fuel of the second run, `n - (k - 0)`, is `n - k` by computation
  (SimSortedRd.resume_runSt cfg sched k n st0 (init_noOverdue hS) (Nat.zero_le k)).imp_right
    fun ⟨h1, h2, _, h4⟩ => ⟨h1, h2, h4.1, h4.2⟩

/-- … in particular for the scheduler the driver runs: the modelled sorted algorithm / round robin WITH its
    `SimpleRampdown` estimator (`SimSortedRd.sortedSchedSt`; state = the estimator object with its per-session
    bounds), from any estimator state `rd0` -/
example [IntCast K] [Sorted.HasCeilNat K] (net : SimSorted.NetInfo K) (inf : K) (cfg : Sim.Cfg K)
    (scfg : Sorted.Config K) (hS : SessionsOK cfg.core) (rd0 : Sorted.Rampdown K) (k n : Nat) :
    let sched := SimSortedRd.sortedSchedSt net inf cfg scfg
    let r1 := SimSortedRd.runSt cfg (SimSortedRd.failAtSt k sched) n rd0 (Sim.init cfg)
    let r := SimSortedRd.runSt cfg sched n rd0 (Sim.init cfg)
    r1 = r ∨
    (r1.1.2 = some EventCore.Err.schedulerFailed ∧ r1.1.1.core.iter = k ∧
     ObsEqR (SimSortedRd.runSt cfg sched (n - k) r1.2 r1.1.1).1 r.1 ∧
     (SimSortedRd.runSt cfg sched (n - k) r1.2 r1.1.1).2 = r.2) :=
  resume_eq_stateful cfg (SimSortedRd.sortedSchedSt net inf cfg scfg) hS rd0 k n

/-! ### non-vacuity: one event of each kind pending at the crash; the crash fires, also in the LAST period (F7) -/
section Examples
local instance : HasExp ℚ := ⟨fun _ => 1⟩

private def exBatt : Battery.Batt ℚ :=
  { capacity := 40, charge := 5, init := 5, maxPower := 7, power := 0, twoStage := false, noiseLevel := 0,
    ts := 4/5, cmode := .continuous }
private def exEv (id st : String) (a d : Int) : Evse.Ev ℚ :=
  { session := id, station := st, arrival := a, departure := d, estDeparture := d, requested := 10,
    delivered := 0, rate := 0, batt := exBatt }
private def exCfg : Sim.Cfg ℚ :=
  { stations := [⟨"S0", .cont 0 (some 32), 208⟩, ⟨"S1", .cont 0 (some 32), 208⟩],
    evs := [exEv "a" "S0" 0 3, exEv "b" "S1" 1 2], recomputes := [(2, "r0")], maxRecompute := none,
    period := 5, atolCont := 1/1000, atolDeadband := 1/1000, atolFinite := 1/1000, fullEps := 1/1000, noise := [] }
private def exSched : View ℚ → Except EventCore.Err (Schedule ℚ) := scripted [(1, some [("S0", [8, 9, 10])])] [("S1", [16])]

example : SessionsOK exCfg.core := ⟨by decide, by decide⟩
theorem exRun_fail1 : (run exCfg (failAt 1 exSched) 6 (Sim.init exCfg)).2 = some EventCore.Err.schedulerFailed := by
  decide +kernel
theorem exRun_ok : (run exCfg exSched 6 (Sim.init exCfg)).2 = none := by decide +kernel
-- the failure fires mid-run (plug-in, unplug and recompute events all pending) …
example : (run exCfg (failAt 1 exSched) 6 (Sim.init exCfg)).2 = some EventCore.Err.schedulerFailed := exRun_fail1
example : ((run exCfg (failAt 1 exSched) 6 (Sim.init exCfg)).1.core.pending.map (·.kind)) =
    [.recompute, .unplug, .unplug] := by decide +kernel
-- … and in the last period, when the queue is already empty (the F7 scenario)
example : (run exCfg (failAt 3 exSched) 6 (Sim.init exCfg)).2 = some EventCore.Err.schedulerFailed ∧
    (run exCfg (failAt 3 exSched) 6 (Sim.init exCfg)).1.core.pending = [] ∧
    EventCore.guard (run exCfg (failAt 3 exSched) 6 (Sim.init exCfg)).1.core = true := by decide +kernel
-- the uninterrupted run completes with this fuel, and so does the resumed one, in the same period
example : (run exCfg exSched 6 (Sim.init exCfg)).2 = none ∧
    EventCore.guard (run exCfg exSched 6 (Sim.init exCfg)).1.core = false ∧
    (run exCfg exSched 6 (Sim.init exCfg)).1.core.iter = 4 := by decide +kernel
example : (run exCfg exSched 6 (run exCfg (failAt 3 exSched) 6 (Sim.init exCfg)).1).1.core.iter = 4 ∧
    (run exCfg exSched 6 (run exCfg (failAt 3 exSched) 6 (Sim.init exCfg)).1).1.pilots.rows =
      (run exCfg exSched 6 (Sim.init exCfg)).1.pilots.rows := by decide +kernel
-- a scheduler WITH hidden state (a call counter: S0's pilot is 8 + the number of earlier calls): the failure in
-- period 1 fires with the counter at 1; resumed with THAT state the pilots are the uninterrupted run's, and the
-- final counters agree (`resume_eq_stateful`); resumed with a FRESH scheduler (counter 0) they are not — the
-- state of the surviving object is what the statement is about
private def exSchedSt : Nat → View ℚ → Except EventCore.Err (Schedule ℚ × Nat) :=
  fun c _ => .ok ([("S0", [(8 : ℚ) + (c : ℚ)]), ("S1", [16])], c + 1)
example : (SimSortedRd.runSt exCfg (SimSortedRd.failAtSt 1 exSchedSt) 6 0 (Sim.init exCfg)).1.2 = some EventCore.Err.schedulerFailed ∧
    (SimSortedRd.runSt exCfg (SimSortedRd.failAtSt 1 exSchedSt) 6 0 (Sim.init exCfg)).2 = 1 := by decide +kernel
example : (SimSortedRd.runSt exCfg exSchedSt 6 1
      (SimSortedRd.runSt exCfg (SimSortedRd.failAtSt 1 exSchedSt) 6 0 (Sim.init exCfg)).1.1).1.1.pilots.rows =
    (SimSortedRd.runSt exCfg exSchedSt 6 0 (Sim.init exCfg)).1.1.pilots.rows ∧
    (SimSortedRd.runSt exCfg exSchedSt 6 1
      (SimSortedRd.runSt exCfg (SimSortedRd.failAtSt 1 exSchedSt) 6 0 (Sim.init exCfg)).1.1).2 =
    (SimSortedRd.runSt exCfg exSchedSt 6 0 (Sim.init exCfg)).2 := by decide +kernel
example : (SimSortedRd.runSt exCfg exSchedSt 6 0
      (SimSortedRd.runSt exCfg (SimSortedRd.failAtSt 1 exSchedSt) 6 0 (Sim.init exCfg)).1.1).1.1.pilots.rows ≠
    (SimSortedRd.runSt exCfg exSchedSt 6 0 (Sim.init exCfg)).1.1.pilots.rows := by decide +kernel
end Examples

end Resume

section Reg
open Acn.Registry

/-- `to_json` enters every object reachable from the root exactly once, with the store's attributes,
    children before parents (the context is closed under references) -/
theorem dump_each_object_once {st : Store} {root : Id} (hac : Acyclic st) (hcl : Closed st root) :
    ∃ ctx, dump st root = .ok ctx ∧ ctx.keys.Nodup ∧ (∀ j, j ∈ ctx.keys ↔ Reach st root j) ∧
      (∀ j, Reach st root j → ctx.get j = st.get j) ∧
      (∀ i o, (i, o) ∈ ctx → ∀ j ∈ o.refs, j ∈ ctx.keys) := by
  obtain ⟨ctx, h, hs⟩ := dump_spec hac hcl
  exact ⟨ctx, h, hs.ok.nodup, hs.reach, hs.same, hs.ok.closed⟩

/-- ROUND TRIP: for an acyclic heap, `load (dump st root)` succeeds and is `st ↾ reachable root` —
    the same ids, the same `(class, attributes)` under each id, nothing else — in fact it is the
    dumped context itself, entry by entry and in the same order. -/
theorem roundtrip_store {st : Store} {root : Id} (hac : Acyclic st) (hcl : Closed st root) :
    ∃ ctx, dump st root = .ok ctx ∧ load ctx root = .ok ctx ∧
      (∀ j, j ∈ ctx.keys ↔ Reach st root j) ∧ (∀ j, Reach st root j → ctx.get j = st.get j) := by
  obtain ⟨ctx, h, hs⟩ := dump_spec hac hcl
  exact ⟨ctx, h, load_dump hac h hs, hs.reach, hs.same⟩

/-- SHARING: in the loaded graph every reachable id is ONE object — it sits at exactly one position of
    the `loaded_dict` — and two references denote the same loaded object iff they were the same
    object before (`addr` = position of the entry). -/
theorem sharing_preserved {st : Store} {root : Id} (hac : Acyclic st) (hcl : Closed st root) :
    ∃ loaded, (dump st root).bind (fun ctx => load ctx root) = .ok loaded ∧
      (∀ (a : Id) (k1 k2 : Nat), loaded.keys[k1]? = some a → loaded.keys[k2]? = some a → k1 = k2) ∧
      (∀ a b, Reach st root a → Reach st root b → (addr loaded a = addr loaded b ↔ a = b)) ∧
      (∀ a, Reach st root a → (addr loaded a).isSome = true) := by
  obtain ⟨ctx, h, hs⟩ := dump_spec hac hcl
  refine ⟨ctx, by rw [h]; exact load_dump hac h hs, ?_, ?_, ?_⟩
  · intro a k1 k2 h1 h2
    exact (List.getElem?_inj (List.getElem?_eq_some_iff.1 h1).1 hs.ok.nodup).1 (h1.trans h2.symm)
  · intro a b ha hb
    exact addr_eq_iff ((hs.reach a).2 ha) ((hs.reach b).2 hb)
  · intro a ha
    have hm := (hs.reach a).2 ha
    have : ctx.keys.idxOf a < ctx.length := by
      have := List.idxOf_lt_length_of_mem hm; simpa [Store.keys] using this
    simp [addr, this]

/-- The codec-independent half of the round trip: for EVERY codec whose `decode` reads only objects reachable from
    the root (`hlocal`) and inverts `encode` (`hinv`), and every state whose store is acyclic and closed,
    `decode (load (dump (encode s))) = some s`, hence the resumed runs are equal.  `roundtrip_resume_eq` is the
    statement for the concrete `RegistrySim.encode` / `RegistrySim.decode` of simulator.py / charging_network.py /
    evse.py / ev.py / battery.py / event.py / event_queue.py. -/
theorem roundtrip_resume_eq_partial {K : Type} [Add K] [Sub K] [Mul K] [Div K] [Neg K] [LT K] [LE K]
    [DecidableLT K] [DecidableLE K] [OfNat K 0] [OfNat K 1] [NatCast K] [HasExp K]
    (cfg : Sim.Cfg K) (sched : View K → Except EventCore.Err (Schedule K))
    (encode : State K → Store) (decode : Store → Id → Option (State K)) (root : Id)
    (hlocal : ∀ st st', (∀ j, Reach st root j → st'.get j = st.get j) → decode st' root = decode st root)
    (hinv : ∀ s, decode (encode s) root = some s)
    (s : State K) (hac : Acyclic (encode s)) (hcl : Closed (encode s) root) :
    ∃ ctx, dump (encode s) root = .ok ctx ∧ load ctx root = .ok ctx ∧ decode ctx root = some s ∧
      ∀ n, (decode ctx root).map (run cfg sched n) = some (run cfg sched n s) := by
  obtain ⟨ctx, h1, h2, _, h4⟩ := roundtrip_store hac hcl
  have : decode ctx root = some s := by rw [hlocal (encode s) ctx h4, hinv]
  exact ⟨ctx, h1, h2, this, fun n => by rw [this]; rfl⟩

/-! ### the concrete codec (`AcnModel/RegistrySim.lean`, tied to `to_json()` by the correspondence) -/

/-- The store that the model writes for ANY simulator state — Simulator → network → EVSEs → EV →
    battery, queue → events → the same EVs, ev_history, event_history — is acyclic and closed, so
    `to_json` then `from_json` reproduces it: every object once, same attributes, and the EV of a
    session is ONE loaded object however many references (station, ev_history, pending and past
    events) lead to it.  No hypothesis on the state. -/
theorem encode_roundtrip {K : Type} (sh : RegistrySim.Show K) (cfg : Sim.Cfg K) (s : State K) :
    ∃ ctx, dump (RegistrySim.encode sh cfg s) RegistrySim.root = .ok ctx ∧ load ctx RegistrySim.root = .ok ctx ∧
      ctx.keys.Nodup ∧
      (∀ j, j ∈ ctx.keys ↔ Reach (RegistrySim.encode sh cfg s) RegistrySim.root j) ∧
      (∀ j, Reach (RegistrySim.encode sh cfg s) RegistrySim.root j →
        ctx.get j = some (RegistrySim.objAt sh cfg s j)) ∧
      (∀ a b, Reach (RegistrySim.encode sh cfg s) RegistrySim.root a →
        Reach (RegistrySim.encode sh cfg s) RegistrySim.root b → (addr ctx a = addr ctx b ↔ a = b)) := by
  obtain ⟨ctx, h, h2, hs, h5⟩ := RegistrySim.dump_encode sh cfg s
  exact ⟨ctx, h, h2, hs.ok.nodup, hs.reach, h5, fun a b ha hb => addr_eq_iff ((hs.reach a).2 ha) ((hs.reach b).2 hb)⟩

/-- `roundtrip_resume_eq_partial` for the CONCRETE `encode`, whose store is acyclic and closed for every state; the
    decoder is a parameter (any that is local and inverts `encode`).  That `encode` is what the code writes is
    checked against `to_json()` on every crash point (harness/props/C09.py `_codec_diffs`). -/
theorem roundtrip_resume_eq_codec_partial {K : Type} [Add K] [Sub K] [Mul K] [Div K] [Neg K] [LT K] [LE K]
    [DecidableLT K] [DecidableLE K] [OfNat K 0] [OfNat K 1] [NatCast K] [HasExp K]
    (sh : RegistrySim.Show K) (cfg : Sim.Cfg K) (sched : View K → Except EventCore.Err (Schedule K))
    (decode : Store → Id → Option (State K))
    (hlocal : ∀ st st', (∀ j, Reach st RegistrySim.root j → st'.get j = st.get j) →
      decode st' RegistrySim.root = decode st RegistrySim.root)
    (hinv : ∀ s, decode (RegistrySim.encode sh cfg s) RegistrySim.root = some s) (s : State K) :
    ∃ ctx, dump (RegistrySim.encode sh cfg s) RegistrySim.root = .ok ctx ∧ load ctx RegistrySim.root = .ok ctx ∧
      decode ctx RegistrySim.root = some s ∧
      ∀ n, (decode ctx RegistrySim.root).map (run cfg sched n) = some (run cfg sched n s) :=
  roundtrip_resume_eq_partial cfg sched (RegistrySim.encode sh cfg) decode RegistrySim.root hlocal hinv s
    (RegistrySim.encode_acyclic sh cfg s) (RegistrySim.encode_closed sh cfg s)

/-- The slice of `decode_encode` that carries the numbers of the property, with reachability of the whole layout as
    its only hypothesis on the state: after `to_json` → `from_json` the decoder recovers the complete EV list (per
    session: energy delivered, last rate, battery charge and power, all static fields) from the loaded store, for
    every lawful scalar codec.  The decoder is executable and is also checked on every crash point in both directions
    (model state: `codec_inverse`; the implementation's own `context_dict`: decoded, the model run continued from it
    and compared with the implementation's resumed run). -/
theorem roundtrip_evs_decoded_partial {K : Type} {sh : RegistrySim.Show K} {rd : RegistrySim.Read K}
    (hl : RegistrySim.Lawful sh rd) (cfg : Sim.Cfg K) (s : State K)
    (hall : ∀ i, i < (RegistrySim.layout cfg s).size → Reach (RegistrySim.encode sh cfg s) RegistrySim.root i) :
    ∃ ctx, dump (RegistrySim.encode sh cfg s) RegistrySim.root = .ok ctx ∧ load ctx RegistrySim.root = .ok ctx ∧
      RegistrySim.sequence ((List.range s.evs.length).map fun j =>
        RegistrySim.decodeEv rd ctx.get (3 + cfg.stations.length + 2 * j)) = some s.evs := by
  obtain ⟨ctx, h1, h2, _, _, h5, _⟩ := encode_roundtrip sh cfg s
  exact ⟨ctx, h1, h2, RegistrySim.decode_evs hl cfg s ctx.get (fun i hi => h5 i (hall i hi))⟩

/-- DECODE ∘ ENCODE = id.  For every carrier, every lawful scalar codec (`Lawful`: the parsers invert the
    renderings), every configuration and EVERY well-formed simulator state `s`, the executable decoder
    `RegistrySim.decode` (the `_from_dict`s, run by the compiled driver against the implementation's own
    `context_dict`) applied to the store that `RegistrySim.encode` writes (compared with `to_json()` on every check
    run) returns `s` — all fields: iteration, queue, occupancy FUNCTION, `_resolve`, `_last_schedule_update`, both
    histories, pilot and rate matrices, peak, every EV with its battery, the EVSE pilots.
    `WF` (AcnProofs/Lemmas/RegistryDecode.lean) is what the proof needs and no more: `evs` / `evsePilot` have the
    configured lengths, only registered stations are occupied, an occupant is the EV object of its session, and every
    plug-in / unplug event and `ev_history` key has an EV object.  `ambOf s` is the process-level data that does
    not travel through JSON (scheduler-call log, position in the random stream, occupancy log). -/
theorem decode_encode {K : Type} {sh : RegistrySim.Show K} {rd : RegistrySim.Read K}
    (hl : RegistrySim.Lawful sh rd) (cfg : Sim.Cfg K) (s : State K) (hwf : RegistrySim.WF cfg s) :
    RegistrySim.decode rd cfg (RegistrySim.ambOf s) (RegistrySim.encode sh cfg s).get = some s :=
  RegistrySim.decode_of hl hwf _ (RegistrySim.agrees_encode sh cfg s)

/-- the same for ANY process-level data: decoding under `amb` gives the state with exactly those three ghost /
    process fields replaced (`setAmb`) -/
theorem decode_encode_amb {K : Type} {sh : RegistrySim.Show K} {rd : RegistrySim.Read K}
    (hl : RegistrySim.Lawful sh rd) (cfg : Sim.Cfg K) (s : State K) (hwf : RegistrySim.WF cfg s)
    (amb : RegistrySim.Ambient) :
    RegistrySim.decode rd cfg amb (RegistrySim.encode sh cfg s).get =
      some { s with core := { s.core with invoked := amb.invoked }, noiseIdx := amb.noiseIdx, occLog := amb.occLog } :=
  (RegistrySim.decode_iff hl amb _ (RegistrySim.agrees_encode sh cfg s)).2 hwf

/-- `WF` is EXACTLY the set of states on which the concrete decoder inverts the concrete encoder: none of its
    clauses can be dropped (an over-long `evs`, an occupant of an unregistered station, an occupant record that
    differs from its EV object, an EV event or `ev_history` key without EV object — each makes `decode` fail or
    return a different state). -/
theorem decode_encode_iff {K : Type} {sh : RegistrySim.Show K} {rd : RegistrySim.Read K}
    (hl : RegistrySim.Lawful sh rd) (cfg : Sim.Cfg K) (s : State K) :
    RegistrySim.decode rd cfg (RegistrySim.ambOf s) (RegistrySim.encode sh cfg s).get = some s ↔
      RegistrySim.WF cfg s :=
  RegistrySim.decode_iff hl (RegistrySim.ambOf s) _ (RegistrySim.agrees_encode sh cfg s)

/-- ROUND TRIP + RESUME, unconditional in the decoder: for every well-formed state in which every EV object is
    referenced (`AllRef`: by `ev_history`, an EV event in the queue or in `event_history`, or a station — an
    unreferenced EV is not written by `to_json`), `to_json` succeeds, `from_json` rebuilds exactly the dumped
    context, the CONCRETE decoder applied to the LOADED store returns `s`, and hence every continuation of the run
    from the decoded state is the continuation from `s` — for every scheduler and fuel. -/
theorem roundtrip_resume_eq {K : Type} [Add K] [Sub K] [Mul K] [Div K] [Neg K] [LT K] [LE K]
    [DecidableLT K] [DecidableLE K] [OfNat K 0] [OfNat K 1] [NatCast K] [HasExp K]
    {sh : RegistrySim.Show K} {rd : RegistrySim.Read K} (hl : RegistrySim.Lawful sh rd)
    (cfg : Sim.Cfg K) (sched : View K → Except EventCore.Err (Schedule K)) (s : State K)
    (hwf : RegistrySim.WF cfg s) (href : RegistrySim.AllRef cfg s) :
    ∃ ctx, dump (RegistrySim.encode sh cfg s) RegistrySim.root = .ok ctx ∧ load ctx RegistrySim.root = .ok ctx ∧
      RegistrySim.decode rd cfg (RegistrySim.ambOf s) ctx.get = some s ∧
      ∀ n, (RegistrySim.decode rd cfg (RegistrySim.ambOf s) ctx.get).map (run cfg sched n) =
        some (run cfg sched n s) := by
  obtain ⟨ctx, h1, h2, hd⟩ := RegistrySim.roundtrip hl hwf href
  exact ⟨ctx, h1, h2, hd, fun n => by rw [hd]; rfl⟩

/-- the hypotheses of `roundtrip_resume_eq` are NECESSARY: whenever the concrete decoder, applied to the context
    that `to_json` writes for `s`, returns `s`, the state is well-formed and every EV object is referenced.  So
    `WF ∧ AllRef` is exactly the set of states that survive `to_json` → `from_json`. -/
theorem roundtrip_iff {K : Type} {sh : RegistrySim.Show K} {rd : RegistrySim.Read K}
    (hl : RegistrySim.Lawful sh rd) (cfg : Sim.Cfg K) (s : State K) :
    (∃ ctx, dump (RegistrySim.encode sh cfg s) RegistrySim.root = .ok ctx ∧
        RegistrySim.decode rd cfg (RegistrySim.ambOf s) ctx.get = some s) ↔
      (RegistrySim.WF cfg s ∧ RegistrySim.AllRef cfg s) := by
  constructor
  · rintro ⟨ctx, hd, h⟩
    have href : RegistrySim.AllRef cfg s := RegistrySim.allRef_of_roundtrip hd h rfl
    exact ⟨(RegistrySim.decode_iff hl (RegistrySim.ambOf s) ctx.get (RegistrySim.agrees_dump href hd)).1 h, href⟩
  · rintro ⟨hwf, href⟩
    obtain ⟨ctx, h1, _, h3⟩ := RegistrySim.roundtrip hl hwf href
    exact ⟨ctx, h1, h3⟩

/-- `WF` is an invariant: ONE period of the full model, whatever the scheduler and the pilot application do
    (return, raise `SchedulerFailed`, reject the schedule, `InvalidRateError`, …), keeps `SInv` — static EV data
    fixed, one pilot per EVSE, every reference resolvable in the session table, every session referenced —
    provided the events stage itself does not raise (a raising `_process_event` drops the events popped after
    it, and with them the last reference to their EVs: then `to_json` really loses those EVs). -/
theorem body_preserves_wf {K : Type} [Add K] [Sub K] [Mul K] [Div K] [Neg K] [LT K] [LE K]
    [DecidableLT K] [DecidableLE K] [OfNat K 0] [OfNat K 1] [NatCast K] [HasExp K]
    (cfg : Sim.Cfg K) (sched : View K → Except EventCore.Err (Schedule K)) {s : State K}
    (h : RegistrySim.SInv cfg s) (hid : (cfg.core.sessions.map (·.id)).Nodup)
    (hok : (EventCore.eventsStage cfg.core s.core).2 = none) :
    RegistrySim.SInv cfg (body cfg sched s).1 ∧ RegistrySim.WF cfg (body cfg sched s).1 ∧
      RegistrySim.AllRef cfg (body cfg sched s).1 := by
  have hb := RegistrySim.body_sinv cfg sched h hid hok
  exact ⟨hb, hb.wf hid, hb.allRef hid⟩

/-- EVERY state that `Simulator.run` can leave behind in a `Valid` scenario (C01's hypothesis) — completed, out of
    fuel, or aborted in any period by the scheduler, by `_update_schedules` or by `update_pilots` — is
    well-formed and has every EV referenced: for every scheduler and every fuel. -/
theorem reachable_wf {K : Type} [Add K] [Sub K] [Mul K] [Div K] [Neg K] [LT K] [LE K]
    [DecidableLT K] [DecidableLE K] [OfNat K 0] [OfNat K 1] [NatCast K] [HasExp K]
    (cfg : Sim.Cfg K) (sched : View K → Except EventCore.Err (Schedule K)) (hv : Valid cfg.core) (n : Nat) :
    RegistrySim.WF cfg (run cfg sched n (Sim.init cfg)).1 ∧ RegistrySim.AllRef cfg (run cfg sched n (Sim.init cfg)).1 := by
  have h := RegistrySim.run_sinv cfg sched hv n 0 (Sim.init cfg) (init_inv hv) (RegistrySim.init_sinv cfg)
  exact ⟨h.wf hv.ids_nodup, h.allRef hv.ids_nodup⟩

/-- THE PROPERTY, JSON half included: in a `Valid` scenario, for EVERY crash period `k`, fuel `n`, scheduler and
    lawful scalar codec, the state `r1.1` left by the interrupted run can be written (`to_json`), loaded
    (`from_json`) and decoded, the decoded state IS `r1.1`, and either the failure never fired (the run is the
    uninterrupted one) or resuming from the DECODED state yields the uninterrupted run's outcome (`ObsEqR`: same
    error if any, same pilots, rates, peak, energies, batteries, histories, iteration — `obsEq_fields`). -/
theorem crash_json_resume_eq {K : Type} [Add K] [Sub K] [Mul K] [Div K] [Neg K] [LT K] [LE K]
    [DecidableLT K] [DecidableLE K] [OfNat K 0] [OfNat K 1] [NatCast K] [HasExp K]
    {sh : RegistrySim.Show K} {rd : RegistrySim.Read K} (hl : RegistrySim.Lawful sh rd)
    (cfg : Sim.Cfg K) (sched : View K → Except EventCore.Err (Schedule K)) (hv : Valid cfg.core) (k n : Nat) :
    let r1 := run cfg (failAt k sched) n (Sim.init cfg)
    ∃ ctx s', dump (RegistrySim.encode sh cfg r1.1) RegistrySim.root = .ok ctx ∧
      load ctx RegistrySim.root = .ok ctx ∧
      RegistrySim.decode rd cfg (RegistrySim.ambOf r1.1) ctx.get = some s' ∧ s' = r1.1 ∧
      (r1 = run cfg sched n (Sim.init cfg) ∨
       (r1.2 = some EventCore.Err.schedulerFailed ∧ r1.1.core.iter = k ∧
        ObsEqR (run cfg sched (n - k) s') (run cfg sched n (Sim.init cfg)))) := by
  intro r1
  obtain ⟨ctx, h1, h2, h3⟩ := (RegistrySim.Calls.call (failAt k sched) n .init).roundtrip hl hv
  exact ⟨ctx, r1.1, h1, h2, h3, rfl, resume_eq cfg sched (sessionsOK_of_valid hv) k n⟩

/-- `reachable_wf` for a scheduler with state (`runSt`) -/
theorem reachable_wf_stateful {K : Type} [Add K] [Sub K] [Mul K] [Div K] [Neg K] [LT K] [LE K]
    [DecidableLT K] [DecidableLE K] [OfNat K 0] [OfNat K 1] [NatCast K] [HasExp K] {σ : Type}
    (cfg : Sim.Cfg K) (sched : σ → View K → Except EventCore.Err (Schedule K × σ)) (hv : Valid cfg.core)
    (n : Nat) (st0 : σ) :
    RegistrySim.WF cfg (SimSortedRd.runSt cfg sched n st0 (Sim.init cfg)).1.1 ∧
    RegistrySim.AllRef cfg (SimSortedRd.runSt cfg sched n st0 (Sim.init cfg)).1.1 := by
  have h := RegistrySim.runSt_sinv cfg sched hv n 0 st0 (Sim.init cfg) (init_inv hv) (RegistrySim.init_sinv cfg)
  exact ⟨h.wf hv.ids_nodup, h.allRef hv.ids_nodup⟩

/-- THE PROPERTY for a scheduler WITH STATE, JSON half included: in a `Valid` scenario, for EVERY stateful
    scheduler (e.g. a sorted algorithm with its `SimpleRampdown` estimator), initial scheduler state, crash period
    `k`, fuel `n` and lawful scalar codec, the simulator state `r1.1.1` left by the interrupted run can be written
    (`to_json`), loaded (`from_json`) and decoded, the decoded state IS `r1.1.1`, and either the failure never
    fired, or resuming from the DECODED state with the scheduler state of the crash (`update_scheduler` with the
    same algorithm object — the scheduler is not part of the document) yields the uninterrupted run's outcome
    and final scheduler state. -/
theorem crash_json_resume_eq_stateful {K : Type} [Add K] [Sub K] [Mul K] [Div K] [Neg K] [LT K] [LE K]
    [DecidableLT K] [DecidableLE K] [OfNat K 0] [OfNat K 1] [NatCast K] [HasExp K] {σ : Type}
    {sh : RegistrySim.Show K} {rd : RegistrySim.Read K} (hl : RegistrySim.Lawful sh rd)
    (cfg : Sim.Cfg K) (sched : σ → View K → Except EventCore.Err (Schedule K × σ)) (hv : Valid cfg.core)
    (st0 : σ) (k n : Nat) :
    let r1 := SimSortedRd.runSt cfg (SimSortedRd.failAtSt k sched) n st0 (Sim.init cfg)
    let r := SimSortedRd.runSt cfg sched n st0 (Sim.init cfg)
    ∃ ctx s', dump (RegistrySim.encode sh cfg r1.1.1) RegistrySim.root = .ok ctx ∧
      load ctx RegistrySim.root = .ok ctx ∧
      RegistrySim.decode rd cfg (RegistrySim.ambOf r1.1.1) ctx.get = some s' ∧ s' = r1.1.1 ∧
      (r1 = r ∨
       (r1.1.2 = some EventCore.Err.schedulerFailed ∧ r1.1.1.core.iter = k ∧
        ObsEqR (SimSortedRd.runSt cfg sched (n - k) r1.2 s').1 r.1 ∧
        (SimSortedRd.runSt cfg sched (n - k) r1.2 s').2 = r.2)) := by
  intro r1 r
  obtain ⟨hwf, href⟩ := reachable_wf_stateful cfg (SimSortedRd.failAtSt k sched) hv n st0
  obtain ⟨ctx, h1, h2, h3⟩ := RegistrySim.roundtrip hl hwf href
  exact ⟨ctx, r1.1.1, h1, h2, h3, rfl, resume_eq_stateful cfg sched (sessionsOK_of_valid hv) st0 k n⟩

/-! #### non-vacuity: the crash state of `exCfg` above (plug-in, unplug and recompute events pending, one station
    occupied, one EV referenced only by its pending PluginEvent) -/
section ExamplesWF
local instance : HasExp ℚ := ⟨fun _ => 1⟩

theorem exCfg_valid : Valid exCfg.core := by decide +kernel

example : RegistrySim.WF exCfg (run exCfg (failAt 1 exSched) 6 (Sim.init exCfg)).1 ∧
    RegistrySim.AllRef exCfg (run exCfg (failAt 1 exSched) 6 (Sim.init exCfg)).1 :=
  reachable_wf exCfg (failAt 1 exSched) exCfg_valid 6
-- the state is not trivial: session `a` is connected, `b`'s plug-in has been processed in period 1 too
example : ((run exCfg (failAt 1 exSched) 6 (Sim.init exCfg)).1.core.occ "S0").map (·.id) = some "a" ∧
    (run exCfg (failAt 1 exSched) 6 (Sim.init exCfg)).1.core.evHist = ["a", "b"] ∧
    (run exCfg (failAt 1 exSched) 6 (Sim.init exCfg)).1.core.eventHist.length = 2 := by decide +kernel
-- a lawful scalar codec exists (over ℚ), so the whole chain applies to the crash state above: written, loaded,
-- decoded by the concrete decoder, resumed
example : RegistrySim.Lawful RegistrySim.exShow RegistrySim.exRead := RegistrySim.exLawful
example : ∃ ctx s', dump (RegistrySim.encode RegistrySim.exShow exCfg (run exCfg (failAt 1 exSched) 6 (Sim.init exCfg)).1)
      RegistrySim.root = .ok ctx ∧ load ctx RegistrySim.root = .ok ctx ∧
    RegistrySim.decode RegistrySim.exRead exCfg (RegistrySim.ambOf (run exCfg (failAt 1 exSched) 6 (Sim.init exCfg)).1)
      ctx.get = some s' ∧
    ObsEqR (run exCfg exSched (6 - 1) s') (run exCfg exSched 6 (Sim.init exCfg)) := by
  obtain ⟨ctx, s', h1, h2, h3, _, h5⟩ := crash_json_resume_eq RegistrySim.exLawful exCfg exSched exCfg_valid 1 6
  refine ⟨ctx, s', h1, h2, h3, ?_⟩
  rcases h5 with h5 | ⟨_, _, h5⟩
  · have := exRun_fail1
    rw [h5, exRun_ok] at this
    cases this
  · exact h5
-- a state that is NOT well-formed: an occupant whose session has no EV object
example : ¬ RegistrySim.WF exCfg
    { Sim.init exCfg with core := { (Sim.init exCfg).core with occ := fun _ => some ⟨"zz", "S0", 0, 1⟩ } } := by
  intro h
  have := h.occEv "S0" _ rfl
  revert this
  decide +kernel
end ExamplesWF

/-! ### the concrete scalar codec and the JSON text (`AcnModel/JsonText.lean`, `AcnModel/RegistryJson.lean`)

  Everything below is about the text that CPython's `json` module writes and reads.  The only assumption of the
  theorems is about doubles: `RegistryJson.DoubleText.RoundTrip d` — `float(repr(x)) = x` (IEEE-754 shortest
  round-trip printing, correctly rounded reading) and `repr(x)` has the lexical shape of a float (never that of an
  `int`). -/

open Acn.JsonText Acn.RegistryJson in
/-- STRINGS: `py_scanstring` undoes `py_encode_basestring_ascii` for EVERY string (any `Char` sequence: quote,
    backslash, `\n \r \t \b \f`, the other control characters and DEL as `\u00XX`, non-ASCII as `\uXXXX`, characters
    beyond U+FFFF as a surrogate pair), whatever follows the closing quote; hence `loads(dumps(s)) = s`. -/
theorem json_string_roundtrip (s : String) :
    (∀ rest, scanStr none (escape s.toList ++ '"' :: rest) = some (s.toList, rest)) ∧
    parse (render (.str s)) = some (.str s) :=
  ⟨fun rest => scanStr_escape s.toList rest, parse_render (.str s) rfl⟩

open Acn.JsonText in
/-- INTEGERS: for every Python int `n` (negative ones too) the text `repr(n)` is recognised as an integer text —
    never as a float — and `int(repr(n)) = n`; through the document parser it comes back as `JVal.int n`. -/
theorem json_int_roundtrip (n : Int) :
    isIntTok (toString n).toList = true ∧ isFloatTok (toString n).toList = false ∧
    intOfTok (toString n).toList = n ∧ parse (toString n).toList = some (.int n) :=
  ⟨isIntTok_renderInt n, not_isFloatTok_renderInt n, intOfTok_renderInt n, Acn.RegistryJson.parse_renderInt n⟩

open Acn.JsonText in
/-- VALUES: `json.loads(json.dumps(v)) = v` for EVERY value built from `None`, `bool`, `int`, `str`, `list`,
    `dict` (string keys, insertion order) and float TEXTS that have the shape of a float (`v.wf`) — nested to any
    depth, with any strings as keys and leaves; also with blanks / the trailing newline of `to_json(path)` around
    the document. -/
theorem json_value_roundtrip (v : JVal) (hw : v.wf = true) :
    parse (render v) = some v ∧
    ∀ pre post : List Char, pre.all isWs = true → post.all isWs = true → parse (pre ++ (render v ++ post)) = some v :=
  ⟨parse_render v hw, fun pre post h1 h2 => parse_render_padded v hw pre post h1 h2⟩

open Acn.RegistryJson in
/-- THE SCALAR CODEC, concretely: the writers / readers that produce and consume exactly the text of CPython's
    `json` module are `Lawful` — ints of any sign, naturals, strings and `None` with no assumption, floats and the
    pilot / rate matrices (a dict holding a list of lists of floats) by `d.RoundTrip`. -/
theorem scalar_codec_lawful {K : Type} (d : DoubleText K) (hd : d.RoundTrip) :
    RegistrySim.Lawful (jsonShow d) (jsonRead d) :=
  jsonLawful d hd

open Acn.JsonText Acn.RegistryJson in
/-- the leaves that `RegistrySim.encode` writes are typed in the document as Python types them: `str`, `int`
    (also the iteration counter), `bool`, `None`, `float` (its `repr` text), references as decimal id strings -/
theorem json_leaf_types {K : Type} (d : DoubleText K) (hd : d.RoundTrip) :
    (∀ x : String, valJ (RegistrySim.sS x) = .str x) ∧ (∀ n : Int, valJ (RegistrySim.sI n) = .int n) ∧
    (∀ n : Nat, valJ (RegistrySim.sN n) = .int n) ∧ (∀ b : Bool, valJ (RegistrySim.sB b) = .bool b) ∧
    valJ RegistrySim.sNull = .null ∧ (∀ x : K, valJ (RegistrySim.sF (jsonShow d) x) = .num (d.repr x)) ∧
    (∀ m : Pilots.Mat K, valJ (.scalar ("m:" ++ (jsonShow d).mat m)) = matJ d m) ∧
    (∀ i : Id, valJ (.ref i) = .str (toString i)) :=
  ⟨valJ_sS, valJ_sI, valJ_sN, valJ_sB, valJ_sNull, valJ_sF d hd, valJ_mat d hd, valJ_ref⟩

open Acn.JsonText Acn.RegistryJson in
/-- THE DOCUMENT: for EVERY store and root — whatever session ids, station ids, class and attribute names it
    holds — `json.loads(obj.to_json())` is the registry value that `_to_registry` built. -/
theorem registry_text_roundtrip (ctx : Store) (root : Id) :
    parseS (toJsonText ctx root) = some (registryJ ctx root) :=
  Acn.RegistryJson.registry_text_roundtrip ctx root

open Acn.JsonText Acn.RegistryJson in
/-- ROUND TRIP + RESUME with the CONCRETE codec (instance of `roundtrip_resume_eq`): the only hypothesis about
    the codec is `d.RoundTrip` (doubles).  `to_json` succeeds, the text it writes parses back to the registry it
    was written from, `from_json` rebuilds exactly the dumped context, the concrete decoder returns `s`, and every
    continuation of the run from the decoded state is the continuation from `s`. -/
theorem roundtrip_resume_eq_concrete {K : Type} [Add K] [Sub K] [Mul K] [Div K] [Neg K] [LT K] [LE K]
    [DecidableLT K] [DecidableLE K] [OfNat K 0] [OfNat K 1] [NatCast K] [HasExp K]
    (d : DoubleText K) (hd : d.RoundTrip)
    (cfg : Sim.Cfg K) (sched : View K → Except EventCore.Err (Schedule K)) (s : State K)
    (hwf : RegistrySim.WF cfg s) (href : RegistrySim.AllRef cfg s) :
    ∃ ctx, dump (RegistrySim.encode (jsonShow d) cfg s) RegistrySim.root = .ok ctx ∧
      parseS (toJsonText ctx RegistrySim.root) = some (registryJ ctx RegistrySim.root) ∧
      load ctx RegistrySim.root = .ok ctx ∧
      RegistrySim.decode (jsonRead d) cfg (RegistrySim.ambOf s) ctx.get = some s ∧
      ∀ n, (RegistrySim.decode (jsonRead d) cfg (RegistrySim.ambOf s) ctx.get).map (run cfg sched n) =
        some (run cfg sched n s) := by
  obtain ⟨ctx, h1, h2, h3, h4⟩ := roundtrip_resume_eq (jsonLawful d hd) cfg sched s hwf href
  exact ⟨ctx, h1, Acn.RegistryJson.registry_text_roundtrip ctx _, h2, h3, h4⟩

open Acn.JsonText Acn.RegistryJson in
/-- THE PROPERTY with the concrete codec: `Valid` scenario, ANY crash period `k`, fuel, scheduler; the document
    text is written and parsed by the modelled `json` module; the only assumption is `d.RoundTrip`. -/
theorem crash_json_resume_eq_concrete {K : Type} [Add K] [Sub K] [Mul K] [Div K] [Neg K] [LT K] [LE K]
    [DecidableLT K] [DecidableLE K] [OfNat K 0] [OfNat K 1] [NatCast K] [HasExp K]
    (d : DoubleText K) (hd : d.RoundTrip)
    (cfg : Sim.Cfg K) (sched : View K → Except EventCore.Err (Schedule K)) (hv : Valid cfg.core) (k n : Nat) :
    let r1 := run cfg (failAt k sched) n (Sim.init cfg)
    ∃ ctx s', dump (RegistrySim.encode (jsonShow d) cfg r1.1) RegistrySim.root = .ok ctx ∧
      parseS (toJsonText ctx RegistrySim.root) = some (registryJ ctx RegistrySim.root) ∧
      load ctx RegistrySim.root = .ok ctx ∧
      RegistrySim.decode (jsonRead d) cfg (RegistrySim.ambOf r1.1) ctx.get = some s' ∧ s' = r1.1 ∧
      (r1 = run cfg sched n (Sim.init cfg) ∨
       (r1.2 = some EventCore.Err.schedulerFailed ∧ r1.1.core.iter = k ∧
        ObsEqR (run cfg sched (n - k) s') (run cfg sched n (Sim.init cfg)))) := by
  intro r1
  obtain ⟨ctx, s', h1, h2, h3, h4, h5⟩ := crash_json_resume_eq (jsonLawful d hd) cfg sched hv k n
  exact ⟨ctx, s', h1, Acn.RegistryJson.registry_text_roundtrip ctx _, h2, h3, h4, h5⟩

open Acn.JsonText Acn.RegistryJson in
/-- … and for a scheduler WITH hidden state (instance of `crash_json_resume_eq_stateful`) -/
theorem crash_json_resume_eq_stateful_concrete {K : Type} [Add K] [Sub K] [Mul K] [Div K] [Neg K] [LT K] [LE K]
    [DecidableLT K] [DecidableLE K] [OfNat K 0] [OfNat K 1] [NatCast K] [HasExp K] {σ : Type}
    (d : DoubleText K) (hd : d.RoundTrip)
    (cfg : Sim.Cfg K) (sched : σ → View K → Except EventCore.Err (Schedule K × σ)) (hv : Valid cfg.core)
    (st0 : σ) (k n : Nat) :
    let r1 := SimSortedRd.runSt cfg (SimSortedRd.failAtSt k sched) n st0 (Sim.init cfg)
    let r := SimSortedRd.runSt cfg sched n st0 (Sim.init cfg)
    ∃ ctx s', dump (RegistrySim.encode (jsonShow d) cfg r1.1.1) RegistrySim.root = .ok ctx ∧
      parseS (toJsonText ctx RegistrySim.root) = some (registryJ ctx RegistrySim.root) ∧
      load ctx RegistrySim.root = .ok ctx ∧
      RegistrySim.decode (jsonRead d) cfg (RegistrySim.ambOf r1.1.1) ctx.get = some s' ∧ s' = r1.1.1 ∧
      (r1 = r ∨
       (r1.1.2 = some EventCore.Err.schedulerFailed ∧ r1.1.1.core.iter = k ∧
        ObsEqR (SimSortedRd.runSt cfg sched (n - k) r1.2 s').1 r.1 ∧
        (SimSortedRd.runSt cfg sched (n - k) r1.2 s').2 = r.2)) := by
  intro r1 r
  obtain ⟨ctx, s', h1, h2, h3, h4, h5⟩ := crash_json_resume_eq_stateful (jsonLawful d hd) cfg sched hv st0 k n
  exact ⟨ctx, s', h1, Acn.RegistryJson.registry_text_roundtrip ctx _, h2, h3, h4, h5⟩

/-! #### non-vacuity of the text layer -/
section ExamplesJson
open Acn.JsonText Acn.RegistryJson
local instance : HasExp ℚ := ⟨fun _ => 1⟩

-- the assumption about doubles is satisfiable (a text form of ℚ that is a float token and is read back) …
example : exDouble.RoundTrip := exDouble_roundTrip
-- … so the whole chain applies to the crash state of `exCfg` with every hypothesis discharged
example : ∃ ctx s', dump (RegistrySim.encode (jsonShow exDouble) exCfg (run exCfg (failAt 1 exSched) 6 (Sim.init exCfg)).1)
      RegistrySim.root = .ok ctx ∧
    parseS (toJsonText ctx RegistrySim.root) = some (registryJ ctx RegistrySim.root) ∧
    RegistrySim.decode (jsonRead exDouble) exCfg (RegistrySim.ambOf (run exCfg (failAt 1 exSched) 6 (Sim.init exCfg)).1)
      ctx.get = some s' ∧ s' = (run exCfg (failAt 1 exSched) 6 (Sim.init exCfg)).1 := by
  obtain ⟨ctx, s', h1, h2, _, h4, h5, _⟩ := crash_json_resume_eq_concrete exDouble exDouble_roundTrip exCfg exSched exCfg_valid 1 6
  exact ⟨ctx, s', h1, h2, h4, h5⟩
-- what the encoder writes for ids that need escaping: quote, backslash, newline, NUL, DEL, é, an astral character
example : String.ofList (render (.str "a\"b\\c\n\x00\x7fé😀")) = "\"a\\\"b\\\\c\\n\\u0000\\u007f\\u00e9\\ud83d\\ude00\"" := by
  decide +kernel
-- the decoder accepts upper-case hex, `\/`, a surrogate pair, blanks; refuses a raw control character and a lone
-- surrogate
example : (parse "  [\"\\u00E9\\/\\uD83D\\uDE00\", -12, 0, true, null, {\"\": []}] ".toList).map (fun v => String.ofList (render v)) =
    some "[\"\\u00e9/\\ud83d\\ude00\", -12, 0, true, null, {\"\": []}]" := by decide +kernel
example : parse "\"a\nb\"".toList = none ∧ parse "\"\\ud83d\"".toList = none ∧ parse "\"\\ude00\"".toList = none := by
  refine ⟨?_, ?_, ?_⟩ <;> decide +kernel
-- an id that looks like a number stays a string; an int stays an int; a float text stays a float; `5.0` is not `5`
example : (parse "[\"123\", 123, 123.0, 1e-05, NaN, -Infinity]".toList).map (fun v => String.ofList (render v)) =
    some "[\"123\", 123, 123.0, 1e-05, NaN, -Infinity]" := by decide +kernel
example : isIntTok "123.0".toList = false ∧ isFloatTok "123.0".toList = true ∧ isFloatTok "123".toList = false ∧
    isIntTok "-7".toList = true := by decide +kernel
end ExamplesJson

/-! ### non-vacuity: an EV shared by its station, `ev_history` and its pending UnplugEvent -/

private def exStore : Store :=
  [ (1, ⟨"Simulator", [("network", .ref 2), ("event_queue", .ref 3), ("_iteration", .scalar "1"),
                        ("ev_history", .list [.scalar "a", .ref 5]), ("event_history", .list [.ref 7])]⟩),
    (2, ⟨"ChargingNetwork", [("_EVSEs", .list [.scalar "S0", .ref 4])]⟩),
    (3, ⟨"EventQueue", [("_queue", .list [.scalar "3", .ref 8])]⟩),
    (4, ⟨"EVSE", [("_station_id", .scalar "S0"), ("_ev", .ref 5)]⟩),
    (5, ⟨"EV", [("_session_id", .scalar "a"), ("_battery", .ref 6)]⟩),
    (6, ⟨"Battery", [("_current_charge", .scalar "5.5")]⟩),
    (7, ⟨"PluginEvent", [("timestamp", .scalar "0"), ("ev", .ref 5)]⟩),
    (8, ⟨"UnplugEvent", [("timestamp", .scalar "3"), ("ev", .ref 5)]⟩),
    (9, ⟨"EV", [("_session_id", .scalar "garbage: not reachable")]⟩) ]

example : Acyclic exStore :=
  ⟨fun i => if i = 1 then 5 else if i = 2 then 4 else if i = 3 then 4 else if i = 4 then 3
            else if i = 7 then 3 else if i = 8 then 3 else if i = 5 then 2 else if i = 6 then 1 else 0, by
    intro i o h j hj
    have hm := mem_of_get h
    simp only [exStore, List.mem_cons, Prod.mk.injEq, List.mem_nil_iff, or_false] at hm
    rcases hm with ⟨rfl, rfl⟩ | ⟨rfl, rfl⟩ | ⟨rfl, rfl⟩ | ⟨rfl, rfl⟩ | ⟨rfl, rfl⟩ | ⟨rfl, rfl⟩ | ⟨rfl, rfl⟩ |
      ⟨rfl, rfl⟩ | ⟨rfl, rfl⟩ <;>
      simp [Obj.refs, Val.refs, Item.refs] at hj <;> (try rcases hj with rfl | rfl | rfl | rfl) <;> decide⟩
-- children first, the EV (5) once, the unreachable object (9) not at all
example : (dump exStore 1).map Store.keys = .ok [6, 5, 4, 2, 8, 3, 7, 1] := by decide +kernel
example : (dump exStore 1).bind (fun c => load c 1) = dump exStore 1 := by decide +kernel
-- without the memo the shared EV (and its battery) would be entered once per reference
example : (visitNoMemo exStore 10 1 []).map Store.keys = .ok [6, 5, 4, 2, 6, 5, 8, 3, 6, 5, 6, 5, 7, 1] := by
  decide +kernel
-- a dangling reference is the code's KeyError
example : load [(1, ⟨"EVSE", [("_ev", .ref 2)]⟩)] 1 = .error (.missing 2) := by decide +kernel

end Reg

/-- attributes that `__init__` sets and `_to_dict` deliberately does not write, per class, with the
    reason.  Everything else must be dumped. -/
def notDumped : List (String × String) :=
  -- contrib extension class without `_to_dict` / `_from_dict` of its own: the generic fallback of
  -- `_to_registry` dumps what is JSON-able with a UserWarning; the waiting queue (EV objects) is
  -- documented as not restorable (base.py:295-305).  Out of C09's quantifier (DESIGN §8).
  [("StochasticNetwork", "waiting_queue"), ("StochasticNetwork", "early_departure"),
   ("StochasticNetwork", "swaps"), ("StochasticNetwork", "never_charged"), ("StochasticNetwork", "early_unplug")]

/-- dumped keys that `_from_dict` deliberately does not read: none.  (`scheduler` is read — only the
    class name travels, the object is re-attached by `update_scheduler`; `signals` is read; the
    time zone of `start` is dropped by `strftime`, not by a missing key — DESIGN §8.) -/
def notRestored : List (String × String) := []

def classComplete (c : Gen.SerialClass) : Bool :=
  (c.init.all fun a => c.dumped.contains a || notDumped.contains (c.name, a)) &&
  (c.dumped.all fun a => c.restored.contains a || notRestored.contains (c.name, a)) &&
  (c.refs.all fun a => c.dumped.contains a)

/-- for every serialisable class of the working tree: every attribute assigned in `__init__` is
    written by `_to_dict`, every key written is read back by `_from_dict`, up to the allow-lists -/
theorem attrs_complete : Gen.serialClasses.all classComplete = true := by decide +kernel

/-- the table covers the classes the property quantifies over, and the allow-list is tight: each of
    its entries is really needed -/
theorem attrs_table_covers :
    (["Simulator", "ChargingNetwork", "EventQueue", "EV", "Battery", "Linear2StageBattery", "EVSE", "DeadbandEVSE",
      "FiniteRatesEVSE", "PluginEvent", "UnplugEvent", "RecomputeEvent"].all fun n =>
        Gen.serialClasses.any fun c => c.name == n) = true ∧
    (notDumped.all fun p => Gen.serialClasses.any fun c =>
        c.name == p.1 && c.init.contains p.2 && !c.dumped.contains p.2) = true := by decide +kernel

end Acn.C09
