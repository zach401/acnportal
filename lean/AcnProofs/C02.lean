/-
  C02 — the energy ledger: recorded charging rates, each EV's delivered energy and its battery's
  charge gain agree; rates are 0 at vacant stations; peak = max aggregate current; total energy
  = integral of aggregate power.

  Property theorems only (helpers: `Lemmas/Ledger*.lean`).
  Carrier: any linear ordered field `K`; `HasExp K` is an ARBITRARY function — the ledger of the
  two-stage battery is pure algebra on the dsoc value the code returns.
  Simulator-level theorems are about the full model `Acn.Sim` (the one the driver executes
  against the real `Simulator`), for EVERY scheduler parameter, every schedule it submits
  (including rows for vacant stations and pilots above a battery's maximum), every noise stream,
  every fuel `n` (so also for every loop head in the middle of a run).  Their hypothesis on
  the scenario is that station ids are pairwise distinct (a dict in the code); the interval theorems add C01's
  `Valid`, the total distinct session ids, `sim_rate_le_pilot` C03's battery invariant and non-negative pilots.
-/
import AcnProofs.Lemmas.LedgerExecEq
import AcnProofs.Lemmas.LedgerBoundsRun
import AcnProofs.Lemmas.LedgerInv
import AcnProofs.Lemmas.EventCoreInv
import AcnProofs.Lemmas.SimStatics
import AcnProofs.Lemmas.LedgerResume
import AcnProofs.Lemmas.LedgerResumeInterval
import AcnProofs.Lemmas.EventCoreFinal

set_option linter.unusedSectionVars false
set_option linter.unusedVariables false

namespace Acn.C02
open Acn Acn.Battery Acn.Evse Acn.Sim Acn.Ledger Finset

variable {K : Type} [Field K] [LinearOrder K] [IsStrictOrderedRing K] [HasExp K]

/-! ### one `charge` call, per battery model, every noise draw -/

/-- ideal battery (battery.py:45-70): a call that returns has moved the stored charge by the energy of the
    returned rate, `r · V / 1000 · (T / 60)`; it returns only for `V, T ≠ 0` -/
theorem ledger_ideal (b b' : Batt K) (pilot V T r : K) (h : idealCharge b pilot V T = .ok (b', r)) :
    b'.charge - b.charge = r * V / 1000 * (T / 60) ∧ V ≠ 0 ∧ T ≠ 0 :=
  have hd := BattAlg.idealCharge_delivers h
  ⟨ledger_of_delivers hd, hd.V_pos.ne', hd.T_pos.ne'⟩

/-- the same for the two-stage battery, stepwise calculation (battery.py:293-353), every draw `ν` -/
theorem ledger_stepwise (ν : K) (b b' : Batt K) (pilot V T r : K)
    (h : stepCharge b pilot V T ν = .ok (b', r)) :
    b'.charge - b.charge = r * V / 1000 * (T / 60) ∧ V ≠ 0 ∧ T ≠ 0 :=
  have hd := BattAlg.stepCharge_delivers h
  ⟨ledger_of_delivers hd, hd.V_pos.ne', hd.T_pos.ne'⟩

/-- … and for the closed-form calculation (battery.py:207-291), every draw `ν`, every `exp` -/
theorem ledger_continuous (ν : K) (b b' : Batt K) (pilot V T r : K)
    (h : contCharge b pilot V T ν = .ok (b', r)) :
    b'.charge - b.charge = r * V / 1000 * (T / 60) ∧ V ≠ 0 ∧ T ≠ 0 :=
  have hd := BattAlg.contCharge_delivers h
  ⟨ledger_of_delivers hd, hd.V_pos.ne', hd.T_pos.ne'⟩

/-- the zero-pilot early return (battery.py:229-231) changes neither side of the ledger -/
theorem ledger_zero_pilot (ν : K) (b b' : Batt K) (V T r : K) (h : contCharge b 0 V T ν = .ok (b', r)) :
    b'.charge = b.charge ∧ r = 0 := by
  have hd := BattAlg.contCharge_delivers h
  rw [BattAlg.contCharge_zero b ν hd.V_pos hd.T_pos] at h
  cases h
  exact ⟨rfl, rfl⟩

/-- `EV.charge` (ev.py:130-144): counter and battery move by the energy of the reported rate -/
theorem ev_charge_step (e e' : Ev K) (pilot V T ν : K) (h : e.charge pilot V T ν = .ok e') :
    e'.delivered - e.delivered = e'.rate * V / 1000 * (T / 60) ∧
    e'.batt.charge - e.batt.charge = e'.rate * V / 1000 * (T / 60) :=
  ⟨(ev_charge_ledger h).1, (ev_charge_ledger h).2.1⟩

/-- ANY sequence of `(pilot, V, T, ν)` calls on one EV (failing calls included): the energy counter
    and the battery's stored charge have moved by the same amount, the sum of the energies of the
    rates that were reported back -/
theorem ev_energy_eq_battery_gain (e : Ev K) (calls : List (Call K)) :
    (chargeSeq e calls).delivered - e.delivered = (chargeSeq e calls).batt.charge - e.batt.charge ∧
    (chargeSeq e calls).delivered - e.delivered = (energyLog e calls).sum := by
  obtain ⟨h1, h2⟩ := chargeSeq_ledger calls e
  exact ⟨h1.trans h2.symm, h1⟩

/-! ### whole simulations -/

/-- the ledger invariant holds at every loop head of every run that has not raised -/
theorem ledger_invariant (cfg : Cfg K) (hn : StationsNodup cfg)
    (sched : View K → Except EventCore.Err (Schedule K)) (n : Nat) (s : State K)
    (h : Sim.run cfg sched n (Sim.init cfg) = (s, none)) : Ledger.Inv cfg s :=
  run_ledger hn sched n _ s (init_ledger cfg) h

/-- each EV: delivered energy = charge gained by its battery -/
theorem sim_energy_eq_battery_gain (cfg : Cfg K) (hn : StationsNodup cfg)
    (sched : View K → Except EventCore.Err (Schedule K)) (n : Nat) (s : State K)
    (h : Sim.run cfg sched n (Sim.init cfg) = (s, none)) (id : String) (e0 e : Ev K)
    (h0 : evIn cfg.evs id = some e0) (he : evIn s.evs id = some e) :
    e.delivered - e0.delivered = e.batt.charge - e0.batt.charge :=
  (ledger_invariant cfg hn sched n s h).gain id e0 e h0 he

/-- each EV: delivered energy = Σ over the periods so far and the stations of
    `rates[i][τ] · V_i / 1000 · (period / 60)`, counted where the occupancy snapshot of period `τ`
    shows this session at station `i` -/
theorem session_energy_all (cfg : Cfg K) (hn : StationsNodup cfg)
    (sched : View K → Except EventCore.Err (Schedule K)) (n : Nat) (s : State K)
    (h : Sim.run cfg sched n (Sim.init cfg) = (s, none)) (id : String) (e0 e : Ev K)
    (h0 : evIn cfg.evs id = some e0) (he : evIn s.evs id = some e) :
    e.delivered - e0.delivered =
      ∑ τ ∈ range s.core.iter, ∑ i ∈ range cfg.stations.length,
        if occAt s.occLog τ i = some id
        then s.rates.get i τ * volt cfg i / 1000 * (cfg.period / 60) else 0 :=
  (ledger_invariant cfg hn sched n s h).sess id e0 e h0 he

/-- each session: delivered energy = Σ over the periods so far of its OWN station's row,
    `rates[st_x][τ] · V_st / 1000 · (period / 60)`, over the periods in which the occupancy snapshot shows
    it connected there (under C01's `Valid` these are the periods `arrival ≤ τ < departure`:
    `EventCore.occH_mid` / `C01.connected_iff`) -/
theorem session_energy_eq_sum (cfg : Cfg K) (hn : StationsNodup cfg)
    (sched : View K → Except EventCore.Err (Schedule K)) (n : Nat) (s : State K)
    (h : Sim.run cfg sched n (Sim.init cfg) = (s, none)) (id : String) (e0 e : Ev K)
    (h0 : evIn cfg.evs id = some e0) (he : evIn s.evs id = some e) :
    e.delivered - e0.delivered =
      ∑ τ ∈ range s.core.iter,
        if occAt s.occLog τ (stationIndex cfg e0.station) = some id
        then s.rates.get (stationIndex cfg e0.station) τ * volt cfg (stationIndex cfg e0.station) / 1000
              * (cfg.period / 60)
        else 0 :=
  (ledger_invariant cfg hn sched n s h).session_single hn h0 he

/-- THE STATEMENT AS THE PROPERTY WORDS IT, for a resumed simulation: under C01's hypothesis `Valid`, at every state a
    simulator object goes through while `run()` is aborted and called again any number of times (`Resumed`),
    delivered_x = Σ over the periods `τ` simulated so far with `arrival_x ≤ τ < departure_x` of
    `rates[station_x][τ] · V / 1000 · (period / 60)` — the aborted period is simulated, and counted, exactly once -/
theorem session_energy_interval_resumed (cfg : Cfg K) (hn : StationsNodup cfg) (hv : EventCore.Valid cfg.core)
    (s : State K) (h : Resumed cfg s) (id : String) (e0 e : Ev K)
    (h0 : evIn cfg.evs id = some e0) (he : evIn s.evs id = some e) :
    e.delivered - e0.delivered =
      ∑ τ ∈ range s.core.iter,
        if e0.arrival ≤ (τ : Int) ∧ (τ : Int) < e0.departure
        then s.rates.get (stationIndex cfg e0.station) τ * volt cfg (stationIndex cfg e0.station) / 1000
              * (cfg.period / 60)
        else 0 := by
  have hR := resumed_rinv hn hv h
  rw [hR.led.session_single hn h0 he]
  apply Finset.sum_congr rfl
  intro τ hτ
  have := occAt_iff_interval hn hv hR.log h0 τ
  simp only [Finset.mem_range.1 hτ, true_and] at this
  exact if_congr this rfl rfl

/-- THE STATEMENT AS THE PROPERTY WORDS IT.  Under C01's hypothesis `Valid` on the scenario, at every loop
    head of a run that has not raised: delivered_x = Σ over the periods `τ` so far with
    `arrival_x ≤ τ < departure_x` of `rates[station_x][τ] · V / 1000 · (period / 60)` -/
theorem session_energy_interval (cfg : Cfg K) (hn : StationsNodup cfg) (hv : EventCore.Valid cfg.core)
    (sched : View K → Except EventCore.Err (Schedule K)) (n : Nat) (s : State K)
    (h : Sim.run cfg sched n (Sim.init cfg) = (s, none)) (id : String) (e0 e : Ev K)
    (h0 : evIn cfg.evs id = some e0) (he : evIn s.evs id = some e) :
    e.delivered - e0.delivered =
      ∑ τ ∈ range s.core.iter,
        if e0.arrival ≤ (τ : Int) ∧ (τ : Int) < e0.departure
        then s.rates.get (stationIndex cfg e0.station) τ * volt cfg (stationIndex cfg e0.station) / 1000
              * (cfg.period / 60)
        else 0 :=
  session_energy_interval_resumed cfg hn hv s (.of_run h) id e0 e h0 he

/-- … and once the event queue of the resumed simulation is empty (every `run()` that returns leaves it so): the sum
    is over exactly the interval `[arrival_x, departure_x)` -/
theorem session_energy_interval_complete_resumed (cfg : Cfg K) (hn : StationsNodup cfg)
    (hv : EventCore.Valid cfg.core) (s : State K) (h : Resumed cfg s) (hdone : s.core.pending = [])
    (id : String) (e0 e : Ev K) (h0 : evIn cfg.evs id = some e0) (he : evIn s.evs id = some e) :
    e.delivered - e0.delivered =
      ∑ τ ∈ Finset.Ico e0.arrival.toNat e0.departure.toNat,
        s.rates.get (stationIndex cfg e0.station) τ * volt cfg (stationIndex cfg e0.station) / 1000
          * (cfg.period / 60) := by
  rw [session_energy_interval_resumed cfg hn hv s h id e0 e h0 he, ← Finset.sum_filter]
  have hmem : e0 ∈ cfg.evs := List.mem_of_find?_eq_some h0
  have hx0 : sessionOf e0 ∈ cfg.core.sessions := List.mem_map.2 ⟨e0, hmem, rfl⟩
  have hdep : e0.departure ≤ (s.core.iter : Int) := (resumed_rinv hn hv h).dep_le_iter hv hdone _ hx0
  have harr : 0 ≤ e0.arrival := hv.arr_nonneg _ hx0
  apply Finset.sum_congr _ (fun _ _ => rfl)
  ext τ
  simp only [Finset.mem_filter, Finset.mem_range, Finset.mem_Ico]
  omega

/-- ... and for a complete run (`n` at least the horizon, e.g. the driver's fuel): the sum is over
    exactly the interval `[arrival_x, departure_x)` -/
theorem session_energy_interval_complete (cfg : Cfg K) (hn : StationsNodup cfg) (hv : EventCore.Valid cfg.core)
    (sched : View K → Except EventCore.Err (Schedule K)) (n : Nat) (hN : EventCore.horizon cfg.core ≤ n)
    (s : State K) (h : Sim.run cfg sched n (Sim.init cfg) = (s, none)) (id : String) (e0 e : Ev K)
    (h0 : evIn cfg.evs id = some e0) (he : evIn s.evs id = some e) :
    e.delivered - e0.delivered =
      ∑ τ ∈ Finset.Ico e0.arrival.toNat e0.departure.toNat,
        s.rates.get (stationIndex cfg e0.station) τ * volt cfg (stationIndex cfg e0.station) / 1000
          * (cfg.period / 60) := by
  -- the run is over: the core stands at the horizon, where the queue is empty
  have hI := Sim.run_inv_horizon cfg sched hv hN (by rw [h])
  rw [h] at hI
  exact session_energy_interval_complete_resumed cfg hn hv s (.of_run h) (hI.pending_nil hv) id e0 e h0 he

/-- a resumed simulation: a station's recorded rate is 0 in every period that lies in no session's connection
    interval -/
theorem rates_zero_outside_interval_resumed (cfg : Cfg K) (hn : StationsNodup cfg) (hv : EventCore.Valid cfg.core)
    (s : State K) (h : Resumed cfg s) (i τ : Nat) (st : Station K) (hst : cfg.stations[i]? = some st)
    (hout : ¬ ∃ x ∈ cfg.core.sessions, x.station = st.id ∧ x.arrival ≤ (τ : Int) ∧ (τ : Int) < x.departure) :
    s.rates.get i τ = 0 := by
  have hR := resumed_rinv hn hv h
  by_cases hτ : τ < s.core.iter
  · apply hR.led.vacant τ i hτ (List.getElem?_eq_some_iff.1 hst).1
    cases ho : occAt s.occLog τ i with
    | none => rfl
    | some id =>
      obtain ⟨_, st', x, hst', m1, _, m3, m4, m5⟩ := (hR.log τ i id).1 ho
      rw [hst] at hst'
      obtain rfl : st = st' := by simpa using hst'
      exact absurd ⟨x, m1, m3, m4, m5⟩ hout
  · exact hR.led.future τ i (by omega)

/-- a station's recorded rate is 0 in every period that lies in no session's connection interval -/
theorem rates_zero_outside_interval (cfg : Cfg K) (hn : StationsNodup cfg) (hv : EventCore.Valid cfg.core)
    (sched : View K → Except EventCore.Err (Schedule K)) (n : Nat) (s : State K)
    (h : Sim.run cfg sched n (Sim.init cfg) = (s, none)) (i τ : Nat) (st : Station K)
    (hst : cfg.stations[i]? = some st)
    (hout : ¬ ∃ x ∈ cfg.core.sessions, x.station = st.id ∧ x.arrival ≤ (τ : Int) ∧ (τ : Int) < x.departure) :
    s.rates.get i τ = 0 :=
  rates_zero_outside_interval_resumed cfg hn hv s (.of_run h) i τ st hst hout

/-- total energy delivered (Σ over all EVs of the session counters, `analysis.total_energy_delivered`)
    = Σ_τ aggregate_power(τ) · period/60, with aggregate_power(τ) = Σ_st V_st · rates[st][τ] / 1000
    (`analysis.aggregate_power`); session ids pairwise distinct -/
theorem total_energy_eq_integral (cfg : Cfg K) (hn : StationsNodup cfg)
    (hid : (cfg.evs.map (·.session)).Nodup)
    (sched : View K → Except EventCore.Err (Schedule K)) (n : Nat) (s : State K)
    (h : Sim.run cfg sched n (Sim.init cfg) = (s, none)) :
    (s.evs.map (·.delivered)).sum - (cfg.evs.map (·.delivered)).sum =
      ∑ τ ∈ range s.core.iter,
        (∑ i ∈ range cfg.stations.length, volt cfg i * s.rates.get i τ / 1000) * (cfg.period / 60) :=
  total_of_inv hid (ledger_invariant cfg hn sched n s h)

/-- the recorded rate of a station is 0 in every period in which the snapshot shows it vacant,
    and in every period that has not been simulated yet -/
theorem rate_zero_when_vacant (cfg : Cfg K) (hn : StationsNodup cfg)
    (sched : View K → Except EventCore.Err (Schedule K)) (n : Nat) (s : State K)
    (h : Sim.run cfg sched n (Sim.init cfg) = (s, none)) (τ i : Nat) :
    (τ < s.core.iter → i < cfg.stations.length → occAt s.occLog τ i = none → s.rates.get i τ = 0) ∧
    (s.core.iter ≤ τ → s.rates.get i τ = 0) :=
  ⟨(ledger_invariant cfg hn sched n s h).vacant τ i, (ledger_invariant cfg hn sched n s h).future τ i⟩

/-- `peak` = max(0, max over the periods so far of the recorded aggregate current) -/
theorem peak_eq_max (cfg : Cfg K) (hn : StationsNodup cfg)
    (sched : View K → Except EventCore.Err (Schedule K)) (n : Nat) (s : State K)
    (h : Sim.run cfg sched n (Sim.init cfg) = (s, none)) :
    0 ≤ s.peak ∧
    (∀ τ < s.core.iter, ∑ i ∈ range cfg.stations.length, s.rates.get i τ ≤ s.peak) ∧
    (s.peak = 0 ∨ ∃ τ < s.core.iter, s.peak = ∑ i ∈ range cfg.stations.length, s.rates.get i τ) :=
  (ledger_invariant cfg hn sched n s h).peak_spec

/-! ### C03's clause at simulator level (carrier ℝ, `exp = Real.exp`) -/

/-- For every scenario with distinct station ids whose batteries start in a state satisfying C03's
    `BattAlg.Inv` (capacity > 0, charge ≤ capacity, max power ≥ 0, 0 ≤ transition SoC < 1), every
    scheduler that only submits non-negative pilots, every noise stream and every loop head of a run
    that has not raised: for EVERY station and period, 0 ≤ charging_rates[st][t] ≤ pilot_signals[st][t]
    (vacant station ⇒ rate 0; by `C03.ev_rate_le_pilot` through the station loop, and because
    `_update_schedules` never rewrites a past column) -/
theorem sim_rate_le_pilot (cfg : Cfg ℝ) (hn : StationsNodup cfg)
    (hb : ∀ e ∈ cfg.evs, BattAlg.Inv e.batt)
    (sched : View ℝ → Except EventCore.Err (Schedule ℝ)) (hs : SchedNonneg sched) (n : Nat) (s : State ℝ)
    (h : Sim.run cfg sched n (Sim.init cfg) = (s, none)) (i τ : Nat) :
    0 ≤ s.rates.get i τ ∧ s.rates.get i τ ≤ s.pilots.get i τ := by
  have hI := run_binv hn sched hs n _ s (init_binv cfg hb) h
  by_cases hτ : τ < s.core.iter
  · exact hI.bound i τ hτ
  · rw [hI.led.future τ i (by omega)]
    exact ⟨le_refl _, hI.pil i τ⟩

/-! ### the sums `drv_C02` executes are the sums of the theorems -/

/-- the Mathlib-free, executable specification functions of `LedgerExec.lean` (evaluated at `Float` by
    the driver on the model's final state of every correspondence scenario) equal, over every linear
    ordered field, the right-hand sides of `session_energy_all`, `session_energy_interval`,
    `peak_eq_max` (`peakUpTo`) and `total_energy_eq_integral` -/
theorem exec_sums_eq_spec (cfg : Cfg K) (rates : Pilots.Mat K) (log : List (List (Option String)))
    (id : String) (k : Nat) (a d : Int) (t : Nat) :
    LedgerX.sessionEnergyX cfg rates log id t =
      (∑ τ ∈ range t, ∑ i ∈ range cfg.stations.length,
        if occAt log τ i = some id then rates.get i τ * volt cfg i / 1000 * (cfg.period / 60) else 0) ∧
    LedgerX.intervalEnergyX cfg rates k a d t =
      (∑ τ ∈ range t, if a ≤ (τ : Int) ∧ (τ : Int) < d
        then rates.get k τ * volt cfg k / 1000 * (cfg.period / 60) else 0) ∧
    LedgerX.peakX rates cfg.stations.length t = peakUpTo rates cfg.stations.length t ∧
    LedgerX.integralX cfg rates t =
      ∑ τ ∈ range t, (∑ i ∈ range cfg.stations.length, volt cfg i * rates.get i τ / 1000) * (cfg.period / 60) :=
  ⟨LedgerX.sessionEnergyX_eq cfg rates log id t, LedgerX.intervalEnergyX_eq cfg rates k a d t,
   LedgerX.peakX_eq rates _ t, LedgerX.integralX_eq cfg rates t⟩

/-! ### the same EV objects in a second simulation (`AcnModel/Rerun.lean`)

  The simulator-level theorems above speak about `e.delivered - e0.delivered` for ARBITRARY initial EVs `e0` of the
  configuration (any delivered energy, any last charging rate, any battery charge), so they hold verbatim for a
  simulation whose EV objects have been through an earlier one.  The statements below are the form the property
  words for that case: after `EV.reset()` the ABSOLUTE reported energy of the second simulation is the recorded sum
  and the battery's charge above its initial charge — whatever state `s1` the EV objects were left in (in particular
  whatever stale `current_charging_rate` they carry into the second simulation). -/

/-- second simulation, any scheduler, any state `s1` left behind by whatever happened before: each EV's reported
    energy = its battery's charge above the initial charge = Σ over the periods in which the occupancy snapshot
    shows it connected of `rates[st][τ] · V_st / 1000 · (period / 60)` -/
theorem rerun_session_energy (cfg : Cfg K) (hn : StationsNodup cfg) (s1 : State K)
    (sched : View K → Except EventCore.Err (Schedule K)) (n : Nat) (s : State K)
    (h : Sim.run (Rerun.rerunCfg cfg s1) sched n (Sim.init (Rerun.rerunCfg cfg s1)) = (s, none))
    (id : String) (e : Ev K) (he : evIn s.evs id = some e) :
    ∃ e1, evIn s1.evs id = some e1 ∧
      e.delivered = e.batt.charge - e1.batt.init ∧
      e.delivered =
        ∑ τ ∈ range s.core.iter,
          if occAt s.occLog τ (stationIndex cfg e1.station) = some id
          then s.rates.get (stationIndex cfg e1.station) τ * volt cfg (stationIndex cfg e1.station) / 1000
                * (cfg.period / 60)
          else 0 := by
  have hn2 : StationsNodup (Rerun.rerunCfg cfg s1) := hn
  have hL := ledger_invariant _ hn2 sched n s h
  obtain ⟨e0, h0⟩ := evIn_exists_of_ids hL.ids he
  obtain ⟨e1, h1, rfl⟩ := evIn_rerunCfg h0
  refine ⟨e1, h1, ?_, ?_⟩
  · have := sim_energy_eq_battery_gain _ hn2 sched n s h id _ e h0 he
    simpa [Rerun.resetEv] using this
  · have := session_energy_eq_sum _ hn2 sched n s h id _ e h0 he
    simp only [Rerun.resetEv, sub_zero] at this
    exact this

/-- ... and over the connection interval itself, when the state left behind still carries the sessions of the
    configuration (id, station, arrival, departure of every EV untouched) -/
theorem rerun_session_energy_interval_of_sessions (cfg : Cfg K) (hn : StationsNodup cfg)
    (hv : EventCore.Valid cfg.core) (s1 : State K) (hs : s1.evs.map sessionOf = cfg.evs.map sessionOf)
    (sched : View K → Except EventCore.Err (Schedule K)) (n : Nat) (s : State K)
    (h : Sim.run (Rerun.rerunCfg cfg s1) sched n (Sim.init (Rerun.rerunCfg cfg s1)) = (s, none))
    (id : String) (e : Ev K) (he : evIn s.evs id = some e) :
    ∃ e1, evIn s1.evs id = some e1 ∧
      e.delivered =
        ∑ τ ∈ range s.core.iter,
          if e1.arrival ≤ (τ : Int) ∧ (τ : Int) < e1.departure
          then s.rates.get (stationIndex cfg e1.station) τ * volt cfg (stationIndex cfg e1.station) / 1000
                * (cfg.period / 60)
          else 0 := by
  have hn2 : StationsNodup (Rerun.rerunCfg cfg s1) := hn
  have hv2 : EventCore.Valid (Rerun.rerunCfg cfg s1).core := by rw [rerunCfg_core hs]; exact hv
  have hL := ledger_invariant _ hn2 sched n s h
  obtain ⟨e0, h0⟩ := evIn_exists_of_ids hL.ids he
  obtain ⟨e1, h1, rfl⟩ := evIn_rerunCfg h0
  refine ⟨e1, h1, ?_⟩
  have := session_energy_interval _ hn2 hv2 sched n s h id _ e h0 he
  simp only [Rerun.resetEv, sub_zero] at this
  exact this

/-- a simulation leaves id, station, arrival and departure of every EV object alone (`Ev.charge` is the only writer
    of the EVs and touches delivered energy, last rate and battery only) -/
theorem run_keeps_sessions (cfg : Cfg K) (hn : StationsNodup cfg) (hv : EventCore.Valid cfg.core)
    (sched : View K → Except EventCore.Err (Schedule K)) (n : Nat) (s : State K)
    (h : Sim.run cfg sched n (Sim.init cfg) = (s, none)) :
    s.evs.map sessionOf = cfg.evs.map sessionOf := by
  -- the frame `RegistrySim.Frame` (`SimStatics`) holds whatever the outcome of the run
  have := (RegistrySim.run_statics cfg sched n (Sim.init cfg)
    (show (cfg.evs.map (·.session)).Nodup by rw [RegistrySim.sessions_eq]; exact hv.ids_nodup)).1
  rwa [h] at this

/-- THE STATEMENT AS THE PROPERTY WORDS IT, for EV objects that have been through an earlier simulation: a valid
    scenario is simulated (any scheduler, stopped at any loop head `n1` without having raised), every EV is put back
    with `EV.reset()`, and the same EV objects are simulated again (any other scheduler, the noise stream continued):
    at every loop head of the second run, delivered_x = Σ over the periods `τ` so far with
    `arrival_x ≤ τ < departure_x` of `rates[station_x][τ] · V / 1000 · (period / 60)` — an ABSOLUTE equality, and
    whatever last charging rate the EV carried over from the first simulation -/
theorem rerun_session_energy_interval (cfg : Cfg K) (hn : StationsNodup cfg) (hv : EventCore.Valid cfg.core)
    (sched1 : View K → Except EventCore.Err (Schedule K)) (n1 : Nat) (s1 : State K)
    (h1 : Sim.run cfg sched1 n1 (Sim.init cfg) = (s1, none))
    (sched : View K → Except EventCore.Err (Schedule K)) (n : Nat) (s : State K)
    (h : Sim.run (Rerun.rerunCfg cfg s1) sched n (Sim.init (Rerun.rerunCfg cfg s1)) = (s, none))
    (id : String) (e : Ev K) (he : evIn s.evs id = some e) :
    ∃ e1, evIn s1.evs id = some e1 ∧
      e.delivered =
        ∑ τ ∈ range s.core.iter,
          if e1.arrival ≤ (τ : Int) ∧ (τ : Int) < e1.departure
          then s.rates.get (stationIndex cfg e1.station) τ * volt cfg (stationIndex cfg e1.station) / 1000
                * (cfg.period / 60)
          else 0 :=
  rerun_session_energy_interval_of_sessions cfg hn hv s1 (run_keeps_sessions cfg hn hv sched1 n1 s1 h1)
    sched n s h id e he

/-! ### simulations that are INTERRUPTED AND RESUMED (`Lemmas/LedgerResume.lean`)

  `run()` raises in some period `k` — while the events of the period are processed, in `scheduler.run()`, or in
  `_update_schedules`: the three places before any pilot is applied — and is called again on the same object (with
  the same or with another scheduler), any number of times.  The completed simulation is still a simulation in
  C02's sense: every clause of the ledger holds for it, at every loop head.  The aborted period has moved the
  occupancy and the ghost list of scheduler calls only; no EV has charged, nothing has been recorded.

  Excluded, and necessarily so: a raise out of `update_pilots` / `_store_actual_charging_rates` (`Ledger.ApplyErr`:
  `InvalidRateError` at station `j` after the stations before it have charged, numpy `IndexError`, a `ValueError` out
  of `Battery.charge`).  That state carries delivered energy which no column of `charging_rates` records, and a resume
  charges the same EVs once more for the same period.

  The JSON half (`to_json` → `from_json` → `update_scheduler` → `run`) is in `AcnProofs/C02Json.lean`. -/

/-- a `run()` that was ABORTED (by anything but the pilots/rates half of a period), in ANY period — event periods
    and the last period included —, with any scheduler and fuel: the state the simulator object is left in
    satisfies the ledger invariant -/
theorem ledger_invariant_aborted (cfg : Cfg K) (hn : StationsNodup cfg)
    (sched : View K → Except EventCore.Err (Schedule K)) (n : Nat) (s : State K) (e : EventCore.Err)
    (h : Sim.run cfg sched n (Sim.init cfg) = (s, some e)) (he : ¬ ApplyErr e) : Ledger.Inv cfg s :=
  run_ledger_any hn sched n _ s (some e) (init_ledger cfg) h (fun e' h' => by cases h'; exact he)

/-- INTERRUPTED AND RESUMED: the first `run()` (scheduler `sched1`) is aborted in any period, `run()` is called
    again on the same object (scheduler `sched2` — the same one, repaired, or another) and reaches a loop head
    without raising (in particular: completes): the ledger invariant holds there -/
theorem ledger_invariant_resume (cfg : Cfg K) (hn : StationsNodup cfg)
    (sched1 sched2 : View K → Except EventCore.Err (Schedule K)) (n1 n2 : Nat) (s1 s2 : State K) (e : EventCore.Err)
    (h1 : Sim.run cfg sched1 n1 (Sim.init cfg) = (s1, some e)) (he : ¬ ApplyErr e)
    (h2 : Sim.run cfg sched2 n2 s1 = (s2, none)) : Ledger.Inv cfg s2 :=
  run_ledger hn sched2 n2 s1 s2 (ledger_invariant_aborted cfg hn sched1 n1 s1 e h1 he) h2

/-- … and for ANY NUMBER of aborted and resumed `run()` calls, each with its own scheduler and fuel
    (`Ledger.Resumed`: the states such a simulator object goes through) -/
theorem ledger_invariant_resumed (cfg : Cfg K) (hn : StationsNodup cfg) (s : State K) (h : Resumed cfg s) :
    Ledger.Inv cfg s :=
  resumed_ledger hn h

/-- the instance the property names: the scheduler raises in period `k` (and is `sched` otherwise) — whatever it
    raises out of `schedule()`; the resumed run uses `sched` -/
theorem ledger_invariant_resume_crash (cfg : Cfg K) (hn : StationsNodup cfg)
    (sched : View K → Except EventCore.Err (Schedule K)) (k n1 n2 : Nat) (s1 s2 : State K)
    (h1 : Sim.run cfg (fun v => if v.iter = k then .error .schedulerFailed else sched v) n1 (Sim.init cfg)
            = (s1, some .schedulerFailed))
    (h2 : Sim.run cfg sched n2 s1 = (s2, none)) : Ledger.Inv cfg s2 :=
  ledger_invariant_resume cfg hn _ sched n1 n2 s1 s2 _ h1 schedulerFailed_not_applyErr h2

/-- each EV of a resumed simulation: delivered energy = charge gained by its battery -/
theorem sim_energy_eq_battery_gain_resumed (cfg : Cfg K) (hn : StationsNodup cfg) (s : State K)
    (h : Resumed cfg s) (id : String) (e0 e : Ev K)
    (h0 : evIn cfg.evs id = some e0) (he : evIn s.evs id = some e) :
    e.delivered - e0.delivered = e.batt.charge - e0.batt.charge :=
  (resumed_ledger hn h).gain id e0 e h0 he

/-- each session of a resumed simulation: delivered energy = Σ over the periods so far of its OWN station's row,
    `rates[st_x][τ] · V_st / 1000 · (period / 60)` with `V_st` the voltage the station was REGISTERED with
    (`volt cfg`), over the periods in which the occupancy snapshot shows it connected there — the aborted period `k`
    is counted once, with the rate recorded when it was finally simulated -/
theorem session_energy_eq_sum_resumed (cfg : Cfg K) (hn : StationsNodup cfg) (s : State K)
    (h : Resumed cfg s) (id : String) (e0 e : Ev K)
    (h0 : evIn cfg.evs id = some e0) (he : evIn s.evs id = some e) :
    e.delivered - e0.delivered =
      ∑ τ ∈ range s.core.iter,
        if occAt s.occLog τ (stationIndex cfg e0.station) = some id
        then s.rates.get (stationIndex cfg e0.station) τ * volt cfg (stationIndex cfg e0.station) / 1000
              * (cfg.period / 60)
        else 0 :=
  (resumed_ledger hn h).session_single hn h0 he

/-- a resumed simulation: the recorded rate is 0 wherever the snapshot shows the station vacant, and in every period
    that has not been simulated yet (the aborted period included, until it is simulated) -/
theorem rate_zero_when_vacant_resumed (cfg : Cfg K) (hn : StationsNodup cfg) (s : State K)
    (h : Resumed cfg s) (τ i : Nat) :
    (τ < s.core.iter → i < cfg.stations.length → occAt s.occLog τ i = none → s.rates.get i τ = 0) ∧
    (s.core.iter ≤ τ → s.rates.get i τ = 0) :=
  ⟨(resumed_ledger hn h).vacant τ i, (resumed_ledger hn h).future τ i⟩

/-- a resumed simulation: `peak` = max(0, max over ALL periods so far — those before the interruption and those
    after it — of the recorded aggregate current) -/
theorem peak_eq_max_resumed (cfg : Cfg K) (hn : StationsNodup cfg) (s : State K) (h : Resumed cfg s) :
    0 ≤ s.peak ∧
    (∀ τ < s.core.iter, ∑ i ∈ range cfg.stations.length, s.rates.get i τ ≤ s.peak) ∧
    (s.peak = 0 ∨ ∃ τ < s.core.iter, s.peak = ∑ i ∈ range cfg.stations.length, s.rates.get i τ) :=
  (resumed_ledger hn h).peak_spec

/-- a resumed simulation: total energy delivered = Σ_τ aggregate_power(τ) · period/60 -/
theorem total_energy_eq_integral_resumed (cfg : Cfg K) (hn : StationsNodup cfg)
    (hid : (cfg.evs.map (·.session)).Nodup) (s : State K) (h : Resumed cfg s) :
    (s.evs.map (·.delivered)).sum - (cfg.evs.map (·.delivered)).sum =
      ∑ τ ∈ range s.core.iter,
        (∑ i ∈ range cfg.stations.length, volt cfg i * s.rates.get i τ / 1000) * (cfg.period / 60) :=
  total_of_inv hid (resumed_ledger hn h)

/-! ### non-vacuity (full model over ℚ; `exp` is never called by the ideal / stepwise laws) -/

/-- ideal battery: 32 A at 1000 V for 60 min offers 32 kWh, the battery accepts its maximum 7 kW -/
example : (match idealCharge (K := ℚ) ⟨40, 5, 5, 7, 0, false, 0, 0, .continuous⟩ 32 1000 60 with
    | .ok (b', r) => decide (r = 7) && decide (b'.charge = 12)
    | .error _ => false) = true := by decide +kernel

/-- stepwise two-stage battery above the transition SoC with a noise draw: accepted, charge moves -/
example : (match stepCharge (K := ℚ) ⟨40, 36, 5, 8, 0, true, 1, 4/5, .stepwise⟩ 32 1000 60 (1/2) with
    | .ok (b', r) => decide (b'.charge - 36 = r * 1000 / 1000 * (60 / 60)) && decide (0 < r)
    | .error _ => false) = true := by decide +kernel

section simex
local instance : HasExp ℚ := ⟨fun x => x⟩

/-- stations A (1000 V) and B (500 V), 60-minute periods; x on A during [0,2), y on A during [2,3)
    (back-to-back reuse), z on B during [1,3) with a stepwise two-stage battery; the schedule always
    addresses both stations (so B while it is vacant) with pilots above every battery's maximum -/
def exCfg : Sim.Cfg ℚ :=
  { stations := [⟨"A", .cont 0 (some 32), 1000⟩, ⟨"B", .cont 0 (some 32), 500⟩],
    evs := [{ session := "x", station := "A", arrival := 0, departure := 2, estDeparture := 2, requested := 3,
              delivered := 0, rate := 0,
              batt := ⟨40, 5, 5, 7, 0, false, 0, 0, .continuous⟩ },
            { session := "y", station := "A", arrival := 2, departure := 3, estDeparture := 3, requested := 9,
              delivered := 0, rate := 0,
              batt := ⟨10, 8, 8, 7, 0, false, 0, 0, .continuous⟩ },
            { session := "z", station := "B", arrival := 1, departure := 3, estDeparture := 3, requested := 5,
              delivered := 0, rate := 0,
              batt := ⟨20, 2, 2, 4, 0, true, 1, 4/5, .stepwise⟩ }],
    recomputes := [], maxRecompute := some 1, period := 60, atolCont := 1 / 1000, atolDeadband := 1 / 1000,
    atolFinite := 1 / 1000, fullEps := 1 / 1000, noise := [1/2, -1/4] }

def exSched : View ℚ → Except EventCore.Err (Schedule ℚ) := fun _ => .ok [("A", [16]), ("B", [32])]

example : StationsNodup exCfg := by
  show (exCfg.stations.map (·.id)).Nodup
  decide +kernel

/-- the run ends without an error after period 3; the recorded rates, the delivered energies and the
    peak are the non-trivial values the ledger speaks about (B's row is 0 while B is vacant in period 0,
    y's battery fills up and takes only 2 of the 16 A offered) -/
example :
    (Sim.run exCfg exSched 8 (Sim.init exCfg)).2 = none ∧
    (Sim.run exCfg exSched 8 (Sim.init exCfg)).1.core.iter = 4 ∧
    (Sim.run exCfg exSched 8 (Sim.init exCfg)).1.rates.rows = [[7, 7, 2, 0], [0, 7, 15/2, 0]] ∧
    (Sim.run exCfg exSched 8 (Sim.init exCfg)).1.evs.map (·.delivered) = [14, 2, 29/4] ∧
    (Sim.run exCfg exSched 8 (Sim.init exCfg)).1.evs.map (·.batt.charge) = [19, 10, 37/4] ∧
    (Sim.run exCfg exSched 8 (Sim.init exCfg)).1.peak = 14 ∧
    (Sim.run exCfg exSched 8 (Sim.init exCfg)).1.occLog =
      [[some "x", none], [some "x", some "z"], [some "y", some "z"], [none, none]] := by
  decide +kernel

/-- the scenario is `Valid` (hypothesis of the interval theorems) -/
example : EventCore.Valid exCfg.core := by decide +kernel

def exS1 : Sim.State ℚ := (Sim.run exCfg exSched 8 (Sim.init exCfg)).1

/-- a scheduler that stays silent in period 0 (all pilots 0 A there) and then does what `exSched` does -/
def exSched2 : View ℚ → Except EventCore.Err (Schedule ℚ) := fun v => if v.iter = 0 then .ok [] else exSched v

/-- hypotheses of `rerun_session_energy` / `rerun_session_energy_interval` (and the conclusion of
    `run_keeps_sessions`) on a concrete instance: the EVs come back with energies and batteries reset but with the
    stale last rates 7, 2 and 15/2 A; the second run ends without an error; x is held at 0 A in period 0 and the
    recorded rate there is 0 (not the stale 7 A), so x's energy is 7 = its row over [0, 2) = its battery's charge
    above the initial 5 -/
example :
    exS1.evs.map sessionOf = exCfg.evs.map sessionOf ∧
    (Rerun.rerunCfg exCfg exS1).evs.map (·.rate) = [7, 2, 15/2] ∧
    (Rerun.rerunCfg exCfg exS1).evs.map (·.delivered) = [0, 0, 0] ∧
    (Rerun.rerunCfg exCfg exS1).evs.map (·.batt.charge) = [5, 8, 2] ∧
    (Sim.run (Rerun.rerunCfg exCfg exS1) exSched2 8 (Sim.init (Rerun.rerunCfg exCfg exS1))).2 = none ∧
    (Sim.run (Rerun.rerunCfg exCfg exS1) exSched2 8 (Sim.init (Rerun.rerunCfg exCfg exS1))).1.rates.rows
      = [[0, 7, 2, 0], [0, 7, 15/2, 0]] ∧
    (Sim.run (Rerun.rerunCfg exCfg exS1) exSched2 8 (Sim.init (Rerun.rerunCfg exCfg exS1))).1.evs.map (·.delivered)
      = [7, 2, 29/4] ∧
    (Sim.run (Rerun.rerunCfg exCfg exS1) exSched2 8 (Sim.init (Rerun.rerunCfg exCfg exS1))).1.evs.map (·.batt.charge)
      = [12, 10, 37/4] := by
  decide +kernel

def exCrash (k : Nat) : View ℚ → Except EventCore.Err (Schedule ℚ) :=
  fun v => if v.iter = k then .error .schedulerFailed else exSched v

/-- hypotheses of `ledger_invariant_resume(_crash)` on a concrete instance, for a crash in period 2 (an EVENT period:
    x leaves A, y arrives on A; the events have been applied when the scheduler raises) and in period 1: the first
    run aborts with `SchedulerFailed` at `iteration = k` with the period's events applied (y already on A) and nothing
    recorded for period `k`; the resumed run completes with the rates, energies, battery charges, peak and occupancy log
    of the uninterrupted run; the peak 14 was reached BEFORE the interruption of period 2 (7 + 7 in period 1) -/
example :
    (Sim.run exCfg (exCrash 2) 8 (Sim.init exCfg)).2 = some .schedulerFailed ∧
    (Sim.run exCfg (exCrash 2) 8 (Sim.init exCfg)).1.core.iter = 2 ∧
    ((Sim.run exCfg (exCrash 2) 8 (Sim.init exCfg)).1.core.occ "A").map (·.id) = some "y" ∧
    (Sim.run exCfg (exCrash 2) 8 (Sim.init exCfg)).1.rates.rows = [[7, 7, 0, 0], [0, 7, 0, 0]] ∧
    (Sim.run exCfg (exCrash 2) 8 (Sim.init exCfg)).1.peak = 14 ∧
    (Sim.run exCfg exSched 8 (Sim.run exCfg (exCrash 2) 8 (Sim.init exCfg)).1).2 = none ∧
    (Sim.run exCfg exSched 8 (Sim.run exCfg (exCrash 2) 8 (Sim.init exCfg)).1).1.rates.rows
      = [[7, 7, 2, 0], [0, 7, 15/2, 0]] ∧
    (Sim.run exCfg exSched 8 (Sim.run exCfg (exCrash 2) 8 (Sim.init exCfg)).1).1.evs.map (·.delivered)
      = [14, 2, 29/4] ∧
    (Sim.run exCfg exSched 8 (Sim.run exCfg (exCrash 2) 8 (Sim.init exCfg)).1).1.evs.map (·.batt.charge)
      = [19, 10, 37/4] ∧
    (Sim.run exCfg exSched 8 (Sim.run exCfg (exCrash 2) 8 (Sim.init exCfg)).1).1.peak = 14 ∧
    (Sim.run exCfg exSched 8 (Sim.run exCfg (exCrash 2) 8 (Sim.init exCfg)).1).1.occLog =
      [[some "x", none], [some "x", some "z"], [some "y", some "z"], [none, none]] ∧
    (Sim.run exCfg (exCrash 1) 8 (Sim.init exCfg)).2 = some .schedulerFailed ∧
    (Sim.run exCfg exSched 8 (Sim.run exCfg (exCrash 1) 8 (Sim.init exCfg)).1).1.evs.map (·.delivered)
      = [14, 2, 29/4] := by
  decide +kernel

/-- the run interrupted in period 2 and resumed, evaluated once -/
theorem exResume_run :
    (Sim.run exCfg (exCrash 2) 8 (Sim.init exCfg)).2 = some .schedulerFailed ∧
    (Sim.run exCfg exSched 8 (Sim.run exCfg (exCrash 2) 8 (Sim.init exCfg)).1).2 = none ∧
    (Sim.run exCfg exSched 8 (Sim.run exCfg (exCrash 2) 8 (Sim.init exCfg)).1).1.core.pending = [] := by
  decide +kernel

/-- … so the crash state and the resumed final state are `Resumed` states (two calls), and a simulator that is
    interrupted TWICE (periods 1 and 2) and resumed twice is one too (three calls) -/
example : Resumed exCfg (Sim.run exCfg exSched 8 (Sim.run exCfg (exCrash 2) 8 (Sim.init exCfg)).1).1 := by
  refine .call exSched 8 (.call (exCrash 2) 8 .init Prod.mk.eta.symm fun e he => ?_) Prod.mk.eta.symm fun e he => ?_
  · rw [exResume_run.1] at he; cases he; exact schedulerFailed_not_applyErr
  · rw [exResume_run.2.1] at he; cases he

example :
    (Sim.run exCfg (exCrash 2) 8 (Sim.run exCfg (exCrash 1) 8 (Sim.init exCfg)).1).2 = some .schedulerFailed ∧
    (Sim.run exCfg exSched 8 (Sim.run exCfg (exCrash 2) 8 (Sim.run exCfg (exCrash 1) 8 (Sim.init exCfg)).1).1).2 = none ∧
    (Sim.run exCfg exSched 8 (Sim.run exCfg (exCrash 2) 8 (Sim.run exCfg (exCrash 1) 8 (Sim.init exCfg)).1).1).1.rates.rows
      = [[7, 7, 2, 0], [0, 7, 15/2, 0]] := by
  decide +kernel

/-- the exclusion is necessary: stations are served in registration order (A, then B); with a pilot B's EVSE refuses
    (33 A > 32 A), x on A has already charged at 7 A for period 0 when `InvalidRateError` aborts the period, and
    nothing is recorded — the invariant's `sess` clause fails in that state (7 kWh delivered, recorded sum 0) -/
example :
    (Sim.run exCfg (fun _ => .ok [("A", [16]), ("B", [33])]) 8 (Sim.init exCfg)).2 = some .invalidRate ∧
    ApplyErr EventCore.Err.invalidRate ∧
    (Sim.run exCfg (fun _ => .ok [("A", [16]), ("B", [33])]) 8 (Sim.init exCfg)).1.evs.map (·.delivered) = [7, 0, 0] ∧
    (Sim.run exCfg (fun _ => .ok [("A", [16]), ("B", [33])]) 8 (Sim.init exCfg)).1.rates.rows = [[0, 0, 0], [0, 0, 0]] ∧
    (Sim.run exCfg (fun _ => .ok [("A", [16]), ("B", [33])]) 8 (Sim.init exCfg)).1.core.iter = 0 := by
  decide +kernel

/-- hypothesis `pending = []` of `session_energy_interval_complete_resumed` on the resumed run above -/
example : (Sim.run exCfg exSched 8 (Sim.run exCfg (exCrash 2) 8 (Sim.init exCfg)).1).1.core.pending = [] :=
  exResume_run.2.2

end simex

end Acn.C02
