/-
  C19 — stochastic space assignment never loses, duplicates or starves a session.

  Property theorems, and three local helpers for the end-to-end statements (`loop_head`,
  `good_properties`, `end_to_end_host`); lemma files: AcnProofs/Lemmas/Stochastic*.lean,
  SimStochastic*.lean.  The state theorems take `Good s hist` (invariant + flags agree with the
  processed history `hist`), which holds (`reached_inv`) in every state `s` REACHED by the model of
  `StochasticNetwork` inside the simulator's event loop: from the empty network over any
  duplicate-free list of stations, after ANY list of steps (events interleaved arbitrarily with
  `post_charging_update` calls, any `fully_charged` inputs, early departure on or off) whose events
  form a well-formed history, under ANY stream of random choices `cs`.  Well-formedness (`WFHist`)
  says: no session is plugged in twice or unplugged twice and every unplug follows the plug-in of
  its session; `wellFormed_protocol` derives it from the simulator's protocol (distinct session
  ids, arrival < departure, events in any key-sorted order — the order among equal keys is left
  open).
-/
import AcnProofs.Lemmas.EventCoreHeap
import AcnProofs.Lemmas.StochasticProto
import AcnProofs.Lemmas.StochasticDet
import AcnProofs.Lemmas.StochasticStarve
import AcnProofs.Lemmas.StochasticLoopInst
import AcnProofs.Lemmas.SimStochastic
import AcnProofs.Lemmas.SimStochasticLedger

namespace Acn.C19
open Acn Acn.Stoch

/-- `s` is the state after processing exactly the (well-formed) history `hist` -/
def Reached (s : Net) (hist : List Event) : Prop :=
  ∃ (stations : List Station) (early : Bool) (st0 : Sess → Option Station) (cs : Nat → Nat)
    (steps : List Step),
    stations.Nodup ∧ WFHist hist ∧ evProj steps = hist ∧
      (Net.init stations early st0).run cs steps = .ok s

/-- an EV that is physically at the site: arrived, not yet departed, did not leave early -/
def Present (s : Net) (x : Sess) : Prop :=
  (s.ev x).arrived = true ∧ (s.ev x).departed = false ∧ (s.ev x).early = false

/-- what every theorem below needs of a state: the invariant of the network model (`Inv`,
    AcnProofs/Lemmas/StochasticInv.lean) and the ghost flags agreeing with the processed events.
    It holds in every `Reached` state (`reached_inv`) and at every loop head of the composed run
    loop (`end_to_end`). -/
def Good (s : Net) (hist : List Event) : Prop := Inv s ∧ Track hist s

theorem reached_inv {s : Net} {hist : List Event} (h : Reached s hist) : Good s hist := by
  obtain ⟨stations, early, st0, cs, steps, hn, hwf, hp, hr⟩ := h
  obtain ⟨s', hs', hi, tr⟩ := run_good cs steps [] _ (Inv.init stations early st0 hn)
    (Track.init stations early st0) (by simpa [hp] using hwf)
  rw [hr] at hs'; cases hs'
  exact ⟨hi, by simpa [hp] using tr⟩

/-- For well-formed histories the run never raises: the `KeyError` branch of `unplug`
    (`station_id` None and not in the queue) and `StationOccupiedError` are unreachable. -/
theorem no_error (stations : List Station) (early : Bool) (st0 : Sess → Option Station)
    (cs : Nat → Nat) (steps : List Step) (hn : stations.Nodup) (hwf : WFHist (evProj steps)) :
    ∃ s, (Net.init stations early st0).run cs steps = .ok s ∧ Reached s (evProj steps) := by
  obtain ⟨s', hs', _, _⟩ := run_good cs steps [] _ (Inv.init stations early st0 hn)
    (Track.init stations early st0) (by simpa using hwf)
  exact ⟨s', hs', stations, early, st0, cs, steps, hn, hwf, rfl, hs'⟩

/-- The simulator's protocol gives well-formed histories: for sessions with distinct ids and
    arrival < departure, ANY key-sorted order `h` of their plug-in / unplug events, any number
    of simulated periods `n`, any inputs: the run does not raise and ends in a `Reached` state;
    when `n` covers the last timestamp, the whole of `h` has been processed. -/
theorem wellFormed_protocol (ss : List Session) (h : List Event) (hw : wellFormedB ss h = true)
    (stations : List Station) (hn : stations.Nodup) (early : Bool) (st0 : Sess → Option Station)
    (cs : Nat → Nat) (full : Nat → Sess → Bool) (n : Nat) :
    ∃ s, (Net.init stations early st0).run cs (simSteps full 0 n h) = .ok s ∧
      Reached s (evProj (simSteps full 0 n h)) ∧
      ((h = [] ∨ 0 < n) → (∀ e ∈ h, e.ts < (n : Int)) → evProj (simSteps full 0 n h) = h) := by
  have hwf := wellFormedB_WFHist hw
  obtain ⟨rest, hr⟩ := evProj_simSteps_prefix full n 0 h
  have hwf' : WFHist (evProj (simSteps full 0 n h)) := by
    rw [hr] at hwf; exact hwf.of_append
  obtain ⟨s, hs, hreach⟩ := no_error stations early st0 cs _ hn hwf'
  exact ⟨s, hs, hreach, fun h0 hts => evProj_simSteps full n 0 h h0 (by simpa using hts)⟩

/-- a concrete well-formed history: one station's worth of contention, ties at 0 and 2 -/
example : wellFormedB [⟨"a", 0, 2⟩, ⟨"b", 0, 2⟩, ⟨"c", 1, 3⟩]
    [⟨0, .plugin, "b"⟩, ⟨0, .plugin, "a"⟩, ⟨1, .plugin, "c"⟩, ⟨2, .unplug, "a"⟩, ⟨2, .unplug, "b"⟩,
     ⟨3, .unplug, "c"⟩] = true := by decide

/-- `Reached` states with waiting EVs exist: one station, the three overlapping sessions above -/
example : ∃ s, Reached s [⟨0, .plugin, "b"⟩, ⟨0, .plugin, "a"⟩, ⟨1, .plugin, "c"⟩, ⟨2, .unplug, "a"⟩] := by
  have hw : wellFormedB [⟨"a", 0, 2⟩, ⟨"b", 0, 2⟩, ⟨"c", 1, 3⟩]
    [⟨0, .plugin, "b"⟩, ⟨0, .plugin, "a"⟩, ⟨1, .plugin, "c"⟩, ⟨2, .unplug, "a"⟩, ⟨2, .unplug, "b"⟩,
     ⟨3, .unplug, "c"⟩] = true := by decide
  have hwf := wellFormedB_WFHist hw
  have hwf' : WFHist [⟨0, .plugin, "b"⟩, ⟨0, .plugin, "a"⟩, ⟨1, .plugin, "c"⟩, ⟨2, .unplug, "a"⟩] :=
    WFHist.of_append (b := [⟨2, .unplug, "b"⟩, ⟨3, .unplug, "c"⟩]) hwf
  obtain ⟨s, _, hr⟩ := no_error ["A"] true (fun _ => none) (fun _ => 0)
    [.ev ⟨0, .plugin, "b"⟩, .ev ⟨0, .plugin, "a"⟩, .post (fun _ => true), .ev ⟨1, .plugin, "c"⟩,
     .post (fun _ => true), .ev ⟨2, .unplug, "a"⟩] (by decide) (by simpa [evProj] using hwf')
  exact ⟨s, by simpa [evProj] using hr⟩

/-- Every present EV is in exactly one place — on exactly one station or in the waiting queue,
    never both; no station holds two EVs (an EV occupies at most one station); no EV is twice
    in the queue; and only present EVs are anywhere. -/
theorem place_unique {s : Net} {hist : List Event} (h : Good s hist) :
    (∀ x, Present s x →
      (x ∈ s.waiting ∧ ∀ st, s.occ st ≠ some x) ∨
      (x ∉ s.waiting ∧ ∃ st, st ∈ s.stations ∧ s.occ st = some x ∧ ∀ st', s.occ st' = some x → st' = st)) ∧
    (∀ st st' x, s.occ st = some x → s.occ st' = some x → st = st') ∧
    s.waiting.Nodup ∧
    (∀ x, (x ∈ s.waiting ∨ ∃ st, s.occ st = some x) → Present s x) := by
  obtain ⟨hi, _⟩ := h
  have hw := hi.mem_waiting
  have ho := hi.occ_iff
  refine ⟨?_, ?_, hi.waiting_nodup, ?_⟩
  · intro x ⟨ha, hd, he⟩
    cases hst : (s.ev x).station with
    | none =>
      left
      have hxw := (hw x).2 ⟨ha, hd, hst⟩
      exact ⟨hxw, hi.occ_ne_of_mem_waiting hxw⟩
    | some st =>
      right
      have hm := hi.st_mem x st ha hst
      have hox := (ho st x).2 ⟨hm, hst, ha, hd, he⟩
      refine ⟨fun hc => ?_, st, hm, hox, fun st' hc => hi.occ_inj hc hox⟩
      have := ((hw x).1 hc).2.2; rw [hst] at this; cases this
  · exact fun st st' x h1 h2 => hi.occ_inj h1 h2
  · intro x hx
    rcases hx with hx | ⟨st, hx⟩
    · obtain ⟨ha, hd, hst⟩ := (hw x).1 hx
      refine ⟨ha, hd, ?_⟩
      by_contra hc
      have := (hi.early_imp x (by simpa using hc)).2
      rw [hst] at this; simp at this
    · obtain ⟨_, _, ha, hd, he⟩ := (ho st x).1 hx
      exact ⟨ha, hd, he⟩

/-- Nobody waits while a station is free — after every step of every history, in particular
    after each unplug and each early departure (where the code re-admits). -/
theorem no_wait_while_free {s : Net} {hist : List Event} (h : Good s hist)
    (hw : s.waiting ≠ []) : s.free = [] := by
  obtain ⟨hi, _⟩ := h
  simp only [Net.free, List.filter_eq_nil_iff]
  intro st hst
  rw [Option.isNone_iff_eq_none]
  exact hi.no_wait_free hw st hst

/-- FIFO.  (1) The queue always is the list of EVs without a station in ARRIVAL order
    (`arrivals` = order of `ev_history`).  (2) Whenever the occupant `x` of a station leaves
    (departure or early departure) while somebody waits, the unplug succeeds, exactly the HEAD
    of the queue — the earliest arrival still waiting — gets that station and the rest of the
    queue keeps its order.  (Nobody else is ever admitted from the queue: `plugin` only
    appends, and arrivals find a free station only when the queue is empty, by
    `no_wait_while_free`.) -/
theorem fifo_admission {s : Net} {hist : List Event} (h : Good s hist) :
    s.waiting = s.arrivals.filter s.waits ∧
    ∀ x y w st, s.occ st = some x → s.waiting = y :: w →
      ∃ s1, s.unplug (s.ev x).station x = .ok s1 ∧ s1.waiting = w ∧ s1.occ st = some y ∧
        (s1.ev y).station = some st ∧ s1.swaps = s.swaps + 1 := by
  obtain ⟨hi, _⟩ := h
  refine ⟨hi.fifo, ?_⟩
  intro x y w st ho hwq
  exact ⟨_, by rw [hi.unplug_occ ho, hwq], rfl, by simp [Net.seat], by simp [Net.seat], rfl⟩

/-- For an EV whose unplug event is still to come, `station_id is None` exactly when it is in
    the waiting queue, and otherwise its station id is a registered station: so the simulator's
    `unplug(ev.station_id, ev.session_id)` never reaches the `KeyError` branch (see `no_error`). -/
theorem waiting_iff_station_none {s : Net} {hist : List Event} (h : Good s hist) (x : Sess)
    (ha : (s.ev x).arrived = true) (hd : (s.ev x).departed = false) :
    (x ∈ s.waiting ↔ (s.ev x).station = none) ∧
    (∀ st, (s.ev x).station = some st → st ∈ s.stations) := by
  obtain ⟨hi, _⟩ := h
  refine ⟨⟨fun hx => ((hi.mem_waiting x).1 hx).2.2, fun hst => (hi.mem_waiting x).2 ⟨ha, hd, hst⟩⟩,
    fun st hst => hi.st_mem x st ha hst⟩

/-- The counters count what they say, over the EVs that arrived: `never_charged` = EVs that
    departed without ever having been attached to a station (i.e. that left from the queue);
    `swaps` = EVs that were queued and later got a station; `early_unplug` = EVs unplugged by
    post_charging_update; and the number of random draws = arrivals that were not queued. -/
theorem never_charged_counts {s : Net} {hist : List Event} (h : Good s hist) :
    s.neverCharged = s.arrivals.countP (fun x => (s.ev x).departed && !(s.ev x).plugged) ∧
    s.swaps = s.arrivals.countP (fun x => (s.ev x).queued && (s.ev x).plugged) ∧
    s.earlyUnplug = s.arrivals.countP (fun x => (s.ev x).early) ∧
    s.draws = s.arrivals.countP (fun x => !(s.ev x).queued) ∧
    s.arrivals.Nodup ∧
    (∀ x, x ∈ s.arrivals ↔ ∃ e ∈ hist, e.kind = .plugin ∧ e.sess = x) ∧
    (∀ x, (s.ev x).plugged = false ↔ ((s.ev x).arrived = false ∨ (s.ev x).station = none)) := by
  obtain ⟨hi, tr⟩ := h
  refine ⟨hi.never_eq, hi.swaps_eq, hi.early_eq, hi.draws_eq, hi.arr_nodup,
    fun x => (hi.arr_iff x).trans (tr.arrived_iff x), fun x => ?_⟩
  -- the negation of `plugged_iff`
  rw [← Bool.not_eq_true, hi.plugged_iff x, not_and_or, Bool.not_eq_true, Option.not_isSome_iff_eq_none]

/-- When every plugged-in session of the history has also been unplugged (the end of a run),
    no station is occupied and nobody waits. -/
theorem all_gone_at_end {s : Net} {hist : List Event} (h : Good s hist)
    (hall : ∀ e ∈ hist, e.kind = .plugin → ∃ u ∈ hist, u.kind = .unplug ∧ u.sess = e.sess) :
    s.waiting = [] ∧ ∀ st, s.occ st = none := by
  obtain ⟨hi, tr⟩ := h
  have gone : ∀ x, (s.ev x).arrived = true → (s.ev x).departed = true := by
    intro x ha
    obtain ⟨e, he, hk, hs⟩ := (tr.arrived_iff x).1 ha
    obtain ⟨u, hu, huk, hus⟩ := hall e he hk
    exact (tr.departed_iff x).2 ⟨u, hu, huk, hus.trans hs⟩
  constructor
  · rw [List.eq_nil_iff_forall_not_mem]
    intro x hx
    obtain ⟨ha, hd, _⟩ := (hi.mem_waiting x).1 hx
    rw [gone x ha] at hd; cases hd
  · intro st
    cases ho : s.occ st with
    | none => rfl
    | some x =>
      obtain ⟨_, _, ha, hd, _⟩ := (hi.occ_iff st x).1 ho
      rw [gone x ha] at hd; cases hd

/-- The later unplug event of an EV that already left early changes nothing in the network
    (whether its old station is empty or meanwhile taken by somebody else). -/
theorem stale_unplug_noop {s : Net} {hist : List Event} (h : Good s hist) (x : Sess)
    (he : (s.ev x).early = true) : s.unplug (s.ev x).station x = .ok s := by
  obtain ⟨hi, _⟩ := h
  obtain ⟨ha, hsome⟩ := hi.early_imp x he
  obtain ⟨st, hst⟩ := Option.isSome_iff_exists.1 hsome
  have hxw : x ∉ s.waiting := by rw [hi.mem_waiting, hst]; simp
  rw [hst]
  refine unplug_of_ne hxw (hi.st_mem x st ha hst) (fun ho => ?_)
  -- an occupant is not marked `early`
  obtain ⟨-, -, -, -, hne⟩ := (hi.occ_iff st x).1 ho
  rw [he] at hne; cases hne

/-- Reproducibility: the result of a run depends on the stream of random choices only through
    the draws actually made.  `draws` never decreases, and two streams that agree on the first
    `s'.draws` entries give the same run (same final state, hence — applied to every prefix of
    the steps — the same trace).  With `random.seed` fixed the draws are fixed. -/
theorem deterministic_given_choices (cs cs' : Nat → Nat) (s s' : Net) (steps : List Step)
    (hrun : s.run cs steps = .ok s') (hagree : ∀ k, s.draws ≤ k → k < s'.draws → cs k = cs' k) :
    s.run cs' steps = .ok s' ∧ s.draws ≤ s'.draws :=
  ⟨run_det cs cs' steps s s' hrun hagree, run_draws_mono cs steps s s' hrun⟩

/-- two different choice streams that agree on the indices below 2 (streams only: no state and no
    run occur here; a run that makes exactly two draws is e.g. two plug-ins into two free stations) -/
example : ∃ cs cs' : Nat → Nat, cs ≠ cs' ∧ ∀ k, 0 ≤ k → k < 2 → cs k = cs' k :=
  ⟨fun _ => 0, fun k => if k < 2 then 0 else 1, by
    intro h; have := congrFun h 5; simp at this, by intro k _ hk; simp [hk]⟩

/-- Starvation freedom.  Let `y` wait at position `i = s.waiting.idxOf y` in a reached state and
    let the run continue with ANY steps (well-formed continuation).  (1) While `y` is still
    waiting its position has dropped by at least the number of vacating events so far
    (`vacCount`: unplug events of EVs that hold a station, and early departures).  (2) So after
    `i + 1` vacating events `y` is no longer waiting; and if its own unplug event is not among
    the steps (it did not depart first), it has been attached to a station. -/
theorem starvation_free {s s' : Net} {hist : List Event} (h : Good s hist) (cs : Nat → Nat)
    (steps : List Step) (hwf : WFHist (hist ++ evProj steps)) (y : Sess) (hy : y ∈ s.waiting)
    (hrun : s.run cs steps = .ok s') :
    (y ∈ s'.waiting → s'.waiting.idxOf y + vacCount cs s steps ≤ s.waiting.idxOf y) ∧
    (s.waiting.idxOf y + 1 ≤ vacCount cs s steps → y ∉ s'.waiting ∧
      ((∀ e ∈ evProj steps, ¬(e.kind = .unplug ∧ e.sess = y)) → (s'.ev y).plugged = true)) := by
  obtain ⟨hi, tr⟩ := h
  have hadv := run_advance cs y steps hist s s' hi tr hwf hy hrun
  refine ⟨hadv, fun hv => ?_⟩
  have hnw : y ∉ s'.waiting := fun hc => by have := hadv hc; omega
  refine ⟨hnw, fun hstay => ?_⟩
  obtain ⟨s'', hs'', hi', tr'⟩ := run_good cs steps hist s hi tr hwf
  rw [hrun] at hs''; cases hs''
  obtain ⟨ha, hd, _⟩ := (hi.mem_waiting y).1 hy
  have ha' : (s'.ev y).arrived = true := tr.arrived_mono tr' ha
  have hd' : (s'.ev y).departed = false := by
    by_contra hc
    obtain ⟨a, ha1, hk, hs1⟩ := (tr'.departed_iff y).1 (by simpa using hc)
    rcases List.mem_append.1 ha1 with ha1 | ha1
    · have := (tr.departed_iff y).2 ⟨a, ha1, hk, hs1⟩
      rw [hd] at this; cases this
    · exact hstay a ha1 ⟨hk, hs1⟩
  rw [hi'.plugged_iff]
  refine ⟨ha', ?_⟩
  cases hst : (s'.ev y).station with
  | none => exact absurd ((hi'.mem_waiting y).2 ⟨ha', hd', hst⟩) hnw
  | some st => rfl

/-- a vacating event, concretely: the unplug of an EV that sits on the station named by its id -/
example : vacOf { Net.init ["A"] true (fun _ => none) with
      occ := fun _ => some "a", ev := fun _ => { station := some "A" }, waiting := ["b"] }
    (.ev ⟨2, .unplug, "a"⟩) = 1 := by decide

/-- End of a simulator run: for sessions with distinct ids, 0 ≤ arrival < departure and ANY
    key-sorted processing order, after `horizon` (or more) periods of `simSteps` — every choice
    stream, every `fully_charged` input, early departure on or off — the run has not raised,
    nobody is waiting and no station is occupied. -/
theorem all_gone_after_horizon (ss : List Session) (h : List Event) (hw : wellFormedB ss h = true)
    (hpos : ∀ e ∈ h, 0 ≤ e.ts) (stations : List Station) (hn : stations.Nodup) (early : Bool)
    (st0 : Sess → Option Station) (cs : Nat → Nat) (full : Nat → Sess → Bool) (n : Nat)
    (hhor : horizon h ≤ n) :
    ∃ s, (Net.init stations early st0).run cs (simSteps full 0 n h) = .ok s ∧
      s.waiting = [] ∧ ∀ st, s.occ st = none := by
  obtain ⟨s, hs, hreach, hev⟩ := wellFormed_protocol ss h hw stations hn early st0 cs full n
  have hts : ∀ e ∈ h, e.ts < (n : Int) := by
    intro e he; have := ts_lt_horizon h e he; omega
  have h0 : h = [] ∨ 0 < n := by
    cases h with
    | nil => exact Or.inl rfl
    | cons a t =>
      right
      have := hts a (by simp); have := hpos a (by simp); omega
  rw [hev h0 hts] at hreach
  exact ⟨s, hs, all_gone_at_end (reached_inv hreach) (wellFormedB_complete hw)⟩

/-- Tie to C01: what `Acn.C01.history_sorted` / `history_complete` prove about `event_history`
    of the event loop (key-sorted; a permutation of the scenario's plug-in, unplug and recompute
    events) implies C19's history hypothesis — using distinct ids and arrival < departure only,
    not the per-station non-overlap clause of C01's `Valid`. -/
theorem eventCore_history_wellFormed (cfg : EventCore.Cfg) (h : List Event)
    (ids : (cfg.sessions.map (·.id)).Nodup) (ad : ∀ x ∈ cfg.sessions, x.arrival < x.departure)
    (hsorted : h.Pairwise (fun a b => a.keyLe b = true))
    (hcomplete : h.Perm (cfg.sessions.map EventCore.plugEv ++ cfg.sessions.map EventCore.unplugEv ++
      cfg.recomputes.map EventCore.recEv)) : WFHist h := by
  apply WFHist_of_sorted_perm (cfg.sessions.map ofCore) (cfg.recomputes.map EventCore.recEv) h
  · intro e he; obtain ⟨r, _, rfl⟩ := List.mem_map.1 he; rfl
  · simpa [List.map_map, Function.comp_def, ofCore] using ids
  · intro s hs; obtain ⟨x, hx, rfl⟩ := List.mem_map.1 hs; exact ad x hx
  · exact hsorted
  · exact hcomplete.trans ((expected_perm_core cfg.sessions).append_right _)

example : WFHist [⟨0, .plugin, "a"⟩, ⟨0, .recompute, "r"⟩, ⟨1, .plugin, "b"⟩, ⟨2, .unplug, "a"⟩,
    ⟨2, .unplug, "b"⟩] :=
  eventCore_history_wellFormed
    { stations := ["S"], sessions := [⟨"a", "S", 0, 2⟩, ⟨"b", "S", 1, 2⟩], recomputes := [(0, "r")],
      maxRecompute := none } _ (by decide) (by decide) (by decide) (by decide)

open Acn.EventCore in
/-- what the loop invariant `InvG` gives at the loop head after `n` iterations from period 0, for a
    network state that is `Good` for the history: the counter, the order of the history, and — once
    the horizon is reached — the queue is empty, every plug-in of the history has its unplug, and
    (`all_gone_at_end`) the site is empty -/
theorem loop_head {cfg : Cfg} (hq : ValidQ cfg) {n : Nat} {c : Core} {s : Net}
    (hI : InvG cfg (min (0 + n) (EventCore.horizon cfg)) c) (hgood : Good s c.eventHist) :
    c.iter = min n (EventCore.horizon cfg) ∧
      c.eventHist.Pairwise (fun a b => a.keyLe b = true) ∧
      (EventCore.horizon cfg ≤ n →
        c.pending = [] ∧ c.resolve = false ∧
        (∀ e ∈ c.eventHist, e.kind = .plugin → ∃ u ∈ c.eventHist, u.kind = .unplug ∧ u.sess = e.sess) ∧
        s.waiting = [] ∧ ∀ st, s.occ st = none) := by
  refine ⟨by simpa using hI.iter, hI.hist_sorted, fun hn => ?_⟩
  rw [Nat.zero_add, Nat.min_eq_right hn] at hI
  have hp : c.pending = [] := by
    by_contra h
    exact absurd ((pendingG_ne_nil_iff hq hI).1 h) (lt_irrefl _)
  have hall := hist_complete_at_horizon hI
  exact ⟨hp, hI.resolve, hall, all_gone_at_end hgood hall⟩

/-- the clauses of `place_unique`, `no_wait_while_free`, `fifo_admission` and `never_charged_counts`
    that the `_properties` theorems spell out -/
theorem good_properties {s : Net} {hist : List Event} (hgood : Good s hist) :
    (∀ st st' x, s.occ st = some x → s.occ st' = some x → st = st') ∧
      s.waiting.Nodup ∧
      (∀ x, x ∈ s.waiting → ∀ st, s.occ st ≠ some x) ∧
      (∀ x, Present s x → x ∈ s.waiting ∨ ∃ st ∈ s.stations, s.occ st = some x) ∧
      (s.waiting ≠ [] → s.free = []) ∧
      s.waiting = s.arrivals.filter s.waits ∧
      s.neverCharged = s.arrivals.countP (fun x => (s.ev x).departed && !(s.ev x).plugged) := by
  obtain ⟨hpu1, hpu2, hpu3, -⟩ := place_unique hgood
  refine ⟨hpu2, hpu3, fun x hx => hgood.1.occ_ne_of_mem_waiting hx, ?_, no_wait_while_free hgood,
    (fifo_admission hgood).1, (never_charged_counts hgood).1⟩
  · intro x hx
    rcases hpu1 x hx with ⟨h1, _⟩ | ⟨_, st, hm, ho, _⟩
    · exact Or.inl h1
    · exact Or.inr ⟨st, hm, ho⟩

/-! ### end to end: the whole run loop, real heap tie order, stochastic network -/

open Acn.EventCore in
/-- `end_to_end` for every run loop whose state carries the stochastic network (`Hosts`, at `π`) and
    whose scheduler / pilot stages do not raise: `end_to_end` is the loop on the network alone,
    `end_to_end_ledger_partial` the loop with a ledger next to it -/
theorem end_to_end_host {σ : Type} {π : σ → Net} {cs : Nat → Nat} {net : NetOps σ}
    {post : Nat → σ → σ × Option EventCore.Err} (h : Hosts π cs net post) (cfg : Cfg) (hq : ValidQ cfg)
    (hst : cfg.stations.Nodup) (early : Bool) {sched apply : CoreG σ → Option EventCore.Err}
    (hs : ∀ g, sched g = none) (ha : ∀ g, apply g = none) (n : Nat) (s0 : σ) (h0 : π s0 = net0 cfg early) :
    ∃ g, runGP heapQ net post cfg sched apply n (initG heapQ cfg s0) = (g, none) ∧
      g.core.iter = min n (EventCore.horizon cfg) ∧
      Good (π g.net) g.core.eventHist ∧
      g.core.eventHist.Pairwise (fun a b => a.keyLe b = true) ∧
      (EventCore.horizon cfg ≤ n →
        g.core.pending = [] ∧ g.core.resolve = false ∧
        (∀ e ∈ g.core.eventHist, e.kind = .plugin →
          ∃ u ∈ g.core.eventHist, u.kind = .unplug ∧ u.sess = e.sess) ∧
        (π g.net).waiting = [] ∧ ∀ st, (π g.net).occ st = none) := by
  obtain ⟨hi, g0⟩ := initG_inv (σ := σ) hq heapQ_ok s0
  obtain ⟨g, hr, hI, hP⟩ := runGP_spec hq heapQ_ok (h.noFail cfg hq early) hs ha n 0 (initG heapQ cfg s0) hi g0
    (by show LoopInv cfg early [] (π s0); rw [h0]; exact loopInv_init cfg hst early) (Nat.zero_le _)
  have hgood : Good (π g.net) g.core.eventHist := ⟨hP.inv, hP.track⟩
  obtain ⟨h1, h2, h3⟩ := loop_head hq hI hgood
  exact ⟨g, hr, h1, hgood, h2, h3⟩

open Acn.EventCore in
/-- END TO END.  For every scenario with distinct session ids and `0 ≤ arrival < departure`
    (`ValidQ`: no pre-assigned-station clauses), duplicate-free stations, every choice stream
    `cs`, every `fully_charged` input, early departure on or off, any scheduler / pilot
    application that does not raise: the run loop of `Simulator.run` — `EventCore.runG` with
    CPython's array heap `heapQ` (the REAL order among equal-key events) and the StochasticNetwork
    model, `post_charging_update` once per period (`runGP`) — after ANY number `n` of iterations
    (i.e. at every loop head, and at the end)
      * has raised nothing; the iteration counter is `min n horizon`;
      * the network state is `Good` for the `event_history` so far, so `place_unique`,
        `no_wait_while_free`, `fifo_admission`, `waiting_iff_station_none`,
        `never_charged_counts`, `stale_unplug_noop` apply verbatim (spelled out in
        `end_to_end_properties`); the history is key-sorted;
      * once `n ≥ horizon`: the queue is empty, the loop has stopped at `horizon`, every
        plugged-in session has been unplugged, nobody waits and no station is occupied. -/
theorem end_to_end (cfg : Cfg) (hq : ValidQ cfg) (hst : cfg.stations.Nodup) (early : Bool)
    (cs : Nat → Nat) (full : Nat → Sess → Bool) {sched apply : CoreG Net → Option EventCore.Err}
    (hs : ∀ g, sched g = none) (ha : ∀ g, apply g = none) (n : Nat) :
    ∃ g, runGP heapQ (stochasticNet cs) (stochasticPost full) cfg sched apply n
        (initG heapQ cfg (net0 cfg early)) = (g, none) ∧
      g.core.iter = min n (EventCore.horizon cfg) ∧
      Good g.net g.core.eventHist ∧
      g.core.eventHist.Pairwise (fun a b => a.keyLe b = true) ∧
      (EventCore.horizon cfg ≤ n →
        g.core.pending = [] ∧ g.core.resolve = false ∧
        (∀ e ∈ g.core.eventHist, e.kind = .plugin →
          ∃ u ∈ g.core.eventHist, u.kind = .unplug ∧ u.sess = e.sess) ∧
        g.net.waiting = [] ∧ ∀ st, g.net.occ st = none) := by
  exact end_to_end_host (hosts_id cs full) cfg hq hst early hs ha n _ rfl

open Acn.EventCore in
/-- the C19 conclusions at every loop head of the composed run loop, spelled out -/
theorem end_to_end_properties (cfg : Cfg) (hq : ValidQ cfg) (hst : cfg.stations.Nodup) (early : Bool)
    (cs : Nat → Nat) (full : Nat → Sess → Bool) {sched apply : CoreG Net → Option EventCore.Err}
    (hs : ∀ g, sched g = none) (ha : ∀ g, apply g = none) (n : Nat) :
    ∃ g, runGP heapQ (stochasticNet cs) (stochasticPost full) cfg sched apply n
        (initG heapQ cfg (net0 cfg early)) = (g, none) ∧
      -- no station holds an EV that is elsewhere; nobody queued twice; nobody queued AND plugged
      (∀ st st' x, g.net.occ st = some x → g.net.occ st' = some x → st = st') ∧
      g.net.waiting.Nodup ∧
      (∀ x, x ∈ g.net.waiting → ∀ st, g.net.occ st ≠ some x) ∧
      -- every present EV is somewhere
      (∀ x, Present g.net x → x ∈ g.net.waiting ∨ ∃ st ∈ g.net.stations, g.net.occ st = some x) ∧
      -- nobody waits while a station is free; the queue is in arrival order
      (g.net.waiting ≠ [] → g.net.free = []) ∧
      g.net.waiting = g.net.arrivals.filter g.net.waits ∧
      -- the counter counts the EVs that departed without ever being attached
      g.net.neverCharged =
        g.net.arrivals.countP (fun x => (g.net.ev x).departed && !(g.net.ev x).plugged) := by
  obtain ⟨g, hr, _, hgood, _, _⟩ := end_to_end cfg hq hst early cs full hs ha n
  exact ⟨g, hr, good_properties hgood⟩

/-
  `end_to_end` with `fully_charged` COMPUTED inside the loop instead of supplied: the charging stage of
  every period is ANY function `led.charge t net ledger` of the period, of who is plugged where, and
  of the ledger so far (any scheduler, any pilots, any battery law), and `fully_charged` is read off
  the ledger (`led.full`); e.g. `energyLedger requested rate eps`: delivered energy per session, full
  when `requested - delivered ≤ eps` (ev.py:100-112).  The driver `loop_ledger` runs this loop.
  "Partial": a `Ledger` cannot raise and does not see `_resolve`, so it cannot express the scheduler
  stage of the real loop; the statement for the full simulator model (`AcnModel/SimStochastic.lean`,
  mutating and possibly raising scheduler / apply stages) is `end_to_end_sim`.
-/
open Acn.EventCore in
theorem end_to_end_ledger_partial {L : Type} (led : Ledger L) (l0 : L) (cfg : Cfg) (hq : ValidQ cfg)
    (hst : cfg.stations.Nodup) (early : Bool) (cs : Nat → Nat)
    {sched apply : CoreG (Net × L) → Option EventCore.Err}
    (hs : ∀ g, sched g = none) (ha : ∀ g, apply g = none) (n : Nat) :
    ∃ g, runGP heapQ (stochasticNetL cs) (stochasticPostL led) cfg sched apply n
        (initG heapQ cfg (net0 cfg early, l0)) = (g, none) ∧
      g.core.iter = min n (EventCore.horizon cfg) ∧
      Good g.net.1 g.core.eventHist ∧
      g.core.eventHist.Pairwise (fun a b => a.keyLe b = true) ∧
      (EventCore.horizon cfg ≤ n →
        g.core.pending = [] ∧ g.core.resolve = false ∧
        (∀ e ∈ g.core.eventHist, e.kind = .plugin →
          ∃ u ∈ g.core.eventHist, u.kind = .unplug ∧ u.sess = e.sess) ∧
        g.net.1.waiting = [] ∧ ∀ st, g.net.1.occ st = none) := by
  exact end_to_end_host (hosts_ledger cs led) cfg hq hst early hs ha n _ rfl

/-- a concrete ledger: requests in ℚ, a constant 0.55 kWh per period for whoever is plugged in -/
example : Ledger (Sess → Rat) :=
  energyLedger (fun x => if x = "a" then (3 : Rat) / 10 else 60) (fun _ _ _ _ => (11 : Rat) / 20)
    ((1 : Rat) / 1000)

/-- the hypotheses are satisfiable: three overlapping sessions, all pre-assigned to the one station -/
example : EventCore.ValidQ
    { stations := ["S0"], sessions := [⟨"a", "S0", 0, 4⟩, ⟨"b", "S0", 1, 3⟩, ⟨"c", "S0", 1, 4⟩],
      recomputes := [(1, "r0")], maxRecompute := none } := by
  decide +kernel

/-! ### end to end, FULL simulator: pilots, EVSEs, batteries, energies on the stochastic network -/

section sim
variable {K : Type} [Add K] [Sub K] [Mul K] [Div K] [Neg K] [LT K] [LE K]
  [DecidableLT K] [DecidableLE K] [OfNat K 0] [OfNat K 1] [NatCast K] [HasExp K]

open Acn.EventCore in
/-- END TO END, FULL SIMULATOR.  `SimSt.run` is `Simulator.run` with a `StochasticNetwork`: the loop
    `EventCore.runGM` with CPython's heap, the scheduler stage and the apply stage of `Acn.Sim`
    themselves (`Sim.schedStage`; `Sim.applyStage` = `_increase_width`, `update_pilots` over the
    stations in order with the EV that the stochastic network has plugged in THERE,
    `_store_actual_charging_rates`),
    `EVSE.unplug` resetting the pilot, and `post_charging_update` with `EV.fully_charged` COMPUTED from
    the energy the model itself has delivered (`SimSt.fullOf`, threshold `cfg.fullEps`).
    For EVERY configuration with distinct session ids, `0 ≤ arrival < departure` (`ValidQ`) and
    duplicate-free station ids — any EVSE kinds, voltages, batteries (ideal / two-stage, any noise
    stream), requests, period, tolerances, over any carrier `K` —, every choice stream `cs`, early
    departure on or off, EVERY scheduler `sched` (it may look at the whole `View`, return anything,
    raise), after ANY number `n` of iterations:
      * the network state is `Good` for the `event_history` so far (so `place_unique`,
        `no_wait_while_free`, `fifo_admission`, `waiting_iff_station_none`, `never_charged_counts`,
        `stale_unplug_noop` apply; spelled out in `end_to_end_sim_properties`) — also in the state a
        raising run leaves behind;
      * if nothing was raised (`r = none`): the iteration counter is `min n horizon`, the history is
        key-sorted, and once `n ≥ horizon` the queue is empty, the loop has stopped at `horizon`, every
        plugged-in session has been unplugged, nobody waits and no station is occupied;
      * if something was raised, it was raised by the scheduler stage or by the apply stage (a failing
        scheduler, an invalid schedule, `InvalidRateError`, a battery guard) before the horizon —
        NEVER by the network: no `KeyError` from `unplug`, no `StationOccupiedError`, whatever the
        energies make `fully_charged` say. -/
theorem end_to_end_sim (cfg : Sim.Cfg K) (hq : ValidQ cfg.core) (hst : (cfg.stations.map (·.id)).Nodup)
    (early : Bool) (cs : Nat → Nat) (sched : Sim.View K → Except EventCore.Err (Sim.Schedule K)) (n : Nat) :
    ∃ g r, SimSt.run cs cfg sched n (SimSt.init cfg early) = (g, r) ∧
      Good g.net.1 g.core.eventHist ∧
      (r = none →
        g.core.iter = min n (EventCore.horizon cfg.core) ∧
        g.core.eventHist.Pairwise (fun a b => a.keyLe b = true) ∧
        (EventCore.horizon cfg.core ≤ n →
          g.core.pending = [] ∧ g.core.resolve = false ∧
          (∀ e ∈ g.core.eventHist, e.kind = .plugin →
            ∃ u ∈ g.core.eventHist, u.kind = .unplug ∧ u.sess = e.sess) ∧
          g.net.1.waiting = [] ∧ ∀ st, g.net.1.occ st = none)) ∧
      (∀ e, r = some e → g.core.iter < min n (EventCore.horizon cfg.core) ∧
        (RaisedBy (SimSt.schedS cfg sched) e ∨ RaisedBy (SimSt.applyS cfg) e)) := by
  obtain ⟨h0, g0⟩ := initG_inv (σ := SimSt.St K) hq heapQ_ok (net0 cfg.core early, SimSt.numOf (Sim.init cfg))
  obtain ⟨g, r, hr, hP, hI, hE⟩ := runGM_spec hq heapQ_ok ((SimSt.hosts_sim cs cfg).noFail cfg.core hq early)
    (SimSt.schedS_keeps cfg sched (LoopInv cfg.core early)) (SimSt.applyS_keeps cfg (LoopInv cfg.core early)) n 0
    (SimSt.init cfg early) h0 g0 (loopInv_init cfg.core hst early) (Nat.zero_le _)
  have hgood : Good g.net.1 g.core.eventHist := ⟨hP.inv, hP.track⟩
  exact ⟨g, r, hr, hgood, fun hn => loop_head hq (hI hn) hgood, fun e he => by simpa using hE e he⟩

/-- the C19 conclusions in every state the full simulator reaches (every loop head, and the state
    in which a raising scheduler / pilot stage stops the run), spelled out -/
theorem end_to_end_sim_properties (cfg : Sim.Cfg K) (hq : EventCore.ValidQ cfg.core)
    (hst : (cfg.stations.map (·.id)).Nodup) (early : Bool) (cs : Nat → Nat)
    (sched : Sim.View K → Except EventCore.Err (Sim.Schedule K)) (n : Nat) :
    ∃ g r, SimSt.run cs cfg sched n (SimSt.init cfg early) = (g, r) ∧
      (∀ st st' x, g.net.1.occ st = some x → g.net.1.occ st' = some x → st = st') ∧
      g.net.1.waiting.Nodup ∧
      (∀ x, x ∈ g.net.1.waiting → ∀ st, g.net.1.occ st ≠ some x) ∧
      (∀ x, Present g.net.1 x → x ∈ g.net.1.waiting ∨ ∃ st ∈ g.net.1.stations, g.net.1.occ st = some x) ∧
      (g.net.1.waiting ≠ [] → g.net.1.free = []) ∧
      g.net.1.waiting = g.net.1.arrivals.filter g.net.1.waits ∧
      g.net.1.neverCharged =
        g.net.1.arrivals.countP (fun x => (g.net.1.ev x).departed && !(g.net.1.ev x).plugged) := by
  obtain ⟨g, r, hr, hgood, _, _⟩ := end_to_end_sim cfg hq hst early cs sched n
  exact ⟨g, r, hr, good_properties hgood⟩

end sim

/-! ### the energy ledger of the stochastic run (C02's invariant on top of C19's) -/

section simenergy
variable {K : Type} [Field K] [LinearOrder K] [IsStrictOrderedRing K] [HasExp K]

open Acn.EventCore Acn.Ledger in
/-- ENERGY LEDGER of the full simulator on the stochastic network.  Over any linear ordered field,
    for every configuration as in `end_to_end_sim`, every choice stream, early departure on or off,
    every scheduler, after any number of iterations that raised nothing: with `occLog[τ][i]` the
    session the stochastic network had plugged in at station `i` while period `τ` was charged
    (written by `Sim.applyStage` from the network's occupancy),
      * every EV's delivered energy is Σ over the periods `τ < iteration` and the stations `i` WHERE
        IT SAT (wherever the random draws / the FIFO swaps put it, possibly nowhere: a waiting EV
        gets nothing) of `charging_rates[i, τ] · V_i / 1000 · period / 60`, and its battery gained
        exactly that;
      * a station that was vacant in period `τ` has `charging_rates[i, τ] = 0`; columns not yet
        simulated are 0; `peak` is the running maximum of the aggregate current. -/
theorem end_to_end_sim_energy (cfg : Sim.Cfg K) (hq : ValidQ cfg.core)
    (hst : (cfg.stations.map (·.id)).Nodup) (early : Bool) (cs : Nat → Nat)
    (sched : Sim.View K → Except EventCore.Err (Sim.Schedule K)) (n : Nat) :
    ∃ g r, SimSt.run cs cfg sched n (SimSt.init cfg early) = (g, r) ∧
      (r = none →
        g.net.2.occLog.length = g.core.iter ∧
        (∀ id e0 e, evIn cfg.evs id = some e0 → SimSt.evOf g id = some e →
          e.delivered - e0.delivered = sessionEnergy cfg g.net.2.rates g.net.2.occLog id g.core.iter ∧
          e.batt.charge - e0.batt.charge = e.delivered - e0.delivered) ∧
        (∀ τ i, τ < g.core.iter → i < cfg.stations.length → occAt g.net.2.occLog τ i = none →
          g.net.2.rates.get i τ = 0) ∧
        (∀ τ i, g.core.iter ≤ τ → g.net.2.rates.get i τ = 0) ∧
        g.net.2.peak = peakUpTo g.net.2.rates cfg.stations.length g.core.iter) := by
  obtain ⟨h0, g0⟩ := initG_inv (σ := SimSt.St K) hq heapQ_ok (net0 cfg.core early, SimSt.numOf (Sim.init cfg))
  obtain ⟨g, r, hr, _, hI, _⟩ := runGM_specJ hq heapQ_ok ((SimSt.hosts_sim cs cfg).noFail cfg.core hq early)
    (SimSt.schedS_keeps cfg sched (LoopInv cfg.core early)) (SimSt.applyS_keeps cfg (LoopInv cfg.core early))
    (SimSt.ledger_keepsJ cfg hst cs sched early) n 0
    (SimSt.init cfg early) h0 g0 (loopInv_init cfg.core hst early) (SimSt.ledgerJ_init cfg early) (Nat.zero_le _)
  refine ⟨g, r, hr, fun hn => ?_⟩
  have hL : LedgerQ cfg g.core.iter g.net.2.rates g.net.2.peak g.net.2.evs g.net.2.occLog := (hI hn).2
  exact ⟨hL.log_len, fun id e0 e h0 he => ⟨hL.sess id e0 e h0 he, (hL.gain id e0 e h0 he).symm⟩,
    hL.vacant, hL.future, hL.peak_eq⟩

end simenergy

section simex
local instance : HasExp ℚ := ⟨fun x => x⟩

/-- one station (1000 V, 60-minute periods, so 1 A for one period is 1 kWh), three overlapping
    sessions all carrying the station id "S0": `a` asks for 3 kWh and may draw 7 A, `b` leaves while it
    is still waiting, `c` takes over from `a` -/
def exSimCfg : Sim.Cfg ℚ :=
  { stations := [⟨"S0", .cont 0 (some 32), 1000⟩],
    evs := [{ session := "a", station := "S0", arrival := 0, departure := 4, estDeparture := 4, requested := 3,
              delivered := 0, rate := 0, batt := ⟨40, 5, 5, 7, 0, false, 0, 0, .continuous⟩ },
            { session := "b", station := "S0", arrival := 1, departure := 2, estDeparture := 2, requested := 9,
              delivered := 0, rate := 0, batt := ⟨10, 8, 8, 7, 0, false, 0, 0, .continuous⟩ },
            { session := "c", station := "S0", arrival := 1, departure := 4, estDeparture := 4, requested := 5,
              delivered := 0, rate := 0, batt := ⟨20, 2, 2, 4, 0, false, 0, 0, .continuous⟩ }],
    recomputes := [(1, "r0")], maxRecompute := some 1, period := 60, atolCont := 1 / 1000,
    atolDeadband := 1 / 1000, atolFinite := 1 / 1000, fullEps := 1 / 1000, noise := [] }

/-- 16 A for every active session, at the station where it sits NOW -/
def exSimSched : Sim.View ℚ → Except EventCore.Err (Sim.Schedule ℚ) :=
  fun v => .ok (v.active.map fun e => (e.station, [16]))

/-- the hypotheses of `end_to_end_sim` hold for it -/
example : EventCore.ValidQ exSimCfg.core ∧ (exSimCfg.stations.map (·.id)).Nodup := by
  decide +kernel

/-- the run of `end_to_end_sim` on `exSimCfg` is not trivial: with early departure, `a` has its 3 kWh
    after period 0 (`fully_charged` computed: 3 - 7 ≤ 1/1000) but stays, because nobody waits; in
    period 1 `c` and `b` arrive (in the heap's order) and queue, `a` — no longer scheduled, 0 A — is
    unplugged early and `c` (FIFO) gets the station; `b` departs at 2 from the queue (never charged);
    the later unplug event of `a` is stale; nothing is raised, the loop stops at the horizon 5 with
    the site empty; the energies are the ones the batteries accept (7, 0, 4 + 4 kWh) -/
example :
    (SimSt.run (fun _ => 0) exSimCfg exSimSched 9 (SimSt.init exSimCfg true)).2 = none ∧
    (SimSt.run (fun _ => 0) exSimCfg exSimSched 9 (SimSt.init exSimCfg true)).1.core.iter = 5 ∧
    (SimSt.run (fun _ => 0) exSimCfg exSimSched 2 (SimSt.init exSimCfg true)).1.net.1.occ "S0" = some "c" ∧
    (SimSt.run (fun _ => 0) exSimCfg exSimSched 2 (SimSt.init exSimCfg true)).1.net.1.waiting = ["b"] ∧
    (SimSt.run (fun _ => 0) exSimCfg exSimSched 9 (SimSt.init exSimCfg true)).1.net.1.earlyUnplug = 1 ∧
    (SimSt.run (fun _ => 0) exSimCfg exSimSched 9 (SimSt.init exSimCfg true)).1.net.1.swaps = 1 ∧
    (SimSt.run (fun _ => 0) exSimCfg exSimSched 9 (SimSt.init exSimCfg true)).1.net.1.neverCharged = 1 ∧
    (SimSt.run (fun _ => 0) exSimCfg exSimSched 9 (SimSt.init exSimCfg true)).1.net.2.evs.map (·.delivered)
      = [7, 0, 8] ∧
    (SimSt.run (fun _ => 0) exSimCfg exSimSched 9 (SimSt.init exSimCfg true)).1.net.2.pilots.rows
      = [[16, 0, 16, 16, 0]] ∧
    (SimSt.run (fun _ => 0) exSimCfg exSimSched 9 (SimSt.init exSimCfg true)).1.net.2.rates.rows
      = [[7, 0, 4, 4, 0]] ∧
    -- the occupancy log `end_to_end_sim_energy` sums over: `a` sat on S0 in periods 0-1, `c` in 2-3
    (SimSt.run (fun _ => 0) exSimCfg exSimSched 9 (SimSt.init exSimCfg true)).1.net.2.occLog
      = [[some "a"], [some "a"], [some "c"], [some "c"], [none]] := by
  decide +kernel

/-- a raising scheduler stops the run in the period where it raises, with the network as it was -/
example :
    (SimSt.run (fun _ => 0) exSimCfg
      (fun v => if v.iter = 1 then .error .schedulerFailed else exSimSched v) 9 (SimSt.init exSimCfg true)).2
        = some .schedulerFailed ∧
    (SimSt.run (fun _ => 0) exSimCfg
      (fun v => if v.iter = 1 then .error .schedulerFailed else exSimSched v) 9 (SimSt.init exSimCfg true)).1.net.1.waiting
        = ["c", "b"] := by
  decide +kernel

end simex

end Acn.C19
