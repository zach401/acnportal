/-
  C08 — one algorithm object, several networks.

  The modelled algorithms are FUNCTIONS of what one `schedule()` call is handed: the infrastructure view
  (`infra`, and the feasibility predicate `feas` of the constraint view), the sessions, the period / time
  and the estimator's answer (the estimator's state is the estimator's, an input).  They have no memory:
  a modelled algorithm that has served any list of earlier uses — other networks with the same station
  ids, other EVSE classes, maximum pilots, voltages, constraints, sessions — answers the next use exactly
  as if it had never been used.  This is why the harness models the last use of a multi-network case by
  an independent model call, and every clause of `AcnProofs/C08.lean` / `C08Est.lean` applies to it
  with THAT use's infrastructure.  (The implementation is held to this by the check: `_gen_multi` in
  `harness/props/C08.py`.)
-/
import AcnProofs.C08Est

set_option linter.unusedSectionVars false

namespace Acn.C08
open Acn Acn.Sorted

variable {K : Type} [Field K] [LinearOrder K] [IsStrictOrderedRing K]

/-- everything one use of an algorithm object is handed -/
structure Use (K : Type) where
  feas : List K → Bool
  infra : Infra K
  period : K
  time : Int
  est : List (Session K) → Session K → Option K
  raw : List (Session K)

def serve [HasCeilNat K] (cfg : Config K) (u : Use K) : OutcomeE K :=
  scheduleCallEst u.feas cfg u.infra u.period u.time u.est u.raw

def serveUncontrolled (u : Use K) : Except Sorted.Err (List (String × List K)) :=
  (resolve u.infra u.raw).map (uncontrolled u.infra)

/-- `no_memory_across_networks`: after ANY earlier uses, the answer to the use `u` is that of a first use. -/
theorem no_memory_across_networks [HasCeilNat K] (cfg : Config K) (earlier : List (Use K)) (u : Use K) :
    ((earlier ++ [u]).map (serve cfg)).getLast? = some (serve cfg u) ∧
    ((earlier ++ [u]).map serveUncontrolled).getLast? = some (serveUncontrolled u) := by
  simp

end Acn.C08
