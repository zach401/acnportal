/-
  C01 — the other legitimate ways of putting the queue and the simulator together
  (model `AcnModel/SimAssemble.lean`, lemmas `AcnProofs/Lemmas/EventCoreAssemble.lean`).

  The theorems of `AcnProofs/C01.lean` start from `initQ`: every event is in the queue when the `Simulator` is
  constructed, inserted in the order `initPending`.  Here: the queue may hold ANY part `first` of the events at
  construction (nothing: `first = []`), the rest `later` is added to the same queue object afterwards, both in any
  order (`(first ++ later).Perm (initPending cfg)`), and `run()` may be called again any number of times on the
  finished simulator.  C01 holds unchanged, for every queue implementation meeting C11's specification and in
  particular for CPython's array heap.

  NOT proved (covered by the correspondence only): batches handed over between two `run()` calls.
-/
import AcnProofs.C01
import AcnProofs.Lemmas.EventCoreAssemble

namespace Acn.C01
open Acn Acn.EventCore

/-- `run_terminates_any_queue` for a simulator assembled in any way before `run()`: constructed on a queue
    holding `first`, `later` added afterwards; any split, any insertion order -/
theorem run_terminates_assembled {cfg : Cfg} (hv : Valid cfg) {ops : QOps} {good : List Event → Prop}
    (hq : ops.Ok good) {sched apply : Core → Option Err} (hs : ∀ c, sched c = none)
    (ha : ∀ c, apply c = none) {first later : List Event} (hp : (first ++ later).Perm (initPending cfg))
    (n : Nat) (hn : horizon cfg ≤ n) :
    ∃ c, runQ ops cfg sched apply n (assembled ops cfg first later) = (c, none) ∧ c.pending = [] ∧
      c.resolve = false ∧ c.iter = horizon cfg ∧ Inv cfg (horizon cfg) c := by
  obtain ⟨h0, g0⟩ := assembled_inv hv hq hp
  exact runQ_terminates hv hq hs ha h0 g0 n hn

/-- queue empty at construction, everything added afterwards, in reverse order, on the real heap -/
example : ∃ c, runQ heapQ cfg0 noFail noFail 50 (assembled heapQ cfg0 [] (initPending cfg0).reverse) = (c, none) ∧
    c.pending = [] ∧ c.iter = 9 := by
  obtain ⟨c, h1, h2, _, h4, _⟩ := run_terminates_assembled cfg0_valid heapQ_ok (sched := noFail) (apply := noFail)
    (fun _ => rfl) (fun _ => rfl) (first := []) (later := (initPending cfg0).reverse)
    (by simp) 50 (by decide)
  exact ⟨c, h1, h2, by rw [h4]; decide⟩

section sim
variable {K : Type} [Add K] [Sub K] [Mul K] [Div K] [Neg K] [LT K] [LE K]
  [DecidableLT K] [DecidableLE K] [OfNat K 0] [OfNat K 1] [NatCast K] [HasExp K]

/-- C01 for the full model over CPython's array heap, assembled in any way (what the C01 driver executes for a
    request with an `assembly` field whose later stages are empty): constructor on a queue holding `first`
    (the matrices get THAT width), `later` added before `run()`, then `k` further `run()` calls on the finished
    simulator.  If nothing raises: the first `run()` ends after `horizon` periods with the queue empty, every
    station vacant, one plug-in (at arrival) and one unplug (at departure) per session, history key-sorted —
    and the further calls change nothing. -/
theorem sim_assembled_heap_C01 (cfg : Sim.Cfg K) (sched : Sim.View K → Except Err (Sim.Schedule K))
    (hv : Valid cfg.core) {first later : List Event} (hp : (first ++ later).Perm (initPending cfg.core))
    (n : Nat) (hn : horizon cfg.core ≤ n) (k : Nat)
    (h : (Sim.runStages heapQ cfg sched n (later :: List.replicate k []) (Sim.initOn heapQ cfg first)).2 = none) :
    Sim.runStages heapQ cfg sched n (later :: List.replicate k []) (Sim.initOn heapQ cfg first) =
      Sim.runQ heapQ cfg sched n (Sim.addEvents heapQ later (Sim.initOn heapQ cfg first)) ∧
    let c := (Sim.runStages heapQ cfg sched n (later :: List.replicate k []) (Sim.initOn heapQ cfg first)).1.core
    c.pending = [] ∧ c.iter = horizon cfg.core ∧ (∀ st, c.occ st = none) ∧
    (∀ x ∈ cfg.core.sessions,
      c.eventHist.filter (fun e => e.kind == .plugin && e.sess == x.id) = [plugEv x] ∧
      c.eventHist.filter (fun e => e.kind == .unplug && e.sess == x.id) = [unplugEv x]) ∧
    c.eventHist.Pairwise (fun a b => a.keyLe b = true) := by
  rcases hr : Sim.runQ heapQ cfg sched n (Sim.addEvents heapQ later (Sim.initOn heapQ cfg first)) with ⟨s1, _ | e⟩
  · have h1 : (Sim.runQ heapQ cfg sched n (Sim.addEvents heapQ later (Sim.initOn heapQ cfg first))).2 = none := by
      rw [hr]
    have hproj := Sim.runQ_core heapQ cfg sched n _ h1
    rw [Sim.addEvents_initOn_core, hr] at hproj
    obtain ⟨c', hr', hpe, hres, hi, hI⟩ := run_terminates_assembled hv heapQ_ok (sched := noFail) (apply := noFail)
      (fun _ => rfl) (fun _ => rfl) hp n hn
    rw [hr'] at hproj
    have hc : c' = s1.core := congrArg Prod.fst hproj
    subst hc
    have hg : EventCore.guard s1.core = false := by simp [EventCore.guard, hpe, hres]
    have hst : Sim.runStages heapQ cfg sched n (later :: List.replicate k []) (Sim.initOn heapQ cfg first) =
        (s1, none) := by
      simp only [Sim.runStages, hr]
      exact Sim.runStages_replicate_nil heapQ cfg sched n hg k
    rw [hst]
    exact ⟨rfl, hpe, hi, all_vacant_at_end hI,
      fun x hx => ⟨plugged_once hv hI x hx, unplugged_once hv hI x hx⟩, history_sorted hI⟩
  · exfalso
    simp [Sim.runStages, hr] at h

end sim

section simex
local instance : HasExp ℚ := ⟨fun x => x⟩

/-- stations A and B; x on A during [0,2), y on A during [2,3) (back-to-back reuse), z on B during [1,3), a
    recompute event in period 2 -/
def asmCfg : Sim.Cfg ℚ :=
  { stations := [⟨"A", .cont 0 (some 32), 208⟩, ⟨"B", .finite [0, 8, 16], 240⟩],
    evs := [{ session := "x", station := "A", arrival := 0, departure := 2, estDeparture := 2, requested := 3,
              delivered := 0, rate := 0, batt := ⟨40, 5, 5, 7, 0, false, 0, 0, .continuous⟩ },
            { session := "y", station := "A", arrival := 2, departure := 3, estDeparture := 3, requested := 9,
              delivered := 0, rate := 0, batt := ⟨10, 8, 8, 7, 0, false, 0, 0, .continuous⟩ },
            { session := "z", station := "B", arrival := 1, departure := 3, estDeparture := 3, requested := 5,
              delivered := 0, rate := 0, batt := ⟨20, 2, 2, 4, 0, false, 0, 0, .continuous⟩ }],
    recomputes := [(2, "r0")], maxRecompute := some 1, period := 5, atolCont := 1 / 1000, atolDeadband := 1 / 1000,
    atolFinite := 1 / 1000, fullEps := 1 / 1000, noise := [] }

def asmSched : Sim.View ℚ → Except Err (Sim.Schedule ℚ) := fun _ => .ok [("A", [16, 16]), ("B", [8, 8])]

/-- the hypotheses of `sim_assembled_heap_C01` are satisfiable: the queue holds only z's plug-in at construction
    (matrices of width 2), the other three events are added afterwards in reverse order, `run()` is called three
    times; nothing raises, and the run ends after period 3 -/
example : Valid asmCfg.core ∧
    ([plugEv ⟨"z", "B", 1, 3⟩] ++ [recEv (2, "r0"), plugEv ⟨"y", "A", 2, 3⟩, plugEv ⟨"x", "A", 0, 2⟩]).Perm
      (initPending asmCfg.core) ∧
    (Sim.initOn heapQ asmCfg [plugEv ⟨"z", "B", 1, 3⟩]).pilots.width = 2 ∧
    (Sim.runStages heapQ asmCfg asmSched 10
      ([recEv (2, "r0"), plugEv ⟨"y", "A", 2, 3⟩, plugEv ⟨"x", "A", 0, 2⟩] :: List.replicate 2 [])
      (Sim.initOn heapQ asmCfg [plugEv ⟨"z", "B", 1, 3⟩])).2 = none ∧
    (Sim.runStages heapQ asmCfg asmSched 10
      ([recEv (2, "r0"), plugEv ⟨"y", "A", 2, 3⟩, plugEv ⟨"x", "A", 0, 2⟩] :: List.replicate 2 [])
      (Sim.initOn heapQ asmCfg [plugEv ⟨"z", "B", 1, 3⟩])).1.core.iter = 4 := by
  decide +kernel

end simex

end Acn.C01
