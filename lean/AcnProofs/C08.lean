/-
  C08 — priority allocation: greedy grants each session, in priority order, the maximum feasible
  rate given earlier grants; round robin stops incrementing a session only when blocked; the sort
  orders are what they claim.

  Helpers: `Lemmas/SortedBasic|Greedy|RR|RRTerm|Opt.lean`, `Lemmas/FeasConvex.lean`; `dictSet` and
  `uncontrolled` are the assignment and the comprehension of `Lemmas/Assoc` (`dictSet_eq`,
  `uncontrolled_eq`).  Carrier: any linear ordered field; `feas` is an arbitrary predicate except where
  `IntervalFeasible` is assumed.
-/
import AcnProofs.Lemmas.SortedGreedy
import AcnProofs.Lemmas.SortedRR
import AcnProofs.Lemmas.SortedRRTerm
import AcnProofs.Lemmas.SortedOpt
import AcnProofs.Lemmas.FeasConvex
import AcnModel.Gen.Consts

set_option linter.unusedSectionVars false

namespace Acn.C08
open Acn Acn.Sorted

variable {K : Type} [Field K] [LinearOrder K] [IsStrictOrderedRing K]

/-- obligations on the regenerated constants: the bisection tolerance passed by
    `sorting_algorithm` and the default round-robin increment are positive -/
theorem gen_eps : (0 : Rat) < Acn.Gen.greedyEps ∧ (0 : Rat) < Acn.Gen.rrIncDefault := by
  decide +kernel

/-- `sorted_by_key` (full): for each of the five keys the queue is (i) a permutation of the input,
    (ii) ordered by the key — ascending for fcfs / edf / llf, descending for lcfs / lrpt, see the
    `example` below — and (iii) STABLE: the sessions sharing the key of any session `a` appear in
    their input order, also for the two reverse orders (Python's `reverse=True` keeps stability,
    and that is what the model implements).  (i)–(iii) determine the output uniquely. -/
theorem sorted_by_key (kind : SortKind) (infra : Infra K) (period : K) (time : Int)
    (l : List (Session K)) :
    (sortSessions kind infra period time l).Perm l ∧
    (sortSessions kind infra period time l).Pairwise
      (fun a b => sortLt kind infra period time b a = false) ∧
    ∀ a, (sortSessions kind infra period time l).filter (sameKey kind infra period time a) =
      l.filter (sameKey kind infra period time a) :=
  sortSessions_key kind infra period time l

/-- a concrete instance with a tied key: last-come-first-served on arrivals 1, 2, 1 (stations 0, 1, 2)
    puts the late arrival first and keeps the two tied sessions in their input order -/
example :
    ((sortSessions .lcfs (⟨[], [], [], [], [], []⟩ : Infra ℚ) 5 3
      [⟨"a", "x", 0, 1, 9, 9, 10, 0, 0, 32⟩, ⟨"b", "y", 1, 2, 9, 9, 10, 0, 0, 32⟩,
       ⟨"c", "z", 2, 1, 9, 9, 10, 0, 0, 32⟩]).map (·.idx)) = [1, 0, 2] := by
  decide +kernel

/-- what `sortLt … b a = false` means for each key: the claimed order -/
example (infra : Infra K) (period : K) (time : Int) (a b : Session K) :
    (sortLt .fcfs infra period time b a = false ↔ a.arrival ≤ b.arrival) ∧
    (sortLt .lcfs infra period time b a = false ↔ b.arrival ≤ a.arrival) ∧
    (sortLt .edf infra period time b a = false ↔ a.estDeparture ≤ b.estDeparture) ∧
    (sortLt .llf infra period time b a = false ↔
        laxity infra period time a ≤ laxity infra period time b) ∧
    (sortLt .lrpt infra period time b a = false ↔
        processingTime infra period b ≤ processingTime infra period a) := by
  simp [sortLt]

/-- `discrete_is_max`: for an ascending level list the value returned by
    `discrete_max_feasible_rate` is the LARGEST level that passes the check — every larger level
    fails — or the fallback 0 when no level passes. -/
theorem discrete_is_max (feas : List K → Bool) (sched : List K) (i : Nat) (allowable : List K) (r : K)
    (hsorted : allowable.Pairwise (· < ·))
    (h : discreteMax feas sched i allowable = .ok r) :
    (r ∈ allowable ∧ feas (sched.set i r) = true ∧
        ∀ a ∈ allowable, r < a → feas (sched.set i a) = false) ∨
    (r = 0 ∧ ∀ a ∈ allowable, feas (sched.set i a) = false) := by
  unfold discreteMax at h
  split at h <;> cases h
  exact walkDown_max feas sched i allowable hsorted

/-- `short_circuit`: if the upper bound itself is feasible, it is granted -/
theorem short_circuit (feas : List K → Bool) (fuel : Nat) (i : Nat) (ub : K) (sched : List K) (eps lb : K)
    (h0 : feas sched = true) (hub : feas (sched.set i ub) = true) :
    maxFeasibleRate feas fuel i ub sched eps lb = .ok ub := by
  unfold maxFeasibleRate
  simp [h0, hub]

/-- `bisection_within_eps`: under interval feasibility, with the incoming value `lb` feasible
    (`sched.set i lb = sched` in the loop), `ub` infeasible (else `short_circuit`), `eps > 0` and
    enough fuel (`ub − lb ≤ eps·2^fuel`, i.e. `fuel ≥ log₂((ub−lb)/eps)`), the grant `r` is feasible
    and every feasible value `x ≥ lb` of that coordinate satisfies `x < r + eps`: `r ≤ sup < r + eps`. -/
theorem bisection_within_eps (feas : List K → Bool) (fuel : Nat) (i : Nat) (ub : K) (sched : List K)
    (eps lb : K) (heps : 0 < eps) (hint : IntervalFeasible feas sched i)
    (h0 : feas sched = true) (hlb : sched.set i lb = sched) (hle : lb ≤ ub)
    (hub : feas (sched.set i ub) = false) (hfuel : ub - lb ≤ eps * 2 ^ fuel) :
    ∃ r, maxFeasibleRate feas fuel i ub sched eps lb = .ok r ∧ feas (sched.set i r) = true ∧
      lb ≤ r ∧ r ≤ ub ∧ ∀ x, lb ≤ x → feas (sched.set i x) = true → x < r + eps := by
  obtain ⟨r, h1, h2, h3, h4, _, h5⟩ :=
    maxFeasibleRate_max feas fuel i ub sched eps lb heps hint h0 hlb hle hfuel
  exact ⟨r, h1, h2, h3, h4, fun x _ hfx => h5 x (fun hc => nomatch hc.symm.trans hub) hfx⟩

/-- `feasible_set_is_interval`: the hypothesis `IntervalFeasible` holds for the phasor check the
    algorithms actually use (`algFeasible`, any matrix incl. mixed signs, any limits, unit phasors
    or not, any tolerances): each constraint is a convex quadratic in one coordinate
    (`Acn.Feas.algFeasible_interval`, owned by C06). -/
theorem feasible_set_is_interval (M : List (List K)) (lims c s : List K) (vt rt : K)
    (sched : List K) (i : Nat) :
    IntervalFeasible (Acn.Feas.algFeasible M lims c s vt rt) sched i := by
  intro x y z hxy hyz hx hz
  exact Acn.Feas.algFeasible_interval M lims c s vt rt sched i x z y hxy hyz hx hz

/-- `bisection_within_eps` for the REAL feasibility predicate (`algFeasible`: any constraint
    matrix incl. mixed signs, any limits / phasors / tolerances), with no convexity hypothesis left:
    if the current schedule is feasible and holds `lb` at station `i`, `ub ≥ lb` is infeasible,
    `eps > 0` and `ub − lb ≤ eps·2^fuel`, then `max_feasible_rate` returns a feasible `r ∈ [lb, ub]`
    and every feasible value `x ≥ lb` of that coordinate is `< r + eps`.  (What is true of the
    feasible set: it is an interval; being down-closed from `lb` needs feasibility AT `lb`, which the
    loop invariant of C07 supplies.) -/
theorem bisection_within_eps_alg (M : List (List K)) (lims c s : List K) (vt rt : K)
    (fuel : Nat) (i : Nat) (ub : K) (sched : List K) (eps lb : K) (heps : 0 < eps)
    (h0 : Acn.Feas.algFeasible M lims c s vt rt sched = true) (hlb : sched.set i lb = sched)
    (hle : lb ≤ ub) (hub : Acn.Feas.algFeasible M lims c s vt rt (sched.set i ub) = false)
    (hfuel : ub - lb ≤ eps * 2 ^ fuel) :
    ∃ r, maxFeasibleRate (Acn.Feas.algFeasible M lims c s vt rt) fuel i ub sched eps lb = .ok r ∧
      Acn.Feas.algFeasible M lims c s vt rt (sched.set i r) = true ∧ lb ≤ r ∧ r ≤ ub ∧
      ∀ x, lb ≤ x → Acn.Feas.algFeasible M lims c s vt rt (sched.set i x) = true → x < r + eps :=
  bisection_within_eps _ fuel i ub sched eps lb heps
    (feasible_set_is_interval M lims c s vt rt sched i) h0 hlb hle hub hfuel

/-- the hypotheses of `bisection_within_eps_alg` are satisfiable on a mixed-sign row
    `|x₀ − x₁| ≤ 10` (zero tolerances, phase 0): `[0, 5]` is feasible, raising station 0 to 32 is not,
    and the run returns a value within `eps` below the true maximum 15 -/
example :
    Acn.Feas.algFeasible [[1, -1]] [10] [1, 1] [0, 0] 0 0 ([0, 5] : List ℚ) = true ∧
    Acn.Feas.algFeasible [[1, -1]] [10] [1, 1] [0, 0] 0 0 (([0, 5] : List ℚ).set 0 32) = false ∧
    (match maxFeasibleRate (Acn.Feas.algFeasible [[1, -1]] [10] [1, 1] [0, 0] 0 0) 12 0 32 ([0, 5] : List ℚ)
        (1 / 100) 0 with
     | .ok r => decide (r ≤ 15) && decide (15 < r + 1 / 100)
     | .error _ => false) = true := by
  decide +kernel

/-- the hypotheses of `bisection_within_eps` are satisfiable: one coordinate, limit 7 -/
example :
    let feas : List ℚ → Bool := fun x => decide (x.getD 0 0 ≤ 7)
    IntervalFeasible feas [0] 0 ∧ feas [0] = true ∧ feas (([0] : List ℚ).set 0 32) = false ∧
      (32 : ℚ) - 0 ≤ (1 / 100) * 2 ^ 12 ∧
      (match maxFeasibleRate feas 12 0 32 [0] (1 / 100) 0 with
       | .ok r => decide (r ≤ 7) && decide (7 < r + 1 / 100)
       | .error _ => false) = true := by
  refine ⟨?_, by decide +kernel, by decide +kernel, by norm_num, by decide +kernel⟩
  intro x y z hxy hyz hx hz
  simp only [List.set_cons_zero, List.getD_cons_zero, decide_eq_true_eq] at hx hz ⊢
  exact le_trans hyz hz

/-- `greedy_sequential` (full): for `queue = pre ++ s :: post` the grant of `s` — the entry of the
    result at its station — is `greedyRate` evaluated on the schedule `cur` in which every session
    of `pre` already holds its FINAL grant, `s` and every session of `post` hold their lower
    bounds, and every other station holds 0.  (These clauses fix `cur` pointwise.) -/
theorem greedy_sequential (feas : List K → Bool) (fuel : Nat) (eps : K) (infra : Infra K)
    (period : K) (pre : List (Session K)) (s : Session K) (post : List (Session K)) (sch : List K)
    (hnd : ((pre ++ s :: post).map (·.idx)).Nodup)
    (hidx : ∀ t ∈ pre ++ s :: post, t.idx < infra.ids.length)
    (h : sortingAlgorithm feas fuel eps infra period (pre ++ s :: post) = .ok sch) :
    ∃ cur r, greedyRate feas fuel eps infra period cur s = .ok r ∧ sch[s.idx]? = some r ∧
      cur.length = infra.ids.length ∧
      (∀ t ∈ pre, cur[t.idx]? = sch[t.idx]?) ∧
      (∀ t ∈ s :: post, cur[t.idx]? = some (lbOf t)) ∧
      (∀ j, j < infra.ids.length → (∀ t ∈ pre ++ s :: post, t.idx ≠ j) → cur[j]? = some 0) := by
  have hlen := initSchedule_len infra.ids.length (pre ++ s :: post)
  obtain ⟨cur, r, h1, h2, h3, h4, h5⟩ := greedyLoop_sequential feas fuel eps infra period s post pre
    _ sch hnd (by intro t ht; rw [hlen]; exact hidx t ht) (sortingAlgorithm_ok h).2
  refine ⟨cur, r, h1, h2, by rw [h3, hlen], h4, ?_, ?_⟩
  · intro t ht
    have htq : t ∈ pre ++ s :: post := List.mem_append_right _ ht
    have hnot : ∀ u ∈ pre, u.idx ≠ t.idx := by
      intro u hu heq
      rw [List.map_append, List.nodup_append] at hnd
      exact hnd.2.2 u.idx (List.mem_map.mpr ⟨u, hu, rfl⟩) t.idx (List.mem_map.mpr ⟨t, ht, rfl⟩) heq
    rw [h5 t.idx hnot]
    exact getElem?_of_set_noop _ _ _ (initSchedule_lb _ _ hnd t htq) (by rw [hlen]; exact hidx t htq)
  · intro j hj hne
    rw [h5 j (fun t ht => hne t (List.mem_append_left _ ht)), initSchedule_other _ _ hne]
    simp [hj]

/-- `rr_stop_reason`: a session leaves the deque only when it sits at its last level or its next
    level failed the feasibility check for the schedule at that moment -/
theorem rr_stop_reason (feas : List K → Bool) (levels : List (List K)) (st : RRState K)
    (s : Session K) (rest : List (Session K)) (hq : st.queue = s :: rest)
    (hleft : (rrStep feas levels st).queue = rest) :
    ¬ (st.rateIdx.getD s.idx 0 + 1 < (levels.getD s.idx []).length) ∨
    feas (st.sched.set s.idx ((levels.getD s.idx []).getD (st.rateIdx.getD s.idx 0 + 1) 0)) = false :=
  (rrStep_stops_iff feas levels st s rest hq).mp hleft

/-- … and conversely a session whose next level passes is incremented and re-queued at the back -/
theorem rr_continues (feas : List K → Bool) (levels : List (List K)) (st : RRState K)
    (s : Session K) (rest : List (Session K)) (hq : st.queue = s :: rest)
    (hk : st.rateIdx.getD s.idx 0 + 1 < (levels.getD s.idx []).length)
    (hf : feas (st.sched.set s.idx ((levels.getD s.idx []).getD (st.rateIdx.getD s.idx 0 + 1) 0)) = true) :
    (rrStep feas levels st).queue = rest ++ [s] ∧
    (rrStep feas levels st).rateIdx = st.rateIdx.set s.idx (st.rateIdx.getD s.idx 0 + 1) := by
  unfold rrStep
  rw [hq]
  simp only [hk, hf, if_true, and_self]

/-- the termination measure `Σ_i (len levels_i − rate_idx_i) + |queue|` drops by exactly one on
    every trip round the loop (queued stations address `rate_idx`) -/
theorem rr_measure_decreases (feas : List K → Bool) (levels : List (List K)) (st : RRState K)
    (hne : st.queue ≠ []) (h : QueueIdxOk st) :
    rrMeasure levels (rrStep feas levels st) + 1 = rrMeasure levels st :=
  rrStep_measure feas levels st hne h

/-- `rr_terminates`: `round_robin` (the loop run with `rrMeasure` fuel) ends with an EMPTY deque,
    for any feasibility predicate and any level lists: the `while len(queue) > 0` loop terminates
    after at most Σ levels + |queue| trips. -/
theorem rr_terminates (feas : List K → Bool) (levelsOf : Session K → List K) (infra : Infra K)
    (queue : List (Session K)) (st : RRState K)
    (hidx : ∀ s ∈ queue, s.idx < infra.ids.length)
    (h : roundRobin feas levelsOf infra queue = .ok st) : st.queue = [] := by
  unfold roundRobin at h
  simp only at h
  split at h
  · cases h
  · injection h with h
    rw [← h]
    apply rrLoop_terminates feas _ _ _ _ (le_refl _)
    intro s hs
    show s.idx < (List.replicate infra.ids.length 0).length
    rw [List.length_replicate]; exact hidx s hs

theorem dictSet_mem {V : Type} (d : List (String × V)) (k : String) (v : V) (p : String × V)
    (h : p ∈ dictSet d k v) : p = (k, v) ∨ p ∈ d :=
  Assoc.mem_set (dictSet_eq d k v ▸ h)

theorem dictSet_lookup {V : Type} (d : List (String × V)) (k k' : String) (v : V) :
    (dictSet d k v).lookup k' = if k' = k then some v else d.lookup k' := by
  rw [dictSet_eq, Assoc.lookup_set]; simp only [eq_comm]

/-- the dict built by the uncontrolled baseline, read by station id: the entry of the LAST active
    session at that station (a Python dict assignment overwrites), `none` if there is none -/
theorem uncontrolled_lookup (infra : Infra K) (l : List (Session K)) (st : String) :
    (uncontrolled infra l).lookup st =
      (l.reverse.find? (fun s => s.station == st)).map (fun s => [infra.maxPilot.getD s.idx 0]) := by
  rw [uncontrolled_eq, Assoc.lookup_ofPairs, ← List.map_reverse, Assoc.lookup_map]

/-- `uncontrolled_spec` (full, as a lookup equality): with distinct stations, every active session's
    station maps to exactly `[max_pilot(station)]`, and a station without active session is absent
    from the dict (the simulator then applies 0). -/
theorem uncontrolled_spec (infra : Infra K) (l : List (Session K))
    (hnd : (l.map (·.station)).Nodup) :
    (∀ s ∈ l, (uncontrolled infra l).lookup s.station = some [infra.maxPilot.getD s.idx 0]) ∧
    (∀ st, (∀ s ∈ l, s.station ≠ st) → (uncontrolled infra l).lookup st = none) := by
  -- with distinct stations the comprehension's dict is the list of its pairs
  have hk : Assoc.keys (l.map fun s => (s.station, [infra.maxPilot.getD s.idx 0])) = l.map (·.station) :=
    List.map_map
  rw [uncontrolled_eq_map infra l hnd]
  refine ⟨fun s hs => (Assoc.lookup_eq_some (hk ▸ hnd) _ _).2 (List.mem_map.2 ⟨s, hs, rfl⟩), fun st hst => ?_⟩
  rw [Assoc.lookup_eq_none, hk]
  exact fun hm => let ⟨s, hs, e⟩ := List.mem_map.1 hm; hst s hs e

/-- the uncontrolled baseline only ever writes `[max_pilot(station)]` under the station id of an
    active session -/
theorem uncontrolled_mem (infra : Infra K) (l : List (Session K)) :
    ∀ p ∈ uncontrolled infra l, ∃ s ∈ l, p = (s.station, [infra.maxPilot.getD s.idx 0]) := by
  intro p hp
  obtain ⟨s, hs, e⟩ := List.mem_map.1 (Assoc.mem_ofPairs (uncontrolled_eq infra l ▸ hp))
  exact ⟨s, hs, e.symm⟩

end Acn.C08
