/-
  CAPSTONE — the per-property results composed into statements about the whole pipeline the package offers:

      ACN-Data documents ──C15──▶ sessions / plug-in events ──C01──▶ Simulator.run ──C02──▶ ledger ──C18──▶ analysis
                                                              ▲
                                   sorted algorithms (C07, any estimator) on any network (C06) / a site network (C16)

  Helpers: `Lemmas/CapstoneSessions.lean` (documents ⇒ `Valid` scenario),
  `Lemmas/CapstoneReplay.lean` (a run with a stateful scheduler IS a `Sim.run`), `Lemmas/Capstone.lean`
  (`RunAccounts`: C01 + C02 + C18 of one complete run; feasible column ⇒ transformer within rating).

    1. `pipeline_terminates_and_accounts`(`_stateful`)  C15 ∘ C01 ∘ C02 ∘ C18, ANY scheduler (pure / with state)
    2. `pipeline_sorted_safe`                            … with the sorted algorithms, any estimator, ANY network
    3. `pipeline_site_ratings` / `pipeline_simple_acn_cap`  applied columns keep every transformer within its rating
    4. the JSON-resume variant is `CapstoneResume.pipeline_resume_json_partial`

  The documents are `Sessions.Doc` records (connection / disconnection instants in epoch seconds, energy, ids): what
  `DataClient` yields after `parse_dates` (C20; `C15.generate_events_end_to_end` ties the client path to them).
-/
import AcnProofs.Lemmas.Capstone
import AcnProofs.Lemmas.CapstoneReplay
import AcnProofs.Lemmas.CapstoneSessions
import AcnProofs.C07Est

set_option linter.unusedSectionVars false

namespace Acn.Capstone
open Acn Acn.Sessions Acn.SessionsL Acn.Evse Acn.EventCore Acn.Sim Acn.Ledger Acn.AnalysisSim Acn.Sorted

/-! ### 1. documents → events → simulation → ledger → analysis, any scheduler -/

section any_scheduler
variable {K : Type} [Field K] [LinearOrder K] [IsStrictOrderedRing K] [FloorRing K] [HasExp K]

/-- **C15 ∘ C01 ∘ C02 ∘ C18.**  Let `docs` be ACN-Data documents satisfying `DocsOk` for the network's station ids
    (distinct session ids, registered spaces, `start ≤ connect`, connection and disconnection in DIFFERENT periods,
    `max_len ≥ 1` if given, documents of one space not overlapping in period indices), let `get_evs` convert them
    with ANY battery parameters / `max_len` / `force_feasible` (`h`), and let the sessions be simulated on the network
    `net` (distinct station ids; any tolerances, `max_recompute`, noise stream, extra recompute events with distinct
    tags at times ≥ 0) by `Simulator.run` with ANY scheduler.  If the run raises nothing (`hrun`, fuel ≥ horizon):
      * every EV belongs to its document: ids, `arrival = ⌊connect/(60·period)⌋ − ⌊start/(60·period)⌋`, the capped
        departure, `0 ≤ arrival < departure`;
      * `RunAccounts`: the run stopped after `horizon` periods with the queue empty and every station vacated, one
        plug-in / one unplug per session, every session connected in exactly `[arrival, departure)`, each session's
        energy = the integral of its station's recorded rate over that interval = its battery's gain, and the analysis
        totals (`total_energy_delivered`, `aggregate_power`, `aggregate_current`/`peak`, `datetimes_array`) equal the
        ledger. -/
theorem pipeline_terminates_and_accounts (net : Sim.Cfg K) (start V mp : K) (maxLen : Option Int)
    (bp : BattParams K) (ff : Bool) (docs : List (Doc K)) (evs : List (Ev K))
    (hp : 0 < net.period) (hs : 0 ≤ start) (hn : StationsNodup net)
    (hd : DocsOk (net.stations.map (·.id)) start net.period maxLen docs)
    (htags : (net.recomputes.map (·.2)).Nodup) (hrec : ∀ r ∈ net.recomputes, 0 ≤ r.1)
    (h : getEvs start docs net.period V mp maxLen bp ff = .ok evs)
    (sched : View K → Except EventCore.Err (Schedule K)) (n : Nat)
    (hN : horizon (pipelineCfg net evs).core ≤ n) (s : State K)
    (hrun : Sim.run (pipelineCfg net evs) sched n (Sim.init (pipelineCfg net evs)) = (s, none)) (t0 : K) :
    List.Forall₂ (fun d e =>
      e.session = d.session ∧ e.station = d.space ∧
      e.arrival = ⌊d.connect / (60 * net.period)⌋ - ⌊start / (60 * net.period)⌋ ∧
      e.departure = capDeparture e.arrival
        (⌊d.disconnect / (60 * net.period)⌋ - ⌊start / (60 * net.period)⌋) maxLen ∧
      0 ≤ e.arrival ∧ e.arrival < e.departure) docs evs ∧
    RunAccounts (pipelineCfg net evs) s t0 := by
  obtain ⟨hv, _, hfresh⟩ := pipeline_valid net start V mp maxLen bp ff docs evs hp hd htags hrec h
  refine ⟨?_, complete_run_accounts (pipelineCfg net evs) hn hv (fun e he => (hfresh e he).1) t0 sched n hN s hrun⟩
  obtain ⟨hf, _, _⟩ := C15.arrival_departure_spec start docs net.period V mp maxLen bp ff evs hp hs h
  refine forall₂_imp_mem hf ?_
  rintro d hdm e he ⟨h1, h2, _, h4, h5⟩
  have hc0 : 0 ≤ d.connect := le_trans hs (hd.after_start d hdm)
  have hd0 : 0 ≤ d.disconnect := le_trans hc0 (lt_of_periodOf_lt hp (hd.periods_apart d hdm)).le
  have hx : sessionOf e ∈ (pipelineCfg net evs).core.sessions := List.mem_map.2 ⟨e, he, rfl⟩
  exact ⟨h1, h2, h4 hc0, h5 hd0, hv.arr_nonneg _ hx, hv.arr_lt_dep _ hx⟩

/-- the same for a scheduler WITH STATE (the scheduler object lives across the whole run: rampdown, any estimator,
    any user algorithm that remembers things): `SimSortedRd.runSt` — by `runSt_replay` every such run is a `Sim.run` -/
theorem pipeline_terminates_and_accounts_stateful {σ : Type} (net : Sim.Cfg K) (start V mp : K)
    (maxLen : Option Int) (bp : BattParams K) (ff : Bool) (docs : List (Doc K)) (evs : List (Ev K))
    (hp : 0 < net.period) (hs : 0 ≤ start) (hn : StationsNodup net)
    (hd : DocsOk (net.stations.map (·.id)) start net.period maxLen docs)
    (htags : (net.recomputes.map (·.2)).Nodup) (hrec : ∀ r ∈ net.recomputes, 0 ≤ r.1)
    (h : getEvs start docs net.period V mp maxLen bp ff = .ok evs)
    (sched : σ → View K → Except EventCore.Err (Schedule K × σ)) (st0 : σ) (n : Nat)
    (hN : horizon (pipelineCfg net evs).core ≤ n) (s : State K)
    (hrun : (SimSortedRd.runSt (pipelineCfg net evs) sched n st0 (Sim.init (pipelineCfg net evs))).1 = (s, none))
    (t0 : K) :
    List.Forall₂ (fun d e =>
      e.session = d.session ∧ e.station = d.space ∧
      e.arrival = ⌊d.connect / (60 * net.period)⌋ - ⌊start / (60 * net.period)⌋ ∧
      e.departure = capDeparture e.arrival
        (⌊d.disconnect / (60 * net.period)⌋ - ⌊start / (60 * net.period)⌋) maxLen ∧
      0 ≤ e.arrival ∧ e.arrival < e.departure) docs evs ∧
    RunAccounts (pipelineCfg net evs) s t0 := by
  obtain ⟨f, hf, _⟩ := runSt_replay (pipelineCfg net evs) sched n st0 (Sim.init (pipelineCfg net evs))
  rw [hrun] at hf
  exact pipeline_terminates_and_accounts net start V mp maxLen bp ff docs evs hp hs hn hd htags hrec h f n hN s hf t0

/-- the conversion itself cannot raise on such documents with the default `battery_params` (C15
    `all_sessions_wellformed_default`): the hypothesis `h` of the two theorems above is then dischargeable -/
theorem pipeline_conversion_total (stationIds : List String) (start period V mp : K) (maxLen : Option Int)
    (ff : Bool) (docs : List (Doc K)) (hp : 0 < period) (hm : 0 ≤ mp)
    (hd : DocsOk stationIds start period maxLen docs) (hk : ∀ d ∈ docs, 0 ≤ d.kWh) :
    ∃ evs, getEvs start docs period V mp maxLen defaultParams ff = .ok evs ∧ evs.length = docs.length := by
  obtain ⟨evs, h1, h2, _⟩ := C15.all_sessions_wellformed_default start docs period V mp maxLen ff hp hm
    (fun L hL => le_of_lt (hd.cap_pos L hL))
    (fun d hdm => ⟨(lt_of_periodOf_lt hp (hd.periods_apart d hdm)).le, hk d hdm⟩)
  exact ⟨evs, h1, h2⟩

end any_scheduler

/-! ### 2. the sorted algorithms on any network -/

/-- the converted sessions on a network that is well formed in C07's sense (stations continuous-from-zero or
    finite-rate, positive voltages) give a well-formed configuration, and batteries built without `capacity_fn` from
    positive energies satisfy C03's invariant with nobody over-delivered -/
theorem pipeline_cfgOk (net : Sim.Cfg ℝ) (inf start V mp : ℝ) (maxLen : Option Int) (bp : BattParams ℝ) (ff : Bool)
    (docs : List (Doc ℝ)) (evs : List (Ev ℝ)) (hne : net.stations ≠ []) (hn : StationsNodup net)
    (hkinds : ∀ st ∈ net.stations, KindOk inf st.kind) (hvolt : ∀ st ∈ net.stations, 0 < st.voltage)
    (hp : 0 < net.period) (htol : TolOk net)
    (hd : DocsOk (net.stations.map (·.id)) start net.period maxLen docs)
    (htags : (net.recomputes.map (·.2)).Nodup) (hrec : ∀ r ∈ net.recomputes, 0 ≤ r.1)
    (hb : bp.capFn = none) (hts : bp.type = .twoStage → 0 ≤ bp.ts ∧ bp.ts < 1) (hm : 0 < mp)
    (hk : ∀ d ∈ docs, 0 < d.kWh)
    (h : getEvs start docs net.period V mp maxLen bp ff = .ok evs) :
    CfgOk (pipelineCfg net evs) inf ∧
    ∀ e ∈ (pipelineCfg net evs).evs, BattAlg.Inv e.batt ∧ e.delivered ≤ e.requested := by
  obtain ⟨_, hids, _⟩ := pipeline_valid net start V mp maxLen bp ff docs evs hp hd htags hrec h
  have hbat := pipeline_batteries start net.period V mp maxLen bp ff docs evs hp hb hts hm hk hd.periods_apart
    hd.cap_pos h
  refine ⟨⟨hn, hne, hkinds, hvolt, hp, htol, ?_⟩, fun e he => ?_⟩
  · show (evs.map (·.session)).Nodup
    rw [hids]; exact hd.ids
  · exact ⟨(hbat e he).1, (hbat e he).2.1⟩

/-- **C15 ∘ C07 ∘ C01 ∘ C02 ∘ C18.**  The same pipeline with the modelled sorted algorithms as the scheduler — greedy
    or round robin, every sort order, uninterrupted charging on/off, ANY upper-bound estimator `E` with any state
    (`SimSortedEst.sortedSchedEst`; rampdown and "no estimator" are instances), any increment, `eps ≥ 0` — on ANY
    network constraint set `cons` (matrix, limits, phasors, tolerances), stations continuous-from-zero or finite-rate
    with positive voltages, batteries built without `capacity_fn` (ideal, or two-stage with `0 ≤ ts < 1`) from
    positive energies and a positive maximum battery power.  Then, for EVERY fuel `n`:
      * the run never raises `InvalidRate` (unconditional);
    and whenever the run has completed without raising (`n ≥ horizon`):
      * all of `RunAccounts` (statement 1),
      * every EV has `delivered ≤ requested` and its battery invariant,
      * every column of pilots applied passes the network's feasibility predicate (or is all zero),
      * hence `proportion_of_energy_delivered(sim) ≤ 1`, with equality iff every request was met (when anything was
        requested at all). -/
theorem pipeline_sorted_safe [HasCeilNat ℝ] {σ : Type} (net : Sim.Cfg ℝ) (cons : SimSorted.NetInfo ℝ) (inf : ℝ)
    (scfg : Config ℝ) (E : SimSortedEst.Estimator σ ℝ) (st0 : σ)
    (start V mp : ℝ) (maxLen : Option Int) (bp : BattParams ℝ) (ff : Bool) (docs : List (Doc ℝ))
    (evs : List (Ev ℝ))
    (hs : 0 ≤ start) (hne : net.stations ≠ []) (hn : StationsNodup net)
    (hkinds : ∀ st ∈ net.stations, KindOk inf st.kind) (hvolt : ∀ st ∈ net.stations, 0 < st.voltage)
    (hp : 0 < net.period) (htol : TolOk net) (heps : 0 ≤ scfg.eps)
    (hd : DocsOk (net.stations.map (·.id)) start net.period maxLen docs)
    (htags : (net.recomputes.map (·.2)).Nodup) (hrec : ∀ r ∈ net.recomputes, 0 ≤ r.1)
    (hb : bp.capFn = none) (hts : bp.type = .twoStage → 0 ≤ bp.ts ∧ bp.ts < 1) (hm : 0 < mp)
    (hk : ∀ d ∈ docs, 0 < d.kWh)
    (h : getEvs start docs net.period V mp maxLen bp ff = .ok evs) :
    (∀ n, (SimSortedRd.runSt (pipelineCfg net evs)
        (SimSortedEst.sortedSchedEst cons inf (pipelineCfg net evs) scfg E) n st0
        (Sim.init (pipelineCfg net evs))).1.2 ≠ some .invalidRate) ∧
    ∀ n s t0, horizon (pipelineCfg net evs).core ≤ n →
      (SimSortedRd.runSt (pipelineCfg net evs)
        (SimSortedEst.sortedSchedEst cons inf (pipelineCfg net evs) scfg E) n st0
        (Sim.init (pipelineCfg net evs))).1 = (s, none) →
      RunAccounts (pipelineCfg net evs) s t0 ∧
      (∀ e ∈ s.evs, e.delivered ≤ e.requested ∧ BattAlg.Inv e.batt) ∧
      (∀ τ, τ < horizon (pipelineCfg net evs).core →
        ColOk (SimSorted.feasOf cons) s.pilots net.stations.length τ) ∧
      (0 < ((allEvs s).map (·.requested)).sum →
        ∃ p, proportionDeliveredSim s = .ok p ∧ p ≤ 1 ∧ (p = 1 ↔ ∀ e ∈ s.evs, e.delivered = e.requested)) := by
  obtain ⟨hc, hB⟩ := pipeline_cfgOk net inf start V mp maxLen bp ff docs evs hne hn hkinds hvolt hp htol hd htags hrec
    hb hts hm hk h
  have hsafe := C07.sim_consequences_any_estimator cons inf (pipelineCfg net evs) scfg hc heps hB E st0
  refine ⟨fun n => (hsafe n).1, ?_⟩
  intro n s t0 hN hrun
  obtain ⟨_, h2⟩ := hsafe n
  rw [hrun] at h2
  obtain ⟨hev, hcols⟩ := h2 rfl
  have hacc := (pipeline_terminates_and_accounts_stateful net start V mp maxLen bp ff docs evs hp hs hn hd htags
    hrec h _ st0 n hN s hrun t0).2
  refine ⟨hacc, hev, ?_, ?_⟩
  · intro τ hτ
    exact hcols τ (by rw [hacc.iter_eq]; exact hτ)
  · intro hpos
    unfold proportionDeliveredSim
    rw [C18Sim.proportionDelivered_perm hacc.history]
    exact C18Sim.proportion_le_one_of_le_requested s (fun e he => (hev e he).1) hpos

/-! ### 3. the predefined site networks and `simple_acn` -/

/-- what C07 gives about the column of pilots applied in a period simulated so far, in the form the rating lemmas
    of `Lemmas/Capstone.lean` take it: one entry per station, not empty, and feasible for `cons` or all zero -/
theorem applied_column_ok [HasCeilNat ℝ] {σ : Type} (cons : SimSorted.NetInfo ℝ) (cfg : Sim.Cfg ℝ) (inf : ℝ)
    (hc : CfgOk cfg inf) (scfg : Config ℝ) (heps : 0 ≤ scfg.eps)
    (hb : ∀ e ∈ cfg.evs, BattAlg.Inv e.batt ∧ e.delivered ≤ e.requested)
    (E : SimSortedEst.Estimator σ ℝ) (st0 : σ) (n : Nat) (s : State ℝ)
    (hrun : (SimSortedRd.runSt cfg (SimSortedEst.sortedSchedEst cons inf cfg scfg E) n st0 (Sim.init cfg)).1 = (s, none))
    (τ : Nat) (hτ : τ < s.core.iter) :
    (colOf s.pilots cfg.stations.length τ).length = cfg.stations.length ∧
    colOf s.pilots cfg.stations.length τ ≠ [] ∧
    (SimSorted.feasOf cons (colOf s.pilots cfg.stations.length τ) = true ∨
      ∀ j, (colOf s.pilots cfg.stations.length τ).getD j 0 = 0) := by
  obtain ⟨_, h2⟩ := C07.sim_consequences_any_estimator cons inf cfg scfg hc heps hb E st0 n
  rw [hrun] at h2
  obtain ⟨_, hcols⟩ := h2 rfl
  have hcl : (colOf s.pilots cfg.stations.length τ).length = cfg.stations.length := by simp [colOf]
  refine ⟨hcl, fun h0 => hc.ne (List.eq_nil_of_length_eq_zero (by rw [← hcl, h0]; rfl)), ?_⟩
  refine (hcols τ hτ).imp_right fun h j => ?_
  by_cases hj : j < cfg.stations.length
  · simp [colOf, List.getD_eq_getElem?_getD, hj, h j]
  · simp [colOf, List.getD_eq_getElem?_getD, hj]

/-- **C07 ∘ C16 (sites).**  On every generated site topology `T` (Caltech / JPL / Office001 as they are in the
    working tree, every voltage variant), with any transformer capacities `caps ≥ 0`, tolerances `vt ≥ 0`, `rt`, any
    `r` with `r·r = 3` (√3): for every well-formed simulation `cfg` with one station per station of `T`, the sorted
    algorithms (any estimator) and EVERY fuel `n`, if the run has not aborted then in every period `τ` simulated so
    far and for every transformer `xf` of the site, the pilots applied draw at 120·r volts at most the transformer's
    capacity plus the declared tolerance:  120·r·Σ_{j∈xf} pilot_j(τ) ≤ cap·1000 + 360·max(vt, rt·cap·1000/360). -/
theorem pipeline_site_ratings [HasCeilNat ℝ] {σ : Type} (T : Gen.Sites.Topo) (hT : T ∈ Gen.Sites.topos)
    (r vt rt : ℝ) (hr : r * r = 3) (hvt : 0 ≤ vt) (caps : List ℝ) (hcaps : ∀ c ∈ caps, 0 ≤ c)
    (cfg : Sim.Cfg ℝ) (inf : ℝ) (hc : CfgOk cfg inf) (hlen : cfg.stations.length = Sites.nStations T)
    (scfg : Config ℝ) (heps : 0 ≤ scfg.eps)
    (hb : ∀ e ∈ cfg.evs, BattAlg.Inv e.batt ∧ e.delivered ≤ e.requested)
    (E : SimSortedEst.Estimator σ ℝ) (st0 : σ) (n : Nat) (s : State ℝ)
    (hrun : (SimSortedRd.runSt cfg (SimSortedEst.sortedSchedEst (siteNetInfo T r vt rt caps) inf cfg scfg E) n st0
      (Sim.init cfg)).1 = (s, none))
    (τ : Nat) (hτ : τ < s.core.iter) (xf : Gen.Sites.Xfmr) (hxf : xf ∈ T.xfmrs) :
    ∃ k ops, Sites.xfmrCap T xf = some (k, ops) ∧
      120 * r * Sites.groupSum xf.sec.evses (colOf s.pilots cfg.stations.length τ)
        ≤ caps.getD k 0 * 1000 + 360 * Feas.tolOf vt rt (caps.getD k 0 * 1000 / 360) := by
  obtain ⟨hcl, hne, hx⟩ := applied_column_ok (siteNetInfo T r vt rt caps) cfg inf hc scfg heps hb E st0 n s hrun τ hτ
  exact site_column_within_ratings T (C16.generated_topoOk T hT) r vt rt hr hvt caps hcaps _ (hcl.trans hlen) hne hx xf hxf

/-- **C07 ∘ C16 (`simple_acn`).**  On `simple_acn(ids, voltage, aggregate_cap)` (any ids, voltage > 0, capacity ≥ 0,
    tolerances `vt ≥ 0`, `rt`): every column the sorted algorithms apply draws, at the EVSE voltage, at most
    `aggregate_cap` kW plus the declared tolerance `voltage·max(vt, rt·L)/1000`, `L = cap/voltage·1000`. -/
theorem pipeline_simple_acn_cap [HasCeilNat ℝ] {σ : Type} (ids : List String) (voltage cap vt rt : ℝ)
    (hv : 0 < voltage) (hcap : 0 ≤ cap) (hvt : 0 ≤ vt)
    (cfg : Sim.Cfg ℝ) (inf : ℝ) (hc : CfgOk cfg inf) (hlen : cfg.stations.length = ids.length)
    (scfg : Config ℝ) (heps : 0 ≤ scfg.eps)
    (hb : ∀ e ∈ cfg.evs, BattAlg.Inv e.batt ∧ e.delivered ≤ e.requested)
    (E : SimSortedEst.Estimator σ ℝ) (st0 : σ) (n : Nat) (s : State ℝ)
    (hrun : (SimSortedRd.runSt cfg
      (SimSortedEst.sortedSchedEst (simpleNetInfo ids.length voltage cap vt rt) inf cfg scfg E) n st0
      (Sim.init cfg)).1 = (s, none))
    (τ : Nat) (hτ : τ < s.core.iter) :
    voltage * (colOf s.pilots cfg.stations.length τ).sum / 1000
      ≤ cap + voltage * max vt (rt * (cap / voltage * 1000)) / 1000 := by
  obtain ⟨hcl, hne, hx⟩ := applied_column_ok (simpleNetInfo ids.length voltage cap vt rt) cfg inf hc scfg heps hb E st0
    n s hrun τ hτ
  exact simple_column_within_cap ids voltage cap vt rt hv hcap hvt _ (hcl.trans hlen) hne hx

/-! ### non-vacuity: one small scenario through the whole pipeline

  Two stations (CA-1 continuous 0–32 A, CA-2 finite-rate, 208 V), 5-minute periods, `start` = 2019-03-10 08:00 UTC;
  three documents: `a` on CA-1 during periods [0, 2), `b` on CA-1 during [2, 4) (back-to-back reuse of the space),
  `c` on CA-2 during [1, 3); `max_len = 12`, default batteries. -/

section examples

/- `exNet`, `exStart`, `exDocs` and `exDocsOk` (the documents satisfy `DocsOk` over every ordered field with a floor)
   are in `Lemmas/CapstoneSessions.lean`, shared with `CapstoneResume.lean`. -/

section exec
local instance : HasExp ℚ := ⟨fun x => x⟩
local instance : HasCeilNat ℚ := ⟨fun x => (Rat.ceil x).toNat⟩

/-- a fixed schedule: 16 A for CA-1, 8 A for CA-2 in every period -/
def exSched : View ℚ → Except EventCore.Err (Schedule ℚ) := fun _ => .ok [("CA-1", [16]), ("CA-2", [8])]

/-- one aggregate constraint `|x₁ + x₂| ≤ 20` A -/
def exCons (K : Type) [Field K] : SimSorted.NetInfo K :=
  { M := [[1, 1]], lims := [20], cos := [1, 1], sin := [0, 0], vt := 1 / 100000, rt := 1 / 10000000 }

def exAlgo (K : Type) [Field K] : Config K :=
  { algo := .greedy, sort := .fcfs, uninterrupted := false, estimate := true, inc := 1, eps := 1 / 100, fuel := 60 }

/-- an estimator with state: answers "at most 12 A" for every session and counts its calls -/
def exEst (K : Type) [Field K] : SimSortedEst.Estimator Nat K := fun k _ _ => (fun _ => some 12, k + 1)

/-- statement 1, executed: the conversion yields a (0–2), b (2–4), c (1–3); the run with the fixed schedule raises
    nothing, stops after period 4 (horizon 5) with the queue empty; the occupancy snapshots show every session in
    exactly its interval; the recorded rates; `total_energy_delivered` = 104/75 kWh = Σ aggregate_power · 5/60 -/
example :
    (match getEvs (exStart ℚ) (exDocs ℚ) 5 208 (6656 / 1000) (some 12) defaultParams false with
     | .ok evs =>
       let cfg := pipelineCfg (exNet ℚ) evs
       let r := Sim.run cfg exSched 10 (Sim.init cfg)
       (evs.map fun e => (e.session, e.arrival, e.departure, e.requested))
           == [("a", 0, 2, 3), ("b", 2, 4, 1), ("c", 1, 3, 2)] &&
         r.2 == none && decide (horizon cfg.core ≤ 10) && r.1.core.iter == 5 && r.1.core.pending.isEmpty &&
         r.1.occLog == [[some "a", none], [some "a", some "c"], [some "b", some "c"], [some "b", none], [none, none]] &&
         r.1.rates.rows == [[16, 16, 16, 16, 0], [0, 8, 8, 0, 0]] &&
         totalDeliveredSim r.1 == 104 / 75 &&
         aggregatePowerSim cfg r.1 == [416 / 125, 624 / 125, 624 / 125, 416 / 125, 0] &&
         ((416 / 125 + 624 / 125 + 624 / 125 + 416 / 125 + 0 : ℚ) * (5 / 60) == 104 / 75) && r.1.peak == 24
     | .error _ => false) = true := by
  decide +kernel

/-- `pipeline_terminates_and_accounts` APPLIED to the run of the example above (`exRun`): every hypothesis is
    discharged, the conclusion `RunAccounts` holds for it -/
example : ∃ evs s, getEvs (exStart ℚ) (exDocs ℚ) (exNet ℚ).period 208 (6656 / 1000) (some 12) defaultParams false
      = .ok evs ∧
    Sim.run (pipelineCfg (exNet ℚ) evs) exSched 10 (Sim.init (pipelineCfg (exNet ℚ) evs)) = (s, none) ∧
    RunAccounts (pipelineCfg (exNet ℚ) evs) s 0 := by
  obtain ⟨evs, he, hnone, hhor⟩ := exRun
  have hrun : Sim.run (pipelineCfg (exNet ℚ) evs) exSched 10 (Sim.init (pipelineCfg (exNet ℚ) evs)) =
      ((Sim.run (pipelineCfg (exNet ℚ) evs) exSched 10 (Sim.init (pipelineCfg (exNet ℚ) evs))).1, none) :=
    Prod.ext rfl hnone
  exact ⟨evs, _, he, hrun, (pipeline_terminates_and_accounts (exNet ℚ) (exStart ℚ) 208 (6656 / 1000) (some 12)
    defaultParams false (exDocs ℚ) evs (by norm_num [exNet]) (by norm_num [exStart]) (by simp [StationsNodup, exNet])
    (exDocsOk ℚ) (by simp [exNet]) (by simp [exNet]) he exSched 10 hhor _ hrun 0).2⟩

/-- statements 1 (stateful) and 2, executed: greedy / first-come-first-served with the stateful estimator under the
    20 A aggregate limit: the estimator holds CA-1 at 12 A, CA-2 gets the largest level that still fits (8 A), every
    applied column respects the limit, nobody receives more than requested, `proportion_of_energy_delivered` =
    208/1125 ≤ 1; the estimator was consulted in each of the 5 periods -/
example :
    (match getEvs (exStart ℚ) (exDocs ℚ) 5 208 (6656 / 1000) (some 12) defaultParams false with
     | .ok evs =>
       let cfg := pipelineCfg (exNet ℚ) evs
       let r := SimSortedRd.runSt cfg (SimSortedEst.sortedSchedEst (exCons ℚ) 1000 cfg (exAlgo ℚ) (exEst ℚ)) 10 0
         (Sim.init cfg)
       r.1.2 == none && r.2 == 5 && r.1.1.core.iter == 5 &&
         r.1.1.pilots.rows == [[12, 12, 12, 12, 0], [0, 8, 8, 0, 0]] &&
         (r.1.1.evs.map fun e => (e.delivered, e.requested)) == [(52 / 125, 3), (52 / 125, 1), (104 / 375, 2)] &&
         (match proportionDeliveredSim r.1.1 with | .ok p => p == 208 / 1125 | .error _ => false)
     | .error _ => false) = true := by
  decide +kernel

end exec

/-- the example pipeline over ℝ is a well-formed configuration in C07's sense, with C03's battery invariant -/
theorem exCfgOk (evs : List (Ev ℝ))
    (h : getEvs (exStart ℝ) (exDocs ℝ) (exNet ℝ).period 208 (6656 / 1000) (some 12) defaultParams false = .ok evs) :
    CfgOk (pipelineCfg (exNet ℝ) evs) 1000 ∧
    ∀ e ∈ (pipelineCfg (exNet ℝ) evs).evs, BattAlg.Inv e.batt ∧ e.delivered ≤ e.requested := by
  refine pipeline_cfgOk (exNet ℝ) 1000 (exStart ℝ) 208 (6656 / 1000) (some 12) defaultParams false (exDocs ℝ) evs
    (by simp [exNet]) (by simp [StationsNodup, exNet]) ?_ ?_ (by norm_num [exNet]) ?_ (exDocsOk ℝ) (by simp [exNet])
    (by simp [exNet]) rfl (by intro ht; cases ht) (by norm_num) (exDocs_kWh_pos ℝ) h
  · intro st hst
    simp only [exNet, List.mem_cons, List.not_mem_nil, or_false] at hst
    rcases hst with rfl | rfl
    · refine ⟨rfl, ?_, ?_⟩ <;> norm_num
    · refine ⟨by simp, ?_⟩
      intro a ha
      simp only [List.mem_cons, List.not_mem_nil, or_false] at ha
      rcases ha with rfl | rfl | rfl | rfl | rfl <;> norm_num
  · intro st hst
    simp only [exNet, List.mem_cons, List.not_mem_nil, or_false] at hst
    rcases hst with rfl | rfl <;> norm_num
  · refine ⟨?_, ?_, ?_⟩ <;> simp [exNet]

/-- statement 2 APPLIED (over ℝ): for the example network and documents every hypothesis of `pipeline_sorted_safe`
    but the conversion result `h` is discharged (`pipeline_conversion_total` provides an `evs` with `h`) — whatever
    `get_evs` returned, at every fuel the run with the sorted algorithm and the stateful estimator has raised no
    `InvalidRate` -/
example [HasCeilNat ℝ] (evs : List (Ev ℝ))
    (h : getEvs (exStart ℝ) (exDocs ℝ) (exNet ℝ).period 208 (6656 / 1000) (some 12) defaultParams false = .ok evs)
    (n : Nat) :
    (SimSortedRd.runSt (pipelineCfg (exNet ℝ) evs)
      (SimSortedEst.sortedSchedEst (exCons ℝ) 1000 (pipelineCfg (exNet ℝ) evs) (exAlgo ℝ) (exEst ℝ)) n 0
      (Sim.init (pipelineCfg (exNet ℝ) evs))).1.2 ≠ some .invalidRate := by
  have ok := (exCfgOk evs h).1
  exact (pipeline_sorted_safe (exNet ℝ) (exCons ℝ) 1000 (exAlgo ℝ) (exEst ℝ) 0 (exStart ℝ) 208 (6656 / 1000) (some 12)
    defaultParams false (exDocs ℝ) evs (by norm_num [exStart]) ok.ne ok.nod ok.kinds ok.volt ok.per ok.tol
    (by norm_num [exAlgo]) (exDocsOk ℝ) (by simp [exNet]) (by simp [exNet]) rfl (by intro ht; cases ht) (by norm_num)
    (exDocs_kWh_pos ℝ) h).1 n

/-- statement 3 (`simple_acn`) APPLIED: the example pipeline on `simple_acn(["CA-1", "CA-2"], 208 V, 10 kW)` — for any
    conversion result `h` and any run `hrun` that has not aborted, every column the sorted algorithm applies draws at
    most 10 kW plus the declared tolerance -/
example [HasCeilNat ℝ] (evs : List (Ev ℝ))
    (h : getEvs (exStart ℝ) (exDocs ℝ) (exNet ℝ).period 208 (6656 / 1000) (some 12) defaultParams false = .ok evs)
    (n : Nat) (s : State ℝ)
    (hrun : (SimSortedRd.runSt (pipelineCfg (exNet ℝ) evs)
      (SimSortedEst.sortedSchedEst (simpleNetInfo ["CA-1", "CA-2"].length 208 10 (1 / 100000) (1 / 10000000)) 1000
        (pipelineCfg (exNet ℝ) evs) (exAlgo ℝ) (exEst ℝ)) n 0 (Sim.init (pipelineCfg (exNet ℝ) evs))).1 = (s, none))
    (τ : Nat) (hτ : τ < s.core.iter) :
    208 * (colOf s.pilots (pipelineCfg (exNet ℝ) evs).stations.length τ).sum / 1000
      ≤ 10 + 208 * max (1 / 100000) (1 / 10000000 * (10 / 208 * 1000)) / 1000 :=
  pipeline_simple_acn_cap ["CA-1", "CA-2"] 208 10 (1 / 100000) (1 / 10000000) (by norm_num) (by norm_num)
    (by norm_num) (pipelineCfg (exNet ℝ) evs) 1000 (exCfgOk evs h).1 rfl (exAlgo ℝ) (by norm_num [exAlgo])
    (exCfgOk evs h).2 (exEst ℝ) 0 n s hrun τ hτ

/-- eight continuous 0–32 A stations in the station order of the generated Office001 topology, one EV -/
noncomputable def exSiteCfg : Sim.Cfg ℝ :=
  { stations := [⟨"S0", .cont 0 (some 32), 208⟩, ⟨"S1", .cont 0 (some 32), 208⟩, ⟨"S2", .cont 0 (some 32), 208⟩,
                 ⟨"S3", .cont 0 (some 32), 208⟩, ⟨"S4", .cont 0 (some 32), 208⟩, ⟨"S5", .cont 0 (some 32), 208⟩,
                 ⟨"S6", .cont 0 (some 32), 208⟩, ⟨"S7", .cont 0 (some 32), 208⟩],
    evs := [{ session := "x", station := "S3", arrival := 0, departure := 5, estDeparture := 5, requested := 10,
              delivered := 0, rate := 0, batt := ⟨20, 0, 0, 7, 0, false, 0, 0, .continuous⟩ }],
    recomputes := [], maxRecompute := some 1, period := 5, atolCont := 1 / 1000, atolDeadband := 1 / 1000,
    atolFinite := 1 / 1000, fullEps := 1 / 1000, noise := [] }

/-- statement 3 (sites) APPLIED: Office001 as generated (`topo2`, 8 stations, one 50 kW transformer, r = √3) — every
    hypothesis of `pipeline_site_ratings` about the configuration is discharged for `exSiteCfg`; the run `hrun` that has
    not aborted and the period `τ` stay hypotheses -/
example [HasCeilNat ℝ] (n : Nat) (s : State ℝ)
    (hrun : (SimSortedRd.runSt exSiteCfg (SimSortedEst.sortedSchedEst
      (siteNetInfo Gen.Sites.topo2 (Real.sqrt 3) (1 / 100000) (1 / 10000000) [50]) 1000 exSiteCfg (exAlgo ℝ)
      (exEst ℝ)) n 0 (Sim.init exSiteCfg)).1 = (s, none))
    (τ : Nat) (hτ : τ < s.core.iter) (xf : Gen.Sites.Xfmr) (hxf : xf ∈ Gen.Sites.topo2.xfmrs) :
    ∃ k ops, Sites.xfmrCap Gen.Sites.topo2 xf = some (k, ops) ∧
      120 * Real.sqrt 3 * Sites.groupSum xf.sec.evses (colOf s.pilots exSiteCfg.stations.length τ)
        ≤ ([50] : List ℝ).getD k 0 * 1000 +
          360 * Feas.tolOf (1 / 100000) (1 / 10000000) (([50] : List ℝ).getD k 0 * 1000 / 360) := by
  refine pipeline_site_ratings Gen.Sites.topo2 (by simp [Gen.Sites.topos]) (Real.sqrt 3) (1 / 100000) (1 / 10000000)
    (Real.mul_self_sqrt (by norm_num)) (by norm_num) [50] (by intro c hc; simp at hc; rw [hc]; norm_num)
    exSiteCfg 1000 ⟨by simp [StationsNodup, exSiteCfg], by simp [exSiteCfg], ?_, ?_, by norm_num [exSiteCfg], ?_,
      by simp [exSiteCfg]⟩ (by decide) (exAlgo ℝ) (by norm_num [exAlgo]) ?_ (exEst ℝ) 0 n s hrun τ hτ xf hxf
  · intro st hst
    simp only [exSiteCfg, List.mem_cons, List.not_mem_nil, or_false] at hst
    rcases hst with rfl | rfl | rfl | rfl | rfl | rfl | rfl | rfl <;> (refine ⟨rfl, ?_, ?_⟩ <;> norm_num)
  · intro st hst
    simp only [exSiteCfg, List.mem_cons, List.not_mem_nil, or_false] at hst
    rcases hst with rfl | rfl | rfl | rfl | rfl | rfl | rfl | rfl <;> norm_num
  · refine ⟨?_, ?_, ?_⟩ <;> simp [exSiteCfg]
  · intro e he
    simp only [exSiteCfg, List.mem_cons, List.not_mem_nil, or_false] at he
    subst he
    exact ⟨⟨by norm_num, by norm_num, by norm_num, by norm_num, by norm_num, by norm_num⟩, by norm_num⟩

end examples

end Acn.Capstone
