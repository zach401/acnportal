/-
  C03 — physical bounds: 0 ≤ actual rate ≤ pilot, power ≤ max power, the stored charge never
  decreases and never exceeds capacity — for every battery model, every state, every
  non-negative pilot, every noise level and every noise draw, along every history.

  Property theorems only (helpers: `Lemmas/Battery*.lean`; for the part through the EVSE `Lemmas/Evse` and the
  model of a history of `set_pilot` calls, `AcnModel/EvseRun`).  The simulator-level clause
  (0 ≤ charging_rates ≤ pilot_signals) is `C02.sim_rate_le_pilot`.  Carriers: an arbitrary linear
  ordered field `K` for the ideal and the stepwise calculation; ℝ (`HasExp ℝ = Real.exp`) for
  the continuous calculation and for everything that dispatches as `Battery.charge` does.

  Preconditions are the guards the code has / what a reachable state satisfies
  (`BattAlg.Inv`: capacity > 0, charge ≤ capacity, init ≤ capacity, maxPower ≥ 0, 0 ≤ ts < 1;
  note that `0 ≤ charge` is NOT needed).  Inputs the code rejects: `V ≤ 0` or `T ≤ 0`
  (`ValueError`), and for the continuous calculation a non-zero pilot with zero maximum power
  (Python's float division raises `ZeroDivisionError`; the model returns `.zeroDivision`
  instead of totalising `0/0`).  In every error case nothing has been written to the state.
-/
import AcnProofs.Lemmas.BatteryReal
import AcnModel.EvseRun
import AcnProofs.Lemmas.Evse

namespace Acn.C03
open Acn Acn.Battery Acn.BattAlg Acn.BattReal Acn.Evse

section field
variable {K : Type} [Field K] [LinearOrder K] [IsStrictOrderedRing K]

/-- ideal battery: the call returns, and
    `0 ≤ rate ≤ pilot ∧ 0 ≤ power ≤ maxPower ∧ charge ≤ charge' ≤ capacity` -/
theorem ideal_bounds {b : Batt K} (hb : Inv b) {pilot V T : K} (hV : 0 < V) (hT : 0 < T)
    (hp : 0 ≤ pilot) :
    ∃ b' r, idealCharge b pilot V T = .ok (b', r) ∧ StepBounds b pilot b' r ∧ Inv b' := by
  have e := idealCharge_ok b pilot hV hT
  exact ⟨_, _, e, (idealCharge_delivers e).bounds hb hp (idealPower_bounds hb hp hV hT).1 (le_refl _)⟩

/-- stepwise two-stage battery: the same bounds for EVERY noise draw `ν` and noise level,
    in both SoC branches (below / above the transition SoC) -/
theorem stepwise_bounds {b : Batt K} (hb : Inv b) (ν : K) {pilot V T : K} (hV : 0 < V)
    (hT : 0 < T) (hp : 0 ≤ pilot) :
    ∃ b' r, stepCharge b pilot V T ν = .ok (b', r) ∧ StepBounds b pilot b' r ∧ Inv b' := by
  have e := stepCharge_ok b pilot ν hV hT hb.cap_pos.ne'
  obtain ⟨h0, h1⟩ := stepPower_bounds hb ν hp hV hT
  exact ⟨_, _, e, (stepCharge_delivers e).bounds hb hp h0 h1⟩

/-- `V ≤ 0 ∨ T ≤ 0` makes the ideal and the stepwise calculation raise `ValueError` (the converse for a
    state satisfying `Inv` is `ideal_bounds` / `stepwise_bounds`: under the guards the call returns; the
    stepwise calculation on capacity 0 fails with `ZeroDivisionError`) -/
theorem ideal_stepwise_reject (b : Batt K) (pilot ν : K) {V T : K} (h : V ≤ 0 ∨ T ≤ 0) :
    idealCharge b pilot V T = .error .valueError ∧ stepCharge b pilot V T ν = .error .valueError :=
  ⟨idealCharge_err b pilot h, stepCharge_err b pilot ν h⟩

/-- constructor guards: a constructed two-stage battery satisfies the invariant, and the
    constructor fails exactly when `init > capacity ∨ ts < 0 ∨ ts ≥ 1` -/
theorem constructor_guard (cap init maxp noise ts : K) (c : Calc) (hc : 0 < cap) (hm : 0 ≤ maxp) :
    (∀ b, mkTwoStage cap init maxp noise ts c = .ok b → Inv b) ∧
    (mkTwoStage cap init maxp noise ts c = .error .valueError ↔ cap < init ∨ ts < 0 ∨ 1 ≤ ts) ∧
    (∀ b, mkIdeal cap init maxp = .ok b → Inv b) ∧
    (mkIdeal cap init maxp = .error .valueError ↔ cap < init) := by
  refine ⟨?_, ?_, ?_, ?_⟩
  · intro b h
    unfold mkTwoStage at h
    split_ifs at h with h1 h2 h3
    simp only [Except.ok.injEq] at h; subst h
    exact ⟨hc, not_lt.mp h1, not_lt.mp h1, hm, not_lt.mp h2, not_le.mp h3⟩
  · unfold mkTwoStage
    split_ifs with h1 h2 h3 <;> simp [*]
  · intro b h
    unfold mkIdeal at h
    split_ifs at h with h1
    simp only [Except.ok.injEq] at h; subst h
    exact ⟨hc, not_lt.mp h1, not_lt.mp h1, hm, le_refl _, zero_lt_one⟩
  · unfold mkIdeal
    split_ifs with h1 <;> simp [*]

end field

/-! ### the continuous calculation (ℝ) -/

/-- closed form of `_charge`, noise-free, in SoC units, all three regimes (pre-rampdown,
    crossing, rampdown): the SoC gain lies in `[0, min pilot_dsoc max_dsoc]` and the SoC stays
    `≤ 1` -/
theorem continuous_bounds {s ts pd0 md : ℝ} (hmd : 0 < md) (hpd : 0 < pd0) (hts : ts < 1)
    (hs : s ≤ 1) :
    s ≤ contSoc s ts pd0 md ∧ contSoc s ts pd0 md - s ≤ min pd0 md ∧ contSoc s ts pd0 md ≤ 1 :=
  contSoc_bounds hmd hpd hts hs

/-- the continuous calculation with noise, EVERY draw `ν` (and every noise level): the call
    returns and all bounds hold.  (False on the original tree — finding F1, the unclamped
    subtractive noise; true for the repaired code, whose clamp the model follows.) -/
theorem continuous_bounds_noise {b : Batt ℝ} (hb : Inv b) (hm : 0 < b.maxPower) (ν : ℝ)
    {pilot V T : ℝ} (hV : 0 < V) (hT : 0 < T) (hp : 0 ≤ pilot) :
    ∃ b' r, contCharge b pilot V T ν = .ok (b', r) ∧ StepBounds b pilot b' r ∧ Inv b' := by
  obtain ⟨b', r, h, hs, hsp⟩ := contCharge_bounds hb hm ν hV hT hp
  exact ⟨b', r, h, hs, hb.of_sameParams hsp hs.charge_le_cap⟩

/-- why the clamp is needed (finding F1, the code before commit 234ccf3): whenever the scaled
    draw exceeds the pilot's SoC rate, the unclamped `curr_soc − |scaled_noise|` lies strictly
    below the SoC the call started from — negative rate, falling charge -/
theorem noise_clamp_needed {s ts pd0 md x : ℝ} (hmd : 0 < md) (hpd : 0 < pd0) (hts : ts < 1)
    (hs : s ≤ 1) (hx : min pd0 md < |x|) : contSoc s ts pd0 md - |x| < s := by
  have := (contSoc_bounds hmd hpd hts hs).2.1
  linarith

/-- the error branches of `Battery.charge` / `Linear2StageBattery.charge`: `ValueError` for
    `V ≤ 0 ∨ T ≤ 0`, whatever the battery, pilot and draw; and conversely the call returns
    under the guards (for the continuous calculation with a non-zero pilot also
    `maxPower > 0`) -/
theorem charge_rejects_and_returns (b : Batt ℝ) (pilot ν V T : ℝ) :
    (V ≤ 0 ∨ T ≤ 0 → charge b pilot V T ν = .error .valueError) ∧
    (Inv b → 0 < V → 0 < T →
      (0 < b.maxPower ∨ pilot = 0 ∨ b.twoStage = false ∨ b.cmode = .stepwise) →
      ∃ b' r, charge b pilot V T ν = .ok (b', r)) :=
  ⟨charge_rejects b pilot ν, fun hb hV hT hm => charge_total hb ν hV hT hm⟩

/-- every call that returns — any battery kind, noise level, draw, voltage, period — keeps
    the bounds and the invariant -/
theorem charge_bounds_all {b : Batt ℝ} (hb : Inv b) {pilot V T ν : ℝ} (hp : 0 ≤ pilot)
    {b' : Batt ℝ} {r : ℝ} (h : charge b pilot V T ν = .ok (b', r)) :
    StepBounds b pilot b' r ∧ Inv b' :=
  charge_ok_bounds hb hp h

/-- **the invariant `charge ≤ capacity` is preserved by every call, hence the bounds hold at
    every call of ANY history** of `charge` (non-negative pilots; arbitrary voltages, periods
    and noise draws — calls the code rejects leave the state alone) and `reset` calls. -/
theorem bounds_along_history (ops : List (Op ℝ)) :
    ∀ b : Batt ℝ, Inv b → (∀ o ∈ ops, OpAdmissible o) → HistoryOK b ops := by
  induction ops with
  | nil => intro b _ _; trivial
  | cons o os ih =>
    intro b hb hops
    have ho := hops o (List.mem_cons_self ..)
    have hos : ∀ o' ∈ os, OpAdmissible o' := fun o' h => hops o' (List.mem_cons_of_mem _ h)
    unfold HistoryOK
    cases h : applyOp b o with
    | error e => exact ih b hb hos
    | ok x =>
      obtain ⟨b', r⟩ := x
      obtain ⟨h1, h2, h3⟩ := applyOp_ok hb ho h
      exact ⟨h1, h2, h3, ih b' h2 hos⟩

/-- consequence for the states visited: along any history every state satisfies the
    invariant (in particular `charge ≤ capacity`) -/
theorem states_along_history (ops : List (Op ℝ)) :
    ∀ b : Batt ℝ, Inv b → (∀ o ∈ ops, OpAdmissible o) → ∀ x ∈ runOps b ops, Inv x.1 := by
  induction ops with
  | nil => intro b _ _ x hx; simp [runOps] at hx
  | cons o os ih =>
    intro b hb hops x hx
    have ho := hops o (List.mem_cons_self ..)
    have hos : ∀ o' ∈ os, OpAdmissible o' := fun o' h => hops o' (List.mem_cons_of_mem _ h)
    unfold runOps at hx
    cases h : applyOp b o with
    | error e =>
      rw [h] at hx
      rcases List.mem_cons.mp hx with rfl | hx
      · exact hb
      · exact ih b hb hos x hx
    | ok y =>
      obtain ⟨b', r⟩ := y
      rw [h] at hx
      have hb' := (applyOp_ok hb ho h).2.1
      rcases List.mem_cons.mp hx with rfl | hx
      · exact hb'
      · exact ih b' hb' hos x hx

/-- through `EV.charge` (ev.py:130-144): the rate the EV records lies in `[0, pilot]`, the
    delivered energy grows by exactly `rate·V/1000·T/60 ≥ 0`, the battery keeps its invariant -/
theorem ev_rate_le_pilot {e e' : Ev ℝ} (hb : Inv e.batt) {pilot V T ν : ℝ} (hp : 0 ≤ pilot)
    (h : e.charge pilot V T ν = .ok e') :
    0 ≤ e'.rate ∧ e'.rate ≤ pilot ∧ e.delivered ≤ e'.delivered ∧
    e'.delivered = e.delivered + e'.rate * V / 1000 * (T / 60) ∧ Inv e'.batt :=
  BattReal.ev_rate_le_pilot hb hp h

/-! ### through the EVSE (evse.py `BaseEVSE.set_pilot`, every EVSE class) -/

/-- through `set_pilot` with an EV connected — EVERY EVSE class (`s.kind`: continuous, deadband,
    finite rates), every acceptance tolerance: a call that returns has recorded exactly the
    commanded pilot, the rate the EV records lies in `[0, recorded pilot]`, the delivered energy
    does not fall and the battery keeps its invariant.  (What the EVSE presents to the EV is the
    commanded pilot itself, also for the pilots it accepts only within tolerance: just above 0 or
    just below the deadband end on a `DeadbandEVSE`, next to a listed rate on a
    `FiniteRatesEVSE`.) -/
theorem evse_rate_le_pilot (atol fixedAtol : ℝ) {s s' : Evse ℝ} {e : Ev ℝ} (he : s.ev = some e)
    (hb : Inv e.batt) {p V T ν : ℝ} (hp : 0 ≤ p)
    (h : setPilot atol fixedAtol s p V T ν = .ok s') :
    s'.pilot = p ∧ s'.kind = s.kind ∧
    ∃ e', s'.ev = some e' ∧ 0 ≤ e'.rate ∧ e'.rate ≤ s'.pilot ∧ e.delivered ≤ e'.delivered ∧
      Inv e'.batt := by
  cases SetPilotOut.of_eq h with
  | vacant _ hn => rw [he] at hn; cases hn
  | charged _ he' hc =>
    obtain rfl : _ = e := Option.some.inj (he'.symm.trans he)
    obtain ⟨h0, h1, h2, _, h4⟩ := ev_rate_le_pilot hb hp hc
    exact ⟨rfl, rfl, _, rfl, h0, h1, h2, h4⟩

/-- one `set_pilot` call with the state it leaves behind (`setPilotSt`): a returning call as in
    `evse_rate_le_pilot`; a failing call leaves the EV and its battery untouched, and a call
    refused with `InvalidRateError` leaves the whole EVSE untouched -/
theorem evse_call_spec (atol fixedAtol : ℝ) {s : Evse ℝ} {e : Ev ℝ} (he : s.ev = some e)
    (hb : Inv e.batt) {c : PilotCall ℝ} (hp : 0 ≤ c.p) :
    ((setPilotSt atol fixedAtol s c).2 = none →
      (setPilotSt atol fixedAtol s c).1.pilot = c.p ∧
      ∃ e', (setPilotSt atol fixedAtol s c).1.ev = some e' ∧ 0 ≤ e'.rate ∧ e'.rate ≤ c.p ∧
        e.delivered ≤ e'.delivered ∧ Inv e'.batt) ∧
    ((setPilotSt atol fixedAtol s c).2 ≠ none → (setPilotSt atol fixedAtol s c).1.ev = some e) ∧
    (∀ x, (setPilotSt atol fixedAtol s c).2 = some x → x = .invalidRate →
      (setPilotSt atol fixedAtol s c).1 = s) := by
  unfold setPilotSt
  cases h : setPilot atol fixedAtol s c.p c.V c.T c.ν with
  | ok s' =>
    obtain ⟨h1, _, e', h3, h4, h5, h6, h7⟩ := evse_rate_le_pilot atol fixedAtol he hb hp h
    refine ⟨fun _ => ⟨h1, e', h3, h4, h1 ▸ h5, h6, h7⟩, fun hne => absurd rfl hne, ?_⟩
    intro x hx; cases hx
  | error err =>
    cases err with
    | invalidRate =>
      refine ⟨fun hn => (by cases hn), fun _ => he, fun _ _ _ => rfl⟩
    | stationOccupied =>
      refine ⟨fun hn => (by cases hn), fun _ => he, ?_⟩
      intro x hx hi; subst hi; cases hx
    | valueError =>
      refine ⟨fun hn => (by cases hn), fun _ => he, ?_⟩
      intro x hx hi; subst hi; cases hx

/-- **along ANY history of `set_pilot` calls** (non-negative pilots, arbitrary voltages, periods
    and noise draws, whatever the EVSE class accepts or refuses) on an EVSE whose EV's battery
    satisfies the invariant: after every call the EV is still there with the invariant, and
    after every call that returned the recorded pilot is the commanded one and
    `0 ≤ recorded rate ≤ recorded pilot`. -/
theorem evse_bounds_along_history (atol fixedAtol : ℝ) (calls : List (PilotCall ℝ)) :
    ∀ (s : Evse ℝ) (e : Ev ℝ), s.ev = some e → Inv e.batt → (∀ c ∈ calls, 0 ≤ c.p) →
    ∀ x ∈ runPilots atol fixedAtol s calls, ∃ e', x.2.1.ev = some e' ∧ Inv e'.batt ∧
      (x.2.2 = none → x.2.1.pilot = x.1.p ∧ 0 ≤ e'.rate ∧ e'.rate ≤ x.2.1.pilot) := by
  induction calls with
  | nil => intro s e _ _ _ x hx; simp [runPilots] at hx
  | cons c cs ih =>
    intro s e he hb hcs x hx
    have hc := hcs c (List.mem_cons_self ..)
    have hrest : ∀ c' ∈ cs, 0 ≤ c'.p := fun c' h => hcs c' (List.mem_cons_of_mem _ h)
    obtain ⟨hok, herr, _⟩ := evse_call_spec atol fixedAtol he hb hc
    have hnext : ∃ e', (setPilotSt atol fixedAtol s c).1.ev = some e' ∧ Inv e'.batt := by
      cases hr : (setPilotSt atol fixedAtol s c).2 with
      | none => obtain ⟨_, e', h1, _, _, _, h5⟩ := hok hr; exact ⟨e', h1, h5⟩
      | some y => exact ⟨e, herr (by rw [hr]; simp), hb⟩
    simp only [runPilots] at hx
    rcases List.mem_cons.mp hx with rfl | hx
    · obtain ⟨e', h1, h2⟩ := hnext
      refine ⟨e', h1, h2, ?_⟩
      intro hn
      obtain ⟨hp', e'', h1', h3, h4, _, _⟩ := hok hn
      have : e'' = e' := by rw [h1'] at h1; exact Option.some.inj h1
      subst this
      exact ⟨hp', h3, hp' ▸ h4⟩
    · obtain ⟨e', h1, h2⟩ := hnext
      exact ih _ e' h1 h2 hrest x hx

/-! ### non-vacuity -/

/-- the F1 replay battery: `Linear2StageBattery(50, 40, 7, noise_level=2.0)` -/
noncomputable def f1Batt : Batt ℝ :=
  { capacity := 50, charge := 40, init := 40, maxPower := 7, power := 0, twoStage := true,
    noiseLevel := 2, ts := 4 / 5, cmode := .continuous }

example : Inv f1Batt := by constructor <;> norm_num [f1Batt]

/-- `charge(1.0, 208, 5)` on the F1 battery, whatever the draw: returns, rate in `[0, 1]`,
    charge does not fall (on the original tree: rate −15.96 A, charge 40 → 39.72) -/
example (ν : ℝ) : ∃ b' r, contCharge f1Batt 1 208 5 ν = .ok (b', r) ∧ 0 ≤ r ∧ r ≤ 1 ∧
    f1Batt.charge ≤ b'.charge := by
  obtain ⟨b', r, h, hs, _⟩ := continuous_bounds_noise (b := f1Batt)
    (by constructor <;> norm_num [f1Batt]) (by norm_num [f1Batt]) ν
    (by norm_num : (0 : ℝ) < 208) (by norm_num : (0 : ℝ) < 5) (by norm_num : (0 : ℝ) ≤ 1)
  exact ⟨b', r, h, hs.rate_nonneg, hs.rate_le_pilot, hs.charge_mono⟩

/-- the F1 input satisfies the hypothesis of `noise_clamp_needed`: the draw of seed 0,
    `3.528…`, scaled to SoC, is about 17 times the pilot's SoC rate for 1 A -/
example : min (pd0Of f1Batt 1 208 5) (mdOf f1Batt 5) < |(3.528 : ℝ) * (5 / 60) / f1Batt.capacity| := by
  have h : min (pd0Of f1Batt 1 208 5) (mdOf f1Batt 5) ≤ pd0Of f1Batt 1 208 5 := min_le_left _ _
  refine lt_of_le_of_lt h ?_
  rw [abs_of_pos (by norm_num [f1Batt])]
  norm_num [pd0Of, f1Batt]

/-- an ideal battery one kWh short of full -/
def nearFull : Batt ℚ :=
  { capacity := 40, charge := 39, init := 5, maxPower := 7, power := 0, twoStage := false,
    noiseLevel := 0, ts := 0, cmode := .continuous }

example : Inv nearFull := by constructor <;> norm_num [nearFull]

/-- the ideal battery near full: `rate_to_full` is the binding term and the rate is strictly
    between 0 and the pilot -/
example : (match idealCharge nearFull 32 208 60 with
    | .ok (b', r) => decide (b'.charge = 40 ∧ 0 < r ∧ r < 32)
    | .error _ => false) = true := by decide +kernel

/-- a history in which every kind of op occurs is admissible -/
example : ∀ o ∈ [Op.charge (16 : ℝ) 208 5 0.3, .charge 0 208 5 (-7), .charge 32 (-1) 5 0,
    .reset none, .reset (some 60)], OpAdmissible o := by
  intro o ho; simp at ho; rcases ho with rfl | rfl | rfl | rfl | rfl <;> simp [OpAdmissible]

/-- the concrete instances below use an ideal battery, which never calls `exp` -/
local instance : HasExp ℚ := ⟨fun x => x⟩

/-- a `DeadbandEVSE(deadband_end=6, max_rate=32)` with the near-full ideal battery's EV: the
    pilot `1/2000` (inside the tolerance of 0) is accepted, recorded as commanded, and the EV
    charges at no more than that -/
def dbEvse : Evse ℚ :=
  { station := "S", kind := .deadband 6 (some 32), pilot := 0,
    ev := some { session := "s", station := "S", arrival := 0, departure := 1, estDeparture := 1,
                 requested := 0, delivered := 0, rate := 0, batt := nearFull } }

example : (match setPilotSt (1 / 1000) (1 / 1000) dbEvse ⟨1 / 2000, 208, 5, 0⟩ with
    | (s', none) => decide (s'.pilot = 1 / 2000) &&
        (match s'.ev with | some e' => decide (0 < e'.rate ∧ e'.rate ≤ 1 / 2000) | none => false)
    | _ => false) = true := by decide +kernel

/-- … and `3` (inside the deadband) is refused, leaving the EVSE untouched -/
example : (match setPilotSt (1 / 1000) (1 / 1000) dbEvse ⟨3, 208, 5, 0⟩ with
    | (s', some CallErr.invalidRate) => decide (s'.pilot = 0)
    | _ => false) = true := by decide +kernel

end Acn.C03
