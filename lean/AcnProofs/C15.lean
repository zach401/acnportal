/-
  C15 — generated sessions are well-formed and their batteries can hold the request.

  Carriers: documents / samples — any linear ordered field with a floor (`ℚ`, `ℝ`), Python's
  `int()` being truncation toward zero (`SessionsL.pyTrunc`); the capacity fit — `ℝ` with
  `HasExp ℝ := ⟨Real.exp⟩`.  Times are epoch seconds (`datetime.timestamp()`).
-/
import AcnModel.Sessions
import AcnProofs.Lemmas.Sessions
import AcnProofs.Lemmas.SessionsFit
import AcnProofs.Lemmas.SessionsCharge
import AcnProofs.Lemmas.SessionsBisect
import Mathlib.Tactic

namespace Acn.C15
open Acn.Sessions Acn.SessionsL Acn.Battery Acn.Evse

section docs
variable {K : Type} [Field K] [LinearOrder K] [IsStrictOrderedRing K] [FloorRing K]

/-- `int(ts / (60·period))` is the floor for instants at or after the epoch … -/
theorem trunc_eq_floor (secs period : K) (hs : 0 ≤ secs) (hp : 0 < period) :
    periodIndex secs period = .ok ⌊secs / (60 * period)⌋ := by
  rw [periodIndex_pos hp, periodOf_of_nonneg hp hs]

/-- … and the ceiling before it (DESIGN §8: the stated domain of "floor" is `secs ≥ 0`). -/
theorem trunc_eq_ceil_before_epoch (secs period : K) (hs : secs < 0) (hp : 0 < period) :
    periodIndex secs period = .ok ⌈secs / (60 * period)⌉ := by
  rw [periodIndex_pos hp, periodOf_of_neg hp hs]

set_option linter.unusedSectionVars false in
/-- `period = 0` raises (Python: ZeroDivisionError) instead of producing an index -/
theorem zero_period_rejected (secs : K) : periodIndex secs (0 : K) = .error .zeroDivision := by
  unfold periodIndex
  rw [if_pos ⟨lt_irrefl 0, lt_irrefl 0⟩]

example : periodIndex (1552212299 : ℚ) 5 = .ok 5174040 := by
  rw [trunc_eq_floor _ _ (by norm_num) (by norm_num)]; congr 1
  rw [Int.floor_eq_iff]; norm_num
example : periodIndex (-90 : ℚ) (1 : ℚ) = .ok (-1) := by
  rw [trunc_eq_ceil_before_epoch _ _ (by norm_num) (by norm_num)]; congr 1
  rw [Int.ceil_eq_iff]; norm_num

/-- Int form: whole seconds, period `pn/pd` minutes (e.g. 1/2, 7/1): the index is the integer
    quotient `secs·pd / (60·pn)` — for instants at or after the epoch. -/
theorem trunc_eq_int_div (secs : Int) (pn pd : Nat) (hs : 0 ≤ secs) (hpn : 0 < pn) (hpd : 0 < pd) :
    periodIndex (secs : ℚ) ((pn : ℚ) / (pd : ℚ)) = .ok (secs * pd / (60 * pn)) := by
  have hpnq : (0 : ℚ) < pn := by exact_mod_cast hpn
  have hpdq : (0 : ℚ) < pd := by exact_mod_cast hpd
  rw [trunc_eq_floor _ _ (by exact_mod_cast hs) (by positivity)]
  congr 1
  have e : (secs : ℚ) / (60 * ((pn : ℚ) / (pd : ℚ))) = ((secs * pd : Int) : ℚ) / ((60 * pn : Nat) : ℚ) := by
    push_cast; field_simp
  rw [e, Rat.floor_intCast_div_natCast]
  push_cast; rfl

example : periodIndex ((1552212299 : Int) : ℚ) (((1 : Nat) : ℚ) / ((2 : Nat) : ℚ)) = .ok 51740409 := by
  rw [trunc_eq_int_div _ _ _ (by norm_num) (by norm_num) (by norm_num)]; rfl

/-- Every EV returned by `get_evs` belongs to exactly one document, in order; its arrival and
    departure are the floor period index of the connection / disconnection instant minus the
    floor period index of `start` (departure after the `max_len` cap); ids are preserved;
    `generate_events` emits exactly one plug-in event per document, at the arrival. -/
theorem arrival_departure_spec (start : K) (docs : List (Doc K)) (period V mp : K)
    (maxLen : Option Int) (bp : BattParams K) (ff : Bool) (evs : List (Ev K))
    (hp : 0 < period) (hs : 0 ≤ start)
    (h : getEvs start docs period V mp maxLen bp ff = .ok evs) :
    List.Forall₂ (fun d e =>
      e.session = d.session ∧ e.station = d.space ∧ e.estDeparture = e.departure ∧
      (0 ≤ d.connect → e.arrival = ⌊d.connect / (60 * period)⌋ - ⌊start / (60 * period)⌋) ∧
      (0 ≤ d.disconnect → e.departure =
        capDeparture e.arrival (⌊d.disconnect / (60 * period)⌋ - ⌊start / (60 * period)⌋) maxLen))
      docs evs ∧
    pluginEvents evs = evs.map (fun e => (e.arrival, e.session)) ∧
    (pluginEvents evs).length = docs.length := by
  have hf := (getEvs_ok_iff hp).1 h
  exact ⟨hf.imp fun d e hde => convertDoc_floor hp hs hde, rfl, by simp [pluginEvents, hf.length_eq]⟩

/-- Order preservation: `connect ≤ disconnect` gives `arrival ≤ departure` (for every sign of the
    instants, truncation being monotone), provided `max_len`, when given, is not negative.
    Equality is possible and NOT filtered by the code (`same_period_session_kept` below). -/
theorem order_preserving (d : Doc K) (offset : Int) (period V mp : K) (maxLen : Option Int)
    (bp : BattParams K) (ff : Bool) (e : Ev K) (hp : 0 < period)
    (hL : ∀ L, maxLen = some L → 0 ≤ L) (hcd : d.connect ≤ d.disconnect)
    (h : convertDoc d offset period V mp maxLen bp ff = .ok e) : e.arrival ≤ e.departure := by
  obtain ⟨ha, hd, -⟩ := convertDoc_ok hp h
  rw [hd, ha]
  exact capDeparture_ge _ _ _ hL (Int.sub_le_sub_right (periodOf_mono hp hcd) offset)

/-- The strict guarantee: a session that lasts at least one whole period after the epoch, with no
    cap below one period, departs strictly after it arrives. -/
theorem order_strict_of_period_apart (d : Doc K) (offset : Int) (period V mp : K)
    (maxLen : Option Int) (bp : BattParams K) (ff : Bool) (e : Ev K) (hp : 0 < period)
    (hL : ∀ L, maxLen = some L → 1 ≤ L) (hc : 0 ≤ d.connect)
    (hcd : d.connect + 60 * period ≤ d.disconnect)
    (h : convertDoc d offset period V mp maxLen bp ff = .ok e) : e.arrival < e.departure := by
  obtain ⟨ha, hd, -⟩ := convertDoc_ok hp h
  -- one whole period after the connection the index is one more; the disconnection is not before that
  have h2 := periodOf_mono hp hcd
  rw [periodOf_add_period hp hc] at h2
  rw [hd, lt_capDeparture_iff, ha]
  exact ⟨by omega, fun L hLm => hL L hLm⟩

/-- `departure − arrival ≤ max_len` whenever `max_len` is given -/
theorem stay_capped (d : Doc K) (offset : Int) (period V mp : K) (L : Int)
    (bp : BattParams K) (ff : Bool) (e : Ev K) (hp : 0 < period)
    (h : convertDoc d offset period V mp (some L) bp ff = .ok e) : e.departure - e.arrival ≤ L := by
  rw [(convertDoc_ok hp h).departure]
  exact capDeparture_le _ _ _

/-- requested energy = the document's delivered energy, or with `force_feasible` its minimum with
    what the maximum battery power delivers during the stay -/
theorem requested_spec (d : Doc K) (offset : Int) (period V mp : K) (maxLen : Option Int)
    (bp : BattParams K) (ff : Bool) (e : Ev K) (hp : 0 < period)
    (h : convertDoc d offset period V mp maxLen bp ff = .ok e) :
    e.requested = if ff then min d.kWh (mp * ((e.departure - e.arrival : Int) : K) * (period / 60))
                  else d.kWh := by
  rw [(convertDoc_ok hp h).requested]
  unfold docEnergy
  split <;> simp

theorem requested_nonneg (d : Doc K) (offset : Int) (period V mp : K) (maxLen : Option Int)
    (bp : BattParams K) (ff : Bool) (e : Ev K) (hp : 0 < period) (hk : 0 ≤ d.kWh) (hm : 0 ≤ mp)
    (hL : ∀ L, maxLen = some L → 0 ≤ L) (hcd : d.connect ≤ d.disconnect)
    (h : convertDoc d offset period V mp maxLen bp ff = .ok e) : 0 ≤ e.requested := by
  rw [(convertDoc_ok hp h).requested]
  exact docEnergy_nonneg ff hk hm hp
    (sub_nonneg.2 (order_preserving d offset period V mp maxLen bp ff e hp hL hcd h))

/-- Default battery (`battery_params` without `capacity_fn`): capacity = request, initially empty,
    so the free capacity is exactly the request. -/
theorem free_capacity_covers_default (d : Doc K) (offset : Int) (period V mp : K)
    (maxLen : Option Int) (bp : BattParams K) (ff : Bool) (e : Ev K) (hp : 0 < period)
    (hb : bp.capFn = none) (h : convertDoc d offset period V mp maxLen bp ff = .ok e) :
    e.batt.capacity - e.batt.init = e.requested ∧ e.batt.charge = e.batt.init ∧
      e.batt.maxPower = mp := by
  obtain ⟨h1, h2, h3, h4⟩ := mkBattery_default hb (convertDoc_ok hp h).batt
  rw [h1, h2, h3, h4]; simp

/-- With the default `battery_params` the conversion of a well-formed document cannot raise:
    `Battery(requested, 0, …)` is always constructible. -/
theorem default_conversion_total (d : Doc K) (offset : Int) (period V mp : K)
    (maxLen : Option Int) (ff : Bool) (hp : 0 < period) (hk : 0 ≤ d.kWh) (hm : 0 ≤ mp)
    (hL : ∀ L, maxLen = some L → 0 ≤ L) (hcd : d.connect ≤ d.disconnect) :
    ∃ e, convertDoc d offset period V mp maxLen defaultParams ff = .ok e :=
  convertDoc_total hp (fun _ _ hle => mkBattery_default_ok _ _ V period mp
    (docEnergy_nonneg ff hk hm hp (sub_nonneg.2 hle))) hL hcd

/-- List level, default batteries: for EVERY list of well-formed documents (`connect ≤ disconnect`,
    `kWhDelivered ≥ 0`) `get_evs` succeeds, and every session it returns is ordered
    (`arrival ≤ departure`), respects `max_len`, requests a non-negative energy and owns a battery
    whose free capacity equals the request. -/
theorem all_sessions_wellformed_default (start : K) (docs : List (Doc K)) (period V mp : K)
    (maxLen : Option Int) (ff : Bool) (hp : 0 < period) (hm : 0 ≤ mp)
    (hL : ∀ L, maxLen = some L → 0 ≤ L)
    (hdocs : ∀ d ∈ docs, d.connect ≤ d.disconnect ∧ 0 ≤ d.kWh) :
    ∃ evs, getEvs start docs period V mp maxLen defaultParams ff = .ok evs ∧
      evs.length = docs.length ∧
      ∀ e ∈ evs, e.arrival ≤ e.departure ∧ (∀ L, maxLen = some L → e.departure - e.arrival ≤ L) ∧
        0 ≤ e.requested ∧ e.batt.capacity - e.batt.init = e.requested ∧
        e.batt.init ≤ e.batt.capacity := by
  obtain ⟨evs, hf⟩ := exists_forall₂ fun d hd =>
    default_conversion_total d (Capstone.periodOf period start) period V mp maxLen ff hp (hdocs d hd).2 hm hL
      (hdocs d hd).1
  refine ⟨evs, (getEvs_ok_iff hp).2 hf, hf.length_eq.symm, fun e he => ?_⟩
  obtain ⟨d, hd, hde⟩ := forall₂_mem_right hf _ he
  obtain ⟨hcd, hk⟩ := hdocs d hd
  have hreq := requested_nonneg d _ period V mp maxLen defaultParams ff e hp hk hm hL hcd hde
  obtain ⟨hfree, -, -⟩ := free_capacity_covers_default d _ period V mp maxLen defaultParams ff e hp rfl hde
  refine ⟨order_preserving d _ period V mp maxLen defaultParams ff e hp hL hcd hde, ?_, hreq, hfree,
    by linarith⟩
  rintro L rfl
  exact stay_capped d _ period V mp L defaultParams ff e hp hde

/-! non-vacuity: a concrete document over ℚ (start 2019-03-10 08:00 UTC, 5-minute periods) -/

def exDoc : Doc ℚ := { connect := 1552212299, disconnect := 1552212301, kWh := 3, session := "a", space := "CA-1" }
def exDoc2 : Doc ℚ := { connect := 1552212000, disconnect := 1552212299, kWh := 3, session := "b", space := "CA-1" }

/-- a session that crosses a period boundary within two seconds: arrival 24, departure 25 -/
example : ∃ e, convertDoc exDoc 5174016 5 208 (6656/1000) (some 12) defaultParams true = .ok e ∧
    e.arrival = 24 ∧ e.departure = 25 := by
  obtain ⟨e, he⟩ := default_conversion_total exDoc 5174016 5 208 (6656/1000) (some 12) true
    (by norm_num) (by norm_num [exDoc]) (by norm_num) (by intro L h; injection h with h; omega)
    (by norm_num [exDoc])
  refine ⟨e, he, ?_⟩
  obtain ⟨ha, hd, -⟩ := convertDoc_ok (by norm_num) he
  have h1 : Capstone.periodOf 5 exDoc.connect = 5174040 :=
    periodOf_eq_of_mem (by norm_num) (by norm_num) (by norm_num [exDoc]) (by norm_num [exDoc])
  have h2 : Capstone.periodOf 5 exDoc.disconnect = 5174041 :=
    periodOf_eq_of_mem (by norm_num) (by norm_num) (by norm_num [exDoc]) (by norm_num [exDoc])
  rw [h1] at ha; rw [h2] at hd
  have ha' : e.arrival = 24 := by rw [ha]; norm_num
  refine ⟨ha', ?_⟩
  rw [hd, ha']; simp [capDeparture]

/-- Equal indices ARE produced and kept: a 299-second session inside one period has
    `arrival = departure` (the converter has no filter; the stay is then 0 periods). -/
theorem same_period_session_kept :
    ∃ e, convertDoc exDoc2 5174016 5 208 (6656/1000) none defaultParams false = .ok e ∧
      e.arrival = e.departure := by
  obtain ⟨e, he⟩ := default_conversion_total exDoc2 5174016 5 208 (6656/1000) none false
    (by norm_num) (by norm_num [exDoc2]) (by norm_num) (by intro L h; cases h)
    (by norm_num [exDoc2])
  refine ⟨e, he, ?_⟩
  obtain ⟨ha, hd, -⟩ := convertDoc_ok (by norm_num) he
  have h1 : Capstone.periodOf 5 exDoc2.connect = 5174040 :=
    periodOf_eq_of_mem (by norm_num) (by norm_num) (by norm_num [exDoc2]) (by norm_num [exDoc2])
  have h2 : Capstone.periodOf 5 exDoc2.disconnect = 5174040 :=
    periodOf_eq_of_mem (by norm_num) (by norm_num) (by norm_num [exDoc2]) (by norm_num [exDoc2])
  rw [hd, capDeparture_none, ha, h1, h2]

/-- Exactly when a converted session is non-degenerate: `arrival < departure` iff the connection and
    disconnection instants fall in different periods and `max_len`, if given, is at least 1. -/
theorem arrival_lt_departure_iff (d : Doc K) (offset : Int) (period V mp : K) (maxLen : Option Int)
    (bp : BattParams K) (ff : Bool) (e : Ev K) (hp : 0 < period)
    (h : convertDoc d offset period V mp maxLen bp ff = .ok e) :
    e.arrival < e.departure ↔
      pyTrunc (d.connect / (60 * period)) < pyTrunc (d.disconnect / (60 * period)) ∧
      ∀ L, maxLen = some L → 0 < L := by
  obtain ⟨ha, hd, -⟩ := convertDoc_ok hp h
  rw [hd, lt_capDeparture_iff, ha, sub_lt_sub_iff_right]
  exact Iff.rfl

/-- What `generate_events` hands to the simulator, against the hypotheses `Valid` of C01
    (`Lemmas/EventCoreInv.lean`): for documents with `start ≤ connect ≤ disconnect` it GUARANTEES
    `arr_nonneg` (`0 ≤ arrival`), `arrival ≤ departure`, and that session ids are the documents'
    ids in order (so `ids_nodup` holds iff the documents' ids are distinct).  It does NOT guarantee
    `arr_lt_dep`: a session inside one period is kept with `arrival = departure`
    (`same_period_session_kept`); after filtering on `arrival < departure` — which by
    `arrival_lt_departure_iff` drops exactly the same-period sessions (and everything when
    `max_len = 0`) — `arr_lt_dep` holds.  Station non-overlap (`disjoint`) is a property of the data. -/
theorem generate_events_vs_simulator_valid (start : K) (docs : List (Doc K)) (period V mp : K)
    (maxLen : Option Int) (bp : BattParams K) (ff : Bool) (evs : List (Ev K)) (hp : 0 < period)
    (hL : ∀ L, maxLen = some L → 0 ≤ L)
    (hdocs : ∀ d ∈ docs, start ≤ d.connect ∧ d.connect ≤ d.disconnect)
    (h : getEvs start docs period V mp maxLen bp ff = .ok evs) :
    (∀ e ∈ evs, 0 ≤ e.arrival ∧ e.arrival ≤ e.departure) ∧
    evs.map (·.session) = docs.map (·.session) ∧
    evs.map (·.station) = docs.map (·.space) ∧
    (∀ e ∈ evs.filter (fun e => decide (e.arrival < e.departure)), e.arrival < e.departure) := by
  have hf := (getEvs_ok_iff hp).1 h
  refine ⟨?_, ?_, ?_, ?_⟩
  · intro e he
    obtain ⟨d, hd, hde⟩ := forall₂_mem_right hf _ he
    obtain ⟨h1, h2⟩ := hdocs d hd
    refine ⟨?_, order_preserving d _ period V mp maxLen bp ff e hp hL h2 hde⟩
    have := periodOf_mono hp h1
    rw [(convertDoc_ok hp hde).arrival]; omega
  · exact forall₂_map_eq hf fun d e hde => (convertDoc_ok hp hde).session
  · exact forall₂_map_eq hf fun d e hde => (convertDoc_ok hp hde).station
  · intro e he
    simpa using (List.mem_filter.mp he).2

/-- A kept sample row (arrival `a` h, duration `d` h, energy) becomes a session with
    `arrival = ⌊a·60/period⌋`, `departure = ⌊(a + d')·60/period⌋` where `d' = min(d, max_len)` —
    the cap is applied to the duration in HOURS (DESIGN §8, fixed by the repo's own test) —
    ids `session_i` / `station_i` of the row index, requested energy = the sample's energy, or
    with `force_feasible` its minimum with `max_power·d'`; rows with a negative arrival or a
    non-positive duration / energy are exactly the ones skipped. -/
theorem sample_spec (idx : Nat) (s : Sample K) (period V mp : K) (maxLen : Option K)
    (bp : BattParams K) (ff : Bool) (hp : 0 < period) (hL : ∀ L, maxLen = some L → 0 ≤ L) :
    (∀ e, convertSample idx s period V mp maxLen bp ff = .ok (some e) →
      e.arrival = ⌊s.arrival * (60 / period)⌋ ∧
      e.departure = ⌊(s.arrival + sampleDur s.duration maxLen) * (60 / period)⌋ ∧
      e.arrival ≤ e.departure ∧ 0 ≤ e.arrival ∧
      (∀ L, maxLen = some L → sampleDur s.duration maxLen ≤ L ∧
          e.departure - e.arrival ≤ ⌊L * (60 / period)⌋ + 1) ∧
      e.session = s!"session_{idx}" ∧ e.station = s!"station_{idx}" ∧
      e.requested = (if ff then min s.energy (mp * sampleDur s.duration maxLen) else s.energy) ∧
      (0 ≤ mp → 0 ≤ e.requested)) ∧
    (convertSample idx s period V mp maxLen bp ff = .ok none →
      s.arrival < 0 ∨ s.duration ≤ 0 ∨ s.energy ≤ 0) := by
  refine ⟨?_, convertSample_none hp⟩
  intro e h
  obtain ⟨ha0, hd0, he0, ha, hd, -, hs1, hs2, hr, -⟩ := convertSample_some hp h
  have hpph : (0 : K) < 60 / period := by positivity
  have hdur := sampleDur_nonneg s.duration maxLen hd0.le hL
  have hA : (0 : K) ≤ s.arrival * (60 / period) := mul_nonneg ha0 hpph.le
  have hD : (0 : K) ≤ (s.arrival + sampleDur s.duration maxLen) * (60 / period) :=
    mul_nonneg (by linarith) hpph.le
  rw [pyTrunc_nonneg hA] at ha
  rw [pyTrunc_nonneg hD] at hd
  have hmono : ⌊s.arrival * (60 / period)⌋ ≤ ⌊(s.arrival + sampleDur s.duration maxLen) * (60 / period)⌋ :=
    Int.floor_le_floor (mul_le_mul_of_nonneg_right (by linarith) hpph.le)
  refine ⟨ha, hd, by rw [ha, hd]; exact hmono, by rw [ha]; exact Int.floor_nonneg.mpr hA, ?_, hs1, hs2, ?_, ?_⟩
  · intro L hLm
    subst hLm
    refine ⟨sampleDur_le _ _, ?_⟩
    rw [ha, hd, add_mul]
    have h1 : sampleDur s.duration (some L) * (60 / period) ≤ L * (60 / period) :=
      mul_le_mul_of_nonneg_right (sampleDur_le _ _) hpph.le
    have h2 := Int.floor_le_floor h1
    have h3 := Int.le_floor_add_floor (s.arrival * (60 / period))
      (sampleDur s.duration (some L) * (60 / period))
    omega
  · rw [hr]; split <;> simp
  · intro hm
    rw [hr]; split
    · rw [pyMin_eq_min]; exact le_min he0.le (mul_nonneg hm hdur)
    · exact he0.le

/-- the rows `_convert_ev_matrix` keeps -/
def validRow (s : Sample K) : Bool :=
  !(decide (s.arrival < 0) || decide (s.duration ≤ 0) || decide (s.energy ≤ 0))

/-- `_convert_ev_matrix` yields exactly one session per valid row, in row order, converted with
    that row's index in the full matrix (so `session_i` / `station_i` are pairwise distinct), and
    nothing for the invalid rows. -/
theorem matrix_spec (period V mp : K) (maxLen : Option K) (bp : BattParams K) (ff : Bool)
    (hp : 0 < period) :
    ∀ (rows : List (Sample K)) (i : Nat) (evs : List (Ev K)),
      convertMatrixFrom i rows period V mp maxLen bp ff = .ok evs →
      List.Forall₂ (fun p e => convertSample p.2 p.1 period V mp maxLen bp ff = .ok (some e))
        ((rows.zipIdx i).filter (fun p => validRow p.1)) evs := by
  intro rows
  induction rows with
  | nil =>
    intro i evs h
    rw [convertMatrixFrom] at h
    injection h with h; subst h
    exact .nil
  | cons r rs ih =>
    intro i evs h
    rw [convertMatrixFrom] at h
    split at h
    · cases h
    · rename_i o ho
      split at h
      · cases h
      · rename_i l hl
        injection h with h
        have ihl := ih (i + 1) l hl
        rw [List.zipIdx_cons]
        cases o with
        | some e =>
          obtain ⟨h1, h2, h3, -⟩ := convertSample_some hp ho
          have hv : validRow r = true := by
            simp [validRow, not_lt.mpr h1, not_le.mpr h2, not_le.mpr h3]
          rw [List.filter_cons_of_pos (by simpa using hv)]
          subst h
          exact .cons ho ihl
        | none =>
          have hinv := convertSample_none hp ho
          have hv : validRow r = false := by
            simp only [validRow, Bool.not_eq_false', Bool.or_eq_true, decide_eq_true_eq]
            rcases hinv with h' | h' | h'
            · exact Or.inl (Or.inl h')
            · exact Or.inl (Or.inr h')
            · exact Or.inr h'
          rw [List.filter_cons_of_neg (by simp [hv])]
          subst h
          exact ihl

example : (⌊(9.5 : ℚ) * (60 / 5)⌋ = 114) ∧ ⌊((9.5 : ℚ) + 0.01) * (60 / 5)⌋ = 114 := by
  constructor <;> (rw [Int.floor_eq_iff]; norm_num)

end docs

section fit
open Acn.SessionsFit Acn.BattFlow

variable {caps : List ℝ} {mr ts tol E T V P cap init : ℝ} {fuel : Nat}

/-- The regenerated constants of the fit lie in the ranges the theorems assume. -/
theorem gen_fit_consts :
    (∀ c ∈ Gen.fitCaps, 0 < c) ∧ 0 < Gen.fitMaxRate ∧ 0 ≤ Gen.fitTransitionSoc ∧
      Gen.fitTransitionSoc < 1 ∧ 0 < Gen.fitTol ∧ Gen.fitCaps ≠ [] := by decide +kernel

/-- `batt_cap_fn` never hands the Battery constructor an initial charge above the capacity (nor a
    negative one): for every request and stay in its domain the answer satisfies
    `0 ≤ init ≤ cap`, `cap` is a ladder capacity that can hold the request, and the two-stage
    battery is constructible. -/
theorem init_le_capacity (hd : FitDomain caps mr ts tol E T V P)
    (h : battCapFn caps mr ts tol fuel E T V P = .ok (cap, init)) (mp noise : ℝ) (cm : Calc) :
    cap ∈ caps ∧ E ≤ cap ∧ 0 ≤ init ∧ init ≤ cap ∧
      ∃ b, mkTwoStage cap init mp noise ts cm = .ok b ∧ b.capacity = cap ∧ b.charge = init := by
  obtain ⟨hmem, hc, hle, h0, hs1, -⟩ := fit_main hd h
  have hic : init ≤ cap := (div_le_one hc).1 hs1
  exact ⟨hmem, hle, h0, hic, _, mkTwoStage_ok cm hic hd.ts_nonneg hd.ts_lt, rfl, rfl⟩

/-- Free capacity of a fitted battery: it covers the request exactly in the closed-form branch and
    up to the bisection tolerance (`tol` in SoC units = `tol·cap` kWh) otherwise. -/
theorem fit_free_capacity (hd : FitDomain caps mr ts tol E T V P)
    (h : battCapFn caps mr ts tol fuel E T V P = .ok (cap, init)) :
    E - tol * cap < cap - init ∧
      (ts ≤ (closedInitSoc mr ts E T V P cap).2.2 → E ≤ cap - init) := by
  obtain ⟨-, hc, -, -, -, -, hfree, hcl, -⟩ := fit_main hd h
  -- the SoC inequalities of `fit_main`, multiplied by the capacity
  constructor
  · have := mul_lt_mul_of_pos_right hfree hc
    rwa [sub_mul, sub_mul, div_mul_cancel₀ _ hc.ne', one_mul, div_mul_cancel₀ _ hc.ne'] at this
  · intro hclosed
    have := mul_le_mul_of_nonneg_right (hcl hclosed).2.2 hc.le
    rwa [sub_mul, div_mul_cancel₀ _ hc.ne', one_mul, div_mul_cancel₀ _ hc.ne'] at this

/-- `fit_exact`: build `Linear2StageBattery(cap, init, 32·V/1000)` from the fit's answer and charge
    it at the fit's full rate for the `n = stay` periods: the energy taken equals the request —
    exactly in the closed-form branch, within the bisection tolerance `tol·cap` otherwise. -/
theorem fit_exact (n : Nat) (hd : FitDomain caps mr ts tol E (n : ℝ) V P)
    (h : battCapFn caps mr ts tol fuel E (n : ℝ) V P = .ok (cap, init)) :
    ∃ b b', mkTwoStage cap init (mr * V / 1000) 0 ts .continuous = .ok b ∧
      chargeN b mr V P n = .ok b' ∧
      |b'.charge - init - E| < tol * cap ∧
      (ts ≤ (closedInitSoc mr ts E (n : ℝ) V P cap).2.2 → b'.charge - init = E) := by
  obtain ⟨-, hc, -, -, hs1, hflow, -, hcl, -⟩ := fit_main hd h
  have hic : init ≤ cap := (div_le_one hc).1 hs1
  obtain ⟨b, hb, hfb, hbc⟩ : ∃ b, mkTwoStage cap init (mr * V / 1000) 0 ts .continuous = .ok b ∧
      FitBatt cap (mr * V / 1000) ts b ∧ b.charge = init :=
    ⟨_, mkTwoStage_ok .continuous hic hd.ts_nonneg hd.ts_lt, ⟨rfl, rfl, rfl, rfl, rfl, rfl⟩, rfl⟩
  obtain ⟨b', hch, -, -, hsoc⟩ := chargeN_flow hd.mr_pos hd.V_pos hd.P_pos hc hd.ts_lt n b hfb
    (hbc ▸ hic)
  rw [hbc] at hsoc
  -- `hsoc`: the final SoC is the flow from `init / cap`; the claims are those of `fit_main` in kWh
  have hkWh : b'.charge - init - E = (taken (fitM mr V P cap) ts n (init / cap) - E / cap) * cap := by
    rw [taken, ← hsoc, sub_mul, sub_mul, div_mul_cancel₀ _ hc.ne', div_mul_cancel₀ _ hc.ne',
      div_mul_cancel₀ _ hc.ne']
  refine ⟨b, b', hb, hch, ?_, ?_⟩
  · rw [hkWh, abs_mul, abs_of_pos hc]
    exact mul_lt_mul_of_pos_right hflow hc
  · intro hclosed
    rw [← sub_eq_zero, hkWh, (hcl hclosed).2.1, sub_self, zero_mul]

/-- Bisection terminates (fuel adequacy): `delta_soc_from_init_soc` is decreasing and 1-Lipschitz
    in the initial SoC, so with the bracket `[ts − m·T, 1]` that `_get_init_cap` uses, `batt_cap_fn`
    never exhausts `n+1` levels of recursion once `1 − ts + m·T < tol·2^(n+1)` for every ladder
    capacity (`m` = SoC per period at full rate).  With `tol = 1e-9` that is `31 + log₂(0.2 + m·T)`
    levels — far below CPython's limit, which the model's fuel (900) stands for. -/
theorem bisection_terminates (hd : FitDomain caps mr ts tol E T V P) (n : Nat)
    (hfuel : ∀ c ∈ caps, 1 - ts + fitM mr V P c * T < tol * 2 ^ (n + 1)) :
    battCapFn caps mr ts tol (n + 1) E T V P ≠ .error .recursion :=
  battCapFn_no_recursion hd.mr_pos hd.V_pos hd.P_pos hd.ts_lt hd.T_pos hd.E_nonneg n caps
    (fun c hc => ⟨hd.caps_pos c hc, hfuel c hc⟩)

/-- an answer of the bisection, whatever the fuel, lies in the bracket and meets the tolerance
    (`SessionsFit.binsearch_spec` over ℝ) -/
theorem bisection_answer (f : ℝ → ℝ) (target tol : ℝ) (k : Nat) (lb ub s : ℝ) (hlu : lb ≤ ub)
    (h : binsearch f target tol k lb ub = .ok s) : lb ≤ s ∧ s ≤ ub ∧ |f s - target| < tol :=
  binsearch_spec f target tol k lb ub s hlu h

/-- `free_capacity_covers`: a document converted with `capacity_fn = batt_cap_fn` (any positive
    ladder, constants in range) and a positive stay gets a battery on the ladder with
    `0 ≤ init ≤ capacity` whose free capacity covers the requested energy — exactly in the fit's
    closed-form branch, up to `tol·capacity` (1e-9 of the capacity) in its bisection branch.  For
    batteries without `capacity_fn` see `free_capacity_covers_default` (free capacity = request). -/
theorem free_capacity_covers (d : Doc ℝ) (offset : Int) (period V mp : ℝ) (maxLen : Option Int)
    (bp : BattParams ℝ) (ff : Bool) (e : Ev ℝ) (hp : 0 < period) (hV : 0 < V)
    (hcaps : ∀ c ∈ caps, 0 < c) (hmr : 0 < mr) (hts0 : 0 ≤ ts) (hts1 : ts < 1) (htol : 0 < tol)
    (hb : bp.capFn = some (battCapFn caps mr ts tol fuel))
    (hreq : 0 ≤ e.requested) (hstay : e.arrival < e.departure)
    (h : convertDoc d offset period V mp maxLen bp ff = .ok e) :
    e.batt.capacity ∈ caps ∧ 0 ≤ e.batt.init ∧ e.batt.init ≤ e.batt.capacity ∧
      e.requested - tol * e.batt.capacity < e.batt.capacity - e.batt.init ∧
      (ts ≤ (closedInitSoc mr ts e.requested ((e.departure - e.arrival : Int) : ℝ) V period
                e.batt.capacity).2.2 → e.requested ≤ e.batt.capacity - e.batt.init) := by
  obtain ⟨c, i, hf, hc, hi, -, -, -⟩ := mkBattery_capFn hb (convertDoc_ok hp h).batt
  have hT : (0 : ℝ) < ((e.departure - e.arrival : Int) : ℝ) := by
    exact_mod_cast (by omega : (0 : Int) < e.departure - e.arrival)
  have hd : FitDomain caps mr ts tol e.requested ((e.departure - e.arrival : Int) : ℝ) V period :=
    ⟨hcaps, hmr, hts0, hts1, htol, hreq, hT, hV, hp⟩
  obtain ⟨h1, -, h3, h4, -⟩ := init_le_capacity hd hf 0 0 .continuous
  obtain ⟨h5, h6⟩ := fit_free_capacity hd hf
  rw [hc, hi]
  exact ⟨h1, h3, h4, h5, h6⟩

/-- Minimal capacity: the ladder stops at the first capacity that works — every capacity tried
    before the returned one is too small to hold the request or, charged from EMPTY at full rate
    for the whole stay, takes less than the request (plus the bisection tolerance `tol·c`). -/
theorem fit_capacity_minimal (hd : FitDomain caps mr ts tol E T V P) (hts0 : 0 < ts)
    (h : battCapFn caps mr ts tol fuel E T V P = .ok (cap, init)) :
    ∃ pre post, caps = pre ++ cap :: post ∧ ∀ c ∈ pre, c < E ∨
      flowSoc (fitM mr V P c) (fitM mr V P c / (1 - ts)) 0 T * c < E + tol * c := by
  obtain ⟨-, -, -, pre, post, he, hall⟩ := battCapFn_spec caps h
  refine ⟨pre, post, he, ?_⟩
  intro c hc
  have hcpos : 0 < c := hd.caps_pos c (by rw [he]; exact List.mem_append_left _ hc)
  rcases hall c hc with h1 | ⟨i, hi, hneg⟩
  · exact Or.inl h1
  · right
    have := mul_lt_mul_of_pos_right
      (getInitCap_neg hd.mr_pos hd.V_pos hd.P_pos hcpos hts0 hd.ts_lt hd.T_pos hd.tol_pos hi hneg) hcpos
    rwa [taken, sub_zero, add_mul, div_mul_cancel₀ _ hcpos.ne'] at this

/-- Maximal initial charge (what the comment in `_get_init_cap` promises: "the largest init_soc that
    still allows for delta_soc to be delivered").  Write `taken i` for the SoC the battery
    `(cap, i)` takes when charged at full rate for the stay.  For every answer `(cap, init)`:
    (a) `init` itself takes the request up to `tol`;
    (b) NO larger initial charge `i' ≤ cap` takes the request plus `tol`: every initial charge
        that is feasible with margin `tol` is strictly below `init` — so `init` lies between the
        largest `tol`-robustly feasible and the largest `tol`-nearly feasible initial charge;
    (c) in the closed-form branch `init` is EXACTLY the largest feasible initial charge: it takes
        exactly the request and every larger one takes strictly less;
    (d) in the bisection branch `init` lies in the code's bracket, at or above
        `(ts − m·T)·cap`, i.e. never inside the flat region below it where all initial charges take
        the same energy.
    (In SoC distance the bisection answer can be up to `√(2(1−ts)·tol)` above the exact maximiser
    when the request equals the flat-region value — the curve has slope 0 there — which is why
    (b) is stated in delivered energy, the quantity `binsearch` controls.) -/
theorem fit_init_maximal (hd : FitDomain caps mr ts tol E T V P)
    (h : battCapFn caps mr ts tol fuel E T V P = .ok (cap, init)) :
    let taken := fun i : ℝ =>
      flowSoc (fitM mr V P cap) (fitM mr V P cap / (1 - ts)) (i / cap) T - i / cap
    E / cap - tol < taken init ∧
    (∀ i', i' ≤ cap → E / cap + tol ≤ taken i' → i' < init) ∧
    (ts ≤ (closedInitSoc mr ts E T V P cap).2.2 →
      taken init = E / cap ∧ ∀ i', init < i' → i' ≤ cap → taken i' < E / cap) ∧
    (¬ ts ≤ (closedInitSoc mr ts E T V P cap).2.2 → (ts - fitM mr V P cap * T) * cap ≤ init) := by
  intro tk
  have htk : ∀ i, tk i = taken (fitM mr V P cap) ts T (i / cap) := fun _ => rfl
  simp only [htk]
  obtain ⟨-, hc, -, -, -, hflow, -, hcl, hbis⟩ := fit_main hd h
  have hm := fitM_pos hd.mr_pos hd.V_pos hd.P_pos hc
  rw [abs_lt] at hflow
  refine ⟨by linarith only [hflow.1], ?_, ?_, ?_⟩
  · intro i' _ hfeas
    by_contra hnot
    have := taken_antitone hm hd.T_pos hd.ts_lt (div_le_div_of_nonneg_right (not_lt.mp hnot) hc.le)
    linarith only [this, hfeas, hflow.2]
  · intro hclosed
    obtain ⟨hts, heq, -⟩ := hcl hclosed
    refine ⟨heq, ?_⟩
    intro i' hlt _
    exact heq ▸ taken_strict_above_ts hm hd.T_pos hd.ts_lt hts (div_lt_div_of_pos_right hlt hc)
  · intro hn
    exact (le_div_iff₀ hc).1 (hbis hn)

/-- the constants of the working tree (regenerated `Gen.Consts`) put every non-negative request
    with a positive stay, voltage and period into the fit's domain -/
theorem fitDomain_gen {E T V P : ℝ} (hE : 0 ≤ E) (hT : 0 < T) (hV : 0 < V) (hP : 0 < P) :
    FitDomain (Gen.fitCaps.map ratK) (ratK Gen.fitMaxRate) (ratK Gen.fitTransitionSoc)
      (ratK Gen.fitTol) E T V P := by
  obtain ⟨h1, h2, h3, h4, h5, -⟩ := gen_fit_consts
  refine ⟨?_, ?_, ?_, ?_, ?_, hE, hT, hV, hP⟩
  · intro c hc
    rw [List.mem_map] at hc
    obtain ⟨q, hq, rfl⟩ := hc
    rw [ratK_cast]; exact_mod_cast h1 q hq
  · rw [ratK_cast]; exact_mod_cast h2
  · rw [ratK_cast]; exact_mod_cast h3
  · rw [ratK_cast]; exact_mod_cast h4
  · rw [ratK_cast]; exact_mod_cast h5

/-- `fit_exact` for `batt_cap_fn` AS IT IS in the working tree (ladder, 32 A, transition SoC and
    tolerance regenerated from battery.py): for every request `E ≥ 0`, stay of `n ≥ 1` periods,
    voltage and period, an answer `(cap, init)` satisfies `0 ≤ init ≤ cap`, its free capacity
    covers `E` up to `tol·cap`, and `Linear2StageBattery(cap, init, 32·V/1000)` charged at 32 A for
    the `n` periods takes `E` up to `tol·cap` (exactly `E` in the closed-form branch). -/
theorem fit_exact_gen {E V P cap init : ℝ} (n : Nat) (hn : 0 < n) (hE : 0 ≤ E) (hV : 0 < V)
    (hP : 0 < P) (h : battCapFnGen E (n : ℝ) V P = .ok (cap, init)) :
    0 ≤ init ∧ init ≤ cap ∧ E - ratK Gen.fitTol * cap < cap - init ∧
    ∃ b b', mkTwoStage cap init (ratK Gen.fitMaxRate * V / 1000) 0 (ratK Gen.fitTransitionSoc)
        .continuous = .ok b ∧
      chargeN b (ratK Gen.fitMaxRate) V P n = .ok b' ∧
      |b'.charge - init - E| < ratK Gen.fitTol * cap ∧
      (ratK Gen.fitTransitionSoc ≤ (closedInitSoc (ratK Gen.fitMaxRate) (ratK Gen.fitTransitionSoc)
          E (n : ℝ) V P cap).2.2 → b'.charge - init = E ∧ E ≤ cap - init) := by
  have hd := fitDomain_gen (E := E) (T := (n : ℝ)) (V := V) (P := P) hE (by exact_mod_cast hn) hV hP
  unfold battCapFnGen at h
  obtain ⟨-, -, h0, h1, -⟩ := init_le_capacity hd h 0 0 .continuous
  obtain ⟨h2, h3⟩ := fit_free_capacity hd h
  obtain ⟨b, b', hb, hch, habs, hex⟩ := fit_exact n hd h
  exact ⟨h0, h1, h2, b, b', hb, hch, habs, fun hc => ⟨hex hc, h3 hc⟩⟩

/-! non-vacuity: the corpus case of finding F9, `batt_cap_fn(1.0, 100, 208, 5)` (closed-form branch),
    over ℝ with the ladder and constants of the source -/

theorem fitDomain_F9 : FitDomain [8, 24, 40, 60, 85, 100] 32 (4/5) (1/1000000000) 1 ((100 : ℕ) : ℝ) 208 5 :=
  ⟨by intro c hc; simp at hc; rcases hc with h | h | h | h | h | h <;> rw [h] <;> norm_num,
   by norm_num, by norm_num, by norm_num, by norm_num, by norm_num, by norm_num, by norm_num, by norm_num⟩

/-- the repaired code answers the 1 kWh / 100-period request with the 8 kWh battery from the
    closed-form branch (`init = init_soc·8` kWh) … -/
theorem fit_F9_closed (fuel : Nat) :
    ∃ init, battCapFn [8, 24, 40, 60, 85, 100] 32 (4/5) (1/1000000000) fuel 1 ((100 : ℕ) : ℝ) 208 5
        = .ok (8, init) ∧
      (4/5 : ℝ) ≤ (closedInitSoc 32 (4/5) 1 ((100 : ℕ) : ℝ) 208 5 8).2.2 := by
  have hcl : (4/5 : ℝ) ≤ (closedInitSoc 32 (4/5) 1 ((100 : ℕ) : ℝ) 208 5 8).2.2 := by
    rw [closed_eq]
    simp only [fitM]
    have e : (32 * 208 / 1000 / 8 / (60 / 5) * ((100 : ℕ) : ℝ) / (4 / 5 - 1) : ℝ) = -(104/3) := by
      norm_num
    rw [e]
    -- `e^{-104/3} ≤ 1/4` is all that is needed of the exponential
    have hpos := Real.exp_pos (-(104/3 : ℝ))
    have hx : Real.exp (-(104/3 : ℝ)) ≤ 1 / 4 := by
      rw [Real.exp_neg, inv_le_comm₀ (Real.exp_pos _) (by norm_num)]
      linarith [Real.add_one_le_exp (104/3 : ℝ)]
    generalize Real.exp (-(104/3 : ℝ)) = x at hpos hx
    have hneg : x - 1 < 0 := by linarith
    have : (-(1/5) : ℝ) ≤ 1 / 8 / (x - 1) := by
      rw [le_div_iff_of_neg hneg]; linarith
    linarith
  refine ⟨(closedInitSoc 32 (4/5) 1 ((100 : ℕ) : ℝ) 208 5 8).2.2 * 8, ?_, hcl⟩
  rw [battCapFn, if_neg (by norm_num)]
  have hg : getInitCap 32 (4/5) (1/1000000000) fuel 1 ((100 : ℕ) : ℝ) 208 5 8 =
      .ok ((closedInitSoc 32 (4/5) 1 ((100 : ℕ) : ℝ) 208 5 8).2.2 * 8) := by
    unfold getInitCap
    simp only
    rw [if_pos hcl]
  rw [hg]
  simp only
  rw [if_pos (by linarith)]

/-- … whose free capacity covers the request and which takes exactly 1 kWh in the 100 periods
    (before the repair it took 7.1 kWh: `init` was an SoC, not kWh). -/
example : ∃ init b b', battCapFn [8, 24, 40, 60, 85, 100] 32 (4/5) (1/1000000000) 7 1 ((100 : ℕ) : ℝ) 208 5
      = .ok (8, init) ∧ 1 ≤ 8 - init ∧
    mkTwoStage 8 init (32 * 208 / 1000) 0 (4/5) .continuous = .ok b ∧
    chargeN b 32 208 5 100 = .ok b' ∧ b'.charge - init = 1 := by
  obtain ⟨init, h, hcl⟩ := fit_F9_closed 7
  obtain ⟨b, b', hb, hch, -, hex⟩ := fit_exact 100 fitDomain_F9 h
  exact ⟨init, b, b', h, (fit_free_capacity fitDomain_F9 h).2 hcl, hb, hch, hex hcl⟩

/-- the same request answered by `battCapFnGen`, i.e. with the regenerated constants -/
example : ∃ init, battCapFnGen (1 : ℝ) ((100 : ℕ) : ℝ) 208 5 = .ok (8, init) := by
  obtain ⟨init, h, -⟩ := fit_F9_closed pyFuel
  refine ⟨init, ?_⟩
  unfold battCapFnGen
  have hc : Gen.fitCaps.map (ratK (K := ℝ)) = [8, 24, 40, 60, 85, 100] := by
    simp only [Gen.fitCaps, List.map_cons, List.map_nil, ratK_cast]; norm_num
  rw [hc, ratK_cast, ratK_cast, ratK_cast]
  have e1 : ((Gen.fitMaxRate : ℚ) : ℝ) = 32 := by norm_num [Gen.fitMaxRate]
  have e2 : ((Gen.fitTransitionSoc : ℚ) : ℝ) = 4 / 5 := by norm_num [Gen.fitTransitionSoc]
  have e3 : ((Gen.fitTol : ℚ) : ℝ) = 1 / 1000000000 := by norm_num [Gen.fitTol]
  rw [e1, e2, e3]
  exact h

/-- 34 levels suffice for the F9 request on the whole ladder (Python's limit is 1000) -/
example : battCapFn [8, 24, 40, 60, 85, 100] 32 (4/5) (1/1000000000) (33 + 1) 1 ((100 : ℕ) : ℝ) 208 5
    ≠ .error .recursion := by
  apply bisection_terminates fitDomain_F9 33
  intro c hc
  simp only [List.mem_cons, List.not_mem_nil, or_false] at hc
  rcases hc with h | h | h | h | h | h <;> rw [h] <;> norm_num [fitM]

end fit

end Acn.C15
