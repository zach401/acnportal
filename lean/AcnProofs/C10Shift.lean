/-
  C10 — results are independent of a shift of the time axis, at the level of the FULL simulator model, beyond
  `run_shift_sorted` / `run_shift_anchored` / `run_shift_aligned` of `AcnProofs/C10.lean`:

    * `uninterrupted_charging = True`: `run_shift_sorted_any` — `run_shift_sorted` for BOTH preprocessing
      modes (`max_recompute = None`, errors included).  `apply_minimum_charging_rate` reads `remaining_time`,
      minimum pilots and the feasibility oracle: nothing that moves with the time axis.
    * the sorting-based algorithms with `max_recompute ≠ None`.  While nothing is plugged in they answer
      ALL-ZERO ROWS (`{station: [0.0]}`), not `{}`, so `SchedIdle` fails for them.  The idle prefix only needs
      the answer to leave the all-zero pilot matrix as it is (`SchedIdleZ`; `{}` and the zero rows are
      instances): `run_shift_anchored_zero`, `run_shift_aligned_zero` generalise the two capstones, and
      `run_shift_sorted_recompute` instantiates them (any `max_recompute`; an event in period 0, or `m ∣ k`).
    * THE RIGHT STATEMENT WHEN NEITHER HOLDS (`run_shift_sorted_late`).  With `max_recompute = m`, no event in
      period 0 and `m ∤ k` the shifted run is NOT the shift of the original run as a whole (the periodic
      invocations of the idle prefix are anchored at period 0: `invoked` and, before the first event,
      `_last_schedule_update` differ — counter-example after `run_shift_core`).  But every scenario with an
      event is the shift `a` of an ANCHORED scenario `cfg0` (first event in period 0), and BOTH runs are
      shifts of the run of `cfg0`: from the first event on they coincide.  Precisely: the runs of
      `shiftCfgS a cfg0` and of `shiftCfgS k (shiftCfgS a cfg0)` complete when the run of `cfg0` does, each is
      `ShEquiv` to it (everything from the first event on, invocation periods included, is the shifted
      copy; only the idle invocations `Va` / `Vb` in front differ), and the OUTPUTS of the two runs are
      related exactly as in the shift relation (`ShOut k`): pilots / rates with `k` zero columns in front,
      energies, peak, `EVSE.current_pilot`, draw count equal, `k` vacant rows in front of the occupancy
      log, the clock `k` later.
-/
import AcnProofs.C10
import AcnProofs.Lemmas.EquivSimIdleZ

set_option linter.unusedSectionVars false

namespace Acn.C10
open Acn.EventCore Acn.Sim Acn.SimShift Acn.SimSorted Acn.Sorted Acn.Pilots

section shift_recompute
variable {K : Type} [Field K] [LinearOrder K] [IsStrictOrderedRing K] [HasExp K]

/-- CAPSTONE (shift × the sorting-based algorithms, BOTH preprocessing modes, `max_recompute = None`,
    errors included): `run_shift_sorted` without the restriction to `uninterrupted_charging = False`. -/
theorem run_shift_sorted_any [HasCeilNat K] (k : Nat) (cfg : Cfg K) (h : ShiftOK cfg) (net : NetInfo K) (inf : K)
    (scfg : Config K) (hmr : cfg.maxRecompute = none) (n : Nat) :
    (Sim.run (shiftCfgS k cfg) (sortedSched net inf (shiftCfgS k cfg) scfg) (k + n) (Sim.init (shiftCfgS k cfg))).2 =
      (Sim.run cfg (sortedSched net inf cfg scfg) n (Sim.init cfg)).2 ∧
    ShEquiv k [] (List.replicate k (noneRow cfg)) (Sim.run cfg (sortedSched net inf cfg scfg) n (Sim.init cfg)).1
      (Sim.run (shiftCfgS k cfg) (sortedSched net inf (shiftCfgS k cfg) scfg) (k + n) (Sim.init (shiftCfgS k cfg))).1 :=
  run_shift k cfg h (sortedSched_shiftInvariant_any k net inf cfg scfg) hmr n

/-- CAPSTONE (shift, ANY `max_recompute`, anchored) for schedulers that answer an idle network with a
    schedule that leaves the all-zero pilot matrix unchanged (`SchedIdleZ`: `{}`, all-zero rows):
    `run_shift_anchored` with the weaker idleness hypothesis. -/
theorem run_shift_anchored_zero (k : Nat) (cfg : Cfg K) (h : ShiftOK cfg)
    {sched sched' : View K → Except EventCore.Err (Schedule K)} (hs : SchedShiftInvariant k sched sched')
    (hsi : SchedIdleZ cfg k sched')
    (hanchor : (Sim.eventsStage cfg (Sim.init cfg)).1.core.resolve = true)
    (n : Nat) (r : State K) (hr : Sim.run cfg sched (n + 1) (Sim.init cfg) = (r, none)) :
    ∃ r' V, Sim.run (shiftCfgS k cfg) sched' (k + (n + 1)) (Sim.init (shiftCfgS k cfg)) = (r', none) ∧
      ShEquiv k V (List.replicate k (noneRow cfg)) r r' :=
  run_shift_aligned_ok h hs (fun _ => hsi) (aligned_of_anchor k hanchor) n r hr

/-- CAPSTONE (shift, `max_recompute = m`, `m = 0 ∨ m ∣ k`, no event needed in period 0) for `SchedIdleZ`
    schedulers: `run_shift_aligned` with the weaker idleness hypothesis. -/
theorem run_shift_aligned_zero (k : Nat) (cfg : Cfg K) (h : ShiftOK cfg)
    {sched sched' : View K → Except EventCore.Err (Schedule K)} (hs : SchedShiftInvariant k sched sched')
    (hsi : SchedIdleZ cfg k sched') {m : Nat} (hm : cfg.maxRecompute = some m) (hdiv : m = 0 ∨ m ∣ k)
    (n : Nat) (r : State K) (hr : Sim.run cfg sched (n + 1) (Sim.init cfg) = (r, none)) :
    ∃ r' V, Sim.run (shiftCfgS k cfg) sched' (k + (n + 1)) (Sim.init (shiftCfgS k cfg)) = (r', none) ∧
      ShEquiv k V (List.replicate k (noneRow cfg)) r r' :=
  run_shift_aligned_ok h hs (fun _ => hsi) (Or.inr (Or.inr ⟨m, hm, hdiv⟩)) n r hr

/-- `{}` while idle is an instance of `SchedIdleZ`, so the two theorems above contain `run_shift_anchored`
    and `run_shift_aligned` -/
theorem schedIdleZ_of_schedIdle {k : Nat} {sched : View K → Except EventCore.Err (Schedule K)} (h : SchedIdle k sched)
    (cfg : Cfg K) : SchedIdleZ cfg k sched := h.toZ cfg

/-- CAPSTONE (shift × the sorting-based algorithms, ANY `max_recompute`).  Greedy and round robin, all five
    sorts, both preprocessing modes, no estimator.  If the all-zero schedule is feasible (otherwise the
    algorithms raise on an idle network) and either something is due in period 0 of the original scenario
    or `max_recompute = m` with `m = 0 ∨ m ∣ k`, every run that completes on the original scenario completes
    on the shifted one with `ShEquiv k V pre` final states (`V`: the idle invocations of the prefix). -/
theorem run_shift_sorted_recompute [HasCeilNat K] (k : Nat) (cfg : Cfg K) (h : ShiftOK cfg) (net : NetInfo K) (inf : K)
    (scfg : Config K) (hz : feasOf net (List.replicate cfg.stations.length 0) = true)
    (hal : (Sim.eventsStage cfg (Sim.init cfg)).1.core.resolve = true ∨
      ∃ m, cfg.maxRecompute = some m ∧ (m = 0 ∨ m ∣ k))
    (n : Nat) (r : State K) (hr : Sim.run cfg (sortedSched net inf cfg scfg) (n + 1) (Sim.init cfg) = (r, none)) :
    ∃ r' V, Sim.run (shiftCfgS k cfg) (sortedSched net inf (shiftCfgS k cfg) scfg) (k + (n + 1))
        (Sim.init (shiftCfgS k cfg)) = (r', none) ∧
      ShEquiv k V (List.replicate k (noneRow cfg)) r r' := by
  have hs := sortedSched_shiftInvariant_any k net inf cfg scfg
  have hsi := sortedSched_idleZ net inf cfg scfg k hz
  rcases hal with hanchor | ⟨m, hm, hdiv⟩
  · exact run_shift_anchored_zero k cfg h hs hsi hanchor n r hr
  · exact run_shift_aligned_zero k cfg h hs hsi hm hdiv n r hr

/-- what two runs, one `k` periods after the other, put out -/
structure ShOut (k : Nat) (pre : List (List (Option String))) (s s' : State K) : Prop where
  iter : s'.core.iter = s.core.iter + k
  pilots : s'.pilots = shiftMat k s.pilots
  rates : s'.rates = shiftMat k s.rates
  peak : s'.peak = s.peak
  evs : s'.evs = s.evs.map (shiftEvK k)
  evsePilot : s'.evsePilot = s.evsePilot
  noiseIdx : s'.noiseIdx = s.noiseIdx
  occLog : s'.occLog = pre ++ s.occLog

theorem shiftMat_add (k a : Nat) (m : Pilots.Mat K) : shiftMat (k + a) m = shiftMat k (shiftMat a m) := by
  unfold shiftMat
  simp only [List.map_map, Pilots.Mat.mk.injEq]
  refine ⟨?_, by omega⟩
  apply List.map_congr_left
  intro r _
  simp only [Function.comp, List.replicate_add, List.append_assoc]

theorem shiftEvK_add (k a : Nat) (e : Evse.Ev K) : shiftEvK (k + a) e = shiftEvK k (shiftEvK a e) := by
  unfold shiftEvK
  simp only
  congr 1 <;> (push_cast; omega)

theorem shiftCfgS_add (k a : Nat) (cfg : Cfg K) : shiftCfgS k (shiftCfgS a cfg) = shiftCfgS (k + a) cfg := by
  unfold shiftCfgS
  simp only [List.map_map]
  congr 1
  · apply List.map_congr_left
    intro e _
    exact (shiftEvK_add k a e).symm
  · apply List.map_congr_left
    intro r _
    simp only [Function.comp, Prod.mk.injEq, and_true]
    push_cast
    omega

/-- both are shifts of the same state ⇒ the outputs of the later one are the `k`-shift of the earlier one's -/
theorem shOut_of_shEquiv {k a : Nat} {Va Vb : List Nat} {row : List (Option String)} {s0 sa sb : State K}
    (ha : ShEquiv a Va (List.replicate a row) s0 sa) (hb : ShEquiv (k + a) Vb (List.replicate (k + a) row) s0 sb) :
    ShOut k (List.replicate k row) sa sb := by
  refine ⟨?_, ?_, ?_, ?_, ?_, ?_, ?_, ?_⟩
  · rw [hb.core, ha.core, sh_iter, sh_iter]; omega
  · rw [hb.pilots, ha.pilots, shiftMat_add]
  · rw [hb.rates, ha.rates, shiftMat_add]
  · rw [hb.peak, ha.peak]
  · rw [hb.evs, ha.evs, List.map_map]
    apply List.map_congr_left
    intro e _
    exact shiftEvK_add k a e
  · rw [hb.evsePilot, ha.evsePilot]
  · rw [hb.noiseIdx, ha.noiseIdx]
  · rw [hb.occLog, ha.occLog, List.replicate_add, List.append_assoc]

/-- CAPSTONE (shift × the sorting-based algorithms, ANY `max_recompute`, ANY shift, NO alignment).
    `cfg0` is anchored (its first event is due in period 0: `hanchor`).  `shiftCfgS a cfg0` is the general
    scenario with its first event in period `a`; `shiftCfgS k (shiftCfgS a cfg0)` the same `k` periods later.
    If the run of `cfg0` completes, both complete; each is `ShEquiv` to the run of `cfg0` — so from the
    first event on (periods `a` resp. `k + a`) the two runs are shifted copies of the SAME run, invocation
    periods and `_last_schedule_update` included, and only the idle invocations `Va`, `Vb` in front are
    their own —, and the outputs of the later run are the `k`-shift of the outputs of the earlier one
    (`ShOut k`).  Greedy and round robin, all sorts, both preprocessing modes, every `max_recompute`,
    every `a`, `k`, every fuel. -/
theorem run_shift_sorted_late [HasCeilNat K] (a k : Nat) (cfg0 : Cfg K) (h : ShiftOK cfg0) (net : NetInfo K) (inf : K)
    (scfg : Config K) (hz : feasOf net (List.replicate cfg0.stations.length 0) = true)
    (hanchor : (Sim.eventsStage cfg0 (Sim.init cfg0)).1.core.resolve = true)
    (n : Nat) (r0 : State K) (hr : Sim.run cfg0 (sortedSched net inf cfg0 scfg) (n + 1) (Sim.init cfg0) = (r0, none)) :
    ∃ ra rb Va Vb,
      Sim.run (shiftCfgS a cfg0) (sortedSched net inf (shiftCfgS a cfg0) scfg) (a + (n + 1))
        (Sim.init (shiftCfgS a cfg0)) = (ra, none) ∧
      Sim.run (shiftCfgS k (shiftCfgS a cfg0)) (sortedSched net inf (shiftCfgS k (shiftCfgS a cfg0)) scfg)
        (k + a + (n + 1)) (Sim.init (shiftCfgS k (shiftCfgS a cfg0))) = (rb, none) ∧
      ShEquiv a Va (List.replicate a (noneRow cfg0)) r0 ra ∧
      ShEquiv (k + a) Vb (List.replicate (k + a) (noneRow cfg0)) r0 rb ∧
      ShOut k (List.replicate k (noneRow cfg0)) ra rb := by
  obtain ⟨ra, Va, hra, hea⟩ := run_shift_sorted_recompute a cfg0 h net inf scfg hz (Or.inl hanchor) n r0 hr
  obtain ⟨rb, Vb, hrb, heb⟩ := run_shift_sorted_recompute (k + a) cfg0 h net inf scfg hz (Or.inl hanchor) n r0 hr
  refine ⟨ra, rb, Va, Vb, hra, ?_, hea, heb, shOut_of_shEquiv hea heb⟩
  rw [shiftCfgS_add]
  exact hrb

end shift_recompute

section shift_recompute_examples

local instance : HasExp ℚ := ⟨fun x => x⟩
local instance : HasCeilNat ℚ := ⟨fun x => (Rat.ceil x).toNat⟩

/-- `exSimLate` moved one period back: ANCHORED (session x arrives in period 0), `max_recompute = 2` -/
def exSim0 : Sim.Cfg ℚ :=
  { exSimLate with
    evs := [{ session := "x", station := "A", arrival := 0, departure := 3, estDeparture := 3, requested := 10,
              delivered := 0, rate := 0,
              batt := { capacity := 40, charge := 5, init := 5, maxPower := 7, power := 0, twoStage := false,
                        noiseLevel := 0, ts := 0, cmode := .continuous } },
            { session := "y", station := "B", arrival := 1, departure := 5, estDeparture := 4, requested := 10,
              delivered := 0, rate := 0,
              batt := { capacity := 40, charge := 5, init := 5, maxPower := 7, power := 0, twoStage := false,
                        noiseLevel := 0, ts := 0, cmode := .continuous } }] }

theorem exSim0_ok : ShiftOK exSim0 :=
  ⟨by decide, by decide,
   by show ∀ x ∈ exSim0.core.sessions, 0 ≤ x.departure; decide,
   by show ∀ st ∈ exSim0.stations, Evse.validRate (atolOf exSim0 st.kind) exSim0.atolFinite st.kind 0 = true
      decide +kernel⟩

def exGreedyUn : Config ℚ := { exGreedy with uninterrupted := true }

/-- the hypotheses of `run_shift_sorted_late` are satisfiable with no event in period 0 and `m ∤ k`:
    `max_recompute = 2`, first event of the earlier scenario in period `a = 1` (not 0), shift `k = 3`
    (`2 ∤ 3`), greedy EDF with `uninterrupted_charging`; and what the three runs look like: the idle
    invocations differ (`[0]` resp. `[0, 2]`), from the first event on the invocation periods are shifted
    copies (`[0, 1, 3, 5]` of the anchored run), the pilots are the shifted pilots -/
example :
    exSim0.maxRecompute = some 2 ∧
    (∃ ra rb Va Vb,
      Sim.run (shiftCfgS 1 exSim0) (sortedSched exNet 1000000 (shiftCfgS 1 exSim0) exGreedyUn) (1 + 9)
        (Sim.init (shiftCfgS 1 exSim0)) = (ra, none) ∧
      Sim.run (shiftCfgS 3 (shiftCfgS 1 exSim0)) (sortedSched exNet 1000000 (shiftCfgS 3 (shiftCfgS 1 exSim0)) exGreedyUn)
        (3 + 1 + 9) (Sim.init (shiftCfgS 3 (shiftCfgS 1 exSim0))) = (rb, none) ∧
      ShEquiv 1 Va (List.replicate 1 (noneRow exSim0))
        (Sim.run exSim0 (sortedSched exNet 1000000 exSim0 exGreedyUn) 9 (Sim.init exSim0)).1 ra ∧
      ShEquiv (3 + 1) Vb (List.replicate (3 + 1) (noneRow exSim0))
        (Sim.run exSim0 (sortedSched exNet 1000000 exSim0 exGreedyUn) 9 (Sim.init exSim0)).1 rb ∧
      ShOut 3 (List.replicate 3 (noneRow exSim0)) ra rb) ∧
    (Sim.run exSim0 (sortedSched exNet 1000000 exSim0 exGreedyUn) 9 (Sim.init exSim0)).1.core.invoked = [0, 1, 3, 5] ∧
    (Sim.run (shiftCfgS 1 exSim0) (sortedSched exNet 1000000 (shiftCfgS 1 exSim0) exGreedyUn) 10
        (Sim.init (shiftCfgS 1 exSim0))).1.core.invoked = [0] ++ [0, 1, 3, 5].map (· + 1) ∧
    (Sim.run (shiftCfgS 3 (shiftCfgS 1 exSim0)) (sortedSched exNet 1000000 (shiftCfgS 3 (shiftCfgS 1 exSim0)) exGreedyUn) 13
        (Sim.init (shiftCfgS 3 (shiftCfgS 1 exSim0)))).1.core.invoked = [0, 2] ++ [0, 1, 3, 5].map (· + 4) ∧
    (Sim.run (shiftCfgS 1 exSim0) (sortedSched exNet 1000000 (shiftCfgS 1 exSim0) exGreedyUn) 10
        (Sim.init (shiftCfgS 1 exSim0))).1.pilots.rows = [[0, 30, 22, 0, 0, 0, 0], [0, 0, 8, 0, 16, 0, 0]] := by
  -- one evaluation per run
  have h0 : (Sim.run exSim0 (sortedSched exNet 1000000 exSim0 exGreedyUn) 9 (Sim.init exSim0)).2 = none ∧
      (Sim.run exSim0 (sortedSched exNet 1000000 exSim0 exGreedyUn) 9 (Sim.init exSim0)).1.core.invoked = [0, 1, 3, 5] := by
    decide +kernel
  have h1 : (Sim.run (shiftCfgS 1 exSim0) (sortedSched exNet 1000000 (shiftCfgS 1 exSim0) exGreedyUn) 10
        (Sim.init (shiftCfgS 1 exSim0))).1.core.invoked = [0] ++ [0, 1, 3, 5].map (· + 1) ∧
      (Sim.run (shiftCfgS 1 exSim0) (sortedSched exNet 1000000 (shiftCfgS 1 exSim0) exGreedyUn) 10
        (Sim.init (shiftCfgS 1 exSim0))).1.pilots.rows = [[0, 30, 22, 0, 0, 0, 0], [0, 0, 8, 0, 16, 0, 0]] := by
    decide +kernel
  refine ⟨rfl, ?_, h0.2, h1.1, by decide +kernel, h1.2⟩
  exact run_shift_sorted_late 1 3 exSim0 exSim0_ok exNet 1000000 exGreedyUn (by decide +kernel) (by decide +kernel)
    8 _ (eq_pair_of_snd h0.1)

/-- the hypotheses of `run_shift_sorted_recompute` are satisfiable in its ALIGNED branch: `exSimLate` (first
    event in period 1, `max_recompute = 2`), shift 4, `uninterrupted_charging`, round robin -/
example : ∃ r' V, Sim.run (shiftCfgS 4 exSimLate) (sortedSched exNet 1000000 (shiftCfgS 4 exSimLate) { exGreedyUn with algo := .roundRobin })
      (4 + 9) (Sim.init (shiftCfgS 4 exSimLate)) = (r', none) ∧
    ShEquiv 4 V (List.replicate 4 (noneRow exSimLate))
      (Sim.run exSimLate (sortedSched exNet 1000000 exSimLate { exGreedyUn with algo := .roundRobin }) 9 (Sim.init exSimLate)).1 r' := by
  have hrun : (Sim.run exSimLate (sortedSched exNet 1000000 exSimLate { exGreedyUn with algo := .roundRobin }) 9
      (Sim.init exSimLate)).2 = none := by decide +kernel
  exact run_shift_sorted_recompute 4 exSimLate exSimLate_ok exNet 1000000 _ (by decide +kernel)
    (Or.inr ⟨2, rfl, Or.inr ⟨2, rfl⟩⟩) 8 _ (eq_pair_of_snd hrun)

/-- the hypotheses of `run_shift_sorted_any` are satisfiable: `uninterrupted_charging`, `max_recompute =
    None`, shift 3 -/
example : ShiftOK exSimNone ∧
    ShEquiv 3 [] (List.replicate 3 (noneRow exSimNone))
      (Sim.run exSimNone (sortedSched exNet 1000000 exSimNone exGreedyUn) 9 (Sim.init exSimNone)).1
      (Sim.run (shiftCfgS 3 exSimNone) (sortedSched exNet 1000000 (shiftCfgS 3 exSimNone) exGreedyUn) (3 + 9)
        (Sim.init (shiftCfgS 3 exSimNone))).1 ∧
    (Sim.run (shiftCfgS 3 exSimNone) (sortedSched exNet 1000000 (shiftCfgS 3 exSimNone) exGreedyUn) (3 + 9)
        (Sim.init (shiftCfgS 3 exSimNone))).1.pilots.rows
      = (Sim.run exSimNone (sortedSched exNet 1000000 exSimNone exGreedyUn) 9
          (Sim.init exSimNone)).1.pilots.rows.map ([0, 0, 0] ++ ·) ∧
    (Sim.run exSimNone (sortedSched exNet 1000000 exSimNone exGreedyUn) 9 (Sim.init exSimNone)).1.pilots.rows
      ≠ [[0, 0, 0, 0, 0, 0, 0], [0, 0, 0, 0, 0, 0, 0]] := by
  have hsh := (run_shift_sorted_any 3 exSimNone exSimNone_ok exNet 1000000 exGreedyUn rfl 9).2
  -- the third claim is `ShEquiv.pilots` read row by row
  exact ⟨exSimNone_ok, hsh, congrArg Pilots.Mat.rows hsh.pilots, by decide +kernel⟩

end shift_recompute_examples
end Acn.C10
