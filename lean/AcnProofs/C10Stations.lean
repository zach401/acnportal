/-
  C10 — results are independent of the registration order of the stations, at the level of the FULL simulator
  model `Acn.Sim.run`, beyond the completing runs of `AcnProofs/C10.lean`:

    * RAISING RUNS.  `run_equivariant_stations_raise`: whatever the run does — complete or abort, in any
      period, with any error — the permuted run does the same: same error in `StEquiv σ` states (equal keyed
      by station id), with ONE exception that is genuinely order-dependent and is stated exactly: when
      `network.update_pilots` raises, the stations before the offender have already charged, so the
      permuted run also aborts in `update_pilots` in the same period (possibly with the other of the two
      `set_pilot` errors when two stations offend differently) and the states at the abort agree on
      everything `update_pilots` does not write: event core, pilot matrix, rate matrix, peak, occupancy
      log (`AbortEquiv σ`); only `EVSE.current_pilot`, the EV records and the draw counter are not related.
    * `uninterrupted_charging = True`.  `run_equivariant_stations_sorted_any`: the sorting-based algorithms
      in BOTH preprocessing modes, greedy and round robin, all five sorts, errors included.  Tie
      hypothesis `TieOK`: interruptible — no two sessions of a call share the sort key (as in `C10.lean`);
      uninterrupted — no two sessions share `remaining_time` (the key of the sort inside
      `apply_minimum_charging_rate`); the main key may then have ties: they are broken by the
      remaining-time order in every registration order.
    * `run_equivariant_stations_uncontrolled_any`: uncontrolled charging, errors included.
-/
import AcnProofs.C10
import AcnProofs.Lemmas.EquivSimSortedStations

set_option linter.unusedSectionVars false

namespace Acn.C10
open Acn.EventCore Acn.Sim Acn.SimEquiv Acn.SimSorted Acn.Sorted

section stations_raise
variable {K : Type} [Field K] [LinearOrder K] [IsStrictOrderedRing K] [HasExp K]

/-- CAPSTONE (stations, ERRORS INCLUDED).  Register the stations in the order `σ` and hand the simulator
    a scheduler pair that, on every view `P` holds of, answers station-permuted views with the same
    `{station id ↦ pilots}` dict or with the same error (`SchedEquivariantE σ P`).  If every view handed
    out during the ORIGINAL run satisfies `P`, then for every fuel the two runs of the full simulator
    model either
      (a) end alike: the same error (or none) and `StEquiv σ` final states — pilots, rates,
          `EVSE.current_pilot`, occupancy snapshots equal keyed by station id; event core, every EV record,
          peak, draw counter EQUAL —, or
      (b) are both aborted by `network.update_pilots` (each with `InvalidRateError` or the `ValueError` of
          a charge) in states that agree on everything `update_pilots` does not write (`AbortEquiv σ`:
          event core — hence the same period —, pilot matrix, rate matrix, peak, occupancy log).
    (b) cannot be improved: the station loop stops at the FIRST offender in registration order, and the
    stations before it have charged. -/
theorem run_equivariant_stations_raise (σ : List Nat) (d : Station K) (cfg : Cfg K) (h : PermOK σ cfg)
    {P : View K → Prop} {sched sched' : View K → Except EventCore.Err (Schedule K)}
    (hs : SchedEquivariantE σ P sched sched') (n : Nat)
    (hP : ∀ v ∈ runViews cfg sched n (Sim.init cfg), P v) :
    ((Sim.run (permCfg σ d cfg) sched' n (Sim.init (permCfg σ d cfg))).2 = (Sim.run cfg sched n (Sim.init cfg)).2 ∧
      StEquiv σ (Sim.run cfg sched n (Sim.init cfg)).1
        (Sim.run (permCfg σ d cfg) sched' n (Sim.init (permCfg σ d cfg))).1) ∨
    (∃ e e', (Sim.run cfg sched n (Sim.init cfg)).2 = some e ∧
      (Sim.run (permCfg σ d cfg) sched' n (Sim.init (permCfg σ d cfg))).2 = some e' ∧
      IsPilotErr e ∧ IsPilotErr e' ∧
      AbortEquiv σ (Sim.run cfg sched n (Sim.init cfg)).1
        (Sim.run (permCfg σ d cfg) sched' n (Sim.init (permCfg σ d cfg))).1) := by
  obtain ⟨he, hsh, ho⟩ := init_equiv (d := d) h
  exact run_equiv_lift (d := d) h hs.toSt n he hsh ho hP

/-- a `SchedEquivariant` pair (equal association lists, equal errors) whose answers are dicts (pairwise
    different keys) is `SchedEquivariantE` on every view: the scripted and the empty scheduler -/
theorem schedEquivariantE_of_equivariant (σ : List Nat) {sched sched' : View K → Except EventCore.Err (Schedule K)}
    (h : SchedEquivariant σ sched sched') (hk : ∀ v a, sched v = .ok a → (a.map (·.1)).Nodup) :
    SchedEquivariantE σ (fun _ => True) sched sched' := by
  intro v v' hv _
  have e := h v v' hv.rel
  refine ⟨fun a ha => ⟨a, by rw [e, ha], List.Perm.refl _, hk v a ha⟩, fun er he' => by rw [e, he']⟩

/-- CAPSTONE (stations × the sorting-based algorithms, BOTH preprocessing modes, errors included).
    `SortedSchedulingAlgo` and `RoundRobin`, all five sort keys, continuous and finite-rate EVSEs, any
    network constraints, `uninterrupted_charging` on or off, `estimate_max_rate = False`; the permuted
    algorithm is built from the permuted configuration and the network description with permuted columns.
    If every view of the original run is `TieOK` (interruptible: no tie in the sort key; uninterrupted:
    no tie in `remaining_time`) the conclusion of `run_equivariant_stations_raise` holds — in particular
    a run that completes, completes with `StEquiv σ` final states, and a run in which the ALGORITHM
    raises (`ValueError` of an infeasible lower bound, …) raises the same error in the same period in
    `StEquiv σ` states. -/
theorem run_equivariant_stations_sorted_any [HasCeilNat K] (σ : List Nat) (d : Station K) (cfg : Cfg K)
    (h : PermOK σ cfg) {net : NetInfo K} (hnet : NetOK cfg.stations.length net) (inf : K) (scfg : Config K) (n : Nat)
    (hties : ∀ v ∈ runViews cfg (sortedSched net inf cfg scfg) n (Sim.init cfg), TieOK inf cfg scfg v) :
    ((Sim.run (permCfg σ d cfg) (sortedSched (reNet σ net) inf (permCfg σ d cfg) scfg) n
        (Sim.init (permCfg σ d cfg))).2 = (Sim.run cfg (sortedSched net inf cfg scfg) n (Sim.init cfg)).2 ∧
      StEquiv σ (Sim.run cfg (sortedSched net inf cfg scfg) n (Sim.init cfg)).1
        (Sim.run (permCfg σ d cfg) (sortedSched (reNet σ net) inf (permCfg σ d cfg) scfg) n
          (Sim.init (permCfg σ d cfg))).1) ∨
    (∃ e e', (Sim.run cfg (sortedSched net inf cfg scfg) n (Sim.init cfg)).2 = some e ∧
      (Sim.run (permCfg σ d cfg) (sortedSched (reNet σ net) inf (permCfg σ d cfg) scfg) n
        (Sim.init (permCfg σ d cfg))).2 = some e' ∧
      IsPilotErr e ∧ IsPilotErr e' ∧
      AbortEquiv σ (Sim.run cfg (sortedSched net inf cfg scfg) n (Sim.init cfg)).1
        (Sim.run (permCfg σ d cfg) (sortedSched (reNet σ net) inf (permCfg σ d cfg) scfg) n
          (Sim.init (permCfg σ d cfg))).1) :=
  run_equivariant_stations_raise σ d cfg h (sortedSched_equivariantE h hnet inf scfg) n hties

/-- the completing-run form of `run_equivariant_stations_sorted_any` for `uninterrupted_charging = True`
    (what `run_equivariant_stations_sorted` excludes): tie-freeness in `remaining_time` ONLY -/
theorem run_equivariant_stations_sorted_uninterrupted [HasCeilNat K] (σ : List Nat) (d : Station K) (cfg : Cfg K)
    (h : PermOK σ cfg) {net : NetInfo K} (hnet : NetOK cfg.stations.length net) (inf : K) (scfg : Config K)
    (hu : scfg.uninterrupted = true) (n : Nat) (r : State K)
    (hties : ∀ v ∈ runViews cfg (sortedSched net inf cfg scfg) n (Sim.init cfg), TieFreeRT inf cfg v)
    (hr : Sim.run cfg (sortedSched net inf cfg scfg) n (Sim.init cfg) = (r, none)) :
    ∃ r', Sim.run (permCfg σ d cfg) (sortedSched (reNet σ net) inf (permCfg σ d cfg) scfg) n
        (Sim.init (permCfg σ d cfg)) = (r', none) ∧ StEquiv σ r r' := by
  obtain ⟨he, hsh, ho⟩ := init_equiv (d := d) h
  refine run_equiv_ok h (sortedSched_equivariantE h hnet inf scfg).toSt n he hsh ho (fun v hv => ?_) hr
  unfold TieOK
  rw [if_pos hu]
  exact hties v hv

/-- CAPSTONE (stations × uncontrolled charging, errors included) -/
theorem run_equivariant_stations_uncontrolled_any (σ : List Nat) (d : Station K) (cfg : Cfg K) (h : PermOK σ cfg)
    (inf : K) (n : Nat)
    (hone : ∀ v ∈ runViews cfg (uncontrolledSched inf cfg) n (Sim.init cfg), OnePerStation v) :
    ((Sim.run (permCfg σ d cfg) (uncontrolledSched inf (permCfg σ d cfg)) n (Sim.init (permCfg σ d cfg))).2 =
        (Sim.run cfg (uncontrolledSched inf cfg) n (Sim.init cfg)).2 ∧
      StEquiv σ (Sim.run cfg (uncontrolledSched inf cfg) n (Sim.init cfg)).1
        (Sim.run (permCfg σ d cfg) (uncontrolledSched inf (permCfg σ d cfg)) n (Sim.init (permCfg σ d cfg))).1) ∨
    (∃ e e', (Sim.run cfg (uncontrolledSched inf cfg) n (Sim.init cfg)).2 = some e ∧
      (Sim.run (permCfg σ d cfg) (uncontrolledSched inf (permCfg σ d cfg)) n (Sim.init (permCfg σ d cfg))).2 = some e' ∧
      IsPilotErr e ∧ IsPilotErr e' ∧
      AbortEquiv σ (Sim.run cfg (uncontrolledSched inf cfg) n (Sim.init cfg)).1
        (Sim.run (permCfg σ d cfg) (uncontrolledSched inf (permCfg σ d cfg)) n (Sim.init (permCfg σ d cfg))).1) :=
  run_equivariant_stations_raise σ d cfg h (uncontrolledSched_equivariantE h inf) n hone

end stations_raise

section stations_raise_examples

local instance : HasExp ℚ := ⟨fun x => x⟩
local instance : HasCeilNat ℚ := ⟨fun x => (Rat.ceil x).toNat⟩

def exGreedyU : Config ℚ := { exGreedy with uninterrupted := true }
def exRRU : Config ℚ := { exRR with uninterrupted := true }

/-- `exSimLate` (station B has the NON-ZERO minimum pilot 8 A: `apply_minimum_charging_rate` has something
    to reserve), re-scheduled in every period -/
def exSimU : Sim.Cfg ℚ := { exSimLate with maxRecompute := some 1 }

theorem exSimU_permOK : PermOK [1, 0] exSimU :=
  ⟨by decide, by show (exSimU.stations.map (·.id)).Nodup; decide, constNoise_of_short (by simp [exSimU, exSimLate])⟩

theorem exNet_okU : NetOK exSimU.stations.length exNet := exNet_ok

/-- the test run of `exSimU` under uninterrupted EDF greedy, evaluated once: it completes, its pilot
    table, and the remaining times of the sessions differ in every view handed out -/
theorem exGreedyU_run :
    (Sim.run exSimU (sortedSched exNet 1000000 exSimU exGreedyU) 9 (Sim.init exSimU)).2 = none ∧
    (Sim.run exSimU (sortedSched exNet 1000000 exSimU exGreedyU) 9 (Sim.init exSimU)).1.pilots.rows
      = [[0, 30, 22, 22, 0, 0, 0], [0, 0, 8, 8, 16, 16, 0]] ∧
    ∀ v ∈ runViews exSimU (sortedSched exNet 1000000 exSimU exGreedyU) 9 (Sim.init exSimU),
      (preOf (infraOf 1000000 exSimU) exSimU.period (v.active.map (sessionOfEv 1000000 v.iter))).Pairwise
        (fun a b => a.remainingTime ≠ b.remainingTime) := by
  decide +kernel

/-- … and under uninterrupted round robin -/
theorem exRRU_run :
    (Sim.run exSimU (sortedSched exNet 1000000 exSimU exRRU) 9 (Sim.init exSimU)).2 = none ∧
    ∀ v ∈ runViews exSimU (sortedSched exNet 1000000 exSimU exRRU) 9 (Sim.init exSimU),
      (preOf (infraOf 1000000 exSimU) exSimU.period (v.active.map (sessionOfEv 1000000 v.iter))).Pairwise
        (fun a b => a.remainingTime ≠ b.remainingTime) := by
  decide +kernel

/-- the hypotheses of `run_equivariant_stations_sorted_uninterrupted` are satisfiable (remaining times of
    the two sessions differ in every view: departures 4 and 6), both algorithms; the run completes, the
    minimum pilot of B (8 A) is held while x is served first (interruptible greedy gives y nothing in periods 2-3,
    see `AcnProofs/C10.lean`), and the permuted run has the rows swapped -/
example :
    (∀ scfg ∈ [exGreedyU, exRRU], ∃ r', Sim.run (permCfg [1, 0] ⟨"", .cont 0 none, 0⟩ exSimU)
        (sortedSched (reNet [1, 0] exNet) 1000000 (permCfg [1, 0] ⟨"", .cont 0 none, 0⟩ exSimU) scfg) 9
        (Sim.init (permCfg [1, 0] ⟨"", .cont 0 none, 0⟩ exSimU)) = (r', none) ∧
      StEquiv [1, 0] (Sim.run exSimU (sortedSched exNet 1000000 exSimU scfg) 9 (Sim.init exSimU)).1 r') ∧
    (Sim.run exSimU (sortedSched exNet 1000000 exSimU exGreedyU) 9 (Sim.init exSimU)).1.pilots.rows
      = [[0, 30, 22, 22, 0, 0, 0], [0, 0, 8, 8, 16, 16, 0]] ∧
    (Sim.run (permCfg [1, 0] ⟨"", .cont 0 none, 0⟩ exSimU)
        (sortedSched (reNet [1, 0] exNet) 1000000 (permCfg [1, 0] ⟨"", .cont 0 none, 0⟩ exSimU) exGreedyU) 9
        (Sim.init (permCfg [1, 0] ⟨"", .cont 0 none, 0⟩ exSimU))).1.pilots.rows
      = [[0, 0, 8, 8, 16, 16, 0], [0, 30, 22, 22, 0, 0, 0]] := by
  have key : ∀ scfg ∈ [exGreedyU, exRRU], ∃ r', Sim.run (permCfg [1, 0] ⟨"", .cont 0 none, 0⟩ exSimU)
        (sortedSched (reNet [1, 0] exNet) 1000000 (permCfg [1, 0] ⟨"", .cont 0 none, 0⟩ exSimU) scfg) 9
        (Sim.init (permCfg [1, 0] ⟨"", .cont 0 none, 0⟩ exSimU)) = (r', none) ∧
      StEquiv [1, 0] (Sim.run exSimU (sortedSched exNet 1000000 exSimU scfg) 9 (Sim.init exSimU)).1 r' := by
    intro scfg hs
    simp only [List.mem_cons, List.mem_nil_iff, or_false] at hs
    have hfacts : (Sim.run exSimU (sortedSched exNet 1000000 exSimU scfg) 9 (Sim.init exSimU)).2 = none ∧
        ∀ v ∈ runViews exSimU (sortedSched exNet 1000000 exSimU scfg) 9 (Sim.init exSimU),
          (preOf (infraOf 1000000 exSimU) exSimU.period (v.active.map (sessionOfEv 1000000 v.iter))).Pairwise
            (fun a b => a.remainingTime ≠ b.remainingTime) := by
      rcases hs with rfl | rfl
      · exact ⟨exGreedyU_run.1, exGreedyU_run.2.2⟩
      · exact exRRU_run
    exact run_equivariant_stations_sorted_uninterrupted [1, 0] _ exSimU exSimU_permOK exNet_okU 1000000 scfg
      (by rcases hs with rfl | rfl <;> rfl) 9 _
      (fun v hv => tieFreeRT_of_pairwise _ _ v (hfacts.2 v hv)) (eq_pair_of_snd hfacts.1)
  refine ⟨key, exGreedyU_run.2.1, ?_⟩
  -- the pilot table of the permuted run is the original one read in the order `[1, 0]`
  obtain ⟨r', hr', he⟩ := key exGreedyU List.mem_cons_self
  rw [hr', he.pilots]
  exact congrArg (reidx [1, 0] · []) exGreedyU_run.2.1

/-- a scripted scheduler that RAISES in period 2 (after both sessions have charged in period 1 … 2) -/
def exScriptRaise : List (Nat × Option (Schedule ℚ)) :=
  [(1, some [("A", [16, 12])]), (2, none)]

/-- a schedule that sends station B a pilot (5 A) it does not allow in period 2: `update_pilots` raises
    `InvalidRateError` AFTER station A (registered first) has been served in that period -/
def exScriptBad : List (Nat × Option (Schedule ℚ)) :=
  [(1, some [("A", [16])]), (2, some [("A", [10]), ("B", [5])])]

theorem scripted_nodup_keys (script : List (Nat × Option (Schedule ℚ)))
    (hk : ∀ p ∈ script, ∀ sch, p.2 = some sch → (sch.map (·.1)).Nodup) :
    ∀ v a, scripted script [] v = .ok a → (a.map (·.1)).Nodup := by
  intro v a ha
  unfold scripted at ha
  cases hl : script.lookup v.iter with
  | none => rw [hl] at ha; cases ha; exact List.nodup_nil
  | some o =>
    rw [hl] at ha
    cases o with
    | none => cases ha
    | some sch => cases ha; exact hk _ (Assoc.mem_of_lookup hl) _ rfl

/-- `run_equivariant_stations_raise` on two aborted runs: (a) the scheduler raises in period 2 — same
    error, fully related states; (b) `update_pilots` raises in period 2 — alternative (b) of the theorem
    holds and alternative (a) does NOT: in the original order station A has been sent its pilot (10 A)
    before B offends, in the permuted order B offends first and A still shows the previous pilot (16 A) -/
example :
    -- (a)
    ((Sim.run exSimLate (scripted exScriptRaise []) 9 (Sim.init exSimLate)).2 = some .schedulerFailed ∧
      (Sim.run (permCfg [1, 0] ⟨"", .cont 0 none, 0⟩ exSimLate) (scripted exScriptRaise []) 9
        (Sim.init (permCfg [1, 0] ⟨"", .cont 0 none, 0⟩ exSimLate))).2 = some .schedulerFailed ∧
      StEquiv [1, 0] (Sim.run exSimLate (scripted exScriptRaise []) 9 (Sim.init exSimLate)).1
        (Sim.run (permCfg [1, 0] ⟨"", .cont 0 none, 0⟩ exSimLate) (scripted exScriptRaise []) 9
          (Sim.init (permCfg [1, 0] ⟨"", .cont 0 none, 0⟩ exSimLate))).1) ∧
    -- (b)
    ((Sim.run exSimLate (scripted exScriptBad []) 9 (Sim.init exSimLate)).2 = some .invalidRate ∧
      (Sim.run (permCfg [1, 0] ⟨"", .cont 0 none, 0⟩ exSimLate) (scripted exScriptBad []) 9
        (Sim.init (permCfg [1, 0] ⟨"", .cont 0 none, 0⟩ exSimLate))).2 = some .invalidRate ∧
      AbortEquiv [1, 0] (Sim.run exSimLate (scripted exScriptBad []) 9 (Sim.init exSimLate)).1
        (Sim.run (permCfg [1, 0] ⟨"", .cont 0 none, 0⟩ exSimLate) (scripted exScriptBad []) 9
          (Sim.init (permCfg [1, 0] ⟨"", .cont 0 none, 0⟩ exSimLate))).1 ∧
      (Sim.run exSimLate (scripted exScriptBad []) 9 (Sim.init exSimLate)).1.evsePilot = [10, 0] ∧
      (Sim.run (permCfg [1, 0] ⟨"", .cont 0 none, 0⟩ exSimLate) (scripted exScriptBad []) 9
        (Sim.init (permCfg [1, 0] ⟨"", .cont 0 none, 0⟩ exSimLate))).1.evsePilot = [0, 16]) := by
  have hE : ∀ script : List (Nat × Option (Schedule ℚ)),
      (∀ p ∈ script, ∀ sch, p.2 = some sch → (sch.map (·.1)).Nodup) →
      SchedEquivariantE [1, 0] (fun _ => True) (scripted script ([] : Schedule ℚ)) (scripted script []) :=
    fun script hk => schedEquivariantE_of_equivariant [1, 0] (scripted_schedEquivariant [1, 0] script []).1
      (scripted_nodup_keys script hk)
  have ea : (Sim.run exSimLate (scripted exScriptRaise []) 9 (Sim.init exSimLate)).2 = some .schedulerFailed := by
    decide +kernel
  have eb : (Sim.run exSimLate (scripted exScriptBad []) 9 (Sim.init exSimLate)).2 = some .invalidRate ∧
      (Sim.run exSimLate (scripted exScriptBad []) 9 (Sim.init exSimLate)).1.evsePilot = [10, 0] := by
    decide +kernel
  have eb' : (Sim.run (permCfg [1, 0] ⟨"", .cont 0 none, 0⟩ exSimLate) (scripted exScriptBad []) 9
        (Sim.init (permCfg [1, 0] ⟨"", .cont 0 none, 0⟩ exSimLate))).2 = some .invalidRate ∧
      (Sim.run (permCfg [1, 0] ⟨"", .cont 0 none, 0⟩ exSimLate) (scripted exScriptBad []) 9
        (Sim.init (permCfg [1, 0] ⟨"", .cont 0 none, 0⟩ exSimLate))).1.evsePilot = [0, 16] := by decide +kernel
  refine ⟨?_, ?_⟩
  · rcases run_equivariant_stations_raise [1, 0] ⟨"", .cont 0 none, 0⟩ exSimLate exSimLate_permOK
        (hE exScriptRaise (by decide)) 9 (fun _ _ => trivial) with ⟨a1, a2⟩ | ⟨e, e', b1, _, b3, _⟩
    · exact ⟨ea, by rw [a1, ea], a2⟩
    · rw [ea] at b1
      rcases b3 with b3 | b3 <;> (rw [b3] at b1; cases b1)
  · rcases run_equivariant_stations_raise [1, 0] ⟨"", .cont 0 none, 0⟩ exSimLate exSimLate_permOK
        (hE exScriptBad (by decide)) 9 (fun _ _ => trivial) with ⟨_, a2⟩ | ⟨e, e', _, _, _, _, b5⟩
    · exact ⟨eb.1, eb'.1, a2.toAbort, eb.2, eb'.2⟩
    · exact ⟨eb.1, eb'.1, b5, eb.2, eb'.2⟩

/-- the hypotheses of `run_equivariant_stations_uncontrolled_any` are satisfiable (every view of the run lists at
    most one session per station), and here alternative (a) holds with no error -/
example :
    (Sim.run (permCfg [1, 0] ⟨"", .cont 0 none, 0⟩ exSimLate)
        (uncontrolledSched 1000000 (permCfg [1, 0] ⟨"", .cont 0 none, 0⟩ exSimLate)) 9
        (Sim.init (permCfg [1, 0] ⟨"", .cont 0 none, 0⟩ exSimLate))).2 = none ∧
    StEquiv [1, 0] (Sim.run exSimLate (uncontrolledSched 1000000 exSimLate) 9 (Sim.init exSimLate)).1
      (Sim.run (permCfg [1, 0] ⟨"", .cont 0 none, 0⟩ exSimLate)
        (uncontrolledSched 1000000 (permCfg [1, 0] ⟨"", .cont 0 none, 0⟩ exSimLate)) 9
        (Sim.init (permCfg [1, 0] ⟨"", .cont 0 none, 0⟩ exSimLate))).1 := by
  rcases run_equivariant_stations_uncontrolled_any [1, 0] ⟨"", .cont 0 none, 0⟩ exSimLate exSimLate_permOK 1000000 9
    exUncontrolled_run.2 with ⟨a1, a2⟩ | ⟨e, e', b1, _⟩
  · exact ⟨by rw [a1, exUncontrolled_run.1], a2⟩
  · rw [exUncontrolled_run.1] at b1; cases b1

end stations_raise_examples
end Acn.C10
