/-
  C20 — the ACN-Data client yields every session exactly once and converts times faithfully.

  Property theorems only (helpers: `Lemmas/DataClient.lean`, `Lemmas/Calendar*.lean`).
  Pagination is proved for an arbitrary server (`fetch`), any number of pages, any page sizes
  (empty pages included) by induction over the page chain; the calendar round trips hold for
  every integer day number / every year, by decomposition (400-entry year table, the month stage and
  the rest by `omega`); time zones are arbitrary offset functions.
-/
import AcnModel.DataClient
import AcnProofs.Lemmas.DataClient
import AcnProofs.Lemmas.CalendarHttpDate
import AcnProofs.Lemmas.CalendarParse

namespace Acn.C20
open Acn.Calendar Acn.HttpDate Acn.DataClient

variable {α β : Type}

/-! ### pagination: every session exactly once, in server order, no request too many -/

/-- If the server's pages reachable from `u` form a finite chain `p₀ … p_n` (the last one without
    `next`), then — for ANY chain length and page sizes, with any fuel ≥ the number of pages —
    the generator requests exactly the chain's URLs (one request per page, none after the last
    page), yields `p₀.items ++ … ++ p_n.items` (converted), and ends normally. -/
theorem collect_chain {base : String} {fetch : String → Resp α} (conv : α → Except Err β) (f : α → β)
    {u : String} {ps : List (Page α)} (h : Chain base fetch u ps) (fuel : Nat)
    (hfuel : ps.length ≤ fuel) (hc : ∀ p ∈ ps, ∀ a ∈ p.items, conv a = .ok (f a)) :
    collect base fetch conv fuel u =
      { urls := runUrls base u ps, items := (ps.flatMap (·.items)).map f, stop := none } := by
  rw [List.map_flatMap]
  exact collect_run conv _ h fuel (by rw [runUrls_length_chain h]; exact hfuel)
    fun p hp => yieldAll_ok conv f _ (hc p hp)

/-- non-vacuity: three pages, the middle one empty -/
example :
    let fetch : String → Resp Nat := fun u =>
      if u == "b/q" then .page ⟨[1, 2], .next "p2"⟩
      else if u == "b/p2" then .page ⟨[], .next "p3"⟩
      else if u == "b/p3" then .page ⟨[2, 3], .last⟩
      else .fail .keyError
    Chain "b/" fetch "b/q" [⟨[1, 2], .next "p2"⟩, ⟨[], .next "p3"⟩, ⟨[2, 3], .last⟩] ∧
    (collect "b/" fetch (fun a => .ok a) 5 "b/q").items = [1, 2, 2, 3] ∧
    (collect "b/" fetch (fun a => .ok a) 5 "b/q").urls = ["b/q", "b/p2", "b/p3"] := by
  refine ⟨?_, by decide, by decide⟩
  exact Run.cons (h := "p2") (by decide) rfl
    (Run.cons (h := "p3") (by decide) rfl (Run.last (by decide) rfl))

/-- fuel adequacy / termination: the result does not depend on the fuel once it covers the chain,
    and it is never the out-of-fuel outcome -/
theorem collect_fuel_adequate {base : String} {fetch : String → Resp α} (conv : α → Except Err β)
    (f : α → β) {u : String} {ps : List (Page α)} (h : Chain base fetch u ps) (f₁ f₂ : Nat)
    (h₁ : ps.length ≤ f₁) (h₂ : ps.length ≤ f₂)
    (hc : ∀ p ∈ ps, ∀ a ∈ p.items, conv a = .ok (f a)) :
    collect base fetch conv f₁ u = collect base fetch conv f₂ u ∧
    (collect base fetch conv f₁ u).stop = none := by
  rw [collect_chain conv f h f₁ h₁ hc, collect_chain conv f h f₂ h₂ hc]
  exact ⟨rfl, rfl⟩

/-- exactly one request per page of the chain: nothing is requested after the last page -/
theorem collect_no_extra_request {base : String} {fetch : String → Resp α}
    (conv : α → Except Err β) (f : α → β) {u : String} {ps : List (Page α)}
    (h : Chain base fetch u ps) (fuel : Nat) (hfuel : ps.length ≤ fuel)
    (hc : ∀ p ∈ ps, ∀ a ∈ p.items, conv a = .ok (f a)) :
    (collect base fetch conv fuel u).urls.length = ps.length := by
  rw [collect_chain conv f h fuel hfuel hc]; exact runUrls_length_chain h

/-- every session exactly as often as the server holds it along the chain (so: exactly once when
    the server's ids are distinct) -/
theorem collect_each_once [BEq α] [LawfulBEq α] {base : String} {fetch : String → Resp α} {u : String}
    {ps : List (Page α)} (h : Chain base fetch u ps) (fuel : Nat) (hfuel : ps.length ≤ fuel)
    (x : α) :
    (collect base fetch (fun a => .ok a) fuel u).items.count x =
      (ps.map (fun p => p.items.count x)).sum := by
  rw [collect_chain (fun a => .ok a) id h fuel hfuel (fun _ _ _ _ => rfl)]
  simp [List.count_flatMap, Function.comp_def]

/-- fault sequences: if a request fails (or a page has no usable `_links`) after some pages were
    served, the sessions of the pages served so far have been yielded, in order, and the error
    surfaces; nothing is requested after it. -/
theorem collect_fault {base : String} {fetch : String → Resp α} (conv : α → Except Err β) (f : α → β)
    {u : String} {ps : List (Page α)} {e : Err} (h : Run base fetch u ps (some e)) (fuel : Nat)
    (hfuel : ps.length + 1 ≤ fuel) (hc : ∀ p ∈ ps, ∀ a ∈ p.items, conv a = .ok (f a)) :
    collect base fetch conv fuel u =
      { urls := runUrls base u ps, items := (ps.flatMap (·.items)).map f, stop := some e } := by
  rw [List.map_flatMap]
  exact collect_run conv _ h fuel (Nat.le_trans (runUrls_length_le base u ps) hfuel)
    fun p hp => yieldAll_ok conv f _ (hc p hp)

example :
    let fetch : String → Resp Nat := fun u =>
      if u == "b/q" then .page ⟨[7], .next "p2"⟩ else .fail .jsonError
    collect "b/" fetch (fun a => .ok a) 9 "b/q" =
      { urls := ["b/q", "b/p2"], items := [7], stop := some .jsonError } := by
  decide

/-! ### query construction -/

/-- each given parameter is sent exactly once with the value given, parameters not given are not
    sent, the page size is 100 (1 with time series), `limit` is not used by `get_sessions` -/
theorem query_has_params (q : Query) :
    (params q).lookup .where_ = q.cond ∧ (params q).lookup .project = q.project ∧
    (params q).lookup .sort = q.sort ∧
    (params q).lookup .maxResults = some (if q.timeseries then "1" else "100") ∧
    (params q).lookup .limit = none ∧ ((params q).map Prod.fst).Nodup := by
  obtain ⟨c, p, s, t⟩ := q
  cases c <;> cases p <;> cases s <;> exact ⟨rfl, rfl, rfl, rfl, rfl, by simp [params, optArg]⟩

/-- the site is in the path, `/ts/` is appended for time series, the rendered query follows -/
theorem site_in_path (base site : String) (q : Query) :
    sessionsUrl base site q =
      base ++ ("sessions/" ++ site ++ (if q.timeseries then "/ts/" else "")) ++ render (params q) := rfl

example : sessionsUrl "https://h/api/v1/" "jpl" ⟨some "a==1", none, some "connectionTime", true⟩ =
    "https://h/api/v1/sessions/jpl/ts/?where=a==1&sort=connectionTime&max_results=1" := by decide +kernel

/-- an unknown site is rejected with `ValueError` whatever the server would answer: no `Trace`
    exists, i.e. no request is made — by `get_sessions` and by `count_sessions` alike -/
theorem invalid_site_before_request (base site : String) (q : Query) (fetch : String → Resp α)
    (conv : α → Except Err β) (fuel : Nat) (cond : Option String) (head : String → Option String)
    (h : validSite site = false) :
    getSessions base site q fetch conv fuel = .error .valueError ∧
    countSessions base site cond head = .error .valueError := by
  simp [getSessions, countSessions, h]

/-- a known site: the first (and with fuel, only then) request goes to the query URL -/
theorem valid_site_requests_query (base site : String) (q : Query) (fetch : String → Resp α)
    (conv : α → Except Err β) (fuel : Nat) (h : validSite site = true) :
    ∃ tr, getSessions base site q fetch conv (fuel + 1) = .ok tr ∧
      tr.urls.head? = some (sessionsUrl base site q) := by
  refine ⟨collect base fetch conv (fuel + 1) (sessionsUrl base site q), by simp [getSessions, h], ?_⟩
  simp only [collect]
  cases fetch (sessionsUrl base site q) with
  | fail e => rfl
  | page p =>
    simp only []
    rcases hy : yieldAll conv p.items with ⟨bs, _ | e⟩
    · cases p.next <;> rfl
    · rfl

example : validSite "caltech" = true ∧ validSite "Caltech" = false ∧ validSite "" = false := by decide

/-- the time-window wrapper: `where` is the conjunction of the clauses given (in the order start,
    end, energy; the empty string when none is given), sorted by `connectionTime`, no projection -/
theorem time_query_params (start stop : Option Aware) (e : Option String) (ts : Bool) :
    params (timeQuery start stop e ts) =
      [(.where_, " and ".intercalate (timeClauses start stop e)), (.sort, "connectionTime"),
       (.maxResults, if ts then "1" else "100")] := rfl

/-! ### calendar -/

/-- civil → day number → civil is the identity on every date `datetime.date` accepts -/
theorem civil_roundtrip (y m d : Int) (h : validDate y m d = true) :
    civilFromDays (daysFromCivil y m d) = (y, m, d) := by
  simp only [validDate, Bool.and_eq_true, decide_eq_true_eq] at h
  obtain ⟨⟨⟨⟨⟨_, _⟩, h3⟩, h4⟩, h5⟩, h6⟩ := h
  exact civil_roundtrip' y m d h3 h4 h5 h6

example : validDate 2024 2 29 = true ∧ daysFromCivil 2024 2 29 = 19782 ∧
    validDate 2023 2 29 = false ∧ validDate 1900 2 29 = false ∧ validDate 2000 2 29 = true := by
  decide +kernel

/-- day number → civil → day number is the identity on EVERY integer, and the civil date produced
    is a real one (month 1..12, day within the month's length in that year) -/
theorem days_roundtrip (z : Int) :
    daysFromCivil (civilFromDays z).1 (civilFromDays z).2.1 (civilFromDays z).2.2 = z ∧
    1 ≤ (civilFromDays z).2.1 ∧ (civilFromDays z).2.1 ≤ 12 ∧ 1 ≤ (civilFromDays z).2.2 ∧
    (civilFromDays z).2.2 ≤ daysInMonth (civilFromDays z).1 (civilFromDays z).2.1 :=
  ⟨Calendar.days_roundtrip z, civil_valid z⟩

example : civilFromDays (-1) = (1969, 12, 31) ∧ civilFromDays 11016 = (2000, 2, 29) := by decide +kernel

/-- `daysFromCivil` is THE day count of the proleptic Gregorian calendar: 0 on 1970-01-01 and
    exactly one more on the next calendar day, for every valid date of every year -/
theorem calendar_succ (y m d : Int) (hm : 1 ≤ m) (hm' : m ≤ 12) (hd : 1 ≤ d)
    (hd' : d ≤ daysInMonth y m) :
    daysFromCivil 1970 1 1 = 0 ∧
    daysFromCivil (nextDay y m d).1 (nextDay y m d).2.1 (nextDay y m d).2.2 = daysFromCivil y m d + 1 :=
  ⟨daysFromCivil_epoch, daysFromCivil_nextDay y m d hm hm' hd hd'⟩

example : nextDay 2023 2 28 = (2023, 3, 1) ∧ nextDay 2024 2 28 = (2024, 2, 29) ∧
    nextDay 1999 12 31 = (2000, 1, 1) := by decide +kernel

/-- Python's `weekday()`: 1970-01-01 is a Thursday (3), the value is in 0..6, advances by one
    (mod 7) per day — which determines it on all of ℤ -/
theorem weekday_spec (z : Int) :
    weekday (daysFromCivil 1970 1 1) = 3 ∧ 0 ≤ weekday z ∧ weekday z < 7 ∧
    weekday (z + 1) = (weekday z + 1) % 7 := by
  have := weekday_spec_aux z
  exact ⟨by decide +kernel, this.1, this.2.1, this.2.2.1⟩

example : weekday (daysFromCivil 2024 2 29) = 3 ∧ weekday (daysFromCivil 2000 1 1) = 5 := by
  decide +kernel

/-! ### RFC-1123 and aware datetimes -/

/-- first and one-past-last second of the years 1000–9999 -/
def tMin : Int := -30610224000
def tMax : Int := 253402300800

theorem domain_years (t : Int) (h0 : tMin ≤ t) (h1 : t < tMax) :
    1000 ≤ (fieldsOfSeconds t).y ∧ (fieldsOfSeconds t).y ≤ 9999 := by
  have a : daysFromCivil 1000 1 1 = -354285 := by decide +kernel
  have b : daysFromCivil (9999 + 1) 1 1 = 2932897 := by decide +kernel
  obtain ⟨l, _⟩ := year_of_days (t / 86400) 1000
  obtain ⟨_, r⟩ := year_of_days (t / 86400) 9999
  unfold tMin at h0; unfold tMax at h1
  exact ⟨l (by rw [a]; omega), r (by rw [b]; omega)⟩

/-- parsing what `http_date` formatted gives back the instant, for every whole second of the
    years 1000–9999 (the whole domain in which `strftime("%Y")` writes four digits) -/
theorem parse_format (t : Int) (h0 : tMin ≤ t) (h1 : t < tMax) :
    parseRfc1123 (formatRfc1123 t) = some t := by
  obtain ⟨a, b⟩ := domain_years t h0 h1
  simp only [parseRfc1123, formatRfc1123, String.toList_ofList]
  exact parseChars_formatChars t a b

example : formatRfc1123 1709210096 = "Thu, 29 Feb 2024 12:34:56 GMT" ∧
    parseRfc1123 "Thu, 29 Feb 2024 12:34:56 GMT" = some 1709210096 ∧
    parseRfc1123 "Thu, 29 Feb 2023 12:34:56 GMT" = none ∧
    parseRfc1123 "Thu, 29 Feb 2024 24:00:00 GMT" = none ∧
    formatRfc1123 tMin = "Wed, 01 Jan 1000 00:00:00 GMT" ∧
    formatRfc1123 (tMax - 1) = "Fri, 31 Dec 9999 23:59:59 GMT" := by
  decide +kernel

/-- an un-padded day of month (RFC 822/1123 `1*2DIGIT`; `strptime`'s `%d` takes one digit): the
    28-character string obtained from `http_date`'s rendering of `t` by dropping the leading zero of a
    day 01..09 parses to the same instant, for every whole second of the years 1000–9999 -/
theorem parse_unpadded_day (t : Int) (h0 : tMin ≤ t) (h1 : t < tMax) (hd : (fieldsOfSeconds t).d < 10) :
    formatUnpadded t = String.ofList ((formatRfc1123 t).toList.eraseIdx 5) ∧
    (formatRfc1123 t).toList[5]? = some '0' ∧
    parseRfc1123 (formatUnpadded t) = some t := by
  obtain ⟨a, b⟩ := domain_years t h0 h1
  have hd0 := (fieldsOfSeconds_ranges t).2.2.1
  refine ⟨by simp only [formatUnpadded, unpadChars, formatRfc1123, String.toList_ofList], ?_, ?_⟩
  · simp only [formatRfc1123, String.toList_ofList]
    rw [← padDay_unpadChars t hd (by omega)]
    exact padDay_get5 (by show 5 ≤ 28; decide)
  · simp only [parseRfc1123, formatUnpadded, String.toList_ofList]
    exact parseChars_unpadChars t a b hd

example : formatUnpadded 1707482096 = "Fri, 9 Feb 2024 12:34:56 GMT" ∧
    formatRfc1123 1707482096 = "Fri, 09 Feb 2024 12:34:56 GMT" ∧
    parseRfc1123 "Fri, 9 Feb 2024 12:34:56 GMT" = some 1707482096 ∧
    (fieldsOfSeconds 1707482096).d = 9 ∧ tMin ≤ 1707482096 ∧ (1707482096 : Int) < tMax := by
  decide +kernel

/-- only strings of 28 or 29 characters parse (a one-digit hour / minute / second, runs of white
    space, a year that is not four digits are all outside the model's parser) -/
theorem parse_length (s : String) (t : Int) (h : parseRfc1123 s = some t) :
    s.toList.length = 28 ∨ s.toList.length = 29 :=
  parseChars_length h

example : parseRfc1123 "Fri, 09 Feb 2024 12:34:56 GMT" = some 1707482096 ∧
    parseRfc1123 "Fri, 9 Feb 2024 12:34:56 GMT" = some 1707482096 ∧
    parseRfc1123 "Fri,  9 Feb 2024 12:34:56 GMT" = none ∧
    parseRfc1123 "Fri, 09 Feb 2024 2:34:56 GMT" = none ∧
    parseRfc1123 "Fri, 9 Feb 2024 2:34:56 GMT" = none ∧
    parseRfc1123 "Fri, 09 Feb 202 12:34:56 GMT" = none ∧
    parseRfc1123 "Fri, 0 Feb 2024 12:34:56 GMT" = none ∧
    parseRfc1123 "Fri,9 Feb 2024 12:34:56 GMT" = none := by
  decide +kernel

/-- conversely, the parser accepts NOTHING but RFC-1123 renderings, in either shape: if `s` parses to
    `t` then there is a canonical string `c` — fixed width 29, starting with a weekday name, and from
    the comma on, up to letter case, exactly `http_date`'s rendering of `t`, with `t` in the years
    1–9999 — such that `s` is `c` itself, or `c` writes the day of month with a leading zero (so the
    day is 1..9) and `s` is `c` without that zero.  (The weekday name is not checked against the
    date, exactly as in `strptime`.)  With `parse_format` and `parse_unpadded_day` this makes "the
    instant an RFC-1123 string denotes" unambiguous. -/
theorem parse_sound (s : String) (t : Int) (h : parseRfc1123 s = some t) :
    ∃ c : List Char,
      (c.length = 29 ∧
       (∃ w, 0 ≤ w ∧ w < 7 ∧ (c.take 3).map Char.toLower =
          [(wdName w).1.toLower, (wdName w).2.1.toLower, (wdName w).2.2.toLower]) ∧
       (c.drop 3).map Char.toLower = ((formatRfc1123 t).toList.drop 3).map Char.toLower ∧
       1 ≤ (fieldsOfSeconds t).y ∧ (fieldsOfSeconds t).y ≤ 9999) ∧
      (s.toList = c ∨
       (c[5]? = some '0' ∧ (fieldsOfSeconds t).d < 10 ∧ s.toList = c.eraseIdx 5)) := by
  obtain ⟨c, hc, hs⟩ := parseChars_sound (l := s.toList) (t := t) h
  refine ⟨c, by simpa only [formatRfc1123, String.toList_ofList, CanonOf] using hc, ?_⟩
  rcases hs with hs | ⟨h5, hs⟩
  · exact Or.inl hs
  · exact Or.inr ⟨h5, canon_day_lt_ten hc h5, hs⟩

example : parseRfc1123 "mon, 29 FEB 2024 12:34:56 gmt" = some 1709210096 ∧
    parseRfc1123 "Thu, 29 Feb 2024 12:34:56 GMT " = none ∧
    parseRfc1123 "Thu, 29 Feb 2024 12:34:56 UTC" = none ∧
    parseRfc1123 "thu, 9 feb 2024 12:34:56 Gmt" = some 1707482096 ∧
    parseRfc1123 "Thu, 9 Feb 2023 12:34:60 GMT" = none := by
  decide +kernel

/-- converting an instant to ANY zone (arbitrary offset function, so every DST rule) yields an
    aware datetime that denotes the same instant, carries the zone's offset at that instant, and
    whose wall-clock fields are a valid time of day on a real date -/
theorem same_instant (off : Instant → Int) (t : Instant) :
    (toZone off t).instant = t ∧ (toZone off t).off = off t ∧
    1 ≤ (toZone off t).loc.mo ∧ (toZone off t).loc.mo ≤ 12 ∧ 1 ≤ (toZone off t).loc.d ∧
    (toZone off t).loc.d ≤ daysInMonth (toZone off t).loc.y (toZone off t).loc.mo ∧
    0 ≤ (toZone off t).loc.h ∧ (toZone off t).loc.h < 24 ∧ 0 ≤ (toZone off t).loc.mi ∧
    (toZone off t).loc.mi < 60 ∧ 0 ≤ (toZone off t).loc.s ∧ (toZone off t).loc.s < 60 := by
  refine ⟨?_, rfl, fieldsOfSeconds_ranges (t + off t)⟩
  show secondsOfFields (fieldsOfSeconds (t + off t)) - off t = t
  rw [seconds_of_fields_of_seconds]; omega

/-- the table form of a zone is read the way pytz reads it (`bisect_right(times, t) - 1`, clamped):
    the offset in force at `t` is that of the LAST transition at or before `t`, and the initial
    offset when every transition is later -/
theorem zone_off_spec (z : Zone) (t : Instant) :
    ((∀ p ∈ z.trans, t < p.1) → z.off t = z.init) ∧
    (∀ pre post u o, z.trans = pre ++ (u, o) :: post → u ≤ t → (∀ p ∈ post, t < p.1) → z.off t = o) := by
  refine ⟨fun h => foldl_later t z.trans z.init h, ?_⟩
  intro pre post u o hz hu hpost
  unfold Zone.off
  rw [hz, List.foldl_append, List.foldl_cons]
  simp only [hu, ↓reduceIte]
  exact foldl_later t post o hpost

/-- `parse_http_date(s, tz)`: whenever it succeeds, the result denotes exactly the instant the
    RFC-1123 string denotes, localised to `tz` -/
theorem parse_http_date_same_instant (off : Instant → Int) (s : String) (a : Aware)
    (h : parseHttpDate off s = some a) :
    ∃ t, parseRfc1123 s = some t ∧ a = toZone off t ∧ a.instant = t ∧ a.off = off t := by
  unfold parseHttpDate at h
  cases hp : parseRfc1123 s with
  | none => simp [hp] at h
  | some t =>
    simp [hp] at h
    exact ⟨t, rfl, h.symm, by rw [← h]; exact (same_instant off t).1, by rw [← h]; rfl⟩

/-- `parse_http_date(http_date(dt), tz)` denotes the same instant as `dt` (to the second), for
    every aware `dt` whose UTC year is in 1000–9999 and every zone; and if `dt` already is the
    wall clock of `tz` at that instant, the very same datetime comes back -/
theorem http_date_roundtrip (off : Instant → Int) (a : Aware) (h0 : tMin ≤ a.instant)
    (h1 : a.instant < tMax) :
    parseHttpDate off (httpDate a) = some (toZone off a.instant) ∧
    (toZone off a.instant).instant = a.instant ∧
    (a = toZone off a.instant → parseHttpDate off (httpDate a) = some a) := by
  have h : parseHttpDate off (httpDate a) = some (toZone off a.instant) := by
    simp [parseHttpDate, httpDate, parse_format a.instant h0 h1]
  exact ⟨h, (same_instant off _).1, fun e => by rw [h, ← e]⟩

/-- `parse_dates(doc)`: whenever it returns, the zone used is the one named by the document's
    `timezone` field, keys and order are unchanged, and EVERY field is converted as specified —
    a string that is an RFC-1123 date became `toZone off t` for the instant `t` it denotes (hence,
    by `same_instant`, an aware datetime in the document's zone denoting that instant); any other
    string is untouched; every `timestamps` list is converted element by element; other values
    are left alone. -/
theorem parse_dates_faithful (zones : String → Option Zone) (d : Doc) (pd : PDoc)
    (h : parseDates zones d = .ok pd) :
    ∃ name z, lookupStr d "timezone" = some (.str name) ∧ zones name = some z ∧ DocOk z.off d pd := by
  unfold parseDates at h
  cases hl : lookupStr d "timezone" with
  | none => simp [hl] at h
  | some v =>
    cases v with
    | str name =>
      cases hz : zones name with
      | none => simp [hl, hz] at h
      | some z =>
        simp only [hl, hz] at h
        exact ⟨name, z, rfl, hz, parseFields_ok z.off d pd h⟩
    | ts l => simp [hl] at h
    | other => simp [hl] at h

/-- non-vacuity: a document with a null `doneChargingTime`, a session id that is not a date, and a
    time series is converted; the same document without `timezone` is a `KeyError` -/
example :
    let z : Zone := { init := -28800, trans := [(1710064800, -25200)] }
    let zones : String → Option Zone := fun n => if n == "America/Los_Angeles" then some z else none
    let doc : Doc := [("_id", .str "5bc9"), ("connectionTime", .str "Sun, 10 Mar 2024 10:00:00 GMT"),
      ("doneChargingTime", .other), ("timezone", .str "America/Los_Angeles"),
      ("chargingCurrent", .ts ["Sun, 10 Mar 2024 09:59:59 GMT"])]
    (match parseDates zones doc with
      | .ok [(_, .str "5bc9"), (_, .date a), (_, .other), (_, .str _), (_, .ts [b])] =>
        a.instant == 1710064800 && a.off == -25200 && a.loc.h == 3 && b.off == -28800 && b.loc.h == 1
      | _ => false) = true ∧
    (match parseDates zones (doc.take 3) with | .error .keyError => true | _ => false) = true := by
  decide +kernel

/-- non-vacuity: a Los-Angeles-like zone across the 2024 spring-forward transition -/
example :
    let z : Zone := { init := -28800, trans := [(1710064800, -25200), (1730624400, -28800)] }
    (toZone z.off 1710064799).loc = ⟨2024, 3, 10, 1, 59, 59⟩ ∧
    (toZone z.off 1710064800).loc = ⟨2024, 3, 10, 3, 0, 0⟩ ∧
    (toZone z.off 1710064800).off = -25200 ∧
    (toZone z.off 1710064800).instant = 1710064800 := by
  decide +kernel

end Acn.C20
