/-
  CAPSTONE, statement 4 — the JSON-resume variant of `Capstone.pipeline_terminates_and_accounts`:
  C15 ∘ C01Resume (C09's lemma family).

  Proved: the resumed simulation is `Completed` (every clause of C01) and `ObsEq` — equal in every field except the
  bookkeeping list `core.invoked` — to the final state of the uninterrupted run, of which
  `Capstone.pipeline_terminates_and_accounts` proves `RunAccounts`.  Not stated: `RunAccounts` (Lemmas/Capstone.lean) of
  the resumed simulation itself; no field `RunAccounts` mentions is `invoked`.
-/
import AcnProofs.C01Resume
import AcnProofs.Lemmas.CapstoneSessions
import AcnProofs.Lemmas.RegistryJsonDoc

namespace Acn.CapstoneResume
open Acn Acn.Sessions Acn.Evse Acn.EventCore Acn.Sim Acn.Registry Acn.Capstone

variable {K : Type} [Field K] [LinearOrder K] [IsStrictOrderedRing K] [FloorRing K] [HasExp K]

/-- Documents satisfying `DocsOk`, converted by `get_evs`, simulated with ANY scheduler whose uninterrupted run raises
    nothing.  Interrupt the run in ANY period `k` (the scheduler raises there), serialise the aborted simulator through
    the modelled CPython `json` text layer (any double formatter that round-trips), load it, attach the scheduler again
    and call `run()`: the dump and the load succeed, the decoded simulator IS the aborted one, and either the
    interruption never fired (the run is the uninterrupted run) or the resumed run raises nothing, ends `Completed`
    (queue empty, horizon reached, every station vacated, one plug-in and one unplug per session, history sorted) and
    is observably the final state of the uninterrupted run (`ObsEq`: all of pilots, rates, peak, EV energies and
    batteries, occupancy log, histories). -/
theorem pipeline_resume_json_partial (d : RegistryJson.DoubleText K) (hdt : d.RoundTrip)
    (net : Sim.Cfg K) (start V mp : K) (maxLen : Option Int)
    (bp : BattParams K) (ff : Bool) (docs : List (Doc K)) (evs : List (Ev K))
    (hp : 0 < net.period)
    (hd : DocsOk (net.stations.map (·.id)) start net.period maxLen docs)
    (htags : (net.recomputes.map (·.2)).Nodup) (hrec : ∀ r ∈ net.recomputes, 0 ≤ r.1)
    (h : getEvs start docs net.period V mp maxLen bp ff = .ok evs)
    (sched : View K → Except EventCore.Err (Schedule K)) (k n : Nat)
    (hN : horizon (pipelineCfg net evs).core ≤ n)
    (hok : (run (pipelineCfg net evs) sched n (Sim.init (pipelineCfg net evs))).2 = none) :
    let cfg := pipelineCfg net evs
    let r1 := run cfg (failAt k sched) n (Sim.init cfg)
    let r := run cfg sched n (Sim.init cfg)
    Completed cfg.core r.1.core ∧
    ∃ ctx s', dump (RegistrySim.encode (RegistryJson.jsonShow d) cfg r1.1) RegistrySim.root = .ok ctx ∧
      load ctx RegistrySim.root = .ok ctx ∧
      RegistrySim.decode (RegistryJson.jsonRead d) cfg (RegistrySim.ambOf r1.1) ctx.get = some s' ∧ s' = r1.1 ∧
      ((r1 = r ∧ Completed cfg.core s'.core) ∨
       (r1.2 = some EventCore.Err.schedulerFailed ∧ s'.core.iter = k ∧ Fresh s'.core ∧
        (run cfg sched (n - k) s').2 = none ∧ Completed cfg.core (run cfg sched (n - k) s').1.core ∧
        ObsEq (run cfg sched (n - k) s').1 r.1)) := by
  intro cfg r1 r
  obtain ⟨hv, _, _⟩ := pipeline_valid net start V mp maxLen bp ff docs evs hp hd htags hrec h
  refine ⟨C01Resume.uninterrupted_completed cfg sched hv n hN hok, ?_⟩
  obtain ⟨ctx, s', h1, h2, h3, h4, _, _, _, _, _, h10⟩ :=
    C01Resume.exactly_once_across_resume_json (RegistryJson.jsonLawful d hdt) cfg sched hv k n hN hok
  exact ⟨ctx, s', h1, h2, h3, h4, h10⟩

/-! ### non-vacuity: the example scenario of `Capstone.lean`, interrupted in the hand-over period 2 (`a` leaves CA-1,
    `b` arrives there), written with the example double formatter of C09 and resumed -/

section simex
local instance : HasExp ℚ := ⟨fun x => x⟩

def exSched : View ℚ → Except EventCore.Err (Schedule ℚ) := fun _ => .ok [("CA-1", [16]), ("CA-2", [8])]

/-- the interruption fires in period 2 and the second `run()` completes after period 4 -/
example :
    (match getEvs (exStart ℚ) (exDocs ℚ) 5 208 (6656 / 1000) (some 12) defaultParams false with
     | .ok evs =>
       let cfg := pipelineCfg (exNet ℚ) evs
       let r1 := run cfg (failAt 2 exSched) 10 (Sim.init cfg)
       let r2 := run cfg exSched 8 r1.1
       r1.2 == some EventCore.Err.schedulerFailed && r1.1.core.iter == 2 && r2.2 == none && r2.1.core.iter == 5 &&
         r2.1.core.pending.isEmpty && r2.1.rates.rows == [[16, 16, 16, 16, 0], [0, 8, 8, 0, 0]]
     | .error _ => false) = true := by
  decide +kernel

/-- the hypotheses of `pipeline_resume_json_partial` are met by it (with `k = 2` and the example double formatter); the
    conclusion is used only as far as its first conjunct, `Completed` of the uninterrupted run -/
example : ∃ evs, getEvs (exStart ℚ) (exDocs ℚ) (exNet ℚ).period 208 (6656 / 1000) (some 12) defaultParams false
      = .ok evs ∧
    Completed (pipelineCfg (exNet ℚ) evs).core
      (run (pipelineCfg (exNet ℚ) evs) exSched 10 (Sim.init (pipelineCfg (exNet ℚ) evs))).1.core := by
  obtain ⟨evs, he, hnone, hhor⟩ := exRun
  exact ⟨evs, he, (pipeline_resume_json_partial RegistryJson.exDouble RegistryJson.exDouble_roundTrip (exNet ℚ)
    (exStart ℚ) 208 (6656 / 1000) (some 12) defaultParams false (exDocs ℚ) evs (by norm_num [exNet]) (exDocsOk ℚ)
    (by simp [exNet]) (by simp [exNet]) he exSched 2 10 hhor hnone).1⟩

end simex

end Acn.CapstoneResume
