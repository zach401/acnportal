/-
  C13 — EVSEs accept exactly their allowable pilots and advertise truthful limits.

  Carrier: any linear ordered field `K` (ℚ and ℝ included).
  `atol` is the caller's tolerance (`Acn.Gen.evseAtol`, `AcnModel/Gen/Consts.lean`: 1e-3 in the source), and
  `fa` the literal tolerance of `FiniteRatesEVSE` (also 1e-3).
-/
import AcnModel.Evse
import AcnModel.EvseNet
import AcnModel.Gen.Consts
import AcnProofs.Lemmas.Basic
import AcnProofs.Lemmas.EvseNet
import AcnProofs.Lemmas.Evse
import Mathlib.Tactic

namespace Acn.C13
open Acn Acn.Evse Acn.EvseNet

variable {K : Type} [Field K] [LinearOrder K] [IsStrictOrderedRing K]

/-- distance-to-interval characterisation, bounded interval -/
theorem cont_valid_iff (atol fa mn mx p : K) (hmm : mn ≤ mx) (ha : 0 ≤ atol) :
    validRate atol fa (.cont mn (some mx)) p = true ↔ ∃ q, mn ≤ q ∧ q ≤ mx ∧ |p - q| ≤ atol := by
  simpa only [Allowed, UpTo, tolOf, and_assoc] using validRate_iff_near (fa := fa) (k := .cont mn (some mx)) hmm ha p

/-- unbounded (`max_rate = inf`) interval -/
theorem cont_valid_iff_inf (atol fa mn p : K) (ha : 0 ≤ atol) :
    validRate atol fa (.cont mn none) p = true ↔ ∃ q, mn ≤ q ∧ |p - q| ≤ atol := by
  simpa only [Allowed, UpTo, tolOf, and_true] using validRate_iff_near (fa := fa) (k := .cont mn none) trivial ha p

/-- deadband EVSE: within `atol` of `{0} ∪ [db, mx]` -/
theorem deadband_valid_iff (atol fa db mx p : K) (hmm : db ≤ mx) (ha : 0 ≤ atol) :
    validRate atol fa (.deadband db (some mx)) p = true ↔
      |p - 0| ≤ atol ∨ ∃ q, db ≤ q ∧ q ≤ mx ∧ |p - q| ≤ atol := by
  simpa only [Allowed, UpTo, tolOf, and_assoc, or_and_right, exists_or, exists_eq_left] using
    validRate_iff_near (fa := fa) (k := .deadband db (some mx)) hmm ha p

/-- finite-rate EVSE: within `fa` of a listed level -/
theorem finite_valid_iff (atol fa : K) (rates : List K) (p : K) :
    validRate atol fa (.finite rates) p = true ↔ ∃ a ∈ rates, |p - a| ≤ fa :=
  validRate_iff atol fa (.finite rates) p

/-! ### normalisation of the finite list -/

theorem mem_insertUniq (x y : K) (l : List K) : y ∈ insertUniq x l ↔ y = x ∨ y ∈ l := by
  induction l with
  | nil => simp [insertUniq]
  | cons z zs ih =>
    unfold insertUniq
    split
    · exact List.mem_cons
    · split
      · rw [List.mem_cons, ih, List.mem_cons, or_left_comm]
      · have : x = z := le_antisymm (not_lt.mp ‹_›) (not_lt.mp ‹_›)
        subst this
        rw [List.mem_cons, or_self_left]

theorem sorted_insertUniq (x : K) (l : List K) (h : l.Pairwise (· < ·)) :
    (insertUniq x l).Pairwise (· < ·) := by
  induction l with
  | nil => simp [insertUniq]
  | cons z zs ih =>
    rw [List.pairwise_cons] at h
    unfold insertUniq
    split
    · rename_i hxz
      rw [List.pairwise_cons]
      refine ⟨?_, List.pairwise_cons.mpr h⟩
      intro a ha
      rcases List.mem_cons.mp ha with rfl | ha
      · exact hxz
      · exact lt_trans hxz (h.1 a ha)
    · split
      · rename_i hzx
        rw [List.pairwise_cons]
        refine ⟨?_, ih h.2⟩
        intro a ha
        rcases (mem_insertUniq x a zs).mp ha with rfl | ha
        · exact hzx
        · exact h.1 a ha
      · exact List.pairwise_cons.mpr h

theorem normalize_aux (l acc : List K) (h : acc.Pairwise (· < ·)) :
    (l.foldl (fun acc x => insertUniq x acc) acc).Pairwise (· < ·) ∧
    ∀ y, y ∈ l.foldl (fun acc x => insertUniq x acc) acc ↔ y ∈ acc ∨ y ∈ l := by
  induction l generalizing acc with
  | nil => simp [h]
  | cons x xs ih =>
    have := ih (insertUniq x acc) (sorted_insertUniq x acc h)
    refine ⟨this.1, fun y => ?_⟩
    rw [List.foldl_cons, this.2 y, mem_insertUniq]
    simp; tauto

/-- `sorted(set(rates) | {0})`: strictly increasing, contains 0, same set plus 0. -/
theorem normalize_spec (l : List K) :
    (Evse.normalize l).Pairwise (· < ·) ∧ (0 : K) ∈ Evse.normalize l ∧
    ∀ y, y ∈ Evse.normalize l ↔ y = 0 ∨ y ∈ l := by
  have := normalize_aux (0 :: l) ([] : List K) List.Pairwise.nil
  unfold Evse.normalize
  refine ⟨this.1, (this.2 0).mpr (by simp), fun y => ?_⟩
  rw [this.2 y]; simp

/-- the advertised maximum of a finite-rate EVSE is a listed level and dominates all levels -/
theorem listMax_spec (l : List K) (hne : l ≠ []) :
    listMax l ∈ l ∧ ∀ y ∈ l, y ≤ listMax l := by
  cases l with
  | nil => exact absurd rfl hne
  | cons x xs => exact foldl_pyMax_spec xs x

/-! ### every advertised value is accepted -/

/-- continuous EVSE: both advertised bounds, and everything between, are accepted -/
theorem advertised_accepted_cont (atol fa mn mx q : K) (ha : 0 ≤ atol) (h1 : mn ≤ q) (h2 : q ≤ mx) :
    validRate atol fa (.cont mn (some mx)) q = true :=
  validRate_of_allowed (k := .cont mn (some mx)) ha ⟨h1, h2⟩

theorem advertised_accepted_cont_inf (atol fa mn q : K) (ha : 0 ≤ atol) (h1 : mn ≤ q) :
    validRate atol fa (.cont mn none) q = true :=
  validRate_of_allowed (k := .cont mn none) ha ⟨h1, trivial⟩

/-- deadband EVSE: 0, the deadband end, the maximum and everything between are accepted -/
theorem advertised_accepted_deadband (atol fa db mx q : K) (ha : 0 ≤ atol)
    (h : q = 0 ∨ (db ≤ q ∧ q ≤ mx)) :
    validRate atol fa (.deadband db (some mx)) q = true :=
  validRate_of_allowed (k := .deadband db (some mx)) ha h

/-- finite EVSE: every listed level (hence 0, the minimum and the maximum) is accepted -/
theorem advertised_accepted_finite (atol fa : K) (rates : List K) (hfa : 0 ≤ fa) (a : K)
    (h : a ∈ rates) : validRate atol fa (.finite rates) a = true :=
  validRate_of_allowed (k := .finite rates) hfa h

theorem advertised_zero_and_max_finite (atol fa : K) (l : List K) (hfa : 0 ≤ fa) :
    validRate atol fa (.finite (Evse.normalize l)) 0 = true ∧
    validRate atol fa (.finite (Evse.normalize l)) (listMax (Evse.normalize l)) = true := by
  have hs := normalize_spec l
  have hne : Evse.normalize l ≠ [] := fun h => by have := hs.2.1; rw [h] at this; simp at this
  exact ⟨advertised_accepted_finite atol fa _ hfa 0 hs.2.1,
         advertised_accepted_finite atol fa _ hfa _ (listMax_spec _ hne).1⟩

/-! ### degenerate ranges: `min_rate = max_rate`, a switched-off station (`max_rate = 0`) -/

/-- `min_rate = max_rate = c` (continuous) / `deadband_end = max_rate = c`: the interval is the point `c` -/
theorem valid_rate_point_range (atol fa c p : K) :
    (validRate atol fa (.cont c (some c)) p = true ↔ |p - c| ≤ atol) ∧
    (validRate atol fa (.deadband c (some c)) p = true ↔ |p| ≤ atol ∨ |p - c| ≤ atol) := by
  have h : (c ≤ p + atol ∧ p - atol ≤ c) ↔ |p - c| ≤ atol := by
    rw [abs_le]; constructor <;> rintro ⟨h1, h2⟩ <;> constructor <;> linarith
  exact ⟨(validRate_iff ..).trans h, (validRate_iff ..).trans (by rw [sub_zero]; exact or_congr Iff.rfl h)⟩

/-- a finite list that holds nothing but zeros (`[]`, `[0]`, `[0, 0.0]`, of any length) is the list `[0]` -/
theorem normalize_zeros (l : List K) (hl : ∀ y ∈ l, y = 0) : Evse.normalize l = [0] := by
  obtain ⟨hs, h0, hm⟩ := normalize_spec l
  have hall : ∀ y ∈ Evse.normalize l, y = 0 := fun y hy =>
    ((hm y).mp hy).elim id (hl y)
  match hn : Evse.normalize l, hs, h0, hall with
  | [], _, h0, _ => simp at h0
  | [x], _, _, hall => rw [hall x (by simp)]
  | x :: y :: r, hs, _, hall =>
    have hx := hall x (by simp); have hy := hall y (by simp)
    have : x < y := (List.pairwise_cons.mp hs).1 y (by simp)
    rw [hx, hy] at this; exact absurd this (lt_irrefl _)

/-- a switched-off station (`max_rate = 0`; continuous, deadband with `deadband_end = 0`, finite list of
    zeros / empty list): the advertised maximum is 0 (not infinity) and a pilot is accepted iff it is
    within the tolerance of 0 -/
theorem valid_rate_zero_range (atol fa p : K) (l : List K) (hl : ∀ y ∈ l, y = 0) :
    (validRate atol fa (.cont 0 (some 0)) p = true ↔ |p| ≤ atol) ∧
    (validRate atol fa (.deadband 0 (some 0)) p = true ↔ |p| ≤ atol) ∧
    (validRate atol fa (.finite (Evse.normalize l)) p = true ↔ |p| ≤ fa) ∧
    maxRate (.cont (0 : K) (some 0)) = some 0 ∧ maxRate (.deadband (0 : K) (some 0)) = some 0 ∧
    maxRate (.finite (Evse.normalize l)) = some 0 ∧ minRate (.finite (Evse.normalize l)) = 0 := by
  obtain ⟨h1, h2⟩ := valid_rate_point_range atol fa 0 p
  rw [sub_zero] at h1 h2
  refine ⟨h1, by rw [h2, or_self], ?_, rfl, rfl, ?_, ?_⟩
  · rw [normalize_zeros l hl, finite_valid_iff]; simp
  · rw [normalize_zeros l hl]; rfl
  · rw [normalize_zeros l hl]; simp [minRate, firstPositive]

/-! ### rejection leaves the state alone; occupied stations refuse a plug-in -/

section
variable [HasExp K]

/-- `set_pilot` fails with `InvalidRate` exactly when the pilot is not valid, and in the
    functional model that failure returns no new state at all: the caller keeps `s` (as the object does after
    `InvalidRateError`; after a raise out of `EV.charge` it has recorded the pilot: `Evse.setPilotSt`,
    `AcnModel/EvseRun.lean`, which C03 uses). -/
theorem reject_iff (atol fa : K) (s : Evse K) (p V T ν : K) :
    setPilot atol fa s p V T ν = .error .invalidRate ↔ validRate atol fa s.kind p = false := by
  generalize hr : setPilot atol fa s p V T ν = r
  cases SetPilotOut.of_eq hr <;> simp_all

/-- an accepted pilot becomes the station's pilot, and without an EV nothing else changes -/
theorem accept_sets_pilot (atol fa : K) (s s' : Evse K) (p V T ν : K)
    (h : setPilot atol fa s p V T ν = .ok s') : s'.pilot = p ∧ s'.kind = s.kind ∧ s'.station = s.station := by
  cases SetPilotOut.of_eq h <;> exact ⟨rfl, rfl, rfl⟩

theorem plugin_occupied_refused (s : Evse K) (e e0 : Ev K) (h : s.ev = some e0) :
    plugin s e = .error .stationOccupied := by
  simp [plugin, h]

theorem plugin_vacant (s : Evse K) (e : Ev K) (h : s.ev = none) :
    plugin s e = .ok { s with ev := some e } := by
  simp [plugin, h]
end

/-! ### the description a scheduler reads is the station's own, in a network of any size

`AcnModel/EvseNet.lean`: `register_evse` calls build the network; `_update_info_store` caches the
per-station containers; `Interface.allowable_pilot_signals / max_pilot_signal / min_pilot_signal`
index them through the id → index dict. -/

/-- every network built by `register_evse` calls has pairwise distinct station ids (an `OrderedDict`):
    the hypothesis of `info_cache_eq` holds for all of them -/
theorem registered_ids_nodup (regs : List (Station K)) :
    ((Net.run regs).stations.map (·.id)).Nodup := run_ids_nodup regs

/-- which EVSE answers under an id: the LAST one registered under it, and every registered id answers -/
theorem registered_last_wins (regs : List (Station K)) (s : Station K) :
    s ∈ (Net.run regs).stations ↔
      ∃ pre post, regs = pre ++ s :: post ∧ ∀ t ∈ post, t.id ≠ s.id := by
  -- `_EVSEs` is the dict the registrations build by assignment: a binding is in it iff no later one has its key
  rw [← List.mem_map_of_injective kv_injective, run_kv, Assoc.mem_ofPairs_iff]
  constructor
  · rintro ⟨pre', post', h, hk⟩
    obtain ⟨pre, r, rfl, rfl, h2⟩ := List.map_eq_append_iff.1 h
    obtain ⟨s', post, rfl, hs, rfl⟩ := List.map_eq_cons_iff.1 h2
    obtain rfl := kv_injective hs
    exact ⟨pre, post, rfl, fun t ht e => hk (keys_kv post ▸ List.mem_map.2 ⟨t, ht, e⟩)⟩
  · rintro ⟨pre, post, rfl, hp⟩
    refine ⟨pre.map kv, post.map kv, by simp, fun hm => ?_⟩
    obtain ⟨t, ht, e⟩ := List.mem_map.1 (keys_kv post ▸ hm)
    exact hp t ht e

/-- `InfrastructureInfo` is constructible (its `_validate` passes) exactly for the networks in which
    no id was registered twice; those networks are the registration list itself, in order -/
theorem registered_consistent_iff (regs : List (Station K)) :
    infraOk (Net.run regs) = true ↔ (regs.map (·.id)).Nodup := by
  simp only [infraOk, run_nVolt, beq_iff_eq]
  rw [eq_comm]
  exact run_length_eq_iff regs

/-- INFO CACHE: for every network with distinct ids (of any size, any mix of classes, stations sharing
    class / min / max or not) and every registered station, the three Interface accessors return that
    station's OWN continuity flag, allowable description, maximum and minimum. -/
theorem info_cache_eq (n : Net K) (hn : (n.stations.map (·.id)).Nodup) (hv : infraOk n = true)
    (s : Station K) (hs : s ∈ n.stations) :
    ifaceAllowable n s.id = .ok (isContinuous s.kind, allowable s.kind) ∧
    ifaceMax n s.id = .ok (maxRate s.kind) ∧ ifaceMin n s.id = .ok (minRate s.kind) := by
  obtain ⟨i, hi, hget⟩ := List.mem_iff_getElem.mp hs
  have hget? : n.stations[i]? = some s := by rw [List.getElem?_eq_getElem hi, hget]
  have hidx : stationIndex (List.map (fun x => x.id) n.stations) s.id = some i :=
    stationIndex_of_nodup hn (by simp [List.getElem?_map, hget?])
  simp [ifaceAllowable, ifaceMax, ifaceMin, lookup, hv, infoStore, hidx, List.getElem?_map, hget?]

/-- an id that was never registered is answered by `KeyError`, not by some other station's description -/
theorem info_cache_unknown (n : Net K) (hv : infraOk n = true) (sid : String)
    (h : sid ∉ n.stations.map (·.id)) :
    ifaceAllowable n sid = .error .keyError ∧ ifaceMax n sid = .error .keyError ∧
    ifaceMin n sid = .error .keyError := by
  have hidx : stationIndex (infoStore n).ids sid = none := stationIndex_eq_none.mpr h
  simp [ifaceAllowable, ifaceMax, ifaceMin, lookup, hv, hidx]

/-- the accessors never run past a container (`Err.indexError` is unreachable) -/
theorem info_cache_no_index_error (n : Net K) (sid : String) :
    ifaceAllowable n sid ≠ .error .indexError ∧ ifaceMax n sid ≠ .error .indexError ∧
    ifaceMin n sid ≠ .error .indexError := by
  unfold ifaceAllowable ifaceMax ifaceMin lookup
  by_cases hv : infraOk n = true
  · cases hidx : stationIndex (infoStore n).ids sid with
    | none => simp [hv]
    | some i =>
      have hlt := stationIndex_lt hidx
      simp only [infoStore, List.length_map] at hlt
      simp [hv, infoStore, List.getElem?_map, List.getElem?_eq_getElem hlt]
  · simp [hv]

/-- every finite value of a well-formed EVSE's own description is accepted by that EVSE -/
theorem advertised_values_accepted (atol fa : K) (ha : 0 ≤ atol) (hfa : 0 ≤ fa) (k : Kind K)
    (hwf : WellFormed k) (v : K) (hv : v ∈ advertisedValues k) : validRate atol fa k v = true := by
  refine validRate_of_allowed (tolOf_nonneg ha hfa k) ?_
  -- a well-formed interval `[mn, mx]` names its two ends; the deadband class names the same two values
  have hint : ∀ (mn : K) (mx : Bound K), WellFormed (.cont mn mx) → v ∈ advertisedValues (.cont mn mx) →
      mn ≤ v ∧ UpTo v mx := by
    intro mn mx hwf hv
    cases mx with
    | none => simp [advertisedValues, allowable, maxRate] at hv; subst hv; exact ⟨le_rfl, trivial⟩
    | some mx =>
      simp [advertisedValues, allowable, maxRate] at hv
      rcases hv with rfl | rfl
      · exact ⟨le_rfl, hwf⟩
      · exact ⟨hwf, le_refl v⟩
  cases k with
  | cont mn mx => exact hint mn mx hwf hv
  | deadband db mx => exact Or.inr (hint db mx (by cases mx <;> exact hwf) hv)
  | finite rates =>
    simp [advertisedValues, allowable, maxRate] at hv
    rcases hv with hv | rfl
    · exact hv
    · exact (listMax_spec rates hwf).1

/-- ADVERTISED ⇒ ACCEPTED THROUGH THE NETWORK: for every sequence of `register_evse` calls with
    distinct ids, every station of the resulting network and every finite value that the Interface
    reports for that station's id (each entry of `allowable_pilot_signals`, and `max_pilot_signal`):
    the station itself accepts the value. -/
theorem advertised_accepted_net (atol fa : K) (ha : 0 ≤ atol) (hfa : 0 ≤ fa)
    (regs : List (Station K)) (hreg : (regs.map (·.id)).Nodup)
    (s : Station K) (hs : s ∈ (Net.run regs).stations) (hwf : WellFormed s.kind)
    (c : Bool) (a : List (Bound K)) (m : Bound K)
    (h1 : ifaceAllowable (Net.run regs) s.id = .ok (c, a)) (h2 : ifaceMax (Net.run regs) s.id = .ok m)
    (v : K) (hv : some v ∈ a ∨ m = some v) : validRate atol fa s.kind v = true := by
  obtain ⟨e1, e2, -⟩ := info_cache_eq (Net.run regs) (registered_ids_nodup regs)
    ((registered_consistent_iff regs).mpr hreg) s hs
  rw [e1] at h1
  rw [e2] at h2
  injection h1 with h1
  injection h2 with h2
  injection h1 with _ h1
  subst h1 h2
  apply advertised_values_accepted atol fa ha hfa s.kind hwf
  simp only [advertisedValues, List.mem_filterMap, List.mem_append, List.mem_singleton, id]
  rcases hv with hv | hv
  · exact ⟨some v, Or.inl hv, rfl⟩
  · exact ⟨some v, Or.inr hv.symm, rfl⟩

/-! ### save / resume steps inside the history of a network -/

/-- SAVE / RESUME IS INVISIBLE: for every history of `register_evse` calls with
    `from_json(to_json())` steps anywhere between them (any number, any positions, ids registered twice
    or not), the object that comes out holds exactly the stations of the plain registration sequence, in
    the same order, with the same `len(_voltages)`, and the cache it carries (restored VERBATIM from the
    file, never recomputed by `_from_dict`) is the description `_update_info_store` computes for them. -/
theorem restore_history_eq (h : List (NetEv K)) :
    (CNet.run h).net = Net.run (regsOf h) ∧ (CNet.run h).cache = infoStore (Net.run (regsOf h)) := by
  obtain ⟨h1, h2⟩ := cnet_run_eq h
  exact ⟨h1, by rw [← h1]; exact h2⟩

/-- … hence the three Interface accessors, which read the station order from the rebuilt `_EVSEs` and
    the values from the restored containers, answer every id (registered or not) exactly as on the
    network that was never saved. -/
theorem restore_iface_eq (h : List (NetEv K)) (sid : String) :
    ifaceAllowableC (CNet.run h) sid = ifaceAllowable (Net.run (regsOf h)) sid ∧
    ifaceMaxC (CNet.run h) sid = ifaceMax (Net.run (regsOf h)) sid ∧
    ifaceMinC (CNet.run h) sid = ifaceMin (Net.run (regsOf h)) sid := by
  obtain ⟨h1, h2⟩ := cnet_run_eq h
  have := iface_of_coherent (CNet.run h) h2 sid
  rw [h1] at this
  exact this

/-- ADVERTISED ⇒ ACCEPTED AFTER ANY NUMBER OF SAVE / RESUME STEPS: for every history of registrations
    (distinct ids) and restores, every station of the resulting network and every finite value the
    Interface of the RESTORED object reports under that station's id: the station accepts the value. -/
theorem advertised_accepted_restored (atol fa : K) (ha : 0 ≤ atol) (hfa : 0 ≤ fa)
    (h : List (NetEv K)) (hreg : ((regsOf h).map (·.id)).Nodup)
    (s : Station K) (hs : s ∈ (CNet.run h).net.stations) (hwf : WellFormed s.kind)
    (c : Bool) (a : List (Bound K)) (m : Bound K)
    (h1 : ifaceAllowableC (CNet.run h) s.id = .ok (c, a)) (h2 : ifaceMaxC (CNet.run h) s.id = .ok m)
    (v : K) (hv : some v ∈ a ∨ m = some v) : validRate atol fa s.kind v = true := by
  obtain ⟨e1, e2, -⟩ := restore_iface_eq h s.id
  rw [e1] at h1
  rw [e2] at h2
  rw [(restore_history_eq h).1] at hs
  exact advertised_accepted_net atol fa ha hfa (regsOf h) hreg s hs hwf c a m h1 h2 v hv

/-! ### obligations on the constants and tables regenerated from the source (T1) -/

/-- "within 1e-3 A": every tolerance in evse.py is 1e-3 absolute, 0 relative. -/
theorem gen_tolerances :
    Gen.evseAtol = 1/1000 ∧ Gen.deadbandAtol = 1/1000 ∧ Gen.finiteAtol = 1/1000 ∧
    Gen.finiteRtol = 0 ∧ Gen.deadbandRtol = 0 := by
  decide +kernel

/-- the built-in EVSE types are already in normal form (sorted, duplicate-free, with 0), so
    `normalize` leaves them alone, and the BASIC type is a proper interval from 0. -/
theorem gen_type_tables :
    Evse.normalize Gen.ccRates = Gen.ccRates ∧ Evse.normalize Gen.avRates = Gen.avRates ∧
    Gen.basicMin = 0 ∧ Gen.basicMin ≤ Gen.basicMax := by
  decide +kernel

/-! ### non-vacuity: concrete instances over ℚ -/

example : validRate (1/1000 : ℚ) (1/1000) (.cont 0 (some 32)) (32 + 1/1000) = true := by decide +kernel
example : validRate (1/1000 : ℚ) (1/1000) (.cont 0 (some 32)) (32 + 2/1000) = false := by decide +kernel
example : validRate (1/1000 : ℚ) (1/1000) (.deadband 6 (some 32)) 3 = false := by decide +kernel
example : Evse.normalize ([16, 8, 8, 32] : List ℚ) = [0, 8, 16, 32] := by decide +kernel
-- switched-off stations (`max_rate = 0`): 0 ± 1e-3 is taken, anything farther (16 A, 2e-3) is refused
example : Evse.normalize ([] : List ℚ) = [0] ∧ Evse.normalize ([0, 0] : List ℚ) = [0] := by decide +kernel
example : validRate (1/1000 : ℚ) (1/1000) (.cont 0 (some 0)) (1/1000) = true ∧
    validRate (1/1000 : ℚ) (1/1000) (.cont 0 (some 0)) 16 = false ∧
    validRate (1/1000 : ℚ) (1/1000) (.deadband 0 (some 0)) (2/1000) = false ∧
    validRate (1/1000 : ℚ) (1/1000) (.finite (Evse.normalize [0, 0])) (-1/1000) = true ∧
    validRate (1/1000 : ℚ) (1/1000) (.cont 8 (some 8)) (8 - 2/1000) = false := by decide +kernel

/-- the scenario class of two same-class stations with equal min/max and different allowable sets
    (deadband ends 6 / 8 under one maximum; finite lists with the same smallest and largest step):
    each id is answered with its own description, an unknown id with `KeyError` -/
def exampleRegs : List (Station ℚ) :=
  [⟨"DB-6", .deadband 6 (some 32)⟩, ⟨"DB-8", .deadband 8 (some 32)⟩,
   ⟨"FR-A", .finite (Evse.normalize [0, 8, 16, 32])⟩, ⟨"FR-B", .finite (Evse.normalize [32, 24, 8, 8])⟩]

example :
    (ifaceAllowable (Net.run exampleRegs) "DB-8").toOption = some (true, [some 8, some 32]) ∧
    (ifaceAllowable (Net.run exampleRegs) "FR-B").toOption = some (false, [some 0, some 8, some 24, some 32]) ∧
    (ifaceAllowable (Net.run exampleRegs) "FR-A").toOption = some (false, [some 0, some 8, some 16, some 32]) ∧
    (ifaceMax (Net.run exampleRegs) "nope").toOption = none ∧
    (exampleRegs.map (·.id)).Nodup ∧ infraOk (Net.run exampleRegs) = true := by
  decide +kernel

/-- the hypotheses of `advertised_accepted_net` are satisfiable on that network -/
example : ∀ s ∈ exampleRegs, WellFormed s.kind := by
  intro s hs
  simp only [exampleRegs, List.mem_cons, List.not_mem_nil, or_false] at hs
  rcases hs with rfl | rfl | rfl | rfl
  · simp only [WellFormed]; norm_num
  · simp only [WellFormed]; norm_num
  · simp only [WellFormed]; decide +kernel
  · simp only [WellFormed]; decide +kernel

example : infraOk (Net.run ([⟨"A", .cont 0 (some 32)⟩, ⟨"A", .deadband 6 none⟩] : List (Station ℚ))) = false := by
  decide +kernel

/-- a history with restores before, between and after the registrations of `exampleRegs` -/
def exampleHist : List (NetEv ℚ) :=
  [.restore, .reg ⟨"DB-6", .deadband 6 (some 32)⟩, .reg ⟨"DB-8", .deadband 8 (some 32)⟩, .restore,
   .reg ⟨"FR-A", .finite (Evse.normalize [0, 8, 16, 32])⟩, .restore, .restore,
   .reg ⟨"FR-B", .finite (Evse.normalize [32, 24, 8, 8])⟩, .restore]

example :
    (regsOf exampleHist).map (·.id) = exampleRegs.map (·.id) ∧
    (ifaceAllowableC (CNet.run exampleHist) "DB-8").toOption = some (true, [some 8, some 32]) ∧
    (ifaceAllowableC (CNet.run exampleHist) "FR-B").toOption = some (false, [some 0, some 8, some 24, some 32]) ∧
    (ifaceMaxC (CNet.run exampleHist) "nope").toOption = none ∧
    infraOkC (CNet.run exampleHist) = true := by
  decide +kernel

/-- what the theorem excludes: a writer that emits the `_EVSEs` object with its keys SORTED (ids
    registered in non-sorted order) while the containers stay positional makes the reader advertise
    another station's limits — the model's `Saved.load` shows it. -/
example :
    let c : CNet ℚ := CNet.run [.reg ⟨"Z", .finite [0, 8, 16]⟩, .reg ⟨"B", .cont 6 (some 40)⟩]
    let sorted : Saved ℚ := { c.save with evses := [⟨"B", .cont 6 (some 40)⟩, ⟨"Z", .finite [0, 8, 16]⟩] }
    (ifaceMaxC c.save.load "Z").toOption = some (some 16) ∧
    (ifaceMaxC sorted.load "Z").toOption = some (some 40) := by
  decide +kernel

end Acn.C13
