/-
  C18 — analysis functions equal their first-principles definitions.

  Property theorems only.  Carrier: any linear ordered field `K` (ℚ, ℝ); `sqrt : K → K` is an
  arbitrary function (no property of it is used).  A simulation result is ANY
    `R` (charging_rates: any number of stations, each row of width `T`), `V`, `c`/`s` (cos/sin of
    the phase angles), `M`/`names` (constraint matrix and index, one row per pairwise distinct
    name), `evs`.
  Left-hand sides are the transcriptions of the code (`AcnModel/Analysis.lean`, numpy reductions,
  position filters, dict comprehension); right-hand sides are indexed sums `∑ i ∈ range n, …`,
  ratios and maxima.  `phasorSum row c R t = Σ_j row_j · (R_j(t) · c_j)`.
-/
import AcnModel.Analysis
import AcnProofs.Lemmas.AnalysisCurrent
import Mathlib.Tactic

namespace Acn.C18
open Acn.Analysis Finset

set_option linter.unusedSectionVars false
variable {K : Type} [Field K] [LinearOrder K] [IsStrictOrderedRing K]

/-- `aggregate_current(sim)[t] = Σ_i charging_rates[i][t]` (one entry per recorded period). -/
theorem aggregate_current_def (T : Nat) (R : Matrix K) (hR : ∀ row ∈ R, row.length = T) :
    aggregateCurrent T R = (List.range T).map (fun t => ∑ i ∈ range R.length, ent R i t) :=
  colSums_eq T R hR

example : aggregateCurrent 2 ([[1, 2], [3, 4], [5, 6]] : Matrix ℚ) = [9, 12] := by decide +kernel

/-- `aggregate_power(sim)[t] = (Σ_i V_i · charging_rates[i][t]) / 1000`. -/
theorem aggregate_power_def (T : Nat) (V : List K) (R : Matrix K) (hR : ∀ row ∈ R, row.length = T) :
    aggregatePower T V R =
      (List.range T).map (fun t => (∑ i ∈ range R.length, V.getD i 0 * ent R i t) / 1000) := by
  rw [aggregatePower, vecMat_eq T V R hR, List.map_map]
  simp [Function.comp_def]

example : aggregatePower 2 ([208, 240, 120] : List ℚ) [[1, 2], [3, 4], [5, 6]] = [191 / 125, 262 / 125] := by
  decide +kernel

/-- `network.constraint_current(schedule, constraints=req, time_indices=ti)`: one row per position
    of `constraint_index` whose name is requested (index order, each once — whatever the order and
    multiplicity of `req`), one column per selected time index (numpy wrap-around, any order and
    multiplicity), each entry the aggregate phasor current of THAT matrix row at THAT period. -/
theorem constraint_current_rows (names : List String) (M : Matrix K) (c s : List K) (R : Matrix K)
    (T : Nat) (req : Option (List String)) (ti : Option (List Int)) (cols : List Nat)
    (hM : M.length = names.length) (hR : ∀ row ∈ R, row.length = T)
    (hc : c.length = R.length) (hs : s.length = R.length) (hti : colsOf T ti = some cols) :
    constraintCurrent names M c s R T req ti =
      .ok ((constraintIndices names req).map fun k => cols.map fun t =>
        (phasorSum (M.getD k []) c R t, phasorSum (M.getD k []) s R t)) := by
  unfold constraintCurrent
  cases ti with
  | none =>
    simp only [colsOf, Option.some.injEq] at hti
    subst hti
    simp only [selectCols, selectRows_ok names M hM req]
    rw [current_rows_core M c s R R T (List.range T) _ hc hs rfl hR (by simp)
      (fun j u hu => by rw [List.getD_eq_getElem _ _ (by simpa using hu), List.getElem_range])]
  | some l =>
    simp only [colsOf] at hti
    simp only [selectCols, hti, selectRows_ok names M hM req]
    rw [current_rows_core M c s R _ cols.length cols _ hc hs (by simp) (by simp) rfl
      (fun j u hu => ent_selectCols R cols j u hu)]

example : constraintCurrent ["x", "y", "z"] ([[1, -1], [0, 2], [1, 1]] : Matrix ℚ) [1, 0] [0, -1]
    [[3, 4, 5], [6, 7, 8]] 3 (some ["z", "x", "z"]) (some [-1, 0]) =
    .ok [[(5, 8), (3, 6)], [(5, -8), (3, -6)]] := by decide +kernel

/-- `analysis.constraint_currents(sim, constraint_ids=req)` (complex values), for ANY request list
    (any order, any multiplicity, unknown ids allowed) and any valid time-index selection:
    `result[name]` is bound iff `name` is requested and is a constraint name, and then it is the
    aggregate phasor current of THE ROW WITH THAT NAME in every selected period. -/
theorem constraint_currents_named (names : List String) (M : Matrix K) (c s : List K) (R : Matrix K)
    (T : Nat) (req : List String) (ti : Option (List Int)) (cols : List Nat)
    (hn : names.Nodup) (hM : M.length = names.length) (hR : ∀ row ∈ R, row.length = T)
    (hc : c.length = R.length) (hs : s.length = R.length) (hti : colsOf T ti = some cols) :
    ∃ d, constraintCurrentsComplex names M c s R T (some req) ti = .ok d ∧
      ∀ name, dictGet d name =
        if name ∈ req then
          (rowNamed names M name).map fun row => cols.map fun t =>
            (phasorSum row c R t, phasorSum row s R t)
        else none := by
  obtain ⟨d, hd, hget⟩ := dict_named names hn req
    (fun k => cols.map fun t => (phasorSum (M.getD k []) c R t, phasorSum (M.getD k []) s R t))
  refine ⟨d, ?_, ?_⟩
  · simp only [constraintCurrentsComplex, Option.getD_some,
      constraint_current_rows names M c s R T (some req) ti cols hM hR hc hs hti]
    exact hd
  · intro name
    rw [hget name, rowNamed_eq names M hM name, Option.map_map]
    rfl

/-- with `constraint_ids=None` every constraint name is bound -/
theorem constraint_currents_keys (names : List String) (M : Matrix K) (c s : List K) (R : Matrix K)
    (T : Nat) (hn : names.Nodup) (hM : M.length = names.length) (hR : ∀ row ∈ R, row.length = T)
    (hc : c.length = R.length) (hs : s.length = R.length) :
    ∃ d, constraintCurrentsComplex names M c s R T none none = .ok d ∧
      ∀ name, dictGet d name =
        (rowNamed names M name).map fun row => (List.range T).map fun t =>
          (phasorSum row c R t, phasorSum row s R t) := by
  obtain ⟨d, hd, hget⟩ := constraint_currents_named names M c s R T names none (List.range T)
    hn hM hR hc hs rfl
  refine ⟨d, by simpa [constraintCurrentsComplex] using hd, fun name => ?_⟩
  rw [hget name]
  by_cases h : name ∈ names
  · rw [if_pos h]
  · rw [if_neg h, rowNamed_eq names M hM name, posOf_none names name h]; rfl

/-- the magnitudes variant (the code's default): `result[name][u] = |I_name(cols[u])|` -/
theorem constraint_currents_mag_named (sqrt : K → K) (names : List String) (M : Matrix K)
    (c s : List K) (R : Matrix K) (T : Nat) (req : List String) (ti : Option (List Int))
    (cols : List Nat) (hn : names.Nodup) (hM : M.length = names.length)
    (hR : ∀ row ∈ R, row.length = T) (hc : c.length = R.length) (hs : s.length = R.length)
    (hti : colsOf T ti = some cols) :
    ∃ d, constraintCurrentsMag sqrt names M c s R T (some req) ti = .ok d ∧
      ∀ name, dictGet d name =
        if name ∈ req then
          (rowNamed names M name).map fun row => cols.map fun t =>
            sqrt (phasorSum row c R t * phasorSum row c R t + phasorSum row s R t * phasorSum row s R t)
        else none := by
  obtain ⟨d, hd, hget⟩ := dict_named names hn req
    (fun k => cols.map fun t => sqrt (phasorSum (M.getD k []) c R t * phasorSum (M.getD k []) c R t
      + phasorSum (M.getD k []) s R t * phasorSum (M.getD k []) s R t))
  refine ⟨d, ?_, ?_⟩
  · simp only [constraintCurrentsMag, Option.getD_some,
      constraint_current_rows names M c s R T (some req) ti cols hM hR hc hs hti, List.map_map]
    simpa [Function.comp_def, cabs] using hd
  · intro name
    rw [hget name, rowNamed_eq names M hM name, Option.map_map]
    rfl

example : (constraintCurrentsMag (fun x => x) ["x", "y", "z"] ([[1, -1], [0, 2], [1, 1]] : Matrix ℚ)
    [1, 0] [0, -1] [[3, 4, 5], [6, 7, 8]] 3 (some ["z", "q", "x", "z"]) none).toOption.map
      (fun d => (dictGet d "z", dictGet d "x", dictGet d "y", dictGet d "q")) =
    some (some [45, 65, 89], some [45, 65, 89], none, none) := by decide +kernel

example : (constraintCurrentsComplex ["x", "y", "z"] ([[1, -1], [0, 2], [1, 1]] : Matrix ℚ)
    [1, 0] [0, -1] [[3, 4, 5], [6, 7, 8]] 3 (some ["z", "y"]) none).toOption.map
      (fun d => (dictGet d "y", dictGet d "z")) =
    some (some [(0, -12), (0, -14), (0, -16)], some [(3, -6), (4, -7), (5, -8)]) := by decide +kernel

/-- energy totals and proportions: totals are the sums over the sessions; the proportion delivered
    is Σ delivered / Σ requested (the code divides by a zero total: ZeroDivisionError class);
    demands met is the fraction of sessions whose remaining demand `requested − delivered` is
    below the threshold (strict, as in the source). -/
theorem energy_metrics_def (evs : List (Ev K)) (thr : K) :
    totalRequested evs = (evs.map (·.requested)).sum ∧
    totalDelivered evs = (evs.map (·.delivered)).sum ∧
    ((evs.map (·.requested)).sum ≠ 0 →
      proportionDelivered evs = .ok ((evs.map (·.delivered)).sum / (evs.map (·.requested)).sum)) ∧
    ((evs.map (·.requested)).sum = 0 → proportionDelivered evs = .error .zeroDivision) ∧
    (evs ≠ [] → demandsMet evs thr =
      .ok ((evs.countP (fun e => decide (e.requested - e.delivered < thr)) : K) / (evs.length : K))) ∧
    (evs = [] → demandsMet evs thr = .error .zeroDivision) := by
  have h1 : totalRequested evs = (evs.map (·.requested)).sum := sumK_eq_sum _
  have h2 : totalDelivered evs = (evs.map (·.delivered)).sum := sumK_eq_sum _
  refine ⟨h1, h2, ?_, ?_, ?_, ?_⟩
  · intro h
    have : isZero (evs.map (·.requested)).sum = false := by
      rw [Bool.eq_false_iff, Ne, isZero_iff]; exact h
    simp [proportionDelivered, this, h1, h2]
  · intro h
    have : isZero (evs.map (·.requested)).sum = true := by rw [isZero_iff]; exact h
    simp [proportionDelivered, this, h1]
  · intro h
    have : evs.isEmpty = false := by cases evs <;> simp_all
    simp only [demandsMet, this, remaining, List.countP_eq_length_filter]
    rfl
  · rintro rfl
    simp [demandsMet]

example : proportionDelivered ([⟨5, 3⟩, ⟨2, 2⟩, ⟨30, 7⟩] : List (Ev ℚ)) = .ok (12 / 37) ∧
    demandsMet ([⟨5, 3⟩, ⟨2, 2⟩, ⟨30, 7⟩] : List (Ev ℚ)) (1 / 10) = .ok (1 / 3) ∧
    demandsMet ([⟨5, 3⟩, ⟨2, 2⟩, ⟨30, 7⟩] : List (Ev ℚ)) 2 = .ok (1 / 3) ∧
    demandsMet ([⟨5, 3⟩, ⟨2, 2⟩, ⟨30, 7⟩] : List (Ev ℚ)) (201 / 100) = .ok (2 / 3) := by decide +kernel

/-- the NEMA formula on three magnitudes; `none` is the NaN numpy returns for 0/0 -/
def nemaFormula (x y z : K) : Option K :=
  if (x + y + z) / 3 = 0 then none
  else some ((max (max x y) z - (x + y + z) / 3) / ((x + y + z) / 3))

/-- `current_unbalance(sim, [a, b, cc])` for three (not necessarily different) constraint names:
    per recorded period, (max |I| − mean |I|) / mean |I| over the magnitudes of the aggregate
    phasor currents of the rows WITH THOSE NAMES; NaN exactly when the mean is zero. -/
theorem nema_def (sqrt : K → K) (names : List String) (M : Matrix K) (c s : List K) (R : Matrix K)
    (T : Nat) (a b cc : String) (ra rb rc : List K)
    (hn : names.Nodup) (hM : M.length = names.length) (hR : ∀ row ∈ R, row.length = T)
    (hc : c.length = R.length) (hs : s.length = R.length)
    (ha : rowNamed names M a = some ra) (hb : rowNamed names M b = some rb)
    (hcc : rowNamed names M cc = some rc) :
    nemaUnbalance sqrt names M c s R T [a, b, cc] =
      .ok ((List.range T).map fun t =>
        nemaFormula
          (sqrt (phasorSum ra c R t * phasorSum ra c R t + phasorSum ra s R t * phasorSum ra s R t))
          (sqrt (phasorSum rb c R t * phasorSum rb c R t + phasorSum rb s R t * phasorSum rb s R t))
          (sqrt (phasorSum rc c R t * phasorSum rc c R t + phasorSum rc s R t * phasorSum rc s R t))) := by
  obtain ⟨d, hd, hget⟩ := constraint_currents_mag_named sqrt names M c s R T [a, b, cc] none
    (List.range T) hn hM hR hc hs rfl
  have hga := hget a
  have hgb := hget b
  have hgc := hget cc
  simp only [List.mem_cons, true_or, or_true, if_true, ha, hb, hcc, Option.map_some] at hga hgb hgc
  unfold nemaUnbalance
  simp only [hd, lookupAll, hga, hgb, hgc, List.isEmpty_cons, Bool.false_eq_true, if_false,
    colSums, colMax, List.foldl_cons, List.foldl_nil, addV, replicate_eq_map_range,
    zipWith_map_same, List.map_map, List.length_cons, List.length_nil]
  congr 1
  apply List.map_congr_left
  intro t _
  simp only [Function.comp, unbalance, nemaFormula, pyMax_eq_max]
  have h3 : (((0 + 1 + 1 + 1 : Nat) : K)) = 3 := by norm_num
  rw [h3, zero_add]
  simp only [isZero_iff]

example : nemaUnbalance (fun x => x) ["x", "y", "z"] ([[1, -1], [0, 2], [1, 1]] : Matrix ℚ) [1, 0] [0, -1]
    [[3, 0, 5], [6, 0, 8]] 3 ["z", "y", "z"] = .ok [some (11 / 13), none, some (167 / 217)] := by decide +kernel

/-- `energy_cost(sim, tariff)` = Σ_t price_t · (P_t · period/60), `P_t` the aggregate power [kW]
    and `prices = tariff.get_tariffs(start, T, period)`. -/
theorem energy_cost_def (prices : List K) (T : Nat) (V : List K) (R : Matrix K) (period : K)
    (hR : ∀ row ∈ R, row.length = T) (hp : prices.length = T) :
    energyCost prices T V R period =
      .ok (∑ t ∈ range T, prices.getD t 0 *
        ((∑ i ∈ range R.length, V.getD i 0 * ent R i t) / 1000 * (period / 60))) := by
  have hagg := aggregate_power_def T V R hR
  have hlen : (aggregatePower T V R).length = T := by rw [hagg]; simp
  unfold energyCost
  simp only [hp, hlen, if_true]
  rw [dotK_eq prices _ T hp.le, Finset.sum_mul]
  congr 1
  apply Finset.sum_congr rfl
  intro t ht
  rw [hagg, getD_map_range 0 T _ t (Finset.mem_range.mp ht)]
  push_cast
  ring

example : energyCost ([1 / 10, 3 / 10] : List ℚ) 2 [200, 100] [[10, 20], [30, 0]] 15 = .ok (17 / 40) := by
  decide +kernel

/-- `demand_charge(sim, tariff)` = dc · max_t P_t  (ValueError on an empty trajectory). -/
theorem demand_charge_def (dc : K) (T : Nat) (V : List K) (R : Matrix K)
    (hR : ∀ row ∈ R, row.length = T) (hT : 0 < T) :
    ∃ m, demandCharge dc T V R = .ok (dc * m) ∧
      (∃ t < T, m = (∑ i ∈ range R.length, V.getD i 0 * ent R i t) / 1000) ∧
      ∀ t < T, (∑ i ∈ range R.length, V.getD i 0 * ent R i t) / 1000 ≤ m := by
  have hagg := aggregate_power_def T V R hR
  obtain ⟨T', rfl⟩ : ∃ T', T = T' + 1 := ⟨T - 1, by omega⟩
  set P := fun t => (∑ i ∈ range R.length, V.getD i 0 * ent R i t) / 1000 with hP
  unfold demandCharge
  rw [hagg]
  cases hl : (List.range (T' + 1)).map P with
  | nil => simp at hl
  | cons x xs =>
    obtain ⟨hm, hle⟩ := foldl_pyMax_spec xs x
    refine ⟨xs.foldl pyMax x, by simp [listMax], ?_, ?_⟩
    · obtain ⟨t, ht, e⟩ := List.mem_map.1 (hl ▸ hm)
      exact ⟨t, List.mem_range.1 ht, e.symm⟩
    · intro t ht
      exact hle (P t) (hl ▸ List.mem_map_of_mem (List.mem_range.2 ht))

example : demandCharge (15 : ℚ) 2 [200, 100] [[10, 20], [30, 0]] = .ok 75 := by decide +kernel

/-- `datetimes_array(sim)`: one entry per simulated period, entry `t` = start + t·period. -/
theorem datetimes_def (start period : K) (iters : Nat) :
    (datetimes start period iters).length = iters ∧
      ∀ t (h : t < (datetimes start period iters).length),
        (datetimes start period iters)[t] = start + period * (t : K) := by
  simp [datetimes]

example : datetimes (100 : ℚ) 5 4 = [100, 105, 110, 115] := by decide +kernel

/-- the executable statement-level definitions the driver evaluates are these indexed sums -/
theorem spec_defs_are_sums (names : List String) (M : Matrix K) (V c s : List K) (R : Matrix K)
    (prices : List K) (period : K) (T : Nat) (name : String) (t : Nat) (x y z : K) :
    specAggCurrent R t = ∑ i ∈ range R.length, ent R i t ∧
    specAggPower V R t = (∑ i ∈ range R.length, V.getD i 0 * ent R i t) / 1000 ∧
    specConstraintCurrent names M c s R name t =
      (rowNamed names M name).map (fun row => (phasorSum row c R t, phasorSum row s R t)) ∧
    specNema x y z = nemaFormula x y z ∧
    specEnergyCost prices T V R period = ∑ t ∈ range T, prices.getD t 0 *
        ((∑ i ∈ range R.length, V.getD i 0 * ent R i t) / 1000 * (period / 60)) := by
  have hp : ∀ t, specAggPower V R t = (∑ i ∈ range R.length, V.getD i 0 * ent R i t) / 1000 := by
    intro t; simp [specAggPower, sumK_eq_sum, sum_map_range]
  refine ⟨sumK_map_range _ _, hp t, ?_, ?_, ?_⟩
  · simp [specConstraintCurrent, specPhasorPart, sumK_eq_sum, sum_map_range, phasorSum]
  · simp only [specNema, nemaFormula, pyMax_eq_max]
    have h3 : (((3 : Nat) : K)) = 3 := by norm_num
    rw [h3]
    simp only [isZero_iff]
  · simp only [specEnergyCost, sumK_map_range, hp]
    push_cast
    rfl

end Acn.C18
