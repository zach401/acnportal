/-
  C19 — the full simulator on the stochastic network (`SimSt.run`), three more protocol theorems:

  * `no_starvation_behind_satisfied`: `post_charging_update` runs after EVERY charged period, so at
    every loop head at which somebody still waits, an EV that is satisfied (`fully_charged`) and
    holds a station was itself in the queue while the period just charged was running — nobody
    waits behind a satisfied EV that was charging.  (A loop that skips the hook in idle periods
    breaks this: example below.)
  * `end_to_end_sim_abort`: what the state is when `Simulator.run` raises — the network exactly as
    the failing period's events left it, the C19 invariant intact, the numeric state the failing
    stage's own partial state.
  * `end_to_end_sim_abort_energy`: the energy ledger at that moment — exact at the abort if the
    scheduler stage raised, exact at the entry of the apply stage if that stage raised.

  Helpers: `Inv.post_satisfied` (AcnProofs/Lemmas/StochasticRun.lean),
  AcnProofs/Lemmas/EventCoreGMLast.lean, AcnProofs/Lemmas/SimStochasticAbort.lean.
-/
import AcnProofs.C19
import AcnProofs.Lemmas.StochasticRun
import AcnProofs.Lemmas.EventCoreGMLast
import AcnProofs.Lemmas.SimStochasticAbort

set_option linter.unusedSectionVars false

namespace Acn.C19
open Acn Acn.Stoch Acn.EventCore

section sim
variable {K : Type} [Add K] [Sub K] [Mul K] [Div K] [Neg K] [LT K] [LE K]
  [DecidableLT K] [DecidableLE K] [OfNat K 0] [OfNat K 1] [NatCast K] [HasExp K]

/-- NOBODY WAITS BEHIND A SATISFIED EV THAT WAS CHARGING.  For every configuration as in
    `end_to_end_sim`, every choice stream, every scheduler: a run of `n` iterations that raised nothing
    ends in the start state or in the state `g` that ONE loop body produces from a loop head `gm`
    reached by an error-free shorter run; with `g1` the state after that period's events (the state in
    which the period is scheduled and charged; its `early_departure` flag is the constructor's):
    if early departure is on and somebody still waits in `g`, then every EV that holds a station in
    `g` and is fully charged (`SimSt.fullOf`, computed from the energies in `g`) was in the QUEUE in
    `g1` — on no station while the period was charged; the hook has just swapped it in.  So an EV
    that was charging and is satisfied never keeps its station while somebody waits:
    `post_charging_update` is called after every period, charged at 0 A or not. -/
theorem no_starvation_behind_satisfied (cfg : Sim.Cfg K) (hq : ValidQ cfg.core)
    (hst : (cfg.stations.map (·.id)).Nodup) (early : Bool) (cs : Nat → Nat)
    (sched : Sim.View K → Except EventCore.Err (Sim.Schedule K)) (n : Nat) (g : CoreG (SimSt.St K))
    (hrun : SimSt.run cs cfg sched n (SimSt.init cfg early) = (g, none)) :
    g = SimSt.init cfg early ∨
    ∃ k gm g1, k < n ∧ SimSt.run cs cfg sched k (SimSt.init cfg early) = (gm, none) ∧
      eventsStageG heapQ (SimSt.netOps cs cfg) cfg.core gm = (g1, none) ∧
      SimSt.body cs cfg sched gm = (g, none) ∧ g.core.iter = gm.core.iter + 1 ∧
      g1.net.1.earlyDeparture = early ∧
      (early = true → g.net.1.waiting ≠ [] →
        ∀ st x, g.net.1.occ st = some x → SimSt.fullOf cfg g.net.2 x = true →
          x ∈ g1.net.1.waiting ∧ ∀ st', g1.net.1.occ st' ≠ some x) := by
  rcases SimSt.run_last hq hst early cs sched hrun with
    ⟨e1, _⟩ | ⟨k, gm, g1, hk, hrk, h1, hit, hN1, hb, _⟩
  · exact Or.inl e1
  · right
    obtain ⟨gB, n1, n2, hso, hap, hpo, hg⟩ := bodyGM_ok_cases h1 hb
    have hB1 : gB.net.1 = g1.net.1 := SimSt.schedOut_net1 hso
    have hBc := hso.core
    have hn1 : n1.1 = g1.net.1 := (SimSt.applyS_net1 hap).trans hB1
    have hInv1 : Inv n1.1 := by rw [hn1]; exact hN1.inv
    have hpost := SimSt.postS_net cfg gB.core.iter n1 n2 hpo
    have hevs : n2.2.evs = n1.2.evs := by
      have := SimSt.postS_evs cfg gB.core.iter n1
      rw [hpo] at this
      exact this
    have hflag : g1.net.1.earlyDeparture = early := hN1.flag
    refine ⟨k, gm, g1, hk, hrk, h1, hb, ?_, hflag, ?_⟩
    · rw [hg]
      simp only [advance]
      rw [hBc.1, hit]
    · intro he hne st x hocc hfull
      rw [← hflag] at he
      rw [hg] at hne hocc hfull
      simp only at hne hocc hfull
      rw [SimSt.fullOf_congr cfg hevs] at hfull
      have hw := hInv1.post_satisfied (SimSt.fullOf cfg n1.2) (by rw [hn1]; exact he) hpost hne st x
        hocc hfull
      rw [hn1] at hw
      exact ⟨hw, hN1.inv.occ_ne_of_mem_waiting hw⟩

/-- WHAT HOLDS WHEN `Simulator.run` RAISES.  For every configuration as in `end_to_end_sim`, every
    choice stream, every scheduler: if the run of `n` iterations raises `e`, then an error-free run of
    `k < n` iterations reaches a loop head `gm`, the events of that period go through (`g1`), and in
    the state `g` the run stops in:
      * the network is EXACTLY the network after the failing period's events — the hook has not run,
        no counter has moved — and `iteration`, `event_history`, the event queue are those of `g1`;
      * the network state is `Good` for the history (so `place_unique`, `fifo_admission`,
        `no_wait_while_free`, `never_charged_counts`, … hold at the abort);
      * either (A) the scheduler stage raised and nothing numeric of the period has been applied, or
        (B) the apply stage raised, run on a state with that network at that iteration, and the
        numeric state is that stage's own partial state (`Sim.applyStage`: pilots in place, stations
        charged up to the failing one).
    The hook never raises. -/
theorem end_to_end_sim_abort (cfg : Sim.Cfg K) (hq : ValidQ cfg.core)
    (hst : (cfg.stations.map (·.id)).Nodup) (early : Bool) (cs : Nat → Nat)
    (sched : Sim.View K → Except EventCore.Err (Sim.Schedule K)) (n : Nat) (g : CoreG (SimSt.St K))
    (e : EventCore.Err)
    (hrun : SimSt.run cs cfg sched n (SimSt.init cfg early) = (g, some e)) :
    ∃ k gm g1, k < n ∧ SimSt.run cs cfg sched k (SimSt.init cfg early) = (gm, none) ∧
      eventsStageG heapQ (SimSt.netOps cs cfg) cfg.core gm = (g1, none) ∧
      g.net.1 = g1.net.1 ∧ g.core.iter = gm.core.iter ∧ g.core.eventHist = g1.core.eventHist ∧
      g.core.pending = g1.core.pending ∧
      Good g.net.1 g.core.eventHist ∧
      ((RaisedBy (SimSt.schedS cfg sched) e ∧ g.net.2 = g1.net.2) ∨
       (∃ gB : CoreG (SimSt.St K), gB.net.1 = g1.net.1 ∧ gB.core.iter = gm.core.iter ∧
          (SimSt.applyS cfg gB).2 = some e ∧ g.net.2 = (SimSt.applyS cfg gB).1.2)) := by
  rcases SimSt.run_last hq hst early cs sched hrun with
    ⟨_, e2⟩ | ⟨k, gm, g1, hk, hrk, h1, hit, hN1, hb, _⟩
  · cases e2
  · refine ⟨k, gm, g1, hk, hrk, h1, ?_⟩
    have hgood : Good g1.net.1 g1.core.eventHist := ⟨hN1.inv, hN1.track⟩
    rcases SimSt.body_raise_cases hq cs h1 hN1 hb with ⟨hr, rfl⟩ | ⟨gB, hso, hB1, hap, rfl⟩
    · exact ⟨rfl, hit, rfl, rfl, hgood, Or.inl ⟨hr, rfl⟩⟩
    · obtain ⟨c1, c2, c3⟩ := hso.core
      -- the apply stage leaves the network alone
      have hn : (SimSt.applyS cfg gB).1.1 = g1.net.1 := hB1
      exact ⟨hn, c1.trans hit, c2, c3, by rw [c2, hn]; exact hgood, Or.inr ⟨gB, hB1, c1.trans hit, hap, rfl⟩⟩

end sim

/-! ### the energy ledger at an abort (C02's invariant where `end_to_end_sim_energy` is silent) -/

section simabortenergy
variable {K : Type} [Field K] [LinearOrder K] [IsStrictOrderedRing K] [HasExp K]

open Acn.EventCore Acn.Ledger in
/-- ENERGY LEDGER WHEN `Simulator.run` RAISES.  Over any linear ordered field, for every configuration
    as in `end_to_end_sim`, every choice stream, every scheduler: if the run of `n` iterations raises
    `e`, then in the state `g` it stops in (`LedgerQ`: `occLog.length = iteration`, every EV's delivered
    energy = Σ of `charging_rates · V/1000 · period/60` over the periods `< iteration` and the stations
    where it sat = its battery's gain, vacant ⇒ rate 0, future columns 0, `peak` = running maximum —
    the conclusion of `end_to_end_sim_energy`)
      * (A) the scheduler stage raised and the ledger of the completed periods is EXACT at the abort; or
      * (B) the apply stage raised: the ledger was exact in the state `gB` (same iteration, same
        network) in which the apply stage of the failing period began, and the numeric state at the
        abort is that stage's own partial state (`Sim.applyStage`) on top of it. -/
theorem end_to_end_sim_abort_energy (cfg : Sim.Cfg K) (hq : ValidQ cfg.core)
    (hst : (cfg.stations.map (·.id)).Nodup) (early : Bool) (cs : Nat → Nat)
    (sched : Sim.View K → Except EventCore.Err (Sim.Schedule K)) (n : Nat) (g : CoreG (SimSt.St K))
    (e : EventCore.Err)
    (hrun : SimSt.run cs cfg sched n (SimSt.init cfg early) = (g, some e)) :
    (RaisedBy (SimSt.schedS cfg sched) e ∧
      LedgerQ cfg g.core.iter g.net.2.rates g.net.2.peak g.net.2.evs g.net.2.occLog) ∨
    (∃ gB : CoreG (SimSt.St K), gB.core.iter = g.core.iter ∧ gB.net.1 = g.net.1 ∧
      (SimSt.applyS cfg gB).2 = some e ∧ g.net.2 = (SimSt.applyS cfg gB).1.2 ∧
      LedgerQ cfg gB.core.iter gB.net.2.rates gB.net.2.peak gB.net.2.evs gB.net.2.occLog) := by
  have hK := SimSt.ledger_keepsJ cfg hst cs sched early
  rcases SimSt.run_last hq hst early cs sched hrun with
    ⟨_, e2⟩ | ⟨k, gm, g1, hk, hrk, h1, hit, hN1, hb, hJ⟩
  · cases e2
  · have hJ1 : SimSt.ledgerJ cfg g1 := hJ _ hK (SimSt.ledgerJ_init cfg early)
    rcases SimSt.body_raise_cases hq cs h1 hN1 hb with ⟨hr, rfl⟩ | ⟨gB, hso, -, hap, rfl⟩
    · exact Or.inl ⟨hr, hK.flags g1 (markInvoked g1.core) rfl hJ1⟩
    · exact Or.inr ⟨gB, rfl, rfl, hap, rfl, hK.schedOut hso hJ1⟩

end simabortenergy

section simex
local instance : HasExp ℚ := ⟨fun x => x⟩

/-- "hook called only when the period's aggregate current is non-zero": `post_charging_update`
    skipped in idle periods — NOT what `Simulator.run` does (simulator.py:140 is unconditional) -/
def postIdle (cfg : Sim.Cfg ℚ) : Nat → SimSt.St ℚ → SimSt.St ℚ × Option EventCore.Err :=
  fun t sp =>
    if sp.2.rates.rows.all (fun r => r.getD t 0 == 0) then (sp, none) else SimSt.postS cfg t sp

/-- the hypothesis of `no_starvation_behind_satisfied` is satisfiable and its conclusion is not
    vacuous: in the run of `exSimCfg` (C19.lean), after 2 periods nothing was raised, somebody still
    waits (`b`), the satisfied `a` (3 kWh asked, 7 delivered) holds no station any more, and the
    station holds `c`, which sat in the queue — on no station — while period 1 was charged -/
example :
    (SimSt.run (fun _ => 0) exSimCfg exSimSched 2 (SimSt.init exSimCfg true)).2 = none ∧
    (SimSt.run (fun _ => 0) exSimCfg exSimSched 2 (SimSt.init exSimCfg true)).1.net.1.waiting = ["b"] ∧
    (SimSt.run (fun _ => 0) exSimCfg exSimSched 2 (SimSt.init exSimCfg true)).1.net.1.occ "S0" = some "c" ∧
    SimSt.fullOf exSimCfg (SimSt.run (fun _ => 0) exSimCfg exSimSched 2 (SimSt.init exSimCfg true)).1.net.2 "a"
      = true ∧
    (eventsStageG heapQ (SimSt.netOps (fun _ => 0) exSimCfg) exSimCfg.core
      (SimSt.run (fun _ => 0) exSimCfg exSimSched 1 (SimSt.init exSimCfg true)).1).1.net.1.waiting = ["c", "b"] ∧
    (eventsStageG heapQ (SimSt.netOps (fun _ => 0) exSimCfg) exSimCfg.core
      (SimSt.run (fun _ => 0) exSimCfg exSimSched 1 (SimSt.init exSimCfg true)).1).1.net.1.occ "S0" = some "a" := by
  decide +kernel

/-- `exSimCfg` with `c` asking for nothing: `c` is satisfied the moment it arrives -/
def exSimCfgC0 : Sim.Cfg ℚ :=
  { exSimCfg with evs := exSimCfg.evs.map fun e => if e.session = "c" then { e with requested := 0 } else e }

/-- the inner implication of `no_starvation_behind_satisfied` is exercised: on `exSimCfgC0` (`c`
    satisfied on arrival), after 2 periods somebody (`b`) still waits while a SATISFIED EV (`c`) holds
    the station — and, as the theorem says, that EV was in the queue (on no station) while period 1
    was charged: the hook has just swapped it in
    (it is swapped out again by the next period's hook if `b` is still there) -/
example :
    (SimSt.run (fun _ => 0) exSimCfgC0 exSimSched 2 (SimSt.init exSimCfgC0 true)).2 = none ∧
    (SimSt.run (fun _ => 0) exSimCfgC0 exSimSched 2 (SimSt.init exSimCfgC0 true)).1.net.1.waiting = ["b"] ∧
    (SimSt.run (fun _ => 0) exSimCfgC0 exSimSched 2 (SimSt.init exSimCfgC0 true)).1.net.1.occ "S0" = some "c" ∧
    SimSt.fullOf exSimCfgC0 (SimSt.run (fun _ => 0) exSimCfgC0 exSimSched 2 (SimSt.init exSimCfgC0 true)).1.net.2 "c"
      = true ∧
    (eventsStageG heapQ (SimSt.netOps (fun _ => 0) exSimCfgC0) exSimCfgC0.core
      (SimSt.run (fun _ => 0) exSimCfgC0 exSimSched 1 (SimSt.init exSimCfgC0 true)).1).1.net.1.waiting = ["c", "b"] ∧
    (eventsStageG heapQ (SimSt.netOps (fun _ => 0) exSimCfgC0) exSimCfgC0.core
      (SimSt.run (fun _ => 0) exSimCfgC0 exSimSched 1 (SimSt.init exSimCfgC0 true)).1).1.net.1.occ "S0" = some "a" := by
  decide +kernel

/-- the conclusion of `no_starvation_behind_satisfied` FAILS for a loop that skips the hook in idle
    periods (`postIdle`, on `exSimCfg`): period 1 is charged at 0 A (`a`, satisfied after period 0,
    is no longer scheduled), the hook is skipped, and after 2 periods the satisfied `a` still holds
    "S0" although `c` and `b` wait; the occupancy log shows that `a` was ON the station (not in the
    queue) while period 1 was charged -/
example :
    (runGM heapQ (SimSt.netOps (fun _ => 0) exSimCfg) (postIdle exSimCfg) exSimCfg.core
      (SimSt.schedS exSimCfg exSimSched) (SimSt.applyS exSimCfg) 2 (SimSt.init exSimCfg true)).2 = none ∧
    (runGM heapQ (SimSt.netOps (fun _ => 0) exSimCfg) (postIdle exSimCfg) exSimCfg.core
      (SimSt.schedS exSimCfg exSimSched) (SimSt.applyS exSimCfg) 2 (SimSt.init exSimCfg true)).1.net.1.waiting
        = ["c", "b"] ∧
    (runGM heapQ (SimSt.netOps (fun _ => 0) exSimCfg) (postIdle exSimCfg) exSimCfg.core
      (SimSt.schedS exSimCfg exSimSched) (SimSt.applyS exSimCfg) 2 (SimSt.init exSimCfg true)).1.net.1.occ "S0"
        = some "a" ∧
    SimSt.fullOf exSimCfg
      (runGM heapQ (SimSt.netOps (fun _ => 0) exSimCfg) (postIdle exSimCfg) exSimCfg.core
        (SimSt.schedS exSimCfg exSimSched) (SimSt.applyS exSimCfg) 2 (SimSt.init exSimCfg true)).1.net.2 "a"
        = true ∧
    (runGM heapQ (SimSt.netOps (fun _ => 0) exSimCfg) (postIdle exSimCfg) exSimCfg.core
      (SimSt.schedS exSimCfg exSimSched) (SimSt.applyS exSimCfg) 2 (SimSt.init exSimCfg true)).1.net.2.occLog
        = [[some "a"], [some "a"]] ∧
    (runGM heapQ (SimSt.netOps (fun _ => 0) exSimCfg) (postIdle exSimCfg) exSimCfg.core
      (SimSt.schedS exSimCfg exSimSched) (SimSt.applyS exSimCfg) 2 (SimSt.init exSimCfg true)).1.net.2.rates.rows
        = [[7, 0, 0, 0, 0]] ∧
    -- `a` keeps the station until it departs; `c` is never charged
    (runGM heapQ (SimSt.netOps (fun _ => 0) exSimCfg) (postIdle exSimCfg) exSimCfg.core
      (SimSt.schedS exSimCfg exSimSched) (SimSt.applyS exSimCfg) 9 (SimSt.init exSimCfg true)).1.net.2.occLog
        = [[some "a"], [some "a"], [some "a"], [some "a"], [none]] := by
  decide +kernel

/-- the hypothesis of `end_to_end_sim_abort` / `end_to_end_sim_abort_energy` is satisfiable: the
    scheduler that fails at iteration 1.
    At the abort the queue is as the events of period 1 left it, `a` still holds the station (the hook
    has not run: no early departure counted), the iteration counter stands at the failing period and
    only period 0 has been charged -/
example :
    (SimSt.run (fun _ => 0) exSimCfg
      (fun v => if v.iter = 1 then .error .schedulerFailed else exSimSched v) 9 (SimSt.init exSimCfg true)).2
        = some .schedulerFailed ∧
    (SimSt.run (fun _ => 0) exSimCfg
      (fun v => if v.iter = 1 then .error .schedulerFailed else exSimSched v) 9 (SimSt.init exSimCfg true)).1.net.1.waiting
        = ["c", "b"] ∧
    (SimSt.run (fun _ => 0) exSimCfg
      (fun v => if v.iter = 1 then .error .schedulerFailed else exSimSched v) 9 (SimSt.init exSimCfg true)).1.net.1.occ "S0"
        = some "a" ∧
    (SimSt.run (fun _ => 0) exSimCfg
      (fun v => if v.iter = 1 then .error .schedulerFailed else exSimSched v) 9 (SimSt.init exSimCfg true)).1.net.1.earlyUnplug
        = 0 ∧
    (SimSt.run (fun _ => 0) exSimCfg
      (fun v => if v.iter = 1 then .error .schedulerFailed else exSimSched v) 9 (SimSt.init exSimCfg true)).1.core.iter
        = 1 ∧
    (SimSt.run (fun _ => 0) exSimCfg
      (fun v => if v.iter = 1 then .error .schedulerFailed else exSimSched v) 9 (SimSt.init exSimCfg true)).1.net.2.evs.map
        (·.delivered) = [7, 0, 0] ∧
    (SimSt.run (fun _ => 0) exSimCfg
      (fun v => if v.iter = 1 then .error .schedulerFailed else exSimSched v) 9 (SimSt.init exSimCfg true)).1.net.2.occLog
        = [[some "a"]] ∧
    -- … and the ledger of `end_to_end_sim_abort_energy` (case A) reads: 7 A · 1000 V / 1000 · 1 h = 7 kWh
    (SimSt.run (fun _ => 0) exSimCfg
      (fun v => if v.iter = 1 then .error .schedulerFailed else exSimSched v) 9 (SimSt.init exSimCfg true)).1.net.2.rates.rows
        = [[7, 0, 0, 0, 0]] := by
  decide +kernel

end simex

end Acn.C19
